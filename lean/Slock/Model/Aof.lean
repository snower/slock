import Slock.Gen.Kernels
/-
M-AOF: the append-only log of server/aof.go — file framing, the READER exactly as `AofFile.Open/ReadHeader/ReadLock/
ReadLockData` and `Aof.LoadAofFile/LoadAofFiles` behave on short reads (Go's `bufio.Reader.Read` included), the WRITER's
flush order, the append-mode reopen, `FindAofFiles`, the compaction as an ordered list of file-system mutations, and the
two deadline ↔ remaining-lifetime conversions. Core Lean only (the driver links this). Mirrors the code that exists, bugs
included.

Trust assumption about the OS: `os.File.Read` on a regular file returns `min(len(p), remaining)` bytes, and `(0, io.EOF)`
only at the end; writes reach a file in program order (a crash leaves a prefix of the completed writes, the last one cut).
-/
namespace Slock.Aof

abbrev Bytes := List UInt8

/-- `"SLOCKAOF"`, version 1 (LE16), extra header length 0 (LE16) — `AofFile.WriteHeader`. -/
def magic : Bytes := [0x53, 0x4c, 0x4f, 0x43, 0x4b, 0x41, 0x4f, 0x46]
def headerBytes : Bytes := magic ++ [1, 0, 0, 0]

def zeros (n : Nat) : Bytes := List.replicate n 0

def byteAt (b : Bytes) (i : Nat) : Nat := (b.getD i 0).toNat

def le16 (b : Bytes) (o : Nat) : Nat := byteAt b o + 256 * byteAt b (o + 1)

def leNat : Bytes → Nat
  | [] => 0
  | x :: xs => x.toNat + 256 * leNat xs

def natLE : Nat → Nat → Bytes
  | 0, _ => []
  | w + 1, n => (n % 256).toUInt8 :: natLE w (n / 256)

/-! ## Go's `bufio.Reader` over a regular file -/

/-- `s` = the bytes of the file not yet returned to the caller; the first `avail` of them sit in bufio's buffer
(`b.buf[b.r:b.w]`), the others are still in the file. `cap = len(b.buf)`. -/
structure Rd where
  cap : Nat
  s : Bytes
  avail : Nat
  deriving Repr

/-- `NewAofFile`: `bufSize - bufSize % 64`. -/
def fileBufSize (cfg : Nat) : Nat := cfg - cfg % 64
/-- `bufio.NewReaderSize`: `max(size, 16)`. -/
def bufioCap (size : Nat) : Nat := max size 16

def Rd.open (cap : Nat) (file : Bytes) : Rd := { cap := cap, s := file, avail := 0 }

/-- One `Read(p)` with `len(p) = k`. `none` = `(0, io.EOF)`; `some (m, r')` = `(m, nil)`, the bytes are `r.s.take m`.
Branches in the order of bufio.go: empty `p`; (buffer empty: pending EOF / large read straight into `p` / ONE fill); copy. -/
def Rd.read (r : Rd) (k : Nat) : Option (Nat × Rd) :=
  if k = 0 then some (0, r)
  else if r.avail > 0 then
    let m := min k r.avail
    some (m, { r with s := r.s.drop m, avail := r.avail - m })
  else if r.s.length = 0 then none
  else if k ≥ r.cap then
    let m := min k r.s.length
    some (m, { r with s := r.s.drop m, avail := 0 })
  else
    let a := min r.cap r.s.length
    let m := min k a
    some (m, { r with s := r.s.drop m, avail := a - m })

inductive Err | eof | other
  deriving DecidableEq, Repr

/-- `AofFile.ReadHeader`. -/
def readHeader (r : Rd) : Except Err Rd :=
  match r.read 12 with
  | none => .error .eof
  | some (n, r1) =>
    let buf := r.s.take n
    if n ≠ 12 then .error .eof                     -- shorter than the header: "no records" (io.EOF)
    else if buf.take 8 ≠ magic then .error .other
    else if le16 buf 8 ≠ 1 then .error .other
    else
      let h := le16 buf 10
      if h > 0 then
        match r1.read h with
        | none => .error .eof
        | some (n2, r2) => if n2 ≠ h then .error .other else .ok r2
      else .ok r1

/-- `copy(old[off:], bs)` for `off + len(bs) ≤ len(old)`. -/
def overlay (old : Bytes) (off : Nat) (bs : Bytes) : Bytes :=
  old.take off ++ bs ++ old.drop (off + bs.length)

/-- `Read` in a loop until `k` bytes have arrived (`for n < k { Read(buf[n:]) }`); `none` = io.EOF. On success the bytes
are the first `k` of the stream. -/
def readFull : Nat → Rd → Nat → Option Rd
  | 0, r, k => if k = 0 then some r else none
  | f + 1, r, k =>
    if k = 0 then some r
    else match r.read k with
      | none => none
      | some (m, r') => readFull f r' (k - m)

inductive LockRes
  | eof (buf : Bytes)            -- `ReadLock` returns io.EOF (end of file at the first OR the second read); `buf` = buffer afterwards
  | lenErr                       -- "Lock Len error"
  | ok (buf : Bytes) (r : Rd)    -- `ReadLock` returns nil; `buf` = the (reused) 64-byte record buffer afterwards
  deriving Repr

/-- `AofFile.ReadLock`. `old` is the caller's record buffer: ONE buffer for all records of all files (`LoadAofFiles` allocates
it once). The rest of a record is read with `io.ReadFull`; a short rest (torn tail, wherever the bufio refills fall) is
reported as io.EOF like a clean end; the buffer keeps whatever bytes arrived. -/
def readLock (r : Rd) (old : Bytes) : LockRes :=
  match r.read 64 with
  | none => .eof old
  | some (n, r1) =>
    let b1 := overlay old 0 (r.s.take n)
    let lockLen := le16 b1 0
    if n = lockLen + 2 then .ok b1 r1
    else
      match readFull (64 - n) r1 (64 - n) with
      | none => .eof (overlay b1 n r1.s)
      | some r2 =>
        let b2 := overlay b1 n (r1.s.take (64 - n))
        if n + (64 - n) = lockLen + 2 then .ok b2 r2 else .lenErr

/-- `AofFile.ReadLockData`: 4-byte LE length, then the payload; the result keeps the length prefix. `none` = io.EOF. -/
def readLockData (d : Rd) : Option (Bytes × Rd) :=
  match readFull 4 d 4 with
  | none => none
  | some d1 =>
    let lenb := d.s.take 4
    let n := leNat lenb
    if n = 0 then some (lenb, d1)
    else match readFull n d1 n with
      | none => none
      | some d2 => some (lenb ++ d1.s.take n, d2)

/-! ## Record fields the loader looks at (offsets = the regenerated `Slock.Gen.aofLock` table; those of the five fields below are tied by `Slock.C08.layout_tie`) -/

def commandTime (b : Bytes) : Nat := leNat ((b.drop 11).take 8)
def startTimeF (b : Bytes) : Nat := le16 b 53
def aofFlag (b : Bytes) : Nat := le16 b 55
def expriedTime (b : Bytes) : Nat := le16 b 57
def expriedFlag (b : Bytes) : Nat := le16 b 59

def AOF_FLAG_REWRITED : Nat := 0x0001
def AOF_FLAG_CONTAINS_DATA : Nat := 0x2000
def EXPRIED_FLAG_MINUTE_TIME : Nat := 0x0040
def EXPRIED_FLAG_MILLISECOND_TIME : Nat := 0x0400
def EXPRIED_FLAG_UNLIMITED_EXPRIED_TIME : Nat := 0x4000

def hasData (b : Bytes) : Bool := aofFlag b &&& AOF_FLAG_CONTAINS_DATA ≠ 0

/-- Go's `int64(x)` of a `uint64` expression (`x` taken mod 2^64). -/
def toI64 (x : Nat) : Int :=
  let y : Nat := x % 2 ^ 64
  if y < 2 ^ 63 then (y : Int) else (y : Int) - 2 ^ 64

/-- The expired-record filter of `LoadAofFile` (aof.go 1511–1523); `now` is the `expriedTime` argument. -/
def skippedAt (ef e ct : Nat) (now : Int) : Bool :=
  if ef &&& EXPRIED_FLAG_MILLISECOND_TIME ≠ 0 then toI64 (ct + e / 1000) ≤ now
  else if ef &&& EXPRIED_FLAG_MINUTE_TIME ≠ 0 then toI64 (ct + e * 60) ≤ now
  else if ef &&& EXPRIED_FLAG_UNLIMITED_EXPRIED_TIME = 0 then e > 0 ∧ toI64 (ct + e) ≤ now
  else false

def skipped (b : Bytes) (now : Int) : Bool := skippedAt (expriedFlag b) (expriedTime b) (commandTime b) now

/-! ## `LoadAofFile` / `LoadAofFiles` -/

/-- What the iterator callback receives: the 64 bytes of the record buffer and `lock.data`. -/
structure Rec where
  buf : Bytes
  data : Option Bytes
  deriving DecidableEq, Repr

/-- How `LoadAofFile` returns: `nil`, `io.EOF` (which `LoadAofFiles` turns into "stop quietly, skip the remaining files"),
or another error (start-up fails). -/
inductive Stop | fileEnd | eof | err
  deriving DecidableEq, Repr

structure FileImg where
  log : Bytes
  dat : Option Bytes     -- `none`: no `.dat` file
  deriving DecidableEq, Repr

def deliver (now : Int) (b : Bytes) (data : Option Bytes) (rest : List Rec × Stop × Bytes) : List Rec × Stop × Bytes :=
  if skipped b now then rest else (⟨b, data⟩ :: rest.1, rest.2)

/-- The loop of `LoadAofFile` (fuel: every successful `ReadLock` consumes at least one byte). Result: records handed to the
callback in order, how the function returned, and the record buffer afterwards (it is reused for the next file). -/
def loadLoop (now : Int) : Nat → Rd → Option Rd → Bytes → List Rec × Stop × Bytes
  | 0, _, _, buf => ([], .err, buf)
  | f + 1, r, d, buf =>
    match readLock r buf with
    | .eof b => ([], .fileEnd, b)
    | .lenErr => ([], .err, buf)
    | .ok b r' =>
      if hasData b then
        match d with
        | none => ([], .err, b)                       -- "data file error"
        | some dr =>
          match readLockData dr with
          | none => ([], .eof, b)
          | some (blob, dr') => deliver now b (some blob) (loadLoop now f r' (some dr') b)
      else deliver now b none (loadLoop now f r' d b)

def loadFile (cfg : Nat) (now : Int) (buf : Bytes) (img : FileImg) : List Rec × Stop × Bytes :=
  match readHeader (Rd.open (bufioCap (fileBufSize cfg)) img.log) with
  | .error .eof => ([], .eof, buf)
  | .error .other => ([], .err, buf)
  | .ok r =>
    loadLoop now (img.log.length + 2) r (img.dat.map (Rd.open (bufioCap (fileBufSize cfg * 64)))) buf

/-- `LoadAofFiles`: one record buffer for all files; `true` = returned nil. -/
def loadFilesFrom (cfg : Nat) (now : Int) : List FileImg → Bytes → List Rec × Bool
  | [], _ => ([], true)
  | f :: fs, buf =>
    match loadFile cfg now buf f with
    | (rs, .fileEnd, b') => let rest := loadFilesFrom cfg now fs b'; (rs ++ rest.1, rest.2)
    | (rs, .eof, _) => (rs, true)
    | (rs, .err, _) => (rs, false)

def loadFiles (cfg : Nat) (now : Int) (fs : List FileImg) : List Rec × Bool := loadFilesFrom cfg now fs (zeros 64)

/-- `load recordFile valueFile` for the newest append file alone. -/
def load (cfg : Nat) (now : Int) (rec dat : Bytes) : List Rec × Bool := loadFiles cfg now [⟨rec, some dat⟩]

/-! ## Writer -/

def encodeRecs (recs : List Rec) : Bytes := recs.flatMap (·.buf)
def encodeFile (recs : List Rec) : Bytes := headerBytes ++ encodeRecs recs
def encodeData (recs : List Rec) : Bytes := recs.flatMap (fun r => r.data.getD [])

/-- One `write(2)`: to the record file or to the value file. -/
inductive W | log (b : Bytes) | dat (b : Bytes)
  deriving DecidableEq, Repr

/-- `AofFile` in write mode: `wbuf[:windex]`, `dwbuf[:dwindex]`, `bufSize`. -/
structure Wr where
  size : Nat
  wbuf : Bytes
  dwbuf : Bytes
  deriving Repr

/-- `AofFile.Flush`: records first, then values. -/
def Wr.flush (w : Wr) : List W × Wr :=
  ((if w.wbuf.length > 0 then [W.log w.wbuf] else []) ++ (if w.dwbuf.length > 0 then [W.dat w.dwbuf] else []),
   { w with wbuf := [], dwbuf := [] })

/-- `AofFile.WriteLock` (buf already carries 62,0). -/
def Wr.writeLock (w : Wr) (buf : Bytes) : List W × Wr :=
  let w1 := { w with wbuf := w.wbuf ++ buf }
  if w1.wbuf.length ≥ w.size then w1.flush else ([], w1)

/-- `AofFile.WriteLockData`. -/
def Wr.writeLockData (w : Wr) (data : Bytes) : List W × Wr :=
  if w.wbuf.length > 0 then
    if data.length ≤ w.size * 64 - w.dwbuf.length then ([], { w with dwbuf := w.dwbuf ++ data })
    else let (ws, w') := w.flush; (ws ++ [W.dat data], w')
  else if w.dwbuf.length > 0 then
    let (ws, w') := w.flush; (ws ++ [W.dat data], w')
  else ([W.dat data], w)

def setLen (buf : Bytes) : Bytes := overlay buf 0 [62, 0]

/-- The `write` calls of: for each record `WriteLock`, `WriteLockData` if it has a value; grouped per call. -/
def Wr.writeAll : Wr → List Rec → List (List W) × Wr
  | w, [] => ([], w)
  | w, r :: rs =>
    let (a, w1) := w.writeLock (setLen r.buf)
    if hasData (setLen r.buf) then
      let (b, w2) := w1.writeLockData (r.data.getD [])
      let (rest, w3) := w2.writeAll rs
      (a :: b :: rest, w3)
    else
      let (rest, w2) := w1.writeAll rs
      (a :: rest, w2)

/-- `AofFile.Open` with `os.O_WRONLY` (append) on an existing record file: empty ⇒ header; 1–11 bytes ⇒ truncate + header;
length not 12 mod 64 ⇒ truncated back to the last record boundary; otherwise kept as is. The `.dat` file is never touched. -/
def openAppend (rec : Bytes) : Bytes :=
  if rec.length = 0 then headerBytes
  else if rec.length < 12 then headerBytes
  else if (rec.length - 12) % 64 ≠ 0 then rec.take (rec.length - (rec.length - 12) % 64)
  else rec

def applyW (img : Bytes × Bytes) : W → Bytes × Bytes
  | .log b => (img.1 ++ b, img.2)
  | .dat b => (img.1, img.2 ++ b)

/-- Where the START-UP load (`LoadAofFile` while `!inited`) cuts the two files: when a record carries the has-value flag and its
frame is missing / short at the end of the value file — the torn tail of the two-file write — the record file is truncated to
before that record (`size − 64`) and the value file to the frames read so far. `none` = nothing is cut. -/
def cutLoop : Nat → Rd → Option Rd → Bytes → Nat → Nat → Option (Nat × Nat)
  | 0, _, _, _, _, _ => none
  | f + 1, r, d, buf, off, doff =>
    match readLock r buf with
    | .eof _ => none
    | .lenErr => none
    | .ok b r' =>
      let off' := off + 2 + le16 b 0
      if hasData b then
        match d with
        | none => none
        | some dr =>
          match readLockData dr with
          | none => some (off' - 64, doff)
          | some (blob, dr') => cutLoop f r' (some dr') b off' (doff + blob.length)
      else cutLoop f r' d b off' doff

/-- The two files after the start-up has loaded them. -/
def startupFiles (cfg : Nat) (buf : Bytes) (rec : Bytes) (dat : Option Bytes) : Bytes × Option Bytes :=
  match readHeader (Rd.open (bufioCap (fileBufSize cfg)) rec) with
  | .error _ => (rec, dat)
  | .ok r =>
    match cutLoop (rec.length + 2) r (dat.map (Rd.open (bufioCap (fileBufSize cfg * 64)))) buf (12 + le16 rec 10) 0 with
    | none => (rec, dat)
    | some (o, d) => (rec.take o, dat.map (·.take d))

/-- A restart over an image (start-up load with reader buffer `rcfg`, then the append-mode reopen), `more` written through the
writer (buffer `cfg`), flush, close. -/
def appendAfterRestart (cfg rcfg : Nat) (rec : Bytes) (dat : Option Bytes) (more : List Rec) : Bytes × Bytes :=
  let (rec', dat') := startupFiles rcfg (zeros 64) rec dat
  let (groups, w) := Wr.writeAll ⟨fileBufSize cfg, [], []⟩ more
  let ws := groups.flatten ++ w.flush.1
  ws.foldl applyW (openAppend rec', dat'.getD [])

/-- `Flush` when the write of the record buffer fails (aof.go 517–519): both buffers are dropped. -/
def Wr.flushFail (w : Wr) : Wr := { w with wbuf := [], dwbuf := [] }

/-- A fresh file: `recsA` are written, the next `Flush` fails at the record write, then `recsB` are written, flushed, closed. -/
def failedFlushThenWrite (cfg : Nat) (recsA recsB : List Rec) : Bytes × Bytes :=
  let (g1, w1) := Wr.writeAll ⟨fileBufSize cfg, [], []⟩ recsA
  let (g2, w2) := Wr.writeAll w1.flushFail recsB
  (g1.flatten ++ g2.flatten ++ w2.flush.1).foldl applyW (headerBytes, [])

/-- The (record file size, value file size) after the open, after each writer call and after the final flush
(consecutive duplicates removed) — what the harness observes with `stat`. -/
def writeSizes (cfg : Nat) (recs : List Rec) : List (Nat × Nat) :=
  let (groups, w) := Wr.writeAll ⟨fileBufSize cfg, [], []⟩ recs
  let step := fun (acc : List (Nat × Nat) × (Bytes × Bytes)) (g : List W) =>
    let img := g.foldl applyW acc.2
    let p := (img.1.length, img.2.length)
    (if acc.1.getLast? = some p then acc.1 else acc.1 ++ [p], img)
  ((groups ++ [w.flush.1]).foldl step ([(12, 0)], (headerBytes, []))).1

/-! ## The two deadline ↔ remaining-lifetime conversions (C07, arithmetic part)

Times are seconds (`int64` in Go; `Int` here). `uint16(x)` of a non-negative `int64` is `x mod 65536`. -/

def u16 (x : Int) : Nat := (x % 65536).toNat

/-- lock.go `AddLock` / `GetOrNewLock`: deadline of a hold granted at `start`; `none` = unlimited (0x7fff…ffff). -/
def engineDeadline (ef e : Nat) (start : Int) : Option Int :=
  if ef &&& EXPRIED_FLAG_UNLIMITED_EXPRIED_TIME ≠ 0 then none
  else if ef &&& EXPRIED_FLAG_MILLISECOND_TIME = 0 then
    if ef &&& EXPRIED_FLAG_MINUTE_TIME ≠ 0 then some (start + (e : Int) * 60 + 1) else some (start + e + 1)
  else some (start + (e / 1000 : Nat) + 1)

/-- `AofChannel.Push`: the record's command time = min(current second, deadline). `d = none`: unlimited. -/
def pushCommandTime (cur : Int) (d : Option Int) : Int :=
  match d with
  | none => cur
  | some d => if d > cur then cur else d

/-- `AofChannel.Push`: age at write, saturating at 0xffff (a negative difference wraps in uint64, hence saturates too). -/
def pushAge (ct start : Int) : Nat :=
  let a := ct - start
  if a < 0 ∨ a ≥ 0xffff then 0xffff else a.toNat

/-- `Aof.GetAofLockExpriedTime`: the remaining lifetime stored in the record (saturating at 0xffff). -/
def writeRemaining (ef e : Nat) (d : Option Int) (ct : Int) : Nat :=
  if ef &&& EXPRIED_FLAG_UNLIMITED_EXPRIED_TIME ≠ 0 then e
  else if ef &&& EXPRIED_FLAG_MILLISECOND_TIME ≠ 0 then e
  else
    let dl := d.getD 0x7fffffffffffffff
    let secs := dl - ct
    if ef &&& EXPRIED_FLAG_MINUTE_TIME ≠ 0 then
      if secs ≥ 60 ∧ secs % 60 = 0 then u16 (secs / 60)
      else if secs > 0 then (if secs / 60 ≥ 0xffff then 0xffff else (u16 (secs / 60) + 1) % 65536)
      else 0
    else if dl > 0 then
      if secs > 0 then (if secs > 0xffff then 0xffff else u16 secs) else 0
    else e

/-- `Aof.GetLockCommandExpriedTime`: the `Expried` of the command replayed at `now`. -/
def loadRemaining (ef e : Nat) (ct now : Int) : Nat :=
  if ef &&& EXPRIED_FLAG_UNLIMITED_EXPRIED_TIME ≠ 0 then e
  else if ef &&& EXPRIED_FLAG_MILLISECOND_TIME ≠ 0 then e
  else if ef &&& EXPRIED_FLAG_MINUTE_TIME ≠ 0 then
    let el := now - ct
    if el ≥ 0 then
      let mins := if el < 60 ∨ el % 60 ≠ 0 then el / 60 + 1 else el / 60
      if e > u16 mins then e - u16 mins else 0
    else e
  else if e > 0 then
    let el := now - ct
    if el ≥ 0 then (if e > u16 el then e - u16 el else 0) else e
  else e

/-- Journal a hold (unit flags `ef`, `Expried = e`, granted at `start`) at second `cur`, reload at `now`:
`(commandTime, age, stored, skipped, restoredExpried)`. -/
def journalReload (ef e : Nat) (start cur now : Int) : Int × Nat × Nat × Bool × Nat :=
  let d := engineDeadline ef e start
  let ct := pushCommandTime cur d
  let rem := writeRemaining ef e d ct
  let sk := skippedAt ef rem ct.toNat now
  (ct, pushAge ct start, rem, sk, if sk then 0 else loadRemaining ef rem ct now)

/-! ## Directory, `FindAofFiles`, start-up recovery, compaction

File names are kept in parsed form: `parseName` is the name grammar of `FindAofFiles` (`rewrite.aof`, `append.aof.<decimal>`,
the `.dat` suffix) plus the temporary name of the compaction. Two spellings of one index (`append.aof.1`, `append.aof.01`)
are identified here (in Go the later one in directory order wins). -/

inductive Base
  | rewrite               -- rewrite.aof
  | rewriteTmp            -- rewrite.aof.tmp
  | append (i : Nat)      -- append.aof.<i>   (index already truncated to uint32)
  | other (s : String)
  deriving DecidableEq, Repr

structure FName where
  base : Base
  dat : Bool              -- the `.dat` side file of `base`
  deriving DecidableEq, Repr

abbrev Dir := List (FName × Bytes)

def parseDec (cs : List Char) : Option Nat :=
  if cs.isEmpty then none
  else cs.foldl (fun acc c => acc.bind (fun n => if c.isDigit then some (n * 10 + (c.toNat - 48)) else none)) (some 0)

def parseBase (s : String) : Base :=
  if s == "rewrite.aof" then .rewrite
  else if s == "rewrite.aof.tmp" then .rewriteTmp
  else if s.startsWith "append.aof." then
    match parseDec (s.toList.drop 11) with
    | some n => if n < 2 ^ 64 then .append (n % 2 ^ 32) else .other s
    | none => .other s
  else .other s

def parseName (s : String) : FName :=
  if s.endsWith ".dat" then ⟨parseBase (String.ofList (s.toList.take (s.length - 4))), true⟩ else ⟨parseBase s, false⟩

def Base.show : Base → String
  | .rewrite => "rewrite.aof"
  | .rewriteTmp => "rewrite.aof.tmp"
  | .append i => "append.aof." ++ toString i
  | .other s => s

def FName.show (n : FName) : String := n.base.show ++ (if n.dat then ".dat" else "")

def Dir.get? (d : Dir) (n : FName) : Option Bytes := (d.find? (fun f => f.1 = n)).map (·.2)
def Dir.remove (d : Dir) (n : FName) : Dir := d.filter (fun f => f.1 ≠ n)
def Dir.put (d : Dir) (n : FName) (b : Bytes) : Dir := d.remove n ++ [(n, b)]

inductive FsOp
  | openAppend (base : Base)            -- `AofFile.Open` in write mode: creates the log (header) and its `.dat` if missing
  | append (name : FName) (b : Bytes)   -- write(2) on a file opened with O_APPEND
  | remove (name : FName)               -- os.Remove (error ignored)
  | rename (a b : FName)                -- os.Rename (error ignored)
  deriving DecidableEq, Repr

def applyOp (d : Dir) : FsOp → Dir
  | .openAppend n =>
    let d1 := d.put ⟨n, false⟩ (openAppend ((d.get? ⟨n, false⟩).getD []))
    match d1.get? ⟨n, true⟩ with
    | some _ => d1
    | none => d1.put ⟨n, true⟩ []
  | .append n b => match d.get? n with
    | some old => d.put n (old ++ b)
    | none => d
  | .remove n => d.remove n
  | .rename a b => match d.get? a with
    | some x => (d.remove a).put b x
    | none => d

def applyOps (d : Dir) (ops : List FsOp) : Dir := ops.foldl applyOp d
/-- The directory a crash after the first `i` mutations leaves behind. -/
def applyPrefix (i : Nat) (ops : List FsOp) (d : Dir) : Dir := applyOps d (ops.take i)

/-- The files a start-up looks at: `rewrite.aof`, `append.aof.N` and their `.dat` files — nothing else (in particular not
`rewrite.aof.tmp`). -/
def relevantName (n : FName) : Bool :=
  match n.base with
  | .rewrite => true
  | .append _ => true
  | _ => false

def relevant (d : Dir) : Dir := d.filter (fun f => relevantName f.1)

def appendIndexOf (n : FName) : Option Nat :=
  match n.base, n.dat with
  | .append i, false => some i
  | _, _ => none

/-- `FindAofFiles`: `none` = "append.aof file index error" (a gap between the smallest and the largest index). The
wrap-around branch (`max - min ≥ 0x7fffffff`) needs more than 2^31 files to succeed and is modelled as an error. -/
def findAofFiles (d : Dir) : Option (List Nat × Bool) :=
  let idx := d.filterMap (fun f => appendIndexOf f.1)
  let hasRewrite := d.any (fun f => f.1 = ⟨.rewrite, false⟩)
  match idx with
  | [] => some ([], hasRewrite)
  | _ =>
    let mn := idx.foldl min (2 ^ 32 - 1)
    let mx := idx.foldl max 0
    if mx - mn ≥ 0x7fffffff then none
    else
      let want := (List.range (mx - mn + 1)).map (· + mn)
      if want.all (fun i => idx.contains i) then some (want, hasRewrite) else none

def fileImg (d : Dir) (b : Base) : FileImg := ⟨(d.get? ⟨b, false⟩).getD [], d.get? ⟨b, true⟩⟩

def recoverRelevant (cfg : Nat) (now : Int) (d : Dir) : Option (List Rec) :=
  match findAofFiles d with
  | none => none
  | some (apps, hasRw) =>
    let names := (if hasRw then [Base.rewrite] else []) ++ apps.map Base.append
    match loadFiles cfg now (names.map (fileImg d)) with
    | (rs, true) => some rs
    | (_, false) => none

/-- Start-up (`LoadAndInit`): `none` = start-up error; else the records handed to the engine, in order. -/
def recoverDir (cfg : Nat) (now : Int) (d : Dir) : Option (List Rec) := recoverRelevant cfg now (relevant d)

/-- `findRewriteAofFiles`: rewrite.aof, then every append file older than the current one. -/
def rewriteInputs (d : Dir) (cur : Nat) : Option (List Base) :=
  match findAofFiles d with
  | none => none
  | some (apps, hasRw) =>
    some ((if hasRw then [Base.rewrite] else []) ++
      (apps.filter (fun i => ¬ (i ≥ cur ∧ i - cur < 0x7fffffff))).map Base.append)

/-- The rewrite callback sets the REWRITED bit in the record (`aofLock.buf[55] |= 1`). -/
def markRewritten (r : Rec) : Rec :=
  ⟨overlay r.buf 55 [((byteAt r.buf 55) ||| 1).toUInt8], r.data⟩

def tmpLog : FName := ⟨.rewriteTmp, false⟩
def tmpDat : FName := ⟨.rewriteTmp, true⟩

/-! ### The keep-rule of the compaction: `LockDB.HasLock` as the callback of `loadRewriteAofFiles` calls it -/

def commandType (b : Bytes) : Nat := byteAt b 2
def recFlag (b : Bytes) : Nat := byteAt b 19
def recDb (b : Bytes) : Nat := byteAt b 20
def recLockId (b : Bytes) : Bytes := (b.drop 21).take 16
def recKey (b : Bytes) : Bytes := (b.drop 37).take 16
def recCount (b : Bytes) : Nat := le16 b 61
def recRcount (b : Bytes) : Nat := byteAt b 63

/-- What `HasLock` looks at in a live hold: LockId, deadline (`none` = unlimited, 0x7fff…ffff), Count, Rcount and the
timeout flags of its current command. -/
structure HoldView where
  lockId : Bytes
  expT : Option Int
  count : Nat
  rcount : Nat
  tflag : Nat
  deriving DecidableEq, Repr

/-- One key with at least one hold (`lockManager.locked > 0`): its current value (`currentData.data`) and its holds. -/
structure KeyView where
  db : Nat
  key : Bytes
  value : Option Bytes
  holds : List HoldView
  deriving DecidableEq, Repr

def maxInt64 : Int := 9223372036854775807

/-- `lockCommand.Expried = GetLockCommandExpriedTime(db, aofLock)` — the REMAINING lifetime at `now`, not the recorded one. -/
def keepExpried (now : Int) (b : Bytes) : Nat := loadRemaining (expriedFlag b) (expriedTime b) (commandTime b) now

/-- `LockManager.CheckLockedEqual(hold, command)` through the regenerated kernels (the command built by the compaction has
TimeoutFlag 0). -/
def lockedEqual (now : Int) (h : HoldView) (b : Bytes) : Bool :=
  Slock.Gen.K.checkLockedEqual now (h.expT.getD maxInt64) (expriedFlag b) (keepExpried now b)
    (Slock.Gen.K.checkLockedCountEqual (recCount b) (recRcount b) 0 h.count h.rcount h.tflag)

/-- `LockDB.HasLock(lockCommand, aofLock.data)` (db.go 2913–2966) on the view of the database. -/
def keepRule (now : Int) (view : List KeyView) (r : Rec) : Bool :=
  let b := r.buf
  match view.find? (fun k => k.db = recDb b ∧ k.key = recKey b) with
  | none => false
  | some k =>
    if k.holds.isEmpty then false
    else
      let hold := k.holds.find? (fun h => h.lockId = recLockId b)
      if commandType b = 1 then
        if keepExpried now b = 0 ∧ expriedFlag b &&& 0x4440 = 0 then
          decide (k.value = r.data)
        else if recFlag b &&& 0x02 ≠ 0 then
          match hold with
          | none => false
          | some h =>
            match r.data with
            | none => lockedEqual now h b
            | some d =>
              if k.value ≠ some d then
                if expriedFlag b &&& EXPRIED_FLAG_UNLIMITED_EXPRIED_TIME ≠ 0 ∧ keepExpried now b = 0xffff then
                  ! (decide (h.count = recCount b ∧ h.rcount = recRcount b))
                else lockedEqual now h b
              else true
        else hold.isSome
      else hold.isSome

/-- What the compaction keeps: the records of the inputs (as `LoadAofFiles` at `now` delivers them: expired ones are already
gone) for which `keep` holds; each kept record gets the REWRITED bit. -/
def keptRecords (cfg : Nat) (now : Int) (keep : Rec → Bool) (d : Dir) (inputs : List Base) : List Rec :=
  ((loadFiles cfg now (inputs.map (fileImg d))).1.filter keep).map markRewritten

/-- First half (`loadRewriteAofFiles`): open `rewrite.aof.tmp` in append mode — an existing one, e.g. left by a crashed
compaction, is kept and appended to —, write the kept records, then their value frames (`Flush`: records first). -/
def writeSteps (kept : List Rec) : List FsOp :=
  [FsOp.openAppend .rewriteTmp] ++
  (if kept.isEmpty then [] else [FsOp.append tmpLog (encodeRecs kept)]) ++
  (if (encodeData kept).isEmpty then [] else [FsOp.append tmpDat (encodeData kept)])

/-- Second half (`clearRewriteAofFiles`, aof.go 2091–2109): remove every input and its `.dat`, THEN rename the tmp files. -/
def clearSteps (inputs : List Base) : List FsOp :=
  inputs.flatMap (fun n => [FsOp.remove ⟨n, false⟩, FsOp.remove ⟨n, true⟩]) ++
  [FsOp.rename tmpLog ⟨.rewrite, false⟩, FsOp.rename tmpDat ⟨.rewrite, true⟩]

/-- The ordered file-system mutations of one compaction (`rewriteAofFiles`; `cur` = index of the current append file, already
rotated by `RewriteAofFile`). -/
def compactionSteps (cfg : Nat) (now : Int) (keep : Rec → Bool) (cur : Nat) (d : Dir) : List FsOp :=
  match rewriteInputs (relevant d) cur with
  | none => []
  | some [] => []
  | some inputs => writeSteps (keptRecords cfg now keep d inputs) ++ clearSteps inputs

/-! ## What a journal MEANS: the reference replay `recover`

A journal is a list of things that happened; `recover` applies every record, with no per-record expiry test (mirrors
`vRRecover` of the restart harness, which compares it with the database that wrote the journal and with the database a
restart builds from it):
* LOCK record, id not held → new hold, depth 1, the record's terms;
* LOCK record, id held, update-when-locked flag (0x02) → the record's terms replace the hold's, depth unchanged;
* LOCK record, id held, no 0x02 → depth + 1, the record's terms;
* UNLOCK record, Rcount = 0 → the hold is removed (all levels); Rcount > 0 → one level less, removed at the last one;
* a record with a value frame sets the key's value (an UNLOCK record only if its hold exists); the value goes with the key's
  last hold. -/

structure JRec where
  isLock : Bool
  db : Nat
  key : Nat
  id : Nat
  flag : Nat
  aofFlag : Nat
  eflag : Nat
  stored : Nat
  ct : Int
  count : Nat
  rcount : Nat
  data : Option Bytes
  deriving DecidableEq, Repr

structure JHold where
  db : Nat
  key : Nat
  id : Nat
  depth : Nat
  count : Nat
  rcount : Nat
  eflag : Nat               -- unit flags only (0x4440)
  deadline : Option Int     -- `none` = unlimited
  tflag : Nat               -- TimeoutFlag bits a record carries: 0x10 Rcount-is-priority, 0x1000 require-ack
  deriving DecidableEq, Repr

structure JState where
  holds : List JHold
  values : List ((Nat × Nat) × Bytes)
  deriving DecidableEq, Repr

def JState.empty : JState := ⟨[], []⟩

/-- The deadline a record describes (upper estimate): seconds exact, minutes rounded up by < 60 s, milliseconds command time +
duration + 1. -/
def JRec.deadline (r : JRec) : Option Int :=
  if r.eflag &&& EXPRIED_FLAG_UNLIMITED_EXPRIED_TIME ≠ 0 then none
  else if r.eflag &&& EXPRIED_FLAG_MILLISECOND_TIME ≠ 0 then some (r.ct + (r.stored / 1000 : Nat) + 1)
  else if r.eflag &&& EXPRIED_FLAG_MINUTE_TIME ≠ 0 then some (r.ct + (r.stored : Int) * 60)
  else some (r.ct + r.stored)

def JHold.is (h : JHold) (db key id : Nat) : Bool := h.db == db && h.key == key && h.id == id

def JState.get (st : JState) (db key id : Nat) : Option JHold := st.holds.find? (·.is db key id)

/-- `HandleLoad`: the TimeoutFlag of the replayed command comes from the record's aof flags. -/
def JRec.tflag (r : JRec) : Nat :=
  (if r.aofFlag &&& 0x1000 ≠ 0 then 0x1000 else 0) ||| (if r.aofFlag &&& 0x10 ≠ 0 then 0x10 else 0)

def JRec.terms (r : JRec) (depth : Nat) : JHold :=
  ⟨r.db, r.key, r.id, depth, r.count, r.rcount, r.eflag &&& 0x4440, r.deadline, r.tflag⟩

def JState.setValue (st : JState) (db key : Nat) (v : Bytes) : JState :=
  { st with values := st.values.filter (fun p => p.1 ≠ (db, key)) ++ [((db, key), v)] }

/-- Remove the hold; the key's value goes when this was the key's last hold. -/
def JState.removeHold (st : JState) (db key id : Nat) : JState :=
  let hs := st.holds.filter (fun h => !h.is db key id)
  { holds := hs,
    values := if hs.any (fun h => h.db == db && h.key == key) then st.values else st.values.filter (fun p => p.1 ≠ (db, key)) }

def recoverStep (st : JState) (r : JRec) : JState :=
  if r.isLock then
    let st1 : JState :=
      match st.get r.db r.key r.id with
      | none => { st with holds := st.holds ++ [r.terms 1] }
      | some h =>
        let d := if r.flag &&& 0x02 ≠ 0 then h.depth else h.depth + 1
        { st with holds := st.holds.map (fun x => if x.is r.db r.key r.id then r.terms d else x) }
    match r.data with
    | some v => st1.setValue r.db r.key v
    | none => st1
  else
    match st.get r.db r.key r.id with
    | none => st
    | some h =>
      let st1 := match r.data with
        | some v => st.setValue r.db r.key v
        | none => st
      if r.rcount = 0 ∨ h.depth ≤ 1 then st1.removeHold r.db r.key r.id
      else { st1 with holds := st1.holds.map (fun x => if x.is r.db r.key r.id then { x with depth := x.depth - 1 } else x) }

def recover (rs : List JRec) : JState := rs.foldl recoverStep JState.empty

/-! ## What the code DOES with a journal at a restart: `reload`

`reload now journal` mirrors the real per-record pipeline of a start-up at second `now`, for journals without require-ack /
priority flags:
1. `LoadAofFile` drops the record when `skippedAt` says it is expired (each record on its own);
2. `HandleLoad` turns it into a command with `Expried := loadRemaining … now` and the FROM_AOF flag, Timeout 0;
3. `LockDB.Lock` / `UnLock` (db.go): same LockId held → update-when-locked (0x02: value first, then `CheckLockedEqual` — an
   "equal" update is refused —, then `UpdateLockedLock`) or re-entrant level (`depth ≤ Rcount`, nothing when `Expried = 0`);
   otherwise admission by `doLock` (regenerated kernels `Slock.Gen.K`), a hold only when `Expried > 0`; UNLOCK takes one level
   (`depth > 1 ∧ Rcount > 0`) or the whole hold.
The value of a key lives in its lock manager, which survives its last hold while a dead lock object still sits in the SHORT
expiry wheel (`zombie`); a lock in the LONG table (persist-now flag 0x100 and more than 5 s to live when it was (re)armed) is
freed at once. Millisecond holds are re-armed by a goroutine of their own: a key that lost one is `unsure` (its value / its
survival as an empty key is not predicted). -/

structure RHold where
  id : Nat
  depth : Nat
  count : Nat
  rcount : Nat
  eflag : Nat               -- full ExpriedFlag of the current command
  deadline : Option Int     -- `none` = 0x7fff…ffff
  long : Bool               -- sits in the long expiry table
  tflag : Nat               -- TimeoutFlag of the current command (0x10 Rcount-is-priority, 0x1000 require-ack)
  deriving DecidableEq, Repr

structure RKey where
  db : Nat
  key : Nat
  holds : List RHold        -- head = currentLock
  value : Option Bytes
  zombie : Bool
  unsure : Bool
  deriving DecidableEq, Repr

abbrev RState := List RKey

def RKey.locked (k : RKey) : Nat := (k.holds.map (·.depth)).foldl (· + ·) 0

def isMsFlag (ef : Nat) : Bool := ef &&& EXPRIED_FLAG_UNLIMITED_EXPRIED_TIME = 0 ∧ ef &&& EXPRIED_FLAG_MILLISECOND_TIME ≠ 0

/-- `AddLock` / `UpdateLockedLock` + `AddExpried`: long table iff persist-now flag and more than 5 s to live. -/
def placeLong (ef : Nat) (now : Int) (d : Option Int) : Bool :=
  if isMsFlag ef then false
  else decide (ef &&& 0x100 ≠ 0) && (match d with | none => true | some x => decide (x - now > 5))

/-- `ProcessLockData` for the frames a journal carries (the current value as a SET frame; UNSET). -/
def applyFrame (k : RKey) (data : Option Bytes) : RKey :=
  match data with
  | none => k
  | some f =>
    let ct := byteAt f 4 &&& 0x3f
    if byteAt f 4 / 64 ≠ 0 then k                                   -- not the current stage: ignored
    else if ct = 0 then { k with value := some f }
    else if ct = 1 then { k with value := none }
    else { k with unsure := true }

def RState.getKey (st : RState) (db key : Nat) : RKey :=
  (st.find? (fun k => k.db = db ∧ k.key = key)).getD ⟨db, key, [], none, false, false⟩

def RState.setKey (st : RState) (k : RKey) : RState :=
  if st.any (fun x => x.db = k.db ∧ x.key = k.key) then st.map (fun x => if x.db = k.db ∧ x.key = k.key then k else x)
  else st ++ [k]

def RState.dropKey (st : RState) (db key : Nat) : RState := st.filter (fun x => ¬ (x.db = db ∧ x.key = key))

/-- after a lock object was freed: the lock manager goes when nothing refers to it any more -/
def RState.settle (st : RState) (k : RKey) : RState :=
  if k.holds.isEmpty ∧ ¬ k.zombie ∧ ¬ k.unsure then st.dropKey k.db k.key else st.setKey k

/-- `UpdateLockedLock` (+ the re-arming of the update / re-lock branches of `LockDB.Lock`). -/
def rearm (now : Int) (h : RHold) (r : JRec) (e' depth : Nat) : RHold :=
  let d := if r.eflag &&& EXPRIED_FLAG_UNLIMITED_EXPRIED_TIME ≠ 0 ∧ e' = 0xffff then h.deadline else engineDeadline r.eflag e' now
  let long := if h.long then (if isMsFlag r.eflag then false else if d ≠ h.deadline then placeLong r.eflag now d else true) else false
  { h with depth := depth, count := r.count, rcount := r.rcount, eflag := r.eflag, deadline := d, long := long, tflag := r.tflag }

inductive Treat
  | skipped          -- dropped by LoadAofFile's expired-record filter
  | zeroNoHold       -- LOCK replayed with Expried = 0: no hold / no level
  | newHold | level | updated
  | updateRefused    -- CheckLockedEqual: "equal", terms not updated
  | levelRefused     -- depth > Rcount
  | notAdmitted      -- doLock false
  | unlockedOne | unlockedAll
  | unlockNoHold     -- UNLOCK of a hold that is not there
  deriving DecidableEq, Repr

def reloadStep (now : Int) (st : RState) (r : JRec) : RState × Treat :=
  if skippedAt r.eflag r.stored r.ct.toNat now then (st, .skipped)
  else
    let e' := loadRemaining r.eflag r.stored r.ct now
    let k := st.getKey r.db r.key
    if r.isLock then
      match (if k.locked > 0 then k.holds.find? (·.id = r.id) else none) with
      | some h =>
        if r.flag &&& 0x02 ≠ 0 then
          let k1 := applyFrame k r.data
          let eq := Slock.Gen.K.checkLockedEqual now (h.deadline.getD maxInt64) r.eflag e'
            (Slock.Gen.K.checkLockedCountEqual r.count r.rcount r.tflag h.count h.rcount h.tflag)
          if eq then (st.setKey k1, .updateRefused)
          else
            let h' := rearm now h r e' h.depth
            (st.setKey { k1 with holds := k1.holds.map (fun x => if x.id = r.id then h' else x),
                                 unsure := k1.unsure || (isMsFlag h.eflag != isMsFlag r.eflag) }, .updated)
        else if h.depth < 255 ∧ h.depth ≤ r.rcount ∧ r.tflag &&& 0x10 = 0 then
          if e' = 0 then (st, .zeroNoHold)
          else
            let k1 := applyFrame k r.data
            let h' := rearm now h r e' (h.depth + 1)
            (st.setKey { k1 with holds := k1.holds.map (fun x => if x.id = r.id then h' else x),
                                 unsure := k1.unsure || (isMsFlag h.eflag != isMsFlag r.eflag) }, .level)
        else (st, .levelRefused)
      | none =>
        let cur := (k.holds.head?.map (·.count)).getD 0
        if Slock.Gen.K.doLock k.locked cur r.count r.tflag 0 then
          if e' > 0 then
            let d := engineDeadline r.eflag e' now
            let k1 := applyFrame { k with holds := k.holds ++ [⟨r.id, 1, r.count, r.rcount, r.eflag, d, placeLong r.eflag now d, r.tflag⟩] } r.data
            (st.setKey k1, .newHold)
          else
            (st.settle (applyFrame k r.data), .zeroNoHold)
        else (st, .notAdmitted)
    else
      if k.locked = 0 then (st, .unlockNoHold)
      else match k.holds.find? (·.id = r.id) with
        | none => (st, .unlockNoHold)
        | some h =>
          if h.depth > 1 ∧ r.rcount > 0 ∧ r.tflag &&& 0x10 = 0 then
            let k1 := applyFrame k r.data
            (st.setKey { k1 with holds := k1.holds.map (fun x => if x.id = r.id then { x with depth := x.depth - 1 } else x) }, .unlockedOne)
          else
            let k1 := applyFrame k r.data
            let k2 := { k1 with holds := k1.holds.filter (fun x => x.id ≠ r.id),
                                zombie := k1.zombie || (!h.long && !isMsFlag h.eflag),
                                unsure := k1.unsure || isMsFlag h.eflag }
            (st.settle k2, .unlockedAll)

def reload (now : Int) (rs : List JRec) : RState := rs.foldl (fun st r => (reloadStep now st r).1) []

/-! ### Why a restart differs from what the journal means: the first record of a key that `reload` treats harmfully -/

inductive ReplayClass
  | levelRecordExpired      -- a LOCK record that accounts for a level of a hold that is still alive is dropped / replayed with Expried 0
  | updateRecordExpired     -- an update (0x02) record of a hold that exists is dropped / replayed with Expried 0: the older terms stay
  | unlockRecordExpired     -- an UNLOCK record is dropped while its hold exists: the hold stays
  | updateWithinTolerance   -- an update record is refused by CheckLockedEqual's tolerance against the replayed (not the original) hold
  | valueOfEndedHoldLost    -- the dropped record of an ended hold carried the key's value
  | notAdmitted             -- a LOCK record is refused by doLock: the journal's order / the replayed Counts differ from the grant's
  | levelRefused            -- a re-lock record is refused: replayed depth > Rcount
  | other
  deriving DecidableEq, Repr

def ReplayClass.name : ReplayClass → String
  | .levelRecordExpired => "level-record-expired"
  | .updateRecordExpired => "update-record-expired"
  | .unlockRecordExpired => "unlock-record-expired"
  | .updateWithinTolerance => "update-within-tolerance"
  | .valueOfEndedHoldLost => "value-of-ended-hold-lost"
  | .notAdmitted => "not-admitted"
  | .levelRefused => "level-refused"
  | .other => "other"

def JHold.aliveAt (h : JHold) (now : Int) : Bool := match h.deadline with | none => true | some d => decide (d > now)

/-- The class of ONE record's treatment (`none` = harmless), given the reload state before it and the ideal final state. -/
def treatClass (now : Int) (st : RState) (idealFinal : JState) (r : JRec) (t : Treat) : Option ReplayClass :=
  let held := (st.getKey r.db r.key).holds.any (·.id = r.id)
  match t with
  | .skipped | .zeroNoHold =>
    if ¬ r.isLock then (if held then some .unlockRecordExpired else if r.data.isSome then some .valueOfEndedHoldLost else none)
    else if r.flag &&& 0x02 ≠ 0 ∧ held then some .updateRecordExpired
    else if ((idealFinal.get r.db r.key r.id).map (·.aliveAt now)).getD false then some .levelRecordExpired
    else if r.data.isSome then some .valueOfEndedHoldLost
    else none
  | .updateRefused =>
    -- harmless when the refused terms ARE the hold's terms (same unit, deadline within a second); harmful when the unit differs
    -- or a minute-unit deadline is off by more than a second (the tolerance is 60 s against an already rounded replayed hold)
    match (st.getKey r.db r.key).holds.find? (·.id = r.id) with
    | none => none
    | some h =>
      let d := engineDeadline r.eflag (loadRemaining r.eflag r.stored r.ct now) now
      let off : Bool := match d, h.deadline with
        | some a, some b => decide (a - b > 1 ∨ b - a > 1)
        | none, none => false
        | _, _ => true
      if r.eflag &&& 0x4440 ≠ h.eflag &&& 0x4440 ∨ off then some .updateWithinTolerance else none
  | .notAdmitted => some .notAdmitted
  | .levelRefused => some .levelRefused
  | .unlockNoHold =>
    -- the UNLOCK record of a hold whose LOCK record was filtered: the value frame it carries is not applied
    if r.data.isSome then some .valueOfEndedHoldLost else none
  | _ => none

/-- Per key: the first harmful treatment (a lost value only when nothing else happened to the key). -/
def classifyFrom (now : Int) (idealFinal : JState) : RState → List JRec → List ((Nat × Nat) × ReplayClass) → List ((Nat × Nat) × ReplayClass)
  | _, [], acc => acc
  | st, r :: rs, acc =>
    let (st', t) := reloadStep now st r
    let acc' := match treatClass now st idealFinal r t with
      | none => acc
      | some c =>
        match acc.find? (·.1 = (r.db, r.key)) with
        | none => acc ++ [((r.db, r.key), c)]
        | some (_, .valueOfEndedHoldLost) =>
          if c = .valueOfEndedHoldLost then acc else acc.map (fun p => if p.1 = (r.db, r.key) then (p.1, c) else p)
        | some _ => acc
    classifyFrom now idealFinal st' rs acc'

def classifyReplay (now : Int) (rs : List JRec) : List ((Nat × Nat) × ReplayClass) :=
  classifyFrom now (recover rs) [] rs []

end Slock.Aof
