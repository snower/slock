/-
M-ENGINE (stage 1): the per-key lock state machine of server/db.go (`Lock`, `UnLock`, `wakeUpWaitLocks`,
`cancelWaitLock`, `doTimeOut`, `doExpried`, the two second-granularity timer wheels) for the core command
subset, without value frames, acks, millisecond timers or journalling. Written to mirror the code that
exists (hand-kept counters included). Core Lean only: the driver links this file.

One function call = one shard-mutex critical section (`lockEnter`, `unlockEnter`, `wakeIter`, `fireTimeout`,
`fireExpire`) — the only places the real code synchronises. The sequential operations of the E-seq harness
(`opLock`, `opUnlock`, `opTick`) are fixed compositions of those steps.
-/
namespace Slock.Engine

/-! ### constants (checked against the regenerated `Slock.Gen.C` in Proofs/Kernels) -/
def RESULT_SUCCED := 0
def RESULT_LOCKED_ERROR := 5
def RESULT_UNLOCK_ERROR := 6
def RESULT_UNOWN_ERROR := 7
def RESULT_TIMEOUT := 8
def RESULT_EXPRIED := 9
def RESULT_STATE_ERROR := 10

def F_SHOW := 1
def F_UPDATE := 2
def F_FROM_AOF := 4
def F_CONCURRENT := 8
/-- LOCK_FLAG_CONTAINS_DATA: stage 1 has no value cell; the only thing it knows about the flag is that an update carrying it is never
treated as 'same terms' (the real code takes that shortcut only for a journalled value, which stage 1 never has). -/
def F_CONTAINS_DATA := 0x20
def UF_FIRST := 1
def UF_CANCEL := 2
def TF_PRIORITY := 0x10
def TF_MINUTE := 0x40
def TF_WAIT_UNLOCK := 0x200
def TF_NO_RESET := 0x2000
def EF_MINUTE := 0x40
def EF_ZERO_AOF := 0x100
def EF_NO_RESET := 0x2000
def EF_UNLIMITED := 0x4000
def INF_TIME : Nat := 0x7fffffffffffffff
def MAX_WAIT : Nat := 8

def has (x flag : Nat) : Bool := x &&& flag != 0

structure Cmd where
  req : Nat
  conn : Nat
  flag : Nat
  lockId : Nat
  key : Nat
  tflag : Nat
  timeout : Nat
  eflag : Nat
  expried : Nat
  count : Nat
  rcount : Nat
  /-- UNLOCK only: does a key record (manager) exist? Its lifetime depends on lazily freed lock records,
  which stage 1 does not model; the harness supplies the bit, the model uses it only to choose between the
  two refusals of an unlock that reaches a non-leader (STATE_ERROR vs UNLOCK_ERROR on an unknown key). -/
  mgr : Bool := true
  deriving Repr, DecidableEq, Inhabited

/-- A wheel entry: the second at which the sweeper next looks at the record. -/
structure Sched where
  visit : Nat
  long : Bool
  seq : Nat
  checked : Nat
  deriving Repr, DecidableEq, Inhabited

structure Hold where
  hid : Nat          -- identity of the lock record (two live holds may share a LockId)
  cmd : Cmd          -- the command that last set the hold's terms (`lock.command`)
  conn : Nat         -- `lock.protocol`
  depth : Nat        -- `lock.locked`
  startT : Nat
  expT : Nat
  sched : Sched      -- expiry wheel
  deriving Repr, DecidableEq, Inhabited

structure Waiter where
  cmd : Cmd
  conn : Nat
  timeoutT : Nat
  sched : Sched      -- timeout wheel
  deriving Repr, DecidableEq, Inhabited

structure Key where
  key : Nat
  locked : Nat               -- `lockManager.locked`, the hand-kept depth counter
  holders : List Hold        -- live holds in grant order; head = `currentLock`
  waiters : List Waiter      -- live queued requests in the order `GetWaitLock` returns them
  waited : Bool              -- `lockManager.waited`
  deriving Repr, DecidableEq, Inhabited

structure Counters where
  lockCount : Nat := 0
  unLockCount : Nat := 0
  lockedCount : Int := 0
  waitCount : Int := 0
  timeoutedCount : Nat := 0
  expriedCount : Nat := 0
  unlockErrorCount : Nat := 0
  deriving Repr, DecidableEq, Inhabited

structure Reply where
  conn : Nat
  req : Nat
  result : Nat
  lcount : Nat
  lrcount : Nat
  lockId : Nat
  count : Nat
  rcount : Nat
  deriving Repr, DecidableEq, Inhabited

structure DB where
  keys : List Key := []
  now : Nat
  tCheck : Nat       -- `checkTimeoutTime`
  eCheck : Nat       -- `checkExpriedTime`
  seq : Nat := 0
  leader : Bool := true
  ctr : Counters := {}
  deriving Repr, DecidableEq, Inhabited

def DB.init (now : Nat) : DB := { now := now, tCheck := now + 1, eCheck := now + 1 }

def emptyKey (k : Nat) : Key := { key := k, locked := 0, holders := [], waiters := [], waited := false }

def DB.getKey (db : DB) (k : Nat) : Key := (db.keys.find? (·.key == k)).getD (emptyKey k)

def Key.isEmpty (k : Key) : Bool := k.holders.isEmpty && k.waiters.isEmpty && k.locked == 0 && !k.waited

/-- store a key state; keys without any state are dropped (stage 1 has no lazily-freed records) -/
def DB.setKey (db : DB) (k : Key) : DB :=
  let rest := db.keys.filter (·.key != k.key)
  { db with keys := if k.isEmpty then rest else rest ++ [k] }

def mkReply (c : Cmd) (result lcount lrcount : Nat) : Reply :=
  { conn := c.conn, req := c.req, result := result, lcount := lcount % 65536, lrcount := lrcount % 256,
    lockId := c.lockId, count := c.count, rcount := c.rcount }

/-! ### time arithmetic -/

def timeoutDeadline (now : Nat) (c : Cmd) : Nat :=
  if has c.tflag TF_MINUTE then now + c.timeout * 60 + 1 else now + c.timeout + 1

def expiryDeadline (now : Nat) (c : Cmd) : Nat :=
  if has c.eflag EF_UNLIMITED then INF_TIME
  else if has c.eflag EF_MINUTE then now + c.expried * 60 + 1 else now + c.expried + 1

def initChecked (c : Cmd) (startT expT : Nat) : Nat :=
  if has c.eflag EF_ZERO_AOF && expT - startT > 5 then MAX_WAIT + 1 else 1

/-- `AddTimeOut` / `AddExpried`: where a record with deadline `d` and back-off `n` is put, given the
wheel's `check` time. Returns the (possibly raised) deadline and the schedule. -/
def wheelAdd (check seq : Nat) (d n : Nat) : Nat × Sched :=
  if n > MAX_WAIT then
    let d' := if d < check then check else d
    (d', { visit := d', long := true, seq := seq, checked := n })
  else
    let v := check + n
    let v := if d < v then (if d < check then check else d) else v
    (d, { visit := v, long := false, seq := seq, checked := n })

/-! ### admission -/

/-- `LockDB.doLock` for the core subset (no less-lock-version flag). -/
def doLock (k : Key) (c : Cmd) : Bool :=
  if k.locked == 0 then true
  else if c.count == 0 then false
  else
    match k.holders.head? with
    | none => false   -- unreachable under the invariant (locked > 0 ⇒ a current lock exists); the Go code would dereference nil
    | some cur =>
      if k.locked ≥ 0xffff then
        if k.locked ≥ 0x7fffffff then false
        else cur.cmd.count == 0xffff && c.count == 0xffff
      else k.locked ≤ cur.cmd.count && k.locked ≤ c.count

def cmdPriority (c : Cmd) : Nat := if has c.tflag TF_PRIORITY then c.rcount else 0

/-- `doCheckLockWaitPriority`: newcomer's priority strictly above the head waiter's. -/
def checkWaitPriority (k : Key) (c : Cmd) : Bool :=
  match k.waiters.head? with
  | none => c.rcount > 0
  | some w => c.rcount > cmdPriority w.cmd

/-- stable priority insertion (what inline → ring → priority ring implement together) -/
def insertWaiter (ws : List Waiter) (w : Waiter) : List Waiter :=
  match ws with
  | [] => [w]
  | x :: xs => if cmdPriority w.cmd > cmdPriority x.cmd then w :: x :: xs else x :: insertWaiter xs w

def findHolder (k : Key) (lockId : Nat) : Option Hold := k.holders.find? (·.cmd.lockId == lockId)

/-- replace the first record equal to `h` by `h'` (records carry a unique `hid`, so this is "that record") -/
def replaceHolder (hs : List Hold) (h h' : Hold) : List Hold :=
  match hs with
  | [] => []
  | x :: rest => if x = h then h' :: rest else x :: replaceHolder rest h h'

/-- remove the first record equal to `h` -/
def removeHolder (hs : List Hold) (h : Hold) : List Hold :=
  match hs with
  | [] => []
  | x :: rest => if x = h then rest else x :: removeHolder rest h

/-! ### granting (`AddLock` + counters), shared by the direct grant and the wake-up grant -/

structure St where
  db : DB
  out : List Reply := []

/-- Make `c` a new holder of `k` at time `db.now` (Expried > 0). -/
def grantHold (db : DB) (k : Key) (c : Cmd) : DB × Key :=
  let expT := expiryDeadline db.now c
  let n := initChecked c db.now expT
  let (expT', sc) := wheelAdd db.eCheck db.seq expT n
  let h : Hold := { hid := db.seq, cmd := c, conn := c.conn, depth := 1, startT := db.now, expT := expT', sched := sc }
  let k' := { k with holders := k.holders ++ [h], locked := k.locked + 1 }
  let ctr := { db.ctr with lockCount := db.ctr.lockCount + 1, lockedCount := db.ctr.lockedCount + 1 }
  ({ db with seq := db.seq + 1, ctr := ctr }, k')

/-- `UpdateLockedLock` + the long-table move, for a re-lock or an update of hold `h` by command `c`. -/
def updateHold (db : DB) (h : Hold) (c : Cmd) : DB × Hold :=
  if has c.eflag EF_UNLIMITED && c.expried ≥ 0xffff then
    -- terms (command, connection) change, times and schedule do not
    (db, { h with cmd := c, conn := c.conn })
  else
    let expT := expiryDeadline db.now c
    let checked := if has c.eflag EF_NO_RESET then h.sched.checked else initChecked c db.now expT
    if h.sched.long then
      if expT != h.expT then
        let (expT', sc) := wheelAdd db.eCheck db.seq expT checked
        ({ db with seq := db.seq + 1 }, { h with cmd := c, conn := c.conn, startT := db.now, expT := expT', sched := sc })
      else (db, { h with cmd := c, conn := c.conn, startT := db.now, expT := expT, sched := { h.sched with checked := checked } })
    else (db, { h with cmd := c, conn := c.conn, startT := db.now, expT := expT, sched := { h.sched with checked := checked } })

def absDiff (a b : Nat) : Nat := if a > b then a - b else b - a

/-- `LockManager.CheckLockedEqual` (second / minute units). -/
def checkLockedEqual (now : Nat) (h : Hold) (c : Cmd) : Bool :=
  let countEq := c.count == h.cmd.count && c.rcount == h.cmd.rcount &&
    (has c.tflag TF_PRIORITY == has h.cmd.tflag TF_PRIORITY)
  if has c.eflag EF_UNLIMITED then
    if c.expried == 0xffff then countEq else h.expT == INF_TIME && countEq
  else if has c.eflag EF_MINUTE then
    absDiff (now + c.expried * 60 + 1) h.expT ≤ 60 && countEq
  else absDiff (now + c.expried + 1) h.expT ≤ 1 && countEq

/-! ### wake pass -/

/-- one iteration of `wakeUpWaitLocks`' loop; `none` = the pass is over -/
def wakeIter (db : DB) (k : Key) : Option (DB × Key × Reply) :=
  match k.waiters with
  | [] => none
  | w :: rest =>
    if !doLock k w.cmd then none
    else
      let k1 := { k with waiters := rest }
      let db1 := { db with ctr := { db.ctr with waitCount := db.ctr.waitCount - 1 } }
      if w.cmd.expried > 0 then
        let (db2, k2) := grantHold db1 k1 { w.cmd with conn := w.conn }
        some (db2, k2, mkReply { w.cmd with conn := w.conn } RESULT_SUCCED k2.locked 1)
      else
        let db2 := { db1 with ctr := { db1.ctr with lockCount := db1.ctr.lockCount + 1 } }
        some (db2, k1, mkReply { w.cmd with conn := w.conn } RESULT_SUCCED k1.locked 0)

/-- the whole pass; fuel = number of waiters (each iteration removes one) -/
def wakePass (fuel : Nat) (db : DB) (k : Key) (out : List Reply) : DB × Key × List Reply :=
  if !k.waited then (db, k, out)
  else
    match fuel with
    | 0 => (db, k, out)
    | fuel + 1 =>
      match wakeIter db k with
      | some (db', k', r) => wakePass fuel db' k' (out ++ [r])
      | none =>
        if k.waiters.isEmpty then (db, { k with waited := false }, out) else (db, k, out)

def wake (db : DB) (k : Key) (out : List Reply) : DB × Key × List Reply :=
  wakePass (k.waiters.length + 1) db k out

/-! ### LOCK -/

inductive LockBranch
  | p0a | p0b | stateError
  | show (cur : Hold)
  | updateEqual (h : Hold) | update (h : Hold)
  | relockNoHold (h : Hold) | relock (h : Hold) | relockRefused (h : Hold)
  | unlockedWaitRefused
  | grant | grantNoHold | queue | timeout
  deriving Repr, DecidableEq

def classifyLock (db : DB) (c : Cmd) : LockBranch :=
  let k := db.getKey c.key
  if has c.flag F_CONCURRENT && c.timeout == 0 && c.count < 0xffff && k.locked > c.count then .p0a
  else if has c.flag F_CONCURRENT && c.timeout == 0 && k.locked == 0 && has c.tflag TF_WAIT_UNLOCK then .p0b
  else if !db.leader && !has c.flag F_FROM_AOF then .stateError
  else
    let afterHeld (waited : Bool) : LockBranch :=
      if (!waited || (has c.tflag TF_PRIORITY && checkWaitPriority k c)) && doLock k c then
        (if c.expried > 0 then .grant else .grantNoHold)
      else if c.timeout > 0 then .queue else .timeout
    if k.locked > 0 then
      match (if has c.flag F_SHOW then k.holders.head? else none) with
      | some cur =>
        if !has c.flag F_UPDATE then .show cur
        else
          -- show ∧ update: the command takes the oldest holder's LockId and continues as an update of it
          if !has c.flag F_CONTAINS_DATA && checkLockedEqual db.now cur c then .updateEqual cur else .update cur
      | none =>
        match findHolder k c.lockId with
        | some h =>
          if has c.flag F_UPDATE then
            if !has c.flag F_CONTAINS_DATA && checkLockedEqual db.now h c then .updateEqual h else .update h
          else if h.depth < 0xff && h.depth ≤ c.rcount && !has c.tflag TF_PRIORITY then
            (if c.expried == 0 then .relockNoHold h else .relock h)
          else .relockRefused h
        | none => afterHeld k.waited
    else if has c.tflag TF_WAIT_UNLOCK then
      if k.waited && c.count == 0 then .unlockedWaitRefused else afterHeld true
    else afterHeld false

def applyLock (db : DB) (c : Cmd) : LockBranch → DB × List Reply
  | .p0a => (db, [mkReply c RESULT_TIMEOUT (db.getKey c.key).locked 0])
  | .p0b => (db, [mkReply c RESULT_TIMEOUT 0 0])
  | .stateError => (db, [mkReply c RESULT_STATE_ERROR (db.getKey c.key).locked 0])
  | .show cur =>
    let c' := { c with lockId := cur.cmd.lockId, timeout := cur.cmd.timeout, tflag := cur.cmd.tflag,
                       expried := cur.cmd.expried, eflag := cur.cmd.eflag, count := cur.cmd.count, rcount := cur.cmd.rcount }
    (db, [mkReply c' RESULT_UNOWN_ERROR (db.getKey c.key).locked cur.depth])
  | .updateEqual h =>
    let c' := { c with lockId := h.cmd.lockId }
    (db, [mkReply c' RESULT_LOCKED_ERROR (db.getKey c.key).locked h.depth])
  | .update h =>
    let k := db.getKey c.key
    let c' := { c with lockId := h.cmd.lockId }
    let (db1, h') := updateHold db h c'
    let k' := { k with holders := replaceHolder k.holders h h' }
    -- (fix: C04) the update may have raised the hold's Count: a wake pass follows the reply
    let (db2, k2, out) := wake db1 k' [mkReply c' RESULT_LOCKED_ERROR k.locked h.depth]
    (db2.setKey k2, out)
  | .relockNoHold h => (db, [mkReply c RESULT_SUCCED (db.getKey c.key).locked h.depth])
  | .relock h =>
    let k := db.getKey c.key
    let (db1, h1) := updateHold db { h with depth := h.depth + 1 } c
    let k' := { k with holders := replaceHolder k.holders h h1, locked := k.locked + 1 }
    let db2 := { db1 with ctr := { db1.ctr with lockCount := db1.ctr.lockCount + 1, lockedCount := db1.ctr.lockedCount + 1 } }
    -- (fix: C04) the re-lock replaces the hold's command (its Count may be higher): a wake pass follows the reply
    let (db3, k3, out) := wake db2 k' [mkReply c RESULT_SUCCED k'.locked h1.depth]
    (db3.setKey k3, out)
  | .relockRefused h => (db, [mkReply c RESULT_LOCKED_ERROR (db.getKey c.key).locked h.depth])
  | .unlockedWaitRefused => (db, [mkReply c RESULT_UNOWN_ERROR (db.getKey c.key).locked 0])
  | .grant =>
    let k := db.getKey c.key
    let (db1, k1) := grantHold db k c
    let r := mkReply c RESULT_SUCCED k1.locked 1
    let (db2, k2, out) := if k.waited then wake db1 k1 [r] else (db1, k1, [r])
    (db2.setKey k2, out)
  | .grantNoHold =>
    let k := db.getKey c.key
    let db1 := { db with ctr := { db.ctr with lockCount := db.ctr.lockCount + 1 } }
    let r := mkReply c RESULT_SUCCED k.locked 0
    let (db2, k2, out) := if k.waited then wake db1 k [r] else (db1, k, [r])
    (db2.setKey k2, out)
  | .queue =>
    let k := db.getKey c.key
    let d := timeoutDeadline db.now c
    let (d', sc) := wheelAdd db.tCheck db.seq d 1
    let w : Waiter := { cmd := c, conn := c.conn, timeoutT := d', sched := sc }
    let k' := { k with waiters := insertWaiter k.waiters w, waited := true }
    let db1 := { db with seq := db.seq + 1, ctr := { db.ctr with waitCount := db.ctr.waitCount + 1 } }
    (db1.setKey k', [])
  | .timeout => (db, [mkReply c RESULT_TIMEOUT (db.getKey c.key).locked 0])

def opLock (db : DB) (c : Cmd) : DB × List Reply := applyLock db c (classifyLock db c)

/-! ### UNLOCK -/

inductive UnlockBranch
  | stateError
  | notLocked                   -- U1
  | unown                       -- U2
  | cancelNone | cancel (w : Waiter)
  | dec (h : Hold) (c' : Cmd)   -- U4: one level
  | release (h : Hold) (c' : Cmd)   -- U5 / depth 1
  deriving Repr, DecidableEq

/-- the LAST live waiter with the LockId (that is what `cancelWaitLock`'s scan keeps) -/
def findCancel (ws : List Waiter) (lockId : Nat) : Option Waiter :=
  (ws.filter (·.cmd.lockId == lockId)).getLast?

def removeWaiter (ws : List Waiter) (w : Waiter) : List Waiter :=
  match ws with
  | [] => []
  | x :: xs => if x.cmd.req == w.cmd.req && x.conn == w.conn then xs else x :: removeWaiter xs w

def classifyUnlock (db : DB) (c : Cmd) : UnlockBranch :=
  let k := db.getKey c.key
  if !db.leader && !has c.flag F_FROM_AOF && (c.mgr || !k.isEmpty) then .stateError
  else if k.locked == 0 then
    if has c.flag UF_CANCEL then
      (match findCancel k.waiters c.lockId with | some w => .cancel w | none => .cancelNone)
    else .notLocked
  else
    let go (h : Hold) (c' : Cmd) : UnlockBranch :=
      if h.depth > 1 && c'.rcount > 0 && !has c'.tflag TF_PRIORITY then .dec h c' else .release h c'
    match findHolder k c.lockId with
    | some h => go h c
    | none =>
      if has c.flag UF_FIRST then
        match k.holders.head? with
        | some h =>
          go h { c with lockId := h.cmd.lockId, expried := h.cmd.expried, eflag := h.cmd.eflag, timeout := h.cmd.timeout,
                        tflag := h.cmd.tflag, count := h.cmd.count, rcount := h.cmd.rcount }
        | none => .unown
      else if has c.flag UF_CANCEL then
        (match findCancel k.waiters c.lockId with | some w => .cancel w | none => .cancelNone)
      else .unown

def bumpErr (db : DB) : DB := { db with ctr := { db.ctr with unlockErrorCount := db.ctr.unlockErrorCount + 1 } }

def applyUnlock (db : DB) (c : Cmd) : UnlockBranch → DB × List Reply
  | .stateError => (bumpErr db, [mkReply c RESULT_STATE_ERROR (db.getKey c.key).locked 0])
  | .notLocked => (bumpErr db, [mkReply c RESULT_UNLOCK_ERROR 0 0])
  | .unown => (bumpErr db, [mkReply c RESULT_UNOWN_ERROR (db.getKey c.key).locked 0])
  | .cancelNone => (bumpErr db, [mkReply c RESULT_UNLOCK_ERROR (db.getKey c.key).locked 0])
  | .cancel w =>
    let k := db.getKey c.key
    let ws := removeWaiter k.waiters w
    let k' := { k with waiters := ws, waited := if ws.isEmpty then false else k.waited }
    let db1 := { db with ctr := { db.ctr with waitCount := db.ctr.waitCount - 1, unLockCount := db.ctr.unLockCount + 1 } }
    -- (fix: C04) the cancelled request may have been the head of the queue: a wake pass follows the two replies
    let (db2, k2, out) := wake db1 k' [mkReply c RESULT_LOCKED_ERROR k.locked 0,
                                       mkReply { w.cmd with conn := w.conn } RESULT_UNLOCK_ERROR k.locked 0]
    (db2.setKey k2, out)
  | .dec h c' =>
    let k := db.getKey c.key
    let h' := { h with depth := h.depth - 1 }
    let k1 := { k with holders := replaceHolder k.holders h h', locked := k.locked - 1 }
    let db1 := { db with ctr := { db.ctr with unLockCount := db.ctr.unLockCount + 1, lockedCount := db.ctr.lockedCount - 1 } }
    let (db2, k2, out) := wake db1 k1 [mkReply c' RESULT_SUCCED k1.locked h'.depth]
    (db2.setKey k2, out)
  | .release h c' =>
    let k := db.getKey c.key
    let k1 := { k with holders := removeHolder k.holders h, locked := k.locked - h.depth }
    let db1 := { db with ctr := { db.ctr with unLockCount := db.ctr.unLockCount + h.depth, lockedCount := db.ctr.lockedCount - h.depth } }
    let (db2, k2, out) := wake db1 k1 [mkReply c' RESULT_SUCCED k1.locked 0]
    (db2.setKey k2, out)

def opUnlock (db : DB) (c : Cmd) : DB × List Reply := applyUnlock db c (classifyUnlock db c)

/-! ### timer sweeps -/

/-- `doTimeOut` for a live waiter. No wake pass here (the code has none). -/
def fireTimeout (db : DB) (key : Nat) (w : Waiter) : DB × List Reply :=
  let k := db.getKey key
  let ws := removeWaiter k.waiters w
  let k' := { k with waiters := ws, waited := if ws.isEmpty then false else k.waited }
  let db1 := { db with ctr := { db.ctr with waitCount := db.ctr.waitCount - 1, timeoutedCount := db.ctr.timeoutedCount + 1 } }
  -- (fix: C04) the timed-out request may have been the head of the queue: a wake pass follows the reply
  let (db2, k2, out) := wake db1 k' [mkReply { w.cmd with conn := w.conn } RESULT_TIMEOUT k.locked 0]
  (db2.setKey k2, out)

/-- `doExpried` for a live hold on the leader. -/
def fireExpire (db : DB) (key : Nat) (h : Hold) : DB × List Reply :=
  let k := db.getKey key
  let k1 := { k with holders := removeHolder k.holders h, locked := k.locked - h.depth }
  let db1 := { db with ctr := { db.ctr with lockedCount := db.ctr.lockedCount - h.depth, expriedCount := db.ctr.expriedCount + 1 } }
  let (db2, k2, out) := wake db1 k1 [mkReply { h.cmd with conn := h.conn } RESULT_EXPRIED k1.locked 0]
  (db2.setKey k2, out)

def insertBySeq {α} (seqOf : α → Nat) (x : α) : List α → List α
  | [] => [x]
  | y :: ys => if seqOf x < seqOf y then x :: y :: ys else y :: insertBySeq seqOf x ys

def sortBySeq {α} (seqOf : α → Nat) (l : List α) : List α := l.foldl (fun acc x => insertBySeq seqOf x acc) []

def allWaiters (db : DB) : List Waiter := db.keys.flatMap (·.waiters)
def allHolds (db : DB) : List Hold := db.keys.flatMap (·.holders)

def updateWaiter (db : DB) (w w' : Waiter) : DB :=
  let k := db.getKey w.cmd.key
  db.setKey { k with waiters := k.waiters.map (fun x => if x.cmd.req == w.cmd.req && x.conn == w.conn then w' else x) }

def updateHoldIn (db : DB) (h h' : Hold) : DB :=
  let k := db.getKey h.cmd.key
  db.setKey { k with holders := replaceHolder k.holders h h' }

def slotWaiters (db : DB) (c : Nat) : List Waiter :=
  sortBySeq (·.sched.seq) ((allWaiters db).filter (fun w => w.sched.visit == c && !w.sched.long))
def longWaiters (db : DB) (c : Nat) : List Waiter :=
  sortBySeq (·.sched.seq) ((allWaiters db).filter (fun w => w.sched.visit == c && w.sched.long))
def slotHolds (db : DB) (c : Nat) : List Hold :=
  sortBySeq (·.sched.seq) ((allHolds db).filter (fun h => h.sched.visit == c && !h.sched.long))
def longHolds (db : DB) (c : Nat) : List Hold :=
  sortBySeq (·.sched.seq) ((allHolds db).filter (fun h => h.sched.visit == c && h.sched.long))

/-- a visited record whose deadline is still ahead: back-off +1 and re-arm (`AddTimeOut` again) -/
def rearmWaiter (d : DB) (w : Waiter) : DB :=
  let r := wheelAdd d.tCheck d.seq w.timeoutT (w.sched.checked + 1)
  updateWaiter { d with seq := d.seq + 1 } w { w with timeoutT := r.1, sched := r.2 }

def rearmHold (d : DB) (h : Hold) : DB :=
  let r := wheelAdd d.eCheck d.seq h.expT (h.sched.checked + 1)
  updateHoldIn { d with seq := d.seq + 1 } h { h with expT := r.1, sched := r.2 }

/-- the collecting critical section: visit one slot entry -/
def timeoutStep (acc : DB × List Waiter) (w : Waiter) : DB × List Waiter :=
  if w.timeoutT > acc.1.now then (rearmWaiter acc.1 w, acc.2) else (acc.1, acc.2 ++ [w])

def expireStep (acc : DB × List Hold) (h : Hold) : DB × List Hold :=
  if h.expT > acc.1.now then (rearmHold acc.1 h, acc.2) else (acc.1, acc.2 ++ [h])

/-- pass 1 of `checkTimeTimeOut(c, now)`: re-arm what is not due; returns the records to fire, in firing order
(due slot entries, then the long-table entries of second `c`). -/
def timeoutPass1 (db : DB) (c : Nat) : DB × List Waiter :=
  let r := (slotWaiters db c).foldl timeoutStep (db, [])
  (r.1, r.2 ++ longWaiters db c)

def expirePass1 (db : DB) (c : Nat) : DB × List Hold :=
  let r := (slotHolds db c).foldl expireStep (db, [])
  (r.1, r.2 ++ longHolds db c)

/-- fire one collected request, if it is still queued (mirrors `if lock.timeouted { … return }` in `doTimeOut`) -/
def fireTimeoutStep (acc : DB × List Reply) (w : Waiter) : DB × List Reply :=
  match (acc.1.getKey w.cmd.key).waiters.find? (fun x => x.cmd.req == w.cmd.req && x.conn == w.conn) with
  | some w' => ((fireTimeout acc.1 w.cmd.key w').1, acc.2 ++ (fireTimeout acc.1 w.cmd.key w').2)
  | none => acc

/-- fire one collected hold, if that record is still a live holder (an earlier firing of this pass cannot have
removed it sequentially; the lookup mirrors `if lock.expried { … return }`) -/
def fireExpireStep (acc : DB × List Reply) (h : Hold) : DB × List Reply :=
  match (acc.1.getKey h.cmd.key).holders.find? (·.hid == h.hid) with
  | some h' => ((fireExpire acc.1 h.cmd.key h').1, acc.2 ++ (fireExpire acc.1 h.cmd.key h').2)
  | none => acc

/-- `checkTimeTimeOut(c, now)` -/
def sweepTimeout (db : DB) (c : Nat) : DB × List Reply :=
  let p := timeoutPass1 db c
  p.2.foldl fireTimeoutStep (p.1, [])

/-- `checkTimeExpried(c, now)` -/
def sweepExpire (db : DB) (c : Nat) : DB × List Reply :=
  let p := expirePass1 db c
  p.2.foldl fireExpireStep (p.1, [])

/-- one second of server time: clock +1, timeout sweep of that second, expiry sweep of that second -/
def opTick (db : DB) : DB × List Reply :=
  let now := db.now + 1
  let db0 := { db with now := now, tCheck := now + 1 }
  let (db1, o1) := sweepTimeout db0 now
  let db2 := { db1 with eCheck := now + 1 }
  let (db3, o2) := sweepExpire db2 now
  (db3, o1 ++ o2)

end Slock.Engine
