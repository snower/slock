import Slock.Proofs.ValueOps
import Slock.Proofs.ValuePanic
/-!
C15 (value part): while a key is held, its value behaves as a single register updated by each value operation.

Model: `Slock.Value.processFrame` (= `ProcessParseLockData` + `LockManager.ProcessLockData`; the tree after f7f91cc, e6b8126, 0995d27, 076286b).
Spec: `Slock.Value.specApply` on `Val = none | bytes | array` (a number is its 8-byte little-endian image, `Val.num`).
`encode f` is the canonical frame `[len32 | op | flag | (proplen16 props)? | payload]` of `f : Frm`; `f.WF` says the op code is
< 64 (stage CURRENT), the property flag matches the presence of a header and the header is < 64 KiB. `CellWF` = no cell, the UNSET
marker, or a canonical image with a correct length prefix (array-flagged images hold an exact list of elements, each
shorter than 2^32 bytes — zero-length elements are ordinary elements, e6b8126).
`gate cx (mkCmd f) = true` = the stage / first-or-last gate lets the frame through.

For every op, every WF cell, every WF frame:  `processFrame cx cur (encode f) = .ok cur'` (it always returns:
`processFrame_returns`)  →  `CellWF cur' ∧ absCell cur' = specApply (absCell cur) (opOf f)`.
Remaining hypotheses are typing conditions of the register (INCR/APPEND/SHIFT act on scalars, SET-array payloads are element
lists) and the recorded finding: PIPELINE with more than one sub-frame (`pipeline_not_sequential_counterexample`).
-/
namespace Slock.C15V
open Slock.Value

/-- SET: any payload, any flags / property header (array-flagged payloads must be exact element lists). -/
theorem set_refines (cx : Ctx) (cur : Option Cell) (f : Frm) (hcur : CellWF cur) (hf : f.WF) (hop : f.op = SET)
    (ha : f.ArrOK) (hg : gate cx (mkCmd f) = true) (cur' : Option Cell) (h : processFrame cx cur (encode f) = .ok cur') :
    CellWF cur' ∧ absCell cur' = specApply (absCell cur) (.set (hasFlag f.flag fARRAY) f.payload) := by
  rw [processFrame_op cx cur f hf hg (by rw [hop]; decide), procOp_set hop] at h; cases h
  have h0 : f.op = 0 := hop
  have hspec : specApply (absCell cur) (.set (hasFlag f.flag fARRAY) f.payload) = f.val := by
    unfold Frm.val; cases hasFlag f.flag fARRAY <;> rfl
  rw [hspec]
  have himg : ∀ ex aof, CellWF (some ⟨encode f, ex, SET, aof⟩) ∧ absCell (some ⟨encode f, ex, SET, aof⟩) = f.val :=
    fun ex aof => ⟨CellWF.data f ex SET aof h0 hf ha (by decide), absCell_data f ex SET aof hf ha (by decide)⟩
  cases cur with
  | none => simpa [opSet, mkCmd] using himg [] cx.fromAof
  | some k =>
    simp only [opSet]
    split
    · -- the skip branch: the cell already is this very SET image
      rename_i hskip
      simp only [Bool.and_eq_true, beq_iff_eq] at hskip
      obtain ⟨_, hk1, hk2⟩ := hskip
      have : k = ⟨encode f, k.extra, SET, k.isAof⟩ := by cases k; simp_all [mkCmd]
      rw [this]; exact himg _ _
    · exact himg _ _

theorem unset_refines (cx : Ctx) (cur : Option Cell) (f : Frm) (hcur : CellWF cur) (hf : f.WF) (hop : f.op = UNSET)
    (hg : gate cx (mkCmd f) = true) (cur' : Option Cell) (h : processFrame cx cur (encode f) = .ok cur') :
    CellWF cur' ∧ absCell cur' = specApply (absCell cur) .unset := by
  rw [processFrame_op cx cur f hf hg (by rw [hop]; decide), procOp_unset hop] at h; cases h
  cases hcur with
  | none => exact ⟨CellWF.none, rfl⟩
  | unset aof =>
    unfold opUnset; dsimp only
    split
    · exact ⟨CellWF.unset aof, absCell_unset aof⟩
    · exact ⟨CellWF.unset _, absCell_unset _⟩
  | data g ex ct aof h0 hg' ha hct =>
    have hk : ¬ ((cx.cmdType == CmdType.lock && cx.updOrZero && ct == UNSET) = true) := by simp [hct]
    simp only [opUnset, if_neg hk]
    exact ⟨CellWF.unset _, absCell_unset _⟩

/-- INCR: operand of any length (first ≤ 8 bytes, zero-extended), wrap-around modulo 2^64, with or without property header on
    the operand and on the cell, on a key with or without value.  (Array cells / array-flagged operands are type errors.) -/
theorem incr_refines (cx : Ctx) (cur : Option Cell) (f : Frm) (hcur : CellWF cur) (hf : f.WF) (hop : f.op = INCR)
    (hfa : hasFlag f.flag fARRAY = false) (hna : (absCell cur).isArr = false)
    (hg : gate cx (mkCmd f) = true) (cur' : Option Cell) (h : processFrame cx cur (encode f) = .ok cur') :
    CellWF cur' ∧ absCell cur' = specApply (absCell cur) (.incr f.payload) := by
  rw [processFrame_op cx cur f hf hg (by rw [hop]; decide), procOp_incr hop] at h
  have sf := mkCmd_shape hf
  have hspec : specApply (absCell cur) (.incr f.payload) =
      .bytes (le64 ((readLE (f.payload.take 8) + incrBase cur) % 2 ^ 64)) := by
    rw [incrBase_abs hcur hna, Nat.add_comm]; rfl
  rw [hspec]
  -- the fresh 8-byte number of the branches that keep no header
  have hnumber : ∀ n, CellWF (some ⟨[10, 0, 0, 0, 0, 1] ++ le64 n, [], INCR, cx.fromAof⟩) ∧
      absCell (some ⟨[10, 0, 0, 0, 0, 1] ++ le64 n, [], INCR, cx.fromAof⟩) = .bytes (le64 n) := by
    intro n
    rw [show [10, 0, 0, 0, 0, 1] ++ le64 n = [10, 0, 0, 0] ++ 0 :: 1 :: (propHdr none ++ le64 n) from rfl]
    exact cellWF_bytes (by rw [le64_length]; rfl) rfl nofun (by decide) (by decide)
  by_cases h8 : f.payload.length = 8
  · rw [opIncr_eight cx cur sf h8] at h; cases h
    exact cellWF_bytes (by show (encode f).take 4 = _; rw [encode_take4, h8, le64_length]; rfl)
      (by rw [flag_or_num_prop]; exact hf.flag_props) hf.props_len (by rw [flag_or_num_arr]; exact hfa) (by decide)
  · rcases hcur.kind with ⟨_, _, _, hp⟩ | ⟨x, fl, props, pl, rfl, _, sg, _, h1, h2, _, ⟨hga, _⟩ | ⟨xs, _, _, _, hv, _⟩⟩
    · rw [opIncr_plain cx sf h8 hp] at h; cases h; exact hnumber _
    · cases props with
      | none =>
        rw [opIncr_plain cx sf h8 (by simp [cellHasProps, sg.cellOff, propHdr])] at h; cases h; exact hnumber _
      | some p =>
        rw [opIncr_props cx sf h8 sg (by simp [propHdr, le16, leN])] at h; cases h
        exact cellWF_bytes (by rw [le64_length]; congr 1; omega) (by rw [flag_or_num_prop]; exact h1) h2
          (by rw [flag_or_num_arr]; exact hga) (by decide)
    · rw [hv] at hna; cases hna

theorem append_refines (cx : Ctx) (cur : Option Cell) (f : Frm) (hcur : CellWF cur) (hf : f.WF) (hop : f.op = APPEND)
    (hfa : hasFlag f.flag fARRAY = false) (hna : (absCell cur).isArr = false)
    (hg : gate cx (mkCmd f) = true) (cur' : Option Cell) (h : processFrame cx cur (encode f) = .ok cur') :
    CellWF cur' ∧ absCell cur' = specApply (absCell cur) (.append f.payload) := by
  rw [processFrame_op cx cur f hf hg (by rw [hop]; decide), procOp_append hop] at h
  have sf := mkCmd_shape hf
  rcases hcur.kind with ⟨hl, _, hv, _⟩ | ⟨x, fl, props, pl, rfl, hd, sg, _, h1, h2, _, ⟨hga, hv⟩ | ⟨xs, _, _, _, hv, _⟩⟩
  · -- to no value: the request frame becomes the cell
    rw [opAppend_fresh cx sf hl] at h; cases h
    rw [hv]
    exact cellWF_bytes (encode_take4 f) hf.flag_props hf.props_len hfa (by decide)
  · rw [opAppend_data cx sf sg hd] at h; cases h
    rw [hv]
    exact cellWF_bytes rfl h1 h2 hga (by decide)
  · rw [hv] at hna; cases hna

/-- SHIFT by any count (`f.count` = first ≤ 4 payload bytes), beyond the value length included: the value is `drop n`. -/
theorem shift_refines (cx : Ctx) (cur : Option Cell) (f : Frm) (hcur : CellWF cur) (hf : f.WF) (hop : f.op = SHIFT)
    (hna : (absCell cur).isArr = false)
    (hg : gate cx (mkCmd f) = true) (cur' : Option Cell) (h : processFrame cx cur (encode f) = .ok cur') :
    CellWF cur' ∧ absCell cur' = specApply (absCell cur) (.shift f.count) := by
  rw [processFrame_op cx cur f hf hg (by rw [hop]; decide), procOp_shift hop] at h
  have sf := mkCmd_shape hf
  -- nothing to shift: the cell stays, and so does what it denotes
  have hsame : (live cur && decide (0 < f.count)) = false → specApply (absCell cur) (.shift f.count) = absCell cur →
      CellWF cur' ∧ absCell cur' = specApply (absCell cur) (.shift f.count) := by
    intro hl hs
    rw [opShift_same cx sf hl] at h; cases h
    exact ⟨hcur, hs.symm⟩
  rcases hcur.kind with ⟨hl, _, hv, _⟩ | ⟨x, fl, props, pl, rfl, hd, sg, _, h1, h2, _, ⟨hfa, hv⟩ | ⟨xs, _, _, _, hv, _⟩⟩
  · exact hsame (by rw [hl]; rfl) (by rw [hv]; rfl)
  · rw [hv] at hsame ⊢
    by_cases hz : 0 < f.count
    · rw [opShift_data cx sf sg hd hz] at h; cases h
      exact cellWF_bytes rfl h1 h2 hfa (by decide)
    · exact hsame (by simp only [hz, decide_false, Bool.and_false]) (by rw [show f.count = 0 by omega]; rfl)
  · rw [hv] at hna; cases hna

/-- PUSH of any element — the zero-length one included (e6b8126) — onto anything (a non-array value is replaced
    by a one-element array). The bound is the 32-bit element length field. -/
theorem push_refines (cx : Ctx) (cur : Option Cell) (f : Frm) (hcur : CellWF cur) (hf : f.WF) (hop : f.op = PUSH)
    (hb : f.payload.length < 2 ^ 32)
    (hg : gate cx (mkCmd f) = true) (cur' : Option Cell) (h : processFrame cx cur (encode f) = .ok cur') :
    CellWF cur' ∧ absCell cur' = specApply (absCell cur) (.push f.payload) :=
  Slock.Value.push_refines cx cur f hcur hf hop hb hg cur' h

/-- POP of any count, beyond the array length included. -/
theorem pop_refines (cx : Ctx) (cur : Option Cell) (f : Frm) (hcur : CellWF cur) (hf : f.WF) (hop : f.op = POP)
    (hg : gate cx (mkCmd f) = true) (cur' : Option Cell) (h : processFrame cx cur (encode f) = .ok cur') :
    CellWF cur' ∧ absCell cur' = specApply (absCell cur) (.pop f.count) :=
  Slock.Value.pop_refines cx cur f hcur hf hop hg cur' h

/-- The `.ok` hypothesis above is always met: on a well-formed cell EVERY byte string returns (no panic). -/
theorem processFrame_returns (cx : Ctx) (cur : Option Cell) (frame : Bytes) (hcur : CellWF cur) :
    ∃ cur', processFrame cx cur frame = .ok cur' := by
  obtain ⟨c, h, _⟩ := processFrame_good cx cur frame (cellWF_sane cur hcur)
  exact ⟨c, h⟩

/-- A frame the stage / first-or-last gate refuses leaves the cell unchanged — every op code, PIPELINE included. -/
theorem refused_unchanged (cx : Ctx) (cur : Option Cell) (f : Frm) (hf : f.WF) (hg : gate cx (mkCmd f) = false) :
    processFrame cx cur (encode f) = .ok cur := by
  simp [processFrame, parseFrame_encode f hf, proc, hg, pure, Except.pure]

/-- A frame the PARSER refuses (any bytes) leaves the cell unchanged. -/
theorem parser_refused_unchanged (cx : Ctx) (cur : Option Cell) (frame : Bytes) (h : parseFrame frame [] = none) :
    processFrame cx cur frame = .ok cur := by
  simp [processFrame, h, pure, Except.pure]

/-- The reply value (`GetLockData`) of a well-formed cell is a frame whose length prefix is its length − 4. -/
theorem wf_cell_len_prefix (c : Cell) (h : CellWF (some c)) : lenPrefixOK c = true := by
  cases h with
  | unset aof => cases aof <;> decide
  | data g ex ct aof h0 hgw ha hct =>
    simp only [lenPrefixOK, encode_take4, encode_length, le32, readLE_leN]
    have : 6 + g.hdrLen + g.payload.length - 4 = 2 + g.hdrLen + g.payload.length := by omega
    rw [this]; simp

/-
PIPELINE. Wanted: `absCell cur' = specRun (absCell cur) (ops of the sub-frames)`.  FALSE for the code
(`pipeline_not_sequential_counterexample`, recorded finding): before every non-EXECUTE sub-frame the cell is reset to the
pre-pipeline cell.  Proved instead (`pipeline_partial`): a PIPELINE holding ONE non-PIPELINE sub-frame `s` returns exactly
what `s` alone returns, up to `pipeFinish` (which only sets the persisted flag) — so value and well-formedness are those of
the seven `…_refines` theorems; and the empty PIPELINE changes nothing (`pipeline_empty`).  Missing: nested pipelines as
the single sub-frame; two or more sub-frames are false.
-/
theorem pipeline_partial (cx : Ctx) (cur : Option Cell) (fl : UInt8) (s : Frm) (hs : s.WF) (hsp : s.op ≠ PIPELINE)
    (hfl : hasFlag fl fFIRSTLAST = false) (hp : hasFlag fl fPROP = false)
    (hlen : 2 + s.hdrLen + s.payload.length < 2 ^ 32) (r : Option Cell) (h : processFrame cx cur (encode s) = .ok r) :
    processFrame cx cur (encode (pipe1 fl s)) = .ok (pipeFinish cur r)
    ∧ absCell (pipeFinish cur r) = absCell r ∧ (CellWF r → CellWF (pipeFinish cur r)) := by
  refine ⟨?_, absCell_pipeFinish cur r, cellWF_pipeFinish cur r⟩
  rw [pipeline_single cx cur fl s hs hsp hfl hp hlen, h]; rfl

theorem pipeline_empty (cx : Ctx) (cur : Option Cell) (fl : UInt8) (hfl : hasFlag fl fFIRSTLAST = false)
    (hp : hasFlag fl fPROP = false) :
    okVal (processFrame cx cur (encode ⟨PIPELINE, fl, none, []⟩)) = some (specRun (absCell cur) []) := by
  have hf : (⟨PIPELINE, fl, none, []⟩ : Frm).WF := ⟨by show PIPELINE < 64; decide, by simpa using hp, by intro p h; cases h⟩
  have hg := gate_mkCmd cx ⟨PIPELINE, fl, none, []⟩ hfl
  have hoff : cmdOff (mkCmd ⟨PIPELINE, fl, none, []⟩) = .ok 6 := by
    have := (encode_shape _ hf).cmdOff (c := mkCmd ⟨PIPELINE, fl, none, []⟩); simpa [propHdr] using this
  have hlen : (mkCmd ⟨PIPELINE, fl, none, []⟩).data.length = 6 := by simp [mkCmd, encode_length, Frm.hdrLen, propHdr]
  have hdrop : (mkCmd ⟨PIPELINE, fl, none, []⟩).data.drop 6 = [] := by
    apply List.drop_eq_nil_of_le; omega
  have hP : processFrame cx cur (encode ⟨PIPELINE, fl, none, []⟩)
      = proc ((encode ⟨PIPELINE, fl, none, []⟩).length + 1) cx cur (mkCmd ⟨PIPELINE, fl, none, []⟩) := by
    simp only [processFrame, parseFrame_encode _ hf]
  rw [hP, proc_pipeline _ cx cur _ hg rfl 6 hoff (by omega), hdrop, pipeLoop_nil]
  simp only [bind, Except.bind, pure, Except.pure, okVal, specRun, List.foldl_nil, absCell_pipeFinish]

/-- Recorded finding (replayed on the real code by the harness monitor `value-mismatch:PIPELINE`): on value "x",
PIPELINE[SET "a", APPEND "b"] leaves "xb"; the sequential interpreter says "ab". -/
theorem pipeline_not_sequential_counterexample :
    okVal (runAll cx0 none [[3,0,0,0, 0,0, 0x78], [16,0,0,0, 6,0, 3,0,0,0,0,0,0x61, 3,0,0,0,3,0,0x62]]) = some (.bytes [0x78, 0x62])
    ∧ specRun .none [.set false [0x78], .set false [0x61], .append [0x62]] = .bytes [0x61, 0x62] := by
  decide +kernel

/-- SET "abc"; SHIFT 4 leaves "", as the interpreter says — commit f7f91cc. -/
theorem shift_beyond_length_repaired :
    okVal (runAll cx0 none [[5,0,0,0, 0,0, 0x61,0x62,0x63], [6,0,0,0, 4,1, 4,0,0,0]]) = some (.bytes [])
    ∧ specRun .none [.set false [0x61,0x62,0x63], .shift 4] = .bytes [] := by
  decide +kernel

/-- PUSH "", PUSH "a", POP 1 leaves ["a"], and PUSH "a", PUSH "" keeps the trailing empty element
    — commit e6b8126. -/
theorem pop_zero_length_element_repaired :
    okVal (runAll cx0 none [[2,0,0,0, 7,0], [3,0,0,0, 7,0, 0x61], [6,0,0,0, 8,1, 1,0,0,0]]) = some (.array [[0x61]])
    ∧ specRun .none [.push [], .push [0x61], .pop 1] = .array [[0x61]]
    ∧ okVal (runAll cx0 none [[3,0,0,0, 7,0, 0x61], [2,0,0,0, 7,0]]) = some (.array [[0x61], []])
    ∧ okVal (runAll cx0 none [[3,0,0,0, 7,0, 0x61], [2,0,0,0, 7,0], [6,0,0,0, 8,1, 1,0,0,0]]) = some (.array [[]]) := by
  decide +kernel

/-- INCR with a 1-byte operand on a cell with a property header: value 5+3 and a correct length prefix
    — commit 0995d27. -/
theorem incr_short_operand_props_repaired :
    okCellAll (fun c => lenPrefixOK c && c.data.take 4 == [15,0,0,0] && c.data.length == 19)
      (runAll cx0 none [[8,0,0,0, 0,0x10, 3,0, 1,0,0, 5], [3,0,0,0, 2,1, 3]]) = true
    ∧ okVal (runAll cx0 none [[8,0,0,0, 0,0x10, 3,0, 1,0,0, 5], [3,0,0,0, 2,1, 3]]) = some (Val.num 8) := by
  decide +kernel

/-- INCR with a 4-byte operand on a key without value starts the counter at the operand
    — commit 076286b. -/
theorem incr_short_operand_no_cell_repaired :
    okVal (processFrame cx0 none [6,0,0,0, 2,1, 1,0,0,0]) = some (Val.num 1) := by
  decide +kernel

/-- the hypotheses are satisfiable by non-trivial states -/
example : CellWF (some ⟨encode (img 0x12 (some [1,0,0]) (encElems [[7],[8,9]])), [], PUSH, false⟩) :=
  CellWF.data _ _ _ _ rfl (img_WF _ _ _ (by decide) (by intro p h; cases h; decide))
    (fun _ => ⟨[[7],[8,9]], rfl, by intro x hx; simp at hx; rcases hx with h | h <;> subst h <;> decide⟩) (by decide)

example : (⟨INCR, 0x11, some [1,0,0], le64 5⟩ : Frm).WF := ⟨by decide, by decide, by intro p h; cases h; decide⟩

end Slock.C15V
