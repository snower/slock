import Slock.Proofs.EngineWake
import Slock.Proofs.Kernels
import Slock.Proofs.EngineQuiet
import Slock.Properties.C03
/-!
# C04 — no lost wake-up; queued requests are served in order

"Admissible" is the engine's own `doLock`. `Settled k` = nothing is queued, or the head queued request is not admissible,
or the `waited` flag is clear (the wake pass then does not look at the queue). That an admissible request is never left at
the head of a queue is `C04_quiescent`, through `Quiet`, which has no such third case.
-/
namespace Slock.C04
open Slock.Engine Slock.C01

/-- Queue order (1): a newly queued request is placed behind every queued request of equal or higher priority and
in front of the strictly lower ones — it never overtakes an earlier request of equal or higher priority. -/
theorem C04_order_never_overtakes (ws : List Waiter) (w : Waiter) :
    ∃ l1 l2, ws = l1 ++ l2 ∧ insertWaiter ws w = l1 ++ w :: l2 ∧
      (∀ x ∈ l1, cmdPriority x.cmd ≥ cmdPriority w.cmd) ∧
      (∀ x, l2.head? = some x → cmdPriority x.cmd < cmdPriority w.cmd) :=
  insertWaiter_split ws w

/-- Queue order (2): the queue stays sorted by priority (higher first); with (1), arrival order among equals. -/
theorem C04_order_sorted (ws : List Waiter) (w : Waiter) (hs : PrioSorted ws) : PrioSorted (insertWaiter ws w) :=
  insertWaiter_sorted ws w hs

/-- Grants from the queue are made strictly at its head: one wake iteration removes exactly the first queued request. -/
theorem C04_grant_is_head (db db' : DB) (k k' : Key) (r : Reply) (h : wakeIter db k = some (db', k', r)) :
    ∃ w rest, k.waiters = w :: rest ∧ k'.waiters = rest ∧ r.req = w.cmd.req ∧ r.conn = w.conn ∧ r.result = RESULT_SUCCED := by
  obtain ⟨w, rest, hw, _, ⟨_, _, rfl, rfl⟩ | ⟨_, _, rfl, rfl⟩⟩ := wakeIter_some h <;> exact ⟨w, rest, hw, rfl, rfl, rfl, rfl⟩

/-- The wake pass runs until the queue is empty or its head is not admissible (with a clear `waited` flag it does not run). -/
theorem C04_wake_pass_settles (db : DB) (k : Key) (out : List Reply) : Settled (wake db k out).2.1 :=
  wake_settled db k out

/-- Every unlock that ends (a level of) a hold is followed by a wake pass: afterwards the key is settled. -/
theorem C04_after_unlock (db : DB) (c : Cmd)
    (hb : (∃ h c', classifyUnlock db c = .dec h c') ∨ (∃ h c', classifyUnlock db c = .release h c')) :
    Settled ((opUnlock db c).1.getKey c.key) := by
  unfold opUnlock
  rcases hb with ⟨h, c', hb⟩ | ⟨h, c', hb⟩ <;> rw [hb] <;> exact settled_after_wake _ _ _ (getKey_key _ _)

/-- An expiry ends the hold and is followed by a wake pass: afterwards the key is settled. -/
theorem C04_after_expiry (db : DB) (key : Nat) (h : Hold) : Settled ((fireExpire db key h).1.getKey key) := by
  unfold fireExpire
  exact settled_after_wake _ _ _ (getKey_key _ _)

/-! ### The quiescent claim

Not only unlock and expiry can make the head of a queue admissible: so can the HEAD waiter leaving the queue by timing out
or being cancelled, and an update / re-lock that replaces a hold's command by one with a higher Count. Each of these four
steps ends with a wake pass as well (`applyLock .update`, `.relock`, `applyUnlock .cancel`, `fireTimeout`). With them the
claim holds in EVERY reachable state. -/

/-- request ids are not reused while a request bearing them is still queued (what real clients guarantee; the model's
timeout sweep identifies a queued request by (connection, RequestId) when it re-arms it) -/
def FreshRun : DB → List Op → Prop
  | _, [] => True
  | db, o :: ops => (match o with | .lock c => Fresh db c | _ => True) ∧ FreshRun (step db o) ops

theorem reachable_IQ (ops : List Op) : ∀ (db : DB), IQ db → FreshRun db ops → IQ (run db ops) := fun db h hf =>
  (run_induct (fun d rest => IQ d ∧ FreshRun d rest)
    (fun d o _ ⟨h, hf⟩ => ⟨match o, hf.1 with
      | .lock c, hc => opLock_iq d c hc h
      | .unlock c, _ => opUnlock_iq d c h
      | .tick, _ => opTick_iq d h
      | .setLeader _, _ => ⟨h.1.of_keys_eq rfl, h.2.of_keys_eq rfl⟩, hf.2⟩) ops db ⟨h, hf⟩).1

/-- **C04 — no lost wake-up (quiescent claim).** After every completed operation of every operation sequence (LOCK,
UNLOCK, ticks, role flips), for every key: the `waited` flag is set exactly when something is queued, and the head of the
wait queue is not admissible (`doLock` refuses it) — the one exception being a request that carries the
wait-when-unlocked flag on an unlocked key: it is queued by its own flag although `doLock` would let it in (the monitor
`C04:admissible-head-queued` makes the same exclusion). No exclusion is needed for priority requests: a request that
jumps to the head of the queue was refused by `doLock`, or `classifyLock` would have granted it. -/
theorem C04_quiescent (now : Nat) (ops : List Op) (hf : FreshRun (DB.init now) ops) :
    ∀ k ∈ (run (DB.init now) ops).keys,
      (k.waited = true ↔ k.waiters ≠ []) ∧
      ∀ w rest, k.waiters = w :: rest →
        doLock k w.cmd = false ∨ (k.locked = 0 ∧ has w.cmd.tflag TF_WAIT_UNLOCK = true) := by
  intro k hk
  have := (reachable_IQ ops _ (IQ.init now) hf).2 k hk
  exact ⟨this.flag, this.head⟩

theorem C04_quiescent_key (now : Nat) (ops : List Op) (hf : FreshRun (DB.init now) ops) (n : Nat) :
    Quiet ((run (DB.init now) ops).getKey n) :=
  getKey_quiet (reachable_IQ ops _ (IQ.init now) hf).2 n

/-- In particular: a queued request without the wait-when-unlocked flag is never admissible at the head of its queue,
and on a key with something outstanding no head request is. -/
theorem C04_no_lost_wakeup (now : Nat) (ops : List Op) (hf : FreshRun (DB.init now) ops) (n : Nat) (w : Waiter) (rest : List Waiter)
    (hw : ((run (DB.init now) ops).getKey n).waiters = w :: rest)
    (hx : has w.cmd.tflag TF_WAIT_UNLOCK = false ∨ ((run (DB.init now) ops).getKey n).locked ≠ 0) :
    doLock ((run (DB.init now) ops).getKey n) w.cmd = false := by
  rcases (C04_quiescent_key now ops hf n).head w rest hw with h | ⟨h1, h2⟩
  · exact h
  · rcases hx with hx | hx
    · rw [hx] at h2; simp at h2
    · exact absurd h1 hx

/-- in the vocabulary of `Settled` / `headAdmissible` -/
theorem C04_headAdmissible (now : Nat) (ops : List Op) (hf : FreshRun (DB.init now) ops) (n : Nat)
    (h : headAdmissible ((run (DB.init now) ops).getKey n) = true) :
    ((run (DB.init now) ops).getKey n).locked = 0 ∧
      ∃ w rest, ((run (DB.init now) ops).getKey n).waiters = w :: rest ∧ has w.cmd.tflag TF_WAIT_UNLOCK = true := by
  unfold headAdmissible at h
  cases hw : ((run (DB.init now) ops).getKey n).waiters with
  | nil => simp [hw] at h
  | cons w rest =>
    simp only [hw, Bool.and_eq_true] at h
    rcases (C04_quiescent_key now ops hf n).head w rest hw with h1 | ⟨h1, h2⟩
    · rw [h.2] at h1; simp at h1
    · exact ⟨h1, w, rest, rfl, h2⟩

open Slock.C03 in
/-- an id that is still to be issued is borne by no queued request -/
theorem freshRun_of_once : ∀ (ops : List Op) (d : DB), Steady d → Once d ops → FreshRun d ops
  | [], _, _, _ => trivial
  | o :: os, d, hs, h => by
    refine ⟨?_, freshRun_of_once os _ (steady_step d o hs) (h.step hs.cnt.kn)⟩
    cases o with
    | lock c =>
      intro w hw hm
      obtain ⟨n, hn⟩ := waitAt_of_allW hw
      have hp := queued_pos_of_waitAt hn
      have hr : w.rid = (c.conn, c.req) := by unfold Waiter.rid; rw [hm.1, hm.2]
      have h1 := h (c.conn, c.req)
      simp only [issued, List.count_cons_self] at h1
      rw [hr] at hp
      omega
    | _ => trivial

open Slock.C03 in
/-- connection-unique RequestIds (the premise of C03 / C05) are fresh in the above sense -/
theorem freshRun_of_unique (now : Nat) (ops : List Op) (hu : ∀ x, (issued ops).count x ≤ 1) : FreshRun (DB.init now) ops :=
  freshRun_of_once ops _ (Steady.init now) (Once.init now ops hu)

theorem C04_quiescent_unique_ids (now : Nat) (ops : List Op) (hu : ∀ x, (Slock.C03.issued ops).count x ≤ 1) (n : Nat) :
    Quiet ((run (DB.init now) ops).getKey n) :=
  C04_quiescent_key now ops (freshRun_of_unique now ops hu) n

/-! Why the wake pass after a timeout is needed: two holders with Count 1, W1 (Count 0) and W2 (Count 1) queued, one holder unlocks, W1 times
out. The wake pass after W1's timeout grants W2; without it W2 would stay queued although admissible. -/

def H : Cmd := { req := 1, conn := 1, flag := 0, lockId := 1, key := 7, tflag := 0, timeout := 0, eflag := 0, expried := 50, count := 1, rcount := 0 }
def W1 : Cmd := { H with req := 2, lockId := 2, count := 0, timeout := 2 }
def W2 : Cmd := { H with req := 3, lockId := 3, count := 1, timeout := 50 }

def f4Ops : List Op :=
  [.lock H, .lock { H with req := 9, lockId := 9 }, .lock W1, .lock W2, .unlock { H with req := 10, lockId := 9 }, .tick, .tick]

/-- the state just before W1's deadline tick -/
def f4Pre : DB := run (DB.init 100) f4Ops

/-- the premise holds for this history (its request ids are pairwise distinct) -/
example : FreshRun (DB.init 100) (f4Ops ++ [.tick]) :=
  freshRun_of_unique _ _ (List.nodup_iff_count.mp (by decide))

example : ((f4Pre.getKey 7).waiters.map (·.cmd.req)) = [2, 3] ∧ ((f4Pre.getKey 7).holders.map (·.cmd.req)) = [1] := by decide +kernel
/-- W1 times out at the third tick and W2 is granted in the same step -/
theorem C04_f4_repaired :
    (opTick f4Pre).2.map (fun r => (r.req, r.result)) = [(2, RESULT_TIMEOUT), (3, RESULT_SUCCED)] ∧
      headAdmissible ((opTick f4Pre).1.getKey 7) = false ∧ (((opTick f4Pre).1.getKey 7).holders.map (·.cmd.req)) = [1, 3] := by
  decide +kernel

/-! The premise `FreshRun` cannot be dropped FOR THE MODEL: M-ENGINE's timeout sweep re-arms "the queued request with this
(connection, RequestId)" (`updateWaiter`), whereas the code re-arms the lock record it holds a pointer to. With one id
borne by two queued requests of a key the model overwrites one by a copy of the other — a modelling artefact, not a
behaviour of the server; real clients never reuse the id of a pending request. -/
def X0 : Cmd := { H with req := 5, lockId := 5, count := 0, timeout := 50 }
def X1 : Cmd := { H with req := 5, lockId := 6, count := 1, timeout := 50 }
theorem C04_quiescent_needs_fresh :
    headAdmissible ((run (DB.init 100) [.lock H, .lock X0, .lock X1, .tick, .tick]).getKey 7) = true ∧
      ¬ FreshRun (DB.init 100) [.lock H, .lock X0, .lock X1, .tick, .tick] := by
  refine ⟨by decide +kernel, ?_⟩
  intro h
  have := h.2.2.1
  exact this (newWaiter (step (DB.init 100) (.lock H)) X0) (by decide +kernel) ⟨rfl, rfl⟩

/-- The part of the quiescent claim that needs no premise on request ids: the key is `Settled` after every
step that ends a hold (`C04_after_unlock`, `C04_after_expiry`) and after every wake pass. -/
theorem C04_quiescent_partial (db : DB) (k : Key) (out : List Reply) :
    Settled (((wake db k out).1.setKey (wake db k out).2.1).getKey k.key) :=
  settled_after_wake db k out rfl

end Slock.C04
