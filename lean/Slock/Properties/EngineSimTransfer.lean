import Slock.Properties.EngineSimRun
import Slock.Properties.C17
/-!
# Stage-1 theorems carried down to the record-level model through the simulation

`SimP.run_view` says that every admissible run of the record-level model M-ENGINE stage 2 (`RunOK`: LOCK / UNLOCK without value
frames on key records without a value cell, role flips, clock ticks on the leader; connection-unique RequestIds) is matched, step by
step, by a run of stage 1 whose state is `Equiv` to `abs` of the record-level state. Here that is turned into a TRANSFER PRINCIPLE:
whatever stage 1 proves about every key of every reachable state (resp. about the scalar fields: clock, role, STATE counters) holds of
the abstraction of every key record (resp. of the same fields) of the record-level model — and, through the harness differential that
ties stage 2 to `server/db.go` + `server/lock.go` record by record, of the lock records of the real engine.

Instances below: the per-key counter identity (C01 / C17), quiescence = no lost wake-up (C04), the STATE-counter census (C17).
-/
namespace Slock.SimP

section
open Slock Slock.Sim

theorem getKey_view {s : Engine2.DB} {a : Engine.DB} (r : Linked s a) (n : Nat) : a.getKey n = Engine2.Key.abs (s.getKey n) := (r.key n).symm

theorem abs_kn {s : Engine2.DB} (hr : Reachable2 s) : Engine.KN (Engine2.abs s) :=
  List.Nodup.sublist (List.filter_sublist.map _) (by rw [List.map_map]; exact (reachable_dbq hr).dbt.dbi.kn)

/-- a key of a table with distinct key ids that is not the empty key is a key of every table that shows the same state under its id -/
theorem mem_of_lookup {L1 L2 : List Engine.Key} (h1 : (L1.map (·.key)).Nodup)
    (h : ∀ n, (L1.find? (·.key == n)).getD (Engine.emptyKey n) = (L2.find? (·.key == n)).getD (Engine.emptyKey n))
    {k : Engine.Key} (hk : k ∈ L1) (hne : k ≠ Engine.emptyKey k.key) : k ∈ L2 := by
  have e := h k.key
  rw [find_of_mem_nodup Engine.Key.key L1 h1 hk, Option.getD_some] at e
  cases hf : L2.find? (·.key == k.key) with
  | none => rw [hf] at e; exact absurd e hne
  | some k' => rw [hf] at e; exact e ▸ List.mem_of_find?_eq_some hf

/-- a key of `abs s` is a key of the stage-1 state (both tables drop empty keys, key ids are distinct in both) -/
theorem abs_keys_sub {s : Engine2.DB} {a : Engine.DB} (r : Linked s a) : ∀ k ∈ (Engine2.abs s).keys, k ∈ a.keys := fun k hk =>
  mem_of_lookup (abs_kn r.reach) r.equiv.keys hk fun e => by
    have hne := (List.mem_filter.mp hk).2
    rw [e] at hne
    exact Bool.false_ne_true hne

end

open Slock.Engine

/-- **The key view.** The stage-1 run that simulates an admissible record-level run shows, under every key id, exactly the abstraction
of the record-level key record; its RequestIds are the record-level run's (so it is a `FreshRun`); scalar fields agree. -/
theorem key_view (now aofTime : Nat) (ops : List Engine2.Op) (hok : RunOK (Engine2.DB.init now aofTime) ops)
    (hid : ∀ x, (issued2 ops).count x ≤ 1) :
    ∃ ops1 : List C01.Op, ops1.length = ops.length ∧ (∀ x, (C03.issued ops1).count x ≤ 1) ∧
      (∀ k, (C01.run (Engine.DB.init now) ops1).getKey k =
            Engine2.Key.abs ((Engine2.run (Engine2.DB.init now aofTime) ops).getKey k)) ∧
      (C01.run (Engine.DB.init now) ops1).ctr = (Engine2.abs (Engine2.run (Engine2.DB.init now aofTime) ops)).ctr ∧
      (C01.run (Engine.DB.init now) ops1).now = (Engine2.abs (Engine2.run (Engine2.DB.init now aofTime) ops)).now ∧
      (C01.run (Engine.DB.init now) ops1).leader = (Engine2.abs (Engine2.run (Engine2.DB.init now aofTime) ops)).leader :=
  have v := run_view hok hid
  ⟨_, imgs_length _ ops, v.uniq, getKey_view v.toLinked, v.equiv.ctr.symm, v.equiv.now.symm, v.equiv.leader.symm⟩

/-- **Transfer of a per-key fact**: if stage 1 proves `P` of every key of every reachable state of runs with connection-unique
RequestIds, then `P` holds of the abstraction of every key record of every admissible record-level run. `P` sees the key's state only:
a fact that mentions the key id says `k.key` (`Engine.getKey_key`), one that mentions a scalar field starts from `run_view` instead. -/
theorem transfer_key (P : Engine.Key → Prop)
    (h1 : ∀ (now : Nat) (ops1 : List C01.Op), (∀ x, (C03.issued ops1).count x ≤ 1) → ∀ k, P ((C01.run (Engine.DB.init now) ops1).getKey k))
    (now aofTime : Nat) (ops : List Engine2.Op) (hok : RunOK (Engine2.DB.init now aofTime) ops)
    (hid : ∀ x, (issued2 ops).count x ≤ 1) (k : Nat) :
    P (Engine2.Key.abs ((Engine2.run (Engine2.DB.init now aofTime) ops).getKey k)) := by
  have v := run_view hok hid
  exact v.key k ▸ h1 now _ v.uniq k

/-- C01 / C17 at record level: under every key, the key record's `locked` counter is the sum of the depths of its live holder records,
and every live holder record has depth ≥ 1. -/
theorem C01_counter_transfers (now aofTime : Nat) (ops : List Engine2.Op) (hok : RunOK (Engine2.DB.init now aofTime) ops)
    (hid : ∀ x, (issued2 ops).count x ≤ 1) (k : Nat) :
    KeyInv (Engine2.Key.abs ((Engine2.run (Engine2.DB.init now aofTime) ops).getKey k)) :=
  transfer_key KeyInv (fun now ops1 _ k => getKey_inv (C01.reachable_inv now ops1) k) now aofTime ops hok hid k

/-- C04 at record level: after every completed operation of an admissible record-level run, under every key: the `waited` flag is set
exactly when a live request is queued, and the first live queued request is not admissible (`doLock` refuses it; the documented
exception is a wait-when-unlocked request on an unlocked key). -/
theorem C04_quiescent_transfers (now aofTime : Nat) (ops : List Engine2.Op) (hok : RunOK (Engine2.DB.init now aofTime) ops)
    (hid : ∀ x, (issued2 ops).count x ≤ 1) (k : Nat) :
    Quiet (Engine2.Key.abs ((Engine2.run (Engine2.DB.init now aofTime) ops).getKey k)) :=
  transfer_key Quiet (fun now ops1 hu k => C04.C04_quiescent_unique_ids now ops1 hu k) now aofTime ops hok hid k

/-- C17 at record level: the STATE counters of the record-level model are the census of the simulating stage-1 run — `LockedCount` is
the sum over all keys of the depths of all holds, `WaitCount` the number of queued requests. -/
theorem C17_census_transfers (now aofTime : Nat) (ops : List Engine2.Op) (hok : RunOK (Engine2.DB.init now aofTime) ops)
    (hid : ∀ x, (issued2 ops).count x ≤ 1) :
    ∃ ops1 : List C01.Op, ops1.length = ops.length ∧
      (∀ k, (C01.run (Engine.DB.init now) ops1).getKey k =
            Engine2.Key.abs ((Engine2.run (Engine2.DB.init now aofTime) ops).getKey k)) ∧
      (Engine2.abs (Engine2.run (Engine2.DB.init now aofTime) ops)).ctr.lockedCount = totL (C01.run (Engine.DB.init now) ops1).keys ∧
      (Engine2.abs (Engine2.run (Engine2.DB.init now aofTime) ops)).ctr.waitCount = totW (C01.run (Engine.DB.init now) ops1).keys := by
  have v := run_view hok hid
  obtain ⟨_, hl, hw⟩ := C17.reachable_counts now (imgs (Engine2.DB.init now aofTime) ops)
  rw [← v.equiv.ctr] at hl hw
  exact ⟨_, imgs_length _ ops, getKey_view v.toLinked, hl, hw⟩

/-! non-vacuity: the run `demo` of `EngineSimRun` (a grant, a queued request, the release that wakes it)
satisfies the premises; the transferred facts are not trivial there -/

example : KeyInv (Engine2.Key.abs ((Engine2.run (Engine2.DB.init 100 0) demo).getKey 7)) ∧
    (Engine2.Key.abs ((Engine2.run (Engine2.DB.init 100 0) demo).getKey 7)).locked = 1 := by
  refine ⟨?_, by decide +kernel⟩
  apply C01_counter_transfers
  · refine ⟨?_, ?_, trivial, trivial⟩
    · show ((Engine2.DB.init 100 0).getKey cH.key).cell = none
      decide +kernel
    · show ((Engine2.step (Engine2.DB.init 100 0) (.lock cH none)).1.getKey cW.key).cell = none
      decide +kernel
  · exact List.nodup_iff_count.mp (by decide +kernel)

/-- in the middle of `demo` a request IS queued (so `Quiet` says something): after the second operation key 7 has one queued request -/
example : (Engine2.Key.abs ((Engine2.run (Engine2.DB.init 100 0) [.lock cH none, .lock cW none]).getKey 7)).waiters.length = 1 := by decide +kernel

end Slock.SimP
