import Slock.Proofs.Kernels
import Slock.Proofs.EngineNotLate
import Slock.Properties.C01
/-!
# C06 — holds expire in [E, E+2 s], notify the holder and free capacity (second / minute units, leader)

`grantHold` is `AddLock` + `AddExpried`, `updateHold` is `UpdateLockedLock` (+ the long-table move), `expirePass1` the
collecting critical section of `checkTimeExpried`, `fireExpire` is `doExpried` on the leader.
-/
namespace Slock.C06
open Slock.Engine Slock.C01

theorem reachable_HN (now : Nat) (ops : List Op) :
    KN (run (DB.init now) ops) ∧ KW (run (DB.init now) ops) ∧ HN (run (DB.init now) ops) :=
  have h := reachable_steady now ops
  ⟨h.cnt.kn, h.kw, h.hn⟩

theorem reachable_HInv (now : Nat) (ops : List Op) : HInv (run (DB.init now) ops) := (reachable_HN now ops).2.2.hinv

/-- **Deadline at grant.** A hold granted at server time `now` with expiry `E` gets the deadline `now + E·unit + 1`
(∞ with the unlimited flag), whenever the expiry check time is not ahead of it (it is `now+1` in steady state). -/
theorem C06_deadline_grant (db : DB) (k : Key) (c : Cmd) (hcheck : db.eCheck ≤ expiryDeadline db.now c) :
    ∃ h, (grantHold db k c).2.holders = k.holders ++ [h] ∧ h.expT = expiryDeadline db.now c ∧ h.startT = db.now ∧
      h.depth = 1 ∧ h.cmd = c := by
  unfold grantHold
  refine ⟨_, rfl, ?_, rfl, rfl, rfl⟩
  exact (wheelAdd_spec _ _ _ _ hcheck).1

theorem expiryDeadline_eq (now : Nat) (c : Cmd) :
    expiryDeadline now c = if has c.eflag EF_UNLIMITED then INF_TIME
      else now + c.expried * (if has c.eflag EF_MINUTE then 60 else 1) + 1 := by
  unfold expiryDeadline
  split
  · rfl
  · split <;> simp

/-- **Restart of the period.** A successful re-lock or update (other than the "(unlimited, 0xffff) = leave as is" token)
sets the deadline to `now + E·unit + 1` of the NEW command and makes it the hold's command (its RequestId is the one a
later EXPRIED notice carries). -/
theorem C06_update_restarts (db : DB) (h : Hold) (c : Cmd)
    (hkeep : ¬ (has c.eflag EF_UNLIMITED = true ∧ c.expried ≥ 0xffff)) (hcheck : db.eCheck ≤ expiryDeadline db.now c) :
    (updateHold db h c).2.expT = expiryDeadline db.now c ∧ (updateHold db h c).2.cmd = c ∧
      (updateHold db h c).2.startT = db.now ∧ (updateHold db h c).2.depth = h.depth := by
  rcases updateHold_eq db h c with ⟨ht, _⟩ | ⟨_, n, ⟨_, u⟩ | ⟨_, u⟩⟩
  · exact absurd ht hkeep
  · rw [u]; exact ⟨(wheelAdd_spec _ _ _ _ hcheck).1, rfl, rfl, rfl⟩
  · rw [u]; exact ⟨rfl, rfl, rfl, rfl⟩

/-- … and the token leaves deadline and start time untouched. -/
theorem C06_update_keep_token (db : DB) (h : Hold) (c : Cmd) (hu : has c.eflag EF_UNLIMITED = true) (he : c.expried ≥ 0xffff) :
    (updateHold db h c).2.expT = h.expT ∧ (updateHold db h c).2.startT = h.startT := by
  rcases updateHold_eq db h c with ⟨_, u⟩ | ⟨hn, _⟩
  · rw [u]; exact ⟨rfl, rfl⟩
  · exact absurd ⟨hu, he⟩ hn

/-- **Never early.** In every reachable state the expiry sweep of the current second hands to `doExpried` only holds
whose deadline has been reached (`deadline ≤ now`, i.e. more than `E·unit` seconds after the period started). -/
theorem C06_not_early (now : Nat) (ops : List Op) :
    let db := run (DB.init now) ops
    ∀ h ∈ (expirePass1 db db.now).2, h.expT ≤ db.now :=
  fun h hh => expirePass1_due _ _ (reachable_HInv now ops) rfl h hh

/-- **Unlimited.** A hold whose deadline is ∞ (granted / updated with the unlimited-expiry flag) is never handed to
`doExpried` while server time is below 2^63−1. -/
theorem C06_unlimited (now : Nat) (ops : List Op) (hn : (run (DB.init now) ops).now < INF_TIME) :
    ∀ h ∈ (expirePass1 (run (DB.init now) ops) (run (DB.init now) ops).now).2, h.expT ≠ INF_TIME := by
  intro h hh he
  have h1 : h.expT ≤ (run (DB.init now) ops).now := C06_not_early now ops h hh
  rw [he] at h1
  exact absurd hn (by omega)

/-- **Effects.** `doExpried` sends EXPRIED to the holder's current connection under the RequestId of the command that
last set the hold's terms, removes the hold with its whole depth, and runs the same wake pass as an unlock
(afterwards the key is settled — `Slock.C04.C04_after_expiry`). -/
theorem C06_effects (db : DB) (key : Nat) (h : Hold) :
    ∃ rest, (fireExpire db key h).2 =
        mkReply { h.cmd with conn := h.conn } RESULT_EXPRIED ((db.getKey key).locked - h.depth) 0 :: rest ∧
      Settled ((fireExpire db key h).1.getKey key) := by
  unfold fireExpire
  exact (wake_out _ _ _).imp fun _ hm => ⟨hm, settled_after_wake _ _ _ (getKey_key _ _)⟩


/-! ## Not late — global

For EVERY start time and operation sequence (no premise on request ids: lock records are identified by `hid`, which the
engine itself keeps unique), in the reached state every live hold is scheduled on the expiry wheel for a second that is
still ahead. Long-table entries are keyed by the deadline; slot entries are looked at within `MAX_WAIT` = 8 seconds. An
update or re-lock may move the deadline of a slot entry while the entry stays where it is (`updateHold`), so the general
bound is "never more than `MAX_WAIT` seconds past the deadline" (`C06_not_late`, tight: see the example at the end);
along sequences that never move a deadline of the key back, a live hold is never past its deadline at all
(`C06_not_late_unshortened`). -/

/-- **Scheduled ahead.** In every reachable state the expiry check time is `now + 1`, and every live hold `h` is on the
wheel for a second `visit` with `now + 1 ≤ visit`; a long-table entry is keyed by the deadline (`visit = deadline`), a slot
entry satisfies `visit ≤ now + 1 + MAX_WAIT` and (server time below 2^63−1) `visit ≤ deadline + MAX_WAIT`. -/
theorem C06_scheduled_ahead (now0 : Nat) (ops : List Op) :
    let db := run (DB.init now0) ops
    db.eCheck = db.now + 1 ∧ ∀ k ∈ db.keys, ∀ h ∈ k.holders,
      db.now + 1 ≤ h.sched.visit ∧ (h.sched.long = true → h.sched.visit = h.expT) ∧
      (h.sched.long = false → h.sched.visit ≤ db.now + 1 + MAX_WAIT) ∧
      (db.now < INF_TIME → h.sched.long = false → h.sched.visit ≤ h.expT + MAX_WAIT) := by
  intro db
  have hn := (reachable_HN now0 ops).2.2
  refine ⟨hn.ec, ?_⟩
  intro k hk h hh
  have hat : HoldAt (run (DB.init now0) ops) k.key h := ⟨k, hk, rfl, hh⟩
  have ho := hn.ok _ _ hat
  exact ⟨hn.lb _ _ hat, ho.long, ho.short, ho.near⟩

/-- **Record identity.** In every reachable state the `hid`s of the live holds of a key are pairwise distinct and below
`db.seq` (the expiry sweep finds "that record" by `hid`), and every hold sits under the key its command names. -/
theorem C06_hid_unique (now0 : Nat) (ops : List Op) :
    let db := run (DB.init now0) ops
    ∀ k ∈ db.keys, (k.holders.map (·.hid)).Nodup ∧ ∀ h ∈ k.holders, h.hid < db.seq ∧ h.cmd.key = k.key := by
  intro db k hk
  have hn := (reachable_HN now0 ops).2.2
  have hu := hn.hu k hk
  refine ⟨hu.1, ?_⟩
  intro h hh
  exact ⟨hu.2 _ (List.mem_map.mpr ⟨h, hh, rfl⟩), (hn.ok _ _ ⟨k, hk, rfl, hh⟩).key⟩

/-- **Not late (general).** At every quiescent moment (between operations) a live hold is less than `MAX_WAIT` = 8 seconds
past its deadline: `now + 1 ≤ deadline + 8`. (Server time below 2^63−1, the value that stands for "no deadline".) -/
theorem C06_not_late (now0 : Nat) (ops : List Op) (hT : (run (DB.init now0) ops).now < INF_TIME) :
    let db := run (DB.init now0) ops
    ∀ k ∈ db.keys, ∀ h ∈ k.holders, db.now + 1 ≤ h.expT + MAX_WAIT := by
  intro db k hk h hh
  obtain ⟨h1, h2, _, h4⟩ := (C06_scheduled_ahead now0 ops).2 k hk h hh
  cases hl : h.sched.long with
  | true => have := h2 hl; show (run (DB.init now0) ops).now + 1 ≤ _; omega
  | false => have := h4 hT hl; show (run (DB.init now0) ops).now + 1 ≤ _; omega

/-- no LOCK of the sequence that updates or re-locks a hold of key `n` moves that hold's deadline back -/
def noShorten (n : Nat) : DB → List Op → Bool
  | _, [] => true
  | db, o :: os =>
    (match o with
      | .lock c => c.key != n || !shortens db c
      | _ => true) && noShorten n (step db o) os

theorem reachable_NS (n : Nat) : ∀ (ops : List Op) (db : DB), KN db → KW db → HN db → NS n db → noShorten n db ops = true →
    NS n (run db ops) ∧ HN (run db ops) := by
  intro ops db hk hw hn h hs
  refine (run_induct (fun d rest => (KN d ∧ KW d ∧ HN d ∧ NS n d) ∧ noShorten n d rest = true) ?_ ops db
    ⟨⟨hk, hw, hn, h⟩, hs⟩).1.2.2.symm
  intro d o os ⟨⟨hk, hw, hn, h⟩, hs⟩
  unfold noShorten at hs
  simp only [Bool.and_eq_true] at hs
  refine ⟨?_, hs.2⟩
  cases o with
  | lock c =>
    refine ⟨opLock_cinv_kn d c hk, opLock_KW d c hw, opLock_HN d c hw hn, opLock_NS d c n hn.ec (fun hc => ?_) h⟩
    simpa [hc] using hs.1
  | unlock c => exact ⟨opUnlock_kn d c hk, opUnlock_KW d c hw, opUnlock_HN d c hw hn, opUnlock_NS d c n hn.ec h⟩
  | tick =>
    exact ⟨opTick_keeps KN.edit d (hk.of_keys_eq rfl) fun _ h => h.of_keys_eq rfl, (opTick_HN d hk hw hn).2.1, (opTick_HN d hk hw hn).1, opTick_NS d n hn.ec h⟩
  | setLeader b =>
    exact ⟨hk.of_keys_eq rfl, hw.of_sub (fun _ _ hx => hx.of_keys_eq rfl), hn.of_keys_eq rfl rfl rfl rfl,
      fun x hx => h x (hx.of_keys_eq rfl)⟩

/-- **Not late (deadline never moved back).** Along a sequence in which no update / re-lock of key `n` moves a deadline
back (in particular: without updates and re-locks of `n`, or with extending ones only), every live hold of `n` is
scheduled at or before its deadline and its deadline is still ahead: it is never past its deadline at a quiescent
moment — it is handed to `doExpried` in the sweep of its deadline second. -/
theorem C06_not_late_unshortened (now0 : Nat) (ops : List Op) (n : Nat) (hs : noShorten n (DB.init now0) ops = true)
    (hT : (run (DB.init now0) ops).now < INF_TIME) :
    let db := run (DB.init now0) ops
    ∀ h ∈ (db.getKey n).holders, db.now + 1 ≤ h.sched.visit ∧ h.sched.visit ≤ h.expT ∧ db.now < h.expT := by
  intro db h hh
  have h0 : NS n (DB.init now0) := by
    intro x hx; obtain ⟨k, hk, _⟩ := hx; simp [DB.init] at hk
  have hr := reachable_NS n ops (DB.init now0) (by simp [KN, DB.init]) (KW.init now0) (HN.init now0) h0 hs
  have hat : HoldAt (run (DB.init now0) ops) n h := holdAt_getKey hh
  have h1 := hr.2.lb n h hat
  have h2 := hr.1 h hat hT
  exact ⟨h1, h2, Nat.lt_of_lt_of_le h1 h2⟩

/-! ### Non-vacuity and tightness

`opsExt`: a hold with E = 10 is re-locked (extended) after 3 s — the hypothesis of `C06_not_late_unshortened` holds.
`opsShort`: a hold with E = 100 has backed off to an 8-second slot distance after 35 s; an update then sets E = 0
(deadline 136). The record stays in its slot (second 144): at server time 143 it is still live, 7 s past the deadline
(`now + 1 = deadline + MAX_WAIT`, the bound of `C06_not_late` is attained), and it is expired by the tick of second 144. -/
def A : Cmd := { req := 1, conn := 1, flag := 0, lockId := 1, key := 7, tflag := 0, timeout := 0, eflag := 0, expried := 10, count := 0, rcount := 5 }
def A' : Cmd := { A with req := 2, expried := 20 }
def opsExt : List Op := [.lock A, .tick, .tick, .tick, .lock A', .tick]
example : noShorten 7 (DB.init 100) opsExt = true := by decide +kernel
example : ((run (DB.init 100) opsExt).getKey 7).holders.map (fun h => (h.depth, h.expT, h.sched.visit)) = [(2, 124, 105)] := by decide +kernel

def B : Cmd := { A with expried := 100 }
def U : Cmd := { B with req := 2, flag := F_UPDATE, expried := 0 }
def opsShort (n : Nat) : List Op := [.lock B] ++ List.replicate 35 .tick ++ [.lock U] ++ List.replicate n .tick
set_option maxRecDepth 100000 in
example : noShorten 7 (DB.init 100) (opsShort 0) = false := by decide +kernel
/- the run `opsShort 8`, evaluated in three legs through literal states (kernel evaluation of the whole run at once does not
share the intermediate states) -/
/-- server time 135: the slot distance has backed off to 8 (second 144) -/
def s135 : DB :=
  { keys := [{ key := 7, locked := 1,
               holders := [{ hid := 0, cmd := B, conn := 1, depth := 1, startT := 100, expT := 201,
                             sched := { visit := 144, long := false, seq := 7, checked := 8 } }],
               waiters := [], waited := false }],
    now := 135, tCheck := 136, eCheck := 136, seq := 8, leader := true, ctr := { lockCount := 1, lockedCount := 1 } }
/-- after the update `U` (E = 0): deadline 136, slot entry unchanged -/
def s135u : DB :=
  { keys := [{ key := 7, locked := 1,
               holders := [{ hid := 0, cmd := U, conn := 1, depth := 1, startT := 135, expT := 136,
                             sched := { visit := 144, long := false, seq := 7, checked := 1 } }],
               waiters := [], waited := false }],
    now := 135, tCheck := 136, eCheck := 136, seq := 8, leader := true, ctr := { lockCount := 1, lockedCount := 1 } }
/-- the state reached at server time 143: the hold is live, 7 s past its deadline -/
def s143 : DB := { s135u with now := 143, tCheck := 144, eCheck := 144 }
set_option maxRecDepth 100000 in
example : run (DB.init 100) ([.lock B] ++ List.replicate 35 .tick) = s135 := by decide +kernel
example : shortens s135 U = true ∧ (opLock s135 U).1 = s135u := by decide +kernel
example : run s135u (List.replicate 8 .tick) = s143 := by decide +kernel
example : (opTick s143).2.map (fun r => (r.req, r.result)) = [(2, RESULT_EXPRIED)] ∧ (opTick s143).1.keys = [] := by decide +kernel

end Slock.C06
