import Slock.Proofs.AckOut
import Slock.Proofs.AckStepThm
import Slock.Proofs.AckWake
import Slock.Proofs.AckValue
/-!
# C11 — ack-required locks succeed only after log + quorum acknowledgement

Over M-ACK (`Slock.Ack`, lean/Slock/Model/Ack.lean): the lock engine for the keys involved + the leader's ack table
(`ReplicationAckDB`) + `UpdateDBAckCount`. One event = one complete call of a real entry point (see the model's header).
`runOut db evs` is the run with the replies of every event; `trace` adds, for each event, the events up to and including it.

The model mirrors the tree after e4ad793 (a re-entrant require-ack LOCK journals its update record without the ack
registration), 804e6dc (the unlock-first path honours `ackCount != 0xff`) and f622546 (`ProcessLeaderPushLock` does not re-arm a lock that
is no longer held). Everything here is proved for EVERY event sequence (induction over events; the invariants `InvA`, `InvK`, `InvQ`
together, `Inv3`). Where the code violates the statement of the property: `…_violated`, concrete
runs decided on the executable model; each is also a reproducer against the real code (tools/props/c11.py, corpus/ack.ops).
-/
namespace Slock.C11
open Slock.Ack

/-- `UpdateDBAckCount`: all → followers + 1 (every follower and the leader's own flush); majority → ⌊(followers+1)/2⌋ + 1; at least 1, at most followers + 1,
monotone in the number of followers; with no follower both modes ask for exactly the own flush; in majority mode with two or more
followers the followers alone reach the number (the own flush is not needed). -/
theorem C11_required_count (f g : Nat) (maj : Bool) :
    reqAcks ⟨f, false⟩ = f + 1 ∧ reqAcks ⟨f, true⟩ = (f + 1) / 2 + 1 ∧
    1 ≤ reqAcks ⟨f, maj⟩ ∧ reqAcks ⟨f, maj⟩ ≤ f + 1 ∧ reqAcks ⟨f, true⟩ ≤ reqAcks ⟨f, false⟩ ∧
    (f ≤ g → reqAcks ⟨f, maj⟩ ≤ reqAcks ⟨g, maj⟩) ∧ reqAcks ⟨0, maj⟩ = 1 ∧ (2 ≤ f → reqAcks ⟨f, true⟩ ≤ f) := by
  unfold reqAcks
  refine ⟨by simp, by simp, ?_, ?_, ?_, ?_, ?_, ?_⟩ <;> cases maj <;> simp <;> omega

/-- the replies of a run from the initial state, event by event, as (connection, RequestId, Result) -/
def sig (cfg : Cfg) (evs : List Ev) : List (List (Nat × Nat × Nat)) :=
  (runOut (DB.init cfg 100) evs).2.map (fun o => o.map (fun r => (r.conn, r.req, r.result)))

/-- a require-ack LOCK: request 1 on connection 1, LockId 7, key 5, Timeout 5 s, Expried 10 s -/
def lockA : Cmd := { req := 1, conn := 1, flag := 0, lockId := 7, key := 5, tflag := TF_ACK, timeout := 5, expried := 10, count := 0, rcount := 0 }

/-- **Counted quorum, every run.** A SUCCED reply for a request that carried the require-ack flag is either the own reply of the LOCK /
UNLOCK event that was just executed (see `C11_succed_reentrant_violated` for what that lets through), or it is produced by a positive
report (own flush or follower answer) for a record id `id` such that the run so far — that report included — contains at least
`reqAcks cfg` positive reports for `id`. The code counts REPORTS: it does not tell the own flush from a follower answer, nor one follower
from another (next theorem and the remark after it). Requires `reqAcks cfg < 255` (≤ 253 followers: `db.ackCount` is a uint8 and 0xff means "not pending"). -/
theorem C11_succed_only_after_quorum_partial (cfg : Cfg) (now : Nat) (hc : reqAcks cfg < NOACK) (evs : List Ev) :
    ∀ t ∈ trace (DB.init cfg now) [] evs, ∀ rp ∈ t.2.2, rp.result = R_SUCCED → rp.ack = true → SuccOk cfg t rp :=
  trace_succ evs [] (DB.init cfg now) (Inv3.init cfg now hc) (by intro e he; simp [DB.init] at he)

/-- **The full statement is false (own log).** Majority mode, two followers (`reqAcks = 2`): two follower answers make the lock SUCCED
although the leader's own flush of the record was never reported. -/
theorem C11_succed_only_after_quorum_violated :
    reqAcks ⟨2, true⟩ = 2 ∧
    sig ⟨2, true⟩ [.lock lockA, .push 5, .acked 1 1 true, .acked 1 2 true] = [[], [], [], [(1, 1, R_SUCCED)]] := by decide

/-- **Remark: duplicated answers are counted.** All-mode, two followers (`reqAcks = 3`): the own flush and the SAME follower's answer
delivered twice make the lock SUCCED; follower 2 never answered. This needs a DUPLICATED follower answer, which the property does not
quantify over (its acknowledgements are delayed, negative, lost or pre-empted — not duplicated): a fact about what the code counts
(`lock.ackCount--` per report, whoever sent it), not a violation of C11. -/
theorem C11_duplicate_answers_are_counted :
    reqAcks ⟨2, false⟩ = 3 ∧
    sig ⟨2, false⟩ [.lock lockA, .push 5, .aofed 1 true, .acked 1 1 true, .acked 1 1 true] = [[], [], [], [], [(1, 1, R_SUCCED)]] := by decide

/-- a second, re-entrant require-ack LOCK (Rcount 1) by the same LockId -/
def lockA2 : Cmd := { lockA with req := 2, rcount := 1 }

/-- **The full statement is false (re-entrant LOCK).** Once the hold is acknowledged, a re-entrant LOCK with the require-ack flag is
answered SUCCED inside the call — before its update record is journalled, flushed or acknowledged by anyone. That record
goes to the journal without the ack registration (no lock pointer, no table entry; e4ad793), so the request is answered exactly once —
but without waiting. -/
theorem C11_succed_reentrant_violated :
    sig ⟨0, false⟩ [.lock { lockA with rcount := 1 }, .push 5, .aofed 1 true, .lock lockA2, .push 5, .aofed 2 true] =
      [[], [], [(1, 1, R_SUCCED)], [(1, 2, R_SUCCED)], [], []] ∧
    (run (DB.init ⟨0, false⟩ 100) [.lock { lockA with rcount := 1 }, .push 5, .aofed 1 true, .lock lockA2]).journal.map (fun j => (j.isLock, j.hid)) = [(true, none)] ∧
    (run (DB.init ⟨0, false⟩ 100) [.lock { lockA with rcount := 1 }, .push 5, .aofed 1 true, .lock lockA2, .push 5]).tab = [] := by decide

/-- **While a hold is ack-pending, LOCK and UNLOCK for its LockId are answered LOCK_ACK_WAITING and change nothing** (UNLOCK bumps the
UnlockErrorCount statistic). `locked > 0` is the code's own first test; it holds whenever a live hold exists (census, checked by the
monitor `C11:census`). -/
theorem C11_ack_waiting (db : DB) (c : Cmd) (h : Rec) (hl : db.leader = true) (hk : (db.getKey c.key).locked > 0)
    (hf : findHolder db c.key c.lockId = some h) (hp : h.pending = true) :
    opLock db c = (db, [mkReply c R_ACK_WAITING (db.getKey c.key).locked (db.getR h.hid).depth (db.curData c.key)]) ∧
    opUnlock db c = (db.bumpErr, [mkReply c R_ACK_WAITING (db.getKey c.key).locked (db.getR h.hid).depth (db.curData c.key)]) ∧
    db.bumpErr.keys = db.keys ∧ db.bumpErr.recs = db.recs ∧ db.bumpErr.tab = db.tab ∧ db.bumpErr.journal = db.journal :=
  ⟨lock_ack_waiting db c h hl hk hf hp, unlock_ack_waiting db c h hl hk (Or.inl hf) hp, rfl, rfl, rfl, rfl⟩

/-- an UNLOCK by another LockId with the unlock-first flag -/
def unlockFirst : Cmd := { req := 2, conn := 2, flag := UF_FIRST, lockId := 9, key := 5, tflag := 0, timeout := 0, expried := 0, count := 0, rcount := 0 }

/-- **…and on the unlock-first path** (804e6dc). An UNLOCK with the unlock-first flag that finds no hold under its own LockId and
whose `currentLock` is ack-pending is answered LOCK_ACK_WAITING and changes nothing but the UnlockErrorCount statistic. -/
theorem C11_ack_waiting_unlock_first (db : DB) (c : Cmd) (h : Rec) (hl : db.leader = true) (hk : (db.getKey c.key).locked > 0)
    (hf : findHolder db c.key c.lockId = none) (hu : has c.flag UF_FIRST = true) (hh : (db.holders c.key).head? = some h) (hp : h.pending = true) :
    opUnlock db c = (db.bumpErr, [mkReply c R_ACK_WAITING (db.getKey c.key).locked (db.getR h.hid).depth (db.curData c.key)]) ∧
    db.bumpErr.keys = db.keys ∧ db.bumpErr.recs = db.recs ∧ db.bumpErr.tab = db.tab ∧ db.bumpErr.journal = db.journal :=
  ⟨unlock_ack_waiting db c h hl hk (Or.inr ⟨hf, hu, hh⟩) hp, rfl, rfl, rfl, rfl⟩

theorem wake_prefix (db : DB) (k : Nat) (out : List Reply) : ∃ more, (db.wake k out).2 = out ++ more :=
  wake_ind k (fun _ o => ∃ more, o = out ++ more) (fun d _ ⟨m, hm⟩ _ => ⟨m ++ (applyWake d k (classifyWake d k)).2, by rw [hm, List.append_assoc]⟩) (fun _ _ h => h) db out ⟨[], by simp⟩

/-- **The failure exit of `DoAckLock`** on a fresh ack-pending hold (pending, not yet in the expiry wheel, depth > 0): the requester is
answered RESULT_ERROR first; in the state the wake pass starts from (`failed`) the key's count is down by the hold's depth, the value
cell is what `ProcessRecoverLockData` makes of it, the record is neither a hold nor pending; and when the wake pass returns no queued
request of the key is admissible any more (if requests were queued: `waited`). -/
theorem C11_failure_rolls_back (db : DB) (ha : InvA db) (hid : Nat)
    (hp : (db.getR hid).pending = true) (he : (db.getR hid).expried = true) (hd : (db.getR hid).depth > 0) :
    let r := db.getR hid
    let d := failed db hid
    (∃ more, (ackDone db hid false).2 = mkReply r.cmd R_ERROR (d.getKey r.cmd.key).locked 0 (d.curData r.cmd.key) :: more) ∧
    (d.getKey r.cmd.key).locked = (db.getKey r.cmd.key).locked - r.depth ∧
    (d.getKey r.cmd.key).cell = (match (if has r.cmd.flag F_DATA then r.undo else none) with
                                  | some u => undoCell (db.getKey r.cmd.key).cell u
                                  | none => (db.getKey r.cmd.key).cell) ∧
    (d.getR hid).depth = 0 ∧ (d.getR hid).pending = false ∧
    ((d.getKey r.cmd.key).waited = true → classifyWake (ackDone db hid false).1 r.cmd.key = .stop) := by
  have hs := failed_spec db hid hp
  have hf := ackDone_fail db hid hp he hd
  simp only [] at hs ⊢
  refine ⟨?_, hs.1, hs.2.1, hs.2.2.1, hs.2.2.2, ?_⟩
  · rw [hf]
    obtain ⟨more, hm⟩ := wake_prefix (failed db hid) (db.getR hid).cmd.key
      [mkReply (db.getR hid).cmd R_ERROR ((failed db hid).getKey (db.getR hid).cmd.key).locked 0 ((failed db hid).curData (db.getR hid).cmd.key)]
    exact ⟨more, by rw [hm]; rfl⟩
  · intro hw
    rw [hf]
    exact wake_settles (ha.failed hid) _ _ hw

/-- **Which event takes which exit.** A negative (or any) report on a registered id with `ok = false`, a LOCK whose journal push is
refused, demotion / flush (every registered lock, in turn) all call `DoAckLock(lock, false)` → RESULT_ERROR as above; the timeout sweep of
an ack-pending hold takes the same roll-back and answers RESULT_TIMEOUT. -/
theorem C11_failure_causes (db : DB) :
    (∀ id who e, db.findId id = some e → opReport db id who false = ackDone (db.dropEnt id) e.hid false) ∧
    (∀ c, classifyLock db c = .ackGrant → db.leader = true → db.closed = true →
      opLock db c = ackDone (((db.newRec c).1.ackHold (db.newRec c).2).addTimeOut (db.newRec c).2) (db.newRec c).2 false) ∧
    (∀ hid, (db.getR hid).depth > 0 →
      fireTimeout db hid = ((failed db hid).ctrMod (fun x => { x with timeoutedCount := x.timeoutedCount + 1 })).wake (db.getR hid).cmd.key
        [mkReply (db.getR hid).cmd R_TIMEOUT ((failed db hid).getKey (db.getR hid).cmd.key).locked 0 ((failed db hid).curData (db.getR hid).cmd.key)]) ∧
    (∀ acc hid, failStep acc hid = ((ackDone acc.1 hid false).1, acc.2 ++ (ackDone acc.1 hid false).2)) :=
  ⟨fun id who e he => report_err db id who e he, fun c hc hl hcl => lock_journal_closed db c hc hl hcl,
   fun hid hd => fireTimeout_pending db hid hd, fun _ _ => rfl⟩

/-- **The value comes back** for SET (always), for any operation on a key that had no value cell yet, for INCR over a number cell, for
APPEND over a well-formed value, and for a PIPELINE (always; its undo is the cell saved before the pipeline, c3f898d; monitor
`C13:ack-recover-panic`): what a reply shows after the undo is what it showed before the grant. -/
theorem C11_value_restored :
    (∀ cur f, frameType f = 0 → roundTrip cur f = getData cur) ∧
    (∀ f, roundTrip none f = none) ∧
    (∀ n ctype f, n < 2 ^ 64 → ctype ≠ 1 → frameType f = 2 → 4 ≤ f.length → roundTrip (some (numberCell n ctype)) f = getData (some (numberCell n ctype))) ∧
    (∀ p f, p.hasData = true → p.wf → frameType f = 3 → 6 ≤ f.length → roundTrip (some p) f = getData (some p)) ∧
    (∀ cur f, frameType f = 6 → pipeOk f = true → (∀ p, cur = some p → p.ctype = 1 → p = unsetCell) → roundTrip cur f = getData cur) :=
  ⟨undo_set, undo_fresh, fun n ctype f hn hc h hl => undo_incr_number n ctype hn hc f h hl, fun p f hd hw h hl => undo_append p hd hw f h hl,
   fun cur f h hf hw => undo_pipeline cur f h hf hw⟩

/-- **…and where it does not.** INCR over a value that is not a number cell (here SET "abc"): the undo writes the number back, not the
bytes. INCR / APPEND over a cell that exists but is UNSET (left behind by an earlier undo): "no value" becomes the number 0 / an empty
value. -/
theorem C11_value_not_restored_violated :
    roundTrip (some ⟨[5, 0, 0, 0, 0, 0, 97, 98, 99], 0⟩) [10, 0, 0, 0, 2, 0, 1, 0, 0, 0, 0, 0, 0, 0] ≠ getData (some ⟨[5, 0, 0, 0, 0, 0, 97, 98, 99], 0⟩) ∧
    roundTrip (some unsetCell) [10, 0, 0, 0, 2, 0, 1, 0, 0, 0, 0, 0, 0, 0] = some [10, 0, 0, 0, 0, 1, 0, 0, 0, 0, 0, 0, 0, 0] ∧
    roundTrip (some unsetCell) [4, 0, 0, 0, 3, 0, 120, 121] = some [2, 0, 0, 0, 0, 0] ∧ getData (some unsetCell) = none := by decide

/-- **Single shot.** `DoAckLock` on a record that is not pending (already acknowledged, failed, timed out or unlocked) sends nothing
and changes nothing but the record's timeout tombstone: late acknowledgements after settlement are ignored. -/
theorem C11_single_shot (db : DB) (hid : Nat) (ok : Bool) (hp : (db.getR hid).pending = false) :
    ackDone db hid ok = (db.modR hid (fun r => { r with timeouted := true }), []) := ackDone_settled db hid ok hp

theorem openN_nonneg (x : Rid) (db : DB) : 0 ≤ openN x db := by
  unfold openN
  induction db.recs with
  | nil => simp
  | cons r rs ih =>
    simp only [List.map_cons, List.sum_cons]
    have : 0 ≤ openR x r := by unfold openR b2i; split <;> (try split) <;> (try split) <;> omega
    omega

theorem answered_nonneg (x : Rid) (out : List Reply) : 0 ≤ answered x out := by unfold answered; omega

/-- **Conservation, every run.** For every run from the initial state and every
request id x: (terminal replies for x) + (records still owing x an answer: queued or ack-pending) = (requests issued with id x).
The step that would break it — `ProcessLeaderPushLock` arming the counter of a lock that had already timed out, been unlocked or been
settled — is excluded by the invariant `InvK.kj` (f622546, 804e6dc): a lock whose LOCK record is still under way in the journal is dead or still waiting for it,
and a dead one is no longer armed. -/
theorem C11_exactly_one_outcome (cfg : Cfg) (now : Nat) (hc : reqAcks cfg < NOACK) (evs : List Ev) (x : Rid) :
    answered x (runOut (DB.init cfg now) evs).2.flatten + openN x (runOut (DB.init cfg now) evs).1 = issued x evs := by
  have := (runOut_cons x evs (Inv3.init cfg now hc)).2
  have e : openN x (DB.init cfg now) = 0 := rfl
  omega

/-- a request id issued once: never more than one terminal reply; exactly one as soon as nothing is queued or pending for it — SUCCED xor
an error, none lost, none duplicated, whatever the order of acknowledgements, timeouts, unlocks and demotions. -/
theorem C11_exactly_one_outcome_once (cfg : Cfg) (now : Nat) (hc : reqAcks cfg < NOACK) (evs : List Ev) (x : Rid) (hu : issued x evs = 1) :
    answered x (runOut (DB.init cfg now) evs).2.flatten ≤ 1 ∧
    (openN x (runOut (DB.init cfg now) evs).1 = 0 → answered x (runOut (DB.init cfg now) evs).2.flatten = 1) := by
  have := C11_exactly_one_outcome cfg now hc evs x
  have := openN_nonneg x (runOut (DB.init cfg now) evs).1
  constructor
  · omega
  · intro h; omega

/-- **Three runs at the edges of conservation.** (1) The ack wait times out before the journal has delivered the LOCK
record: TIMEOUT, and the late delivery sends nothing more and leaves no table entry. (2) Unlock-first
onto the fresh pending hold: refused, the hold stays. (3) The same after the
record was registered: refused; the requester is answered by its own timeout, or SUCCED when the reports arrive. -/
theorem C11_repaired_runs :
    sig ⟨1, false⟩ [.lock { lockA with timeout := 0 }, .tick, .push 5, .push 5] = [[], [(1, 1, R_TIMEOUT)], [], []] ∧
    (run (DB.init ⟨1, false⟩ 100) [.lock { lockA with timeout := 0 }, .tick, .push 5, .push 5]).tab = [] ∧
    sig ⟨1, false⟩ [.lock lockA, .unlock unlockFirst, .push 5, .push 5] = [[], [(2, 2, R_ACK_WAITING)], [], []] ∧
    ((run (DB.init ⟨1, false⟩ 100) [.lock lockA, .unlock unlockFirst]).holders 5).length = 1 ∧
    sig ⟨1, false⟩ [.lock lockA, .push 5, .unlock unlockFirst, .push 5, .tick, .tick, .tick, .tick, .tick, .tick, .tick] =
      [[], [], [(2, 2, R_ACK_WAITING)], [], [], [], [], [], [], [(1, 1, R_TIMEOUT)], []] ∧
    sig ⟨1, false⟩ [.lock lockA, .push 5, .unlock unlockFirst, .aofed 1 true, .acked 1 1 true] =
      [[], [], [(2, 2, R_ACK_WAITING)], [], [(1, 1, R_SUCCED)]] := by decide

/-- **What is proved about the table, every run** (`InvA`, `InvK` hold in every reachable state): records referenced by the table or by
a LOCK journal record exist and are not queued requests; a registered pending lock has a positive counter; a fresh ack-pending hold is
referenced by at most ONE thing — its LOCK record still in the journal, or its table entry — and then its counter plus the positive
reports noted in that entry is exactly the required number; a lock whose LOCK record is still under way is dead or still pending (`kj`). Demotion / flush empty the table; a report for an entry whose lock is
already settled removes the entry and sends nothing. -/
theorem C11_tables_drain_partial (cfg : Cfg) (now : Nat) (hc : reqAcks cfg < NOACK) (evs : List Ev) :
    let db := run (DB.init cfg now) evs
    InvA db ∧ InvK db ∧
    (∀ o, (opFailAll db o).1.tab = []) ∧
    (∀ id who ok e, db.findId id = some e → (db.getR e.hid).pending = false →
      (opReport db id who ok).2 = [] ∧ (opReport db id who ok).1.tab = db.tab.filter (·.id != id)) := by
  have h3 := (Inv3.init cfg now hc).run evs
  have ha : InvA (run (DB.init cfg now) evs) := h3.a
  have hk : InvK (run (DB.init cfg now) evs) := h3.k
  refine ⟨ha, hk, fun o => rfl, ?_⟩
  intro id who ok e he hp
  unfold opReport
  simp only [he, hp, Bool.not_false, Bool.or_true, if_true]
  have hp' : (((run (DB.init cfg now) evs).dropEnt id).getR e.hid).pending = false := hp
  rw [ackDone_settled _ _ _ hp']
  exact ⟨rfl, rfl⟩

/-- **"Nothing leaks" is false.** With the journal channel refusing pushes (or the node no longer leader) when the ack wait times out,
no UNLOCK record is written; the entry of the dead lock stays in `commandAofs` / `aofLocks` although no ack lock is pending and the
journal is empty — until a late report, a demotion or a flush. -/
theorem C11_tables_drain_violated :
    let db := run (DB.init ⟨1, false⟩ 100) [.lock { lockA with timeout := 0 }, .push 5, .closed true, .tick]
    db.tab.length = 1 ∧ db.journal = [] ∧ (db.holders 5).length = 0 ∧ db.recs.all (fun r => !r.pending) = true := by decide

/-! Non-vacuity: the hypotheses are met by reachable, non-trivial states. -/

/-- after the LOCK and the delivery of its record: a fresh ack-pending hold, registered, counter 2 -/
def dbPending : DB := run (DB.init ⟨1, false⟩ 100) [.lock lockA, .push 5]

example : (dbPending.getR 1).pending = true ∧ (dbPending.getR 1).expried = true ∧ (dbPending.getR 1).depth > 0 ∧
    (dbPending.getR 1).ack = 2 ∧ dbPending.tab.length = 1 ∧ dbPending.leader = true ∧ (dbPending.getKey 5).locked > 0 ∧
    findHolder dbPending 5 7 = some (dbPending.getR 1) := by decide

/-- a run that settles both ways: success for request 1; request 3 fails by a negative follower answer; conservation closes -/
def lockB : Cmd := { lockA with req := 3, conn := 2, lockId := 8, key := 6 }
def goodRun : List Ev := [.lock lockA, .push 5, .aofed 1 true, .lock lockB, .acked 1 1 true, .push 6, .acked 2 1 false, .tick]

example : sig ⟨1, false⟩ goodRun = [[], [], [], [], [(1, 1, R_SUCCED)], [], [(2, 3, R_ERROR)], []] ∧ issued (1, 1) goodRun = 1 ∧ issued (2, 3) goodRun = 1 := by decide

/-- the unlock-first theorem applies to `dbPending` -/
example : findHolder dbPending 5 9 = none ∧ has unlockFirst.flag UF_FIRST = true ∧ (dbPending.holders 5).head? = some (dbPending.getR 1) := by decide

/-- PIPELINE [SET "x", INCR 1] over the value "abc": a frame of the subset; the code applies every sub-operation to the cell as it was
BEFORE the pipeline, so what it leaves is INCR 1 over "abc" (the SET is discarded); the undo puts "abc" back -/
def pipeSetIncr : Bytes := [23, 0, 0, 0, 6, 0, 3, 0, 0, 0, 0, 0, 120, 10, 0, 0, 0, 2, 0, 1, 0, 0, 0, 0, 0, 0, 0]
example : pipeOk pipeSetIncr = true ∧ frameType pipeSetIncr = 6 ∧
    (applyFrame (some ⟨[5, 0, 0, 0, 0, 0, 97, 98, 99], 0⟩) pipeSetIncr).1.data = [10, 0, 0, 0, 0, 1, 98, 98, 99, 0, 0, 0, 0, 0] ∧
    roundTrip (some ⟨[5, 0, 0, 0, 0, 0, 97, 98, 99], 0⟩) pipeSetIncr = some [5, 0, 0, 0, 0, 0, 97, 98, 99] := by decide

/-- the failure theorem applies to `dbPending`: one reply, RESULT_ERROR to the requester; the key's count is back to 0 -/
example : (ackDone dbPending 1 false).2.map (fun r => (r.conn, r.req, r.result)) = [(1, 1, R_ERROR)] ∧
    ((failed dbPending 1).getKey 5).locked = 0 := by decide

end Slock.C11
