import Slock.Proofs.ValuePanic
import Slock.Model.ValueExec
/-!
C13 (pure part, value frames): no bytes a client can put into a data frame make `ProcessParseLockData` +
`LockManager.ProcessLockData` panic (the model mirrors the tree after 570db92, da807c1, 076286b, f7f91cc, 639fbf7, f897b3e).

    ∀ cx frames,  isPanic (runAll cx none frames) = false          (`no_panic_run`)

for ALL lists of ALL byte strings, every request context (lock / unlock, flags, undo record or not), every operation,
PIPELINE nesting included.  The proof goes through the invariant `CellSane` (the stored cell has its 6 header bytes and a
property header that fits): the parser's refusal rule establishes it for every frame it lets through (`CmdSane`), every
operation preserves it and cannot panic under it (`no_panic` / `sane_preserved`).
Scope: the functions modelled in `Slock.Model.Value` and, for EXECUTE frames, `LockCommandData.DecodeLockCommand`
(`Slock.Model.ValueExec`: the embedded 64-byte command and its own data frame); the undo path `ProcessRecoverLockData` is
outside the model.
-/
namespace Slock.C13V
open Slock.Value

/-- One frame, arbitrary bytes, on any sane cell: no panic, and the new cell is sane again. -/
theorem no_panic (cx : Ctx) (cur : Option Cell) (frame : Bytes) (hcur : CellSane cur) :
    isPanic (processFrame cx cur frame) = false :=
  good_no_panic _ (processFrame_good cx cur frame hcur)

theorem sane_preserved (cx : Ctx) (cur : Option Cell) (frame : Bytes) (hcur : CellSane cur) :
    ∃ cur', processFrame cx cur frame = .ok cur' ∧ CellSane cur' :=
  processFrame_good cx cur frame hcur

/-- Any sequence of arbitrary byte strings, starting from a key without value: no panic. -/
theorem no_panic_run (cx : Ctx) (frames : List Bytes) : isPanic (runAll cx none frames) = false :=
  good_no_panic _ (runAll_good cx frames none trivial)

/-- … and from any well-formed cell of the C15 refinement theorems. -/
theorem no_panic_run_wf (cx : Ctx) (cur : Option Cell) (h : CellWF cur) (frames : List Bytes) :
    isPanic (runAll cx cur frames) = false :=
  good_no_panic _ (runAll_good cx frames cur (cellWF_sane cur h))

/-- Every operation on a frame the parser lets through, PIPELINE included, at any sufficient recursion budget. -/
theorem no_panic_process_lock_data (fuel : Nat) (cx : Ctx) (cur : Option Cell) (c : Cmd) (hf : c.data.length < fuel)
    (hc : CmdSane c) (hcur : CellSane cur) : isPanic (proc fuel cx cur c) = false :=
  good_no_panic _ (proc_good fuel cx cur c hf hc hcur)

theorem parser_establishes_invariant (d ex : Bytes) (c : Cmd) (h : parseFrame d ex = some c) :
    c.data = d ∧ c.extra = ex ∧ CmdSane c :=
  parseFrame_sane d ex c h

/-- Frames shorter than 6 bytes are refused (`NewLockCommandDataFromOriginBytes` returns nil). -/
theorem short_frame_refused (frame ex : Bytes) (h : frame.length < 6) : parseFrame frame ex = none := by
  cases hp : parseFrame frame ex with
  | none => rfl
  | some c =>
    obtain ⟨hd, _, hdr, v, s, _⟩ := parseFrame_sane _ _ c hp
    have := s.length
    rw [hd] at this; omega

/-- one input per commit above: each returns -/
theorem former_panic_witnesses_return :
    -- frame shorter than 6 (570db92): refused
    parseFrame [0,0,0,0] [] = none ∧ isPanic (processFrame cx0 none [0,0,0,0]) = false
    -- INCR, 4-byte operand, no cell (076286b)
    ∧ isPanic (processFrame cx0 none [6,0,0,0, 2,1, 1,0,0,0]) = false
    -- SET "abc"; SHIFT 4 (f7f91cc)
    ∧ isPanic (runAll cx0 none [[5,0,0,0, 0,0, 0x61,0x62,0x63], [6,0,0,0, 4,1, 4,0,0,0]]) = false
    -- property flag on a 6-byte frame; property length beyond the frame: PUSH / APPEND / PIPELINE (da807c1): refused
    ∧ parseFrame [2,0,0,0, 3,0x10] [] = none ∧ parseFrame [4,0,0,0, 7,0x10, 200,0] [] = none
    ∧ parseFrame [4,0,0,0, 3,0x10, 200,0] [] = none ∧ parseFrame [4,0,0,0, 6,0x10, 200,0] [] = none
    -- PIPELINE ending inside a sub-frame length (639fbf7); PIPELINE with a 5-byte sub-frame (570db92)
    ∧ okVal (processFrame cx0 none [4,0,0,0, 6,0, 1,2]) = some .none ∧ okVal (processFrame cx0 none [7,0,0,0, 6,0, 1,0,0,0,0]) = some .none
    -- array-flagged SET with element length 255, then POP 1 (f897b3e)
    ∧ isPanic (runAll cx0 none [[7,0,0,0, 0,2, 255,0,0,0, 9], [6,0,0,0, 8,1, 1,0,0,0]]) = false := by
  decide +kernel

theorem sliceCap_ok (site : Site) (data extra : Bytes) (lo hi : Nat) (h1 : lo ≤ hi) (h2 : hi ≤ data.length) :
    sliceCap site data extra lo hi = .ok (((data ++ extra).drop lo).take (hi - lo)) := by
  unfold sliceCap
  rw [if_pos ⟨h1, by omega⟩]

/-- `DecodeLockCommand` on any `LockCommandData` whose value offset can be computed (e.g. built by a constructor) never
    panics: both slice expressions are covered by the length checks in front of them. -/
theorem no_panic_decode_lock_command_cmd (c : Cmd) (off : Nat) (hoff : cmdOff c = .ok off) :
    (decodeLockCommand c).isPanic = false := by
  unfold decodeLockCommand
  simp only [hoff]
  by_cases h64 : c.data.length < off + 64
  · rw [if_pos h64]; rfl
  rw [if_neg h64, sliceCap_ok _ _ _ _ _ (by omega) (by omega)]
  dsimp only
  cases (((c.data ++ c.extra).drop off).take (off + 64 - off))[lockCommandFlagOffset]? with
  | none => rfl
  | some fl =>
    dsimp only
    by_cases hfl : (fl &&& LOCK_FLAG_CONTAINS_DATA == 0) = true
    · rw [if_pos hfl]; rfl
    by_cases h68 : c.data.length < off + 68
    · rw [if_neg hfl, if_pos h68]; rfl
    by_cases h0 : readLE ((c.data.drop (off + 64)).take 4) = 0
    · rw [if_neg hfl, if_neg h68, if_pos h0]; rfl
    by_cases hlen : c.data.length < off + readLE ((c.data.drop (off + 64)).take 4) + 68
    · rw [if_neg hfl, if_neg h68, if_neg h0, if_pos hlen]; rfl
    rw [if_neg hfl, if_neg h68, if_neg h0, if_neg hlen, sliceCap_ok _ _ _ _ _ (by omega) (by omega)]
    dsimp only
    cases parseFrame _ [] <;> rfl

/-- For ALL bytes (and all bytes up to the slice capacity): parsing an EXECUTE frame and decoding its embedded command
    never panics. -/
theorem no_panic_decode_lock_command (data extra : Bytes) : (decodeFrame data extra).isPanic = false := by
  unfold decodeFrame
  cases hp : parseFrame data extra with
  | none => rfl
  | some c =>
    obtain ⟨_, _, hdr, v, s, _⟩ := parseFrame_sane _ _ c hp
    exact no_panic_decode_lock_command_cmd c _ s.cmdOff

/-- An embedded command that announces N > 0 data bytes while the frame carries fewer is refused with an error
    (after the `make([]byte, N+4)` — recorded in the result). -/
theorem decode_lock_command_refuses_short (c : Cmd) (off : Nat) (hoff : cmdOff c = .ok off) (h68 : off + 68 ≤ c.data.length)
    (fl : UInt8) (hfl : (((c.data ++ c.extra).drop off).take 64)[lockCommandFlagOffset]? = some fl)
    (hdata : (fl &&& LOCK_FLAG_CONTAINS_DATA == 0) = false)
    (hpos : 0 < readLE ((c.data.drop (off + 64)).take 4))
    (hshort : c.data.length < off + readLE ((c.data.drop (off + 64)).take 4) + 68) :
    decodeLockCommand c = .err (some (readLE ((c.data.drop (off + 64)).take 4) + 4)) := by
  unfold decodeLockCommand
  simp only [hoff]
  rw [if_neg (by omega), sliceCap_ok _ _ _ _ _ (by omega) (by omega)]
  have e : off + 64 - off = 64 := by omega
  simp only [e, hfl, hdata]
  rw [if_neg (by simp), if_neg (by omega), if_neg (by omega), if_pos hshort]

/-- embedded command with the contains-data flag, announcing 3 data bytes `[0, 0, 0x61]` (a SET "a"… of 1 byte): decoded -/
example : decodeFrame ([73,0,0,0, 5,0] ++ List.replicate 19 0 ++ [0x20] ++ List.replicate 44 0 ++ [3,0,0,0, 0,0,0x61]) []
    = .ok (List.replicate 19 0 ++ [0x20] ++ List.replicate 44 0) (some ⟨[3,0,0,0, 0,0,0x61], [], 0, 0, 0⟩) (some 7) := by
  decide +kernel

/-- the same announcing 3 bytes but carrying 2, 1 and 0: error, never a panic — even when the slice capacity has spare bytes -/
example : decodeFrame ([72,0,0,0, 5,0] ++ List.replicate 19 0 ++ [0x20] ++ List.replicate 44 0 ++ [3,0,0,0, 0,0]) [0x61, 0x62]
    = .err (some 7) := by
  decide +kernel
example : decodeFrame ([70,0,0,0, 5,0] ++ List.replicate 19 0 ++ [0x20] ++ List.replicate 44 0 ++ [3,0,0,0]) [] = .err (some 7) := by
  decide +kernel
/-- a huge announced length: error (and a 2 GiB buffer was allocated first) -/
example : decodeFrame ([70,0,0,0, 5,0] ++ List.replicate 19 0 ++ [0x20] ++ List.replicate 44 0 ++ [0xfc,0xff,0xff,0x7f]) []
    = .err (some 2147483648) := by decide +kernel
/-- embedded command cut short: error -/
example : decodeFrame ([65,0,0,0, 5,0] ++ List.replicate 63 0) [] = .err none := by decide +kernel

end Slock.C13V
