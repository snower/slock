import Slock.Proofs.MsWheel
/-!
# C05 / C06, millisecond unit — what the millisecond stage guarantees, for ALL values, request instants and wake-up instants

Timeline of one request with the millisecond flag and value `T` (wait timeout or hold expiry — the two code paths have the same
shape and are tied to the same model by `Slock.Ms.afterPark_generated`):
`t0` = wall ms of the request, server second `t0 / 1000` (assumption A1: the server's `currentTime` is the floor of wall time);
`p` = wall ms at which the park goroutine wakes — the sleep is at least as long as asked: `p ≥ parkEnd t0 T` (A2);
`f` = wall ms at which the second wheel's sweep for the deadline second `D` runs — not before that second begins: `f ≥ D·1000`
(A3, which is C05_never_early / C06 never-early of the second wheel, proved over M-ENGINE) and within `late` ms after it ends:
`f < (D + 1)·1000 + late` (A4; `late` = sweep latency, 0 on an idle server; the second wheel's NOT-LATE theorem).

* `ms_sub3s_not_early` — `T < 3000`: answered no earlier than `T` ms after the request (the property claims only the lower bound
  and eventual firing for sub-3-second values).
* `ms_ge3s_upper` — `T ≥ 3000`: answered less than `T + 2000 + late` ms after the request.
* `ms_ge3s_lower_partial` — `T ≥ 3000`: answered more than `T − T % 1000` ms after the request …
* `ms_ge3s_not_early_violated` — … and NOT always `T` ms after it: the deadline is computed from the request's server SECOND and
  the value's whole seconds, so the fraction of the request instant plus the value's sub-second part are lost: a 3 999 ms wait
  requested at x.999 s is answered 3 001 ms later. FALSE on the unchanged code, reproduced in real time on the real server
  (TIMEOUT after 3.07 s for 3 999 ms; EXPRIED after 3.07 s): recorded finding `C05:early:millisecond-fraction` /
  `C06:early:millisecond-fraction`.
* `ms_ge3s_whole_seconds_not_early` — for whole-second values (`T % 1000 = 0`) the lower bound does hold.
* `park_ends_before_deadline` — the hand-over happens before the deadline second begins (so the second wheel never receives an
  entry that is already due), provided the park goroutine wakes within `T / 1000 · 1000 − T % 3000` ms of its target.
-/
namespace Slock.C05Ms
open Slock.Ms

theorem ms_sub3s_not_early (t0 T p f : Nat) (hT : T < 3000) (hp : p ≥ parkEnd t0 T) :
    answeredAt t0 T p f ≥ t0 + T := by
  unfold answeredAt; rw [afterPark_lt hT]
  unfold parkEnd QLEN at hp
  dsimp only
  omega

theorem ms_ge3s_handed_over (t0 T : Nat) (hT : T ≥ 3000) :
    afterPark (t0 / 1000) T = .second (t0 / 1000 + T / 1000 + 1) := afterPark_ge hT

theorem ms_ge3s_upper (t0 T p f late : Nat) (hT : T ≥ 3000)
    (hf : f < (t0 / 1000 + T / 1000 + 1 + 1) * 1000 + late) :
    answeredAt t0 T p f < t0 + T + 2000 + late := by
  unfold answeredAt; rw [afterPark_ge hT]
  dsimp only
  omega

theorem ms_ge3s_lower_partial (t0 T p f : Nat) (hT : T ≥ 3000)
    (hf : f ≥ (t0 / 1000 + T / 1000 + 1) * 1000) :
    answeredAt t0 T p f > t0 + (T - T % 1000) := by
  unfold answeredAt; rw [afterPark_ge hT]
  dsimp only
  omega

theorem ms_ge3s_whole_seconds_not_early (t0 T p f : Nat) (hT : T ≥ 3000) (hw : T % 1000 = 0)
    (hf : f ≥ (t0 / 1000 + T / 1000 + 1) * 1000) :
    answeredAt t0 T p f > t0 + T := by
  have := ms_ge3s_lower_partial t0 T p f hT hf
  rw [hw] at this; exact this

/-- The full lower bound is FALSE: request at wall ms 10 999 with 3 999 ms, park wakes on time, the second wheel sweeps
second 14 the moment it begins — answered 3 001 ms after the request. Every premise of the timeline holds. -/
theorem ms_ge3s_not_early_violated :
    ∃ t0 T p f, T ≥ 3000 ∧ p ≥ parkEnd t0 T ∧ f ≥ (t0 / 1000 + T / 1000 + 1) * 1000 ∧
      f < (t0 / 1000 + T / 1000 + 1 + 1) * 1000 ∧ answeredAt t0 T p f < t0 + T :=
  ⟨10999, 3999, 11998, 14000, by decide, by decide, by decide, by decide, by decide⟩

theorem park_ends_before_deadline (t0 T p : Nat) (hT : T ≥ 3000) (hp : p < parkEnd t0 T + (T / 1000 * 1000 - T % 3000)) :
    p < (t0 / 1000 + T / 1000 + 1) * 1000 := by
  unfold parkEnd QLEN at hp
  omega

/-- non-vacuity: a 6 020 ms wait requested at 5 000 500, park 20 ms, second wheel on time -/
example : answeredAt 5000500 6020 5000520 5007000 = 5007000 ∧ 5007000 < 5000500 + 6020 + 2000 ∧ 5007000 > 5000500 + 6000 := by decide
example : answeredAt 5000500 40 5000541 0 = 5000541 := by decide

end Slock.C05Ms
