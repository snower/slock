import Slock.Proofs.EngineCount
import Slock.Proofs.Kernels
import Slock.Properties.C01
/-!
# C17 — reported counts are exact and everything is reclaimed (counters part)

Over M-ENGINE (stage 1): the hand-kept increments and decrements of the code are carried by the model (`Counters`, `Key.locked`), and the
theorems say they equal the census in EVERY reachable state. KeyCount / lock-record reference counts / value cells
depend on lazily freed lock records, which stage 1 does not model: that part of C17 is proved over the record-level model in
`Properties/C17Records.lean` and checked by the monitor on the real engine (census after every operation, drain phase, KeyCount
back to baseline).
-/
namespace Slock.C17
open Slock.Engine Slock.C01

/-- In every reachable state: per key `locked = Σ depth` (I1), and the STATE counters equal the census:
`LockedCount = Σ_keys locked` (= Σ over all holds of their depth) and `WaitCount = Σ_keys #queued requests`. -/
theorem reachable_counts (now : Nat) (ops : List Op) :
    let db := run (DB.init now) ops
    DBInv db ∧ db.ctr.lockedCount = totL db.keys ∧ db.ctr.waitCount = totW db.keys := by
  have h := reachable_steady now ops
  exact ⟨h.inv, h.cnt.locked, h.cnt.wait⟩

/-- `LockedCount` is the number of outstanding holds counted with depth: Σ over keys of Σ over holders of depth. -/
theorem lockedCount_is_depth_census (now : Nat) (ops : List Op) :
    (run (DB.init now) ops).ctr.lockedCount =
      (((run (DB.init now) ops).keys.map (fun k => (depthSum k.holders : Int)))).sum := by
  obtain ⟨hi, hl, _⟩ := reachable_counts now ops
  rw [hl]
  unfold totL
  congr 1
  apply List.map_congr_left
  intro k hk
  rw [(hi k hk).sum]

/-- **Drain.** When no hold is outstanding and nothing is queued on any key, `LockedCount` and `WaitCount` are zero. -/
theorem C17_drain (now : Nat) (ops : List Op)
    (hempty : ∀ k ∈ (run (DB.init now) ops).keys, k.holders = [] ∧ k.waiters = []) :
    (run (DB.init now) ops).ctr.lockedCount = 0 ∧ (run (DB.init now) ops).ctr.waitCount = 0 := by
  obtain ⟨hi, hl, hw⟩ := reachable_counts now ops
  rw [hl, hw]
  have : ∀ ks : List Key, (∀ k ∈ ks, k.locked = 0 ∧ k.waiters = []) → totL ks = 0 ∧ totW ks = 0 := by
    intro ks
    induction ks with
    | nil => intro _; exact ⟨rfl, rfl⟩
    | cons x xs ih =>
      intro h
      have hx := h x (by simp)
      have := ih (fun k hk => h k (List.mem_cons_of_mem _ hk))
      simp [hx.1, hx.2, this.1, this.2]
  apply this
  intro k hk
  exact ⟨(hi k hk).locked_zero_iff.mpr (hempty k hk).1, (hempty k hk).2⟩

/-- **LCount in replies.** The LCount of the reply to a direct grant is the key's outstanding depth right after the
grant (mod 2^16: the wire field is 16 bits), in every state with I1. -/
theorem C17_lcount_grant (db : DB) (c : Cmd) (hi : DBInv db) (hb : classifyLock db c = .grant) :
    ∃ rest, (opLock db c).2 = mkReply c RESULT_SUCCED (depthSum (db.getKey c.key).holders + 1) 1 :: rest := by
  unfold opLock
  rw [hb]
  simp only [applyLock]
  have hk := getKey_inv hi c.key
  rw [grantHold_locked, hk.sum]
  split
  · exact wake_out _ _ _
  · exact ⟨[], rfl⟩

/-- … and of the reply to a releasing unlock: the outstanding depth after the release. -/
theorem C17_lcount_release (db : DB) (c c' : Cmd) (h : Hold) (hi : DBInv db) (hb : classifyUnlock db c = .release h c') :
    ∃ rest, (opUnlock db c).2 = mkReply c' RESULT_SUCCED (depthSum (removeHolder (db.getKey c.key).holders h)) 0 :: rest := by
  unfold opUnlock
  rw [hb]
  simp only [applyUnlock]
  have hk := getKey_inv hi c.key
  have hm := (UnlockFacts.of hb).mem
  have hs := depthSum_removeHolder hm
  have : (db.getKey c.key).locked - h.depth = depthSum (removeHolder (db.getKey c.key).holders h) := by
    rw [hk.sum]; omega
  rw [this]
  exact wake_out _ _ _

def c1 : Cmd := { req := 1, conn := 1, flag := 0, lockId := 1, key := 7, tflag := 0, timeout := 5, eflag := 0, expried := 10, count := 0, rcount := 3 }
example : (run (DB.init 10) [.lock c1, .lock { c1 with req := 2 }, .lock { c1 with req := 3, lockId := 2 }]).ctr.lockedCount = 2 ∧
    (run (DB.init 10) [.lock c1, .lock { c1 with req := 2 }, .lock { c1 with req := 3, lockId := 2 }]).ctr.waitCount = 1 := by decide +kernel

end Slock.C17
