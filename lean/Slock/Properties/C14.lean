import Slock.Proofs.Layout
import Slock.Gen.Layouts
/-!
# C14 — wire codecs are lossless (64-byte frames)

The round-trip theorems over any layout table that satisfies the decidable conditions (per field: `roundtrip_int/_str/_lpstr`;
per byte: `reencode_field`; `decode_total`), and the check of the generated tables. The tables `Slock.Gen.*` are
regenerated from /repo's `Encode`/`Decode` methods on every run; `decide` re-checks the table conditions, the
generic theorems lift them to ALL field values and ALL 64-byte inputs.
-/
namespace Slock.C14
open Slock.Layout

/-- encode-then-decode returns every integer / byte-array field, for all values. -/
theorem roundtrip_int (L : Layout) (hc : consistent L = true) (v : Val) (old : Bytes) (f : Nat)
    (hf : f < L.fields.length)
    (hk : (L.fields.getD f default).kind = .int ∨ (L.fields.getD f default).kind = .bytes)
    (hw : (v.getD f []).length = (L.fields.getD f default).width) :
    decodeField L (encode L v old) f = some (v.getD f []) := by
  have hok := consistent_fieldOK hc hf
  unfold fieldOK at hok
  unfold decodeField
  rcases hk with hk | hk <;> rw [hk] at hok ⊢ <;> simp only <;> rw [decodeInt_encode v old hok hw]

/-- NUL-padded name fields (CALL method, error type): round-trip for every string that fits
and has no NUL at either end — the padding byte itself cannot be represented, which is stated
here rather than hidden. -/
theorem roundtrip_str (L : Layout) (hc : consistent L = true) (v : Val) (old : Bytes) (f : Nat)
    (hf : f < L.fields.length) (hk : (L.fields.getD f default).kind = .str)
    (hlen : (v.getD f []).length ≤ (L.fields.getD f default).width) (hs : noEdgeNul (v.getD f [])) :
    decodeField L (encode L v old) f = some (v.getD f []) := by
  have hok := consistent_fieldOK hc hf
  unfold fieldOK at hok
  rw [hk] at hok
  unfold strFieldOK at hok
  unfold decodeField
  rw [hk]
  simp only
  cases hfind : L.strDecs.find? (fun sd => sd.field == f) with
  | none => rw [hfind] at hok; simp at hok
  | some sd =>
    rw [hfind] at hok
    simp only [Bool.and_eq_true, beq_iff_eq, List.all_eq_true, List.mem_range, decide_eq_true_eq] at hok
    obtain ⟨⟨_, hwid⟩, hall⟩ := hok
    simp only
    rw [region_encode_str v old f sd.start (sd.stop - sd.start) hall, ← hwid]
    rw [trim0_pad _ _ hlen hs]

/-- length-prefixed string (leader host): round-trip when the length field holds the length. -/
theorem roundtrip_lpstr (L : Layout) (hc : consistent L = true) (v : Val) (old : Bytes) (f : Nat)
    (hf : f < L.fields.length) (hk : (L.fields.getD f default).kind = .lpstr)
    (sd : StrDec) (hfind : L.strDecs.find? (fun sd => sd.field == f) = some sd) (lf : Nat)
    (hlf : sd.lenField = some lf)
    (hlen : (v.getD f []).length ≤ (L.fields.getD f default).width)
    (hlv : v.getD lf [] = [(v.getD f []).length.toUInt8]) :
    decodeField L (encode L v old) f = some (v.getD f []) := by
  have hok := consistent_fieldOK hc hf
  unfold fieldOK at hok
  rw [hk] at hok
  unfold lpstrFieldOK at hok
  rw [hfind] at hok
  simp only [hlf, Bool.and_eq_true, beq_iff_eq, List.all_eq_true, List.mem_range, decide_eq_true_eq] at hok
  obtain ⟨⟨⟨hfit, hw1⟩, hint⟩, hall⟩ := hok
  unfold decodeField
  rw [hk]
  simp only [hfind, hlf]
  have hdl : decodeInt (encode L v old) (L.dec.getD lf []) = v.getD lf [] :=
    decodeInt_encode v old hint (by rw [hlv, hw1]; rfl)
  rw [hdl, hlv]
  have hwid : (L.fields.getD f default).width ≤ 64 := by omega
  have hn : ((v.getD f []).length.toUInt8).toNat = (v.getD f []).length :=
    UInt8.toNat_ofNat_of_lt' (show _ < 256 by omega)
  simp only [List.getD_cons_zero, hn]
  have : sd.start + (v.getD f []).length ≤ 64 := by omega
  simp only [this, if_true]
  have hall' : ∀ i, i < (v.getD f []).length → encAt L (sd.start + i) = .str f i :=
    fun i hi => hall i (by omega)
  rw [region_encode_str v old f sd.start _ hall']
  exact congrArg some (map_range_getD _ _ rfl)

/-- decode-then-encode reproduces every byte that belongs to an integer / byte-array field,
for ALL 64-byte inputs `b` (whatever the other bytes are). -/
theorem reencode_field (L : Layout) (hcov : covers L = true) (b old : Bytes) (v : Val) (o f i : Nat)
    (ho : o < 64) (hlen : L.enc.length = 64) (henc : encAt L o = .field f i)
    (hv : v.getD f [] = decodeInt b (L.dec.getD f [])) :
    (encode L v old).getD o 0 = b.getD o 0 := by
  rw [encode_getD L v old o (by omega), henc]
  unfold covers at hcov
  simp only [List.all_eq_true, List.mem_range] at hcov
  have hc := hcov o ho
  unfold coversAt at hc
  rw [henc] at hc
  simp only [Bool.and_eq_true, beq_iff_eq] at hc
  simp only [byteOf, hv]
  unfold decodeInt
  by_cases hi : i < (L.dec.getD f []).length
  · rw [getD_map_lt _ _ i 0 64 hi, hc.1]
  · exfalso
    have := getD_ge (L.dec.getD f []) i 64 (by omega)
    omega

/-- a name field that is text followed by NUL padding re-encodes to the same bytes. -/
theorem reencode_name (s : Bytes) (n : Nat) (h : s.length ≤ n) (hs : noEdgeNul s) :
    pad (trim0 (pad s n)) n = pad s n := by rw [trim0_pad s n h hs]

/-- Decode never panics on any input when every length-prefixed slice is guarded. -/
theorem decode_total (L : Layout) (hs : decodeSafe L = true) (b : Bytes) : decode L b ≠ .panic := by
  unfold decode
  by_cases hg : guardRefuses L b = true
  · simp [hg]
  · simp only [hg]
    have hall : (List.range L.fields.length).all (fun f => (decodeField L b f).isSome) = true := by
      simp only [List.all_eq_true, List.mem_range]
      intro f hf
      unfold decodeSafe at hs
      simp only [List.all_eq_true, List.mem_range] at hs
      have h := hs f hf
      unfold decodeField
      cases hk : (L.fields.getD f default).kind <;> simp only [hk] at h ⊢ <;> try rfl
      · cases hfind : L.strDecs.find? (fun sd => sd.field == f) <;> simp only <;> rfl
      · cases hfind : L.strDecs.find? (fun sd => sd.field == f) with
        | none => rfl
        | some sd =>
          simp only [hfind] at h ⊢
          cases hlf : sd.lenField with
          | none => rfl
          | some lf =>
            simp only [hlf, Bool.and_eq_true, beq_iff_eq, List.any_eq_true, decide_eq_true_eq] at h
            dsimp only
            -- the length is one byte, and a guard `(lf, n)` with `start + n ≤ 64` that does not refuse bounds it
            obtain ⟨hlen1, ⟨g, n⟩, hmem, hg1, hfit⟩ := h
            simp only at hg1 hfit
            subst hg1
            have hnot : ¬ (fromLE (decodeInt b (L.dec.getD g [])) > n) := by
              intro hgt
              apply hg
              unfold guardRefuses
              simp only [List.any_eq_true, decide_eq_true_eq]
              exact ⟨(g, n), hmem, hgt⟩
            have hle : ((decodeInt b (L.dec.getD g [])).getD 0 0).toNat ≤ n := by
              have hl : (decodeInt b (L.dec.getD g [])).length = 1 := by
                unfold decodeInt; rw [List.length_map]; exact hlen1
              match hd : decodeInt b (L.dec.getD g []), hl with
              | [x], _ =>
                rw [hd] at hnot
                simp [fromLE] at hnot ⊢
                omega
            have : sd.start + ((decodeInt b (L.dec.getD g [])).getD 0 0).toNat ≤ 64 := by omega
            rw [if_pos this]; rfl
    simp [hall]

theorem all_consistent : ∀ L ∈ Slock.Gen.allLayouts, consistent L = true :=
  have h : ∀ L ∈ Slock.Gen.allLayouts, consistentFast L = true := by decide +kernel
  fun L hL => consistent_of_fast (h L hL)
theorem all_decode_safe : ∀ L ∈ Slock.Gen.allLayouts, decodeSafe L = true := by decide +kernel
theorem all_cover : ∀ L ∈ Slock.Gen.allLayouts, covers L = true :=
  have h : ∀ L ∈ Slock.Gen.allLayouts, coversFrom L 0 L.enc = true := by decide +kernel
  fun L hL => covers_of_coversFrom (h L hL)

/-- Every protocol encoder writes all 64 bytes (nothing of a reused buffer leaks);
the AOF record encoder leaves bytes 0–1 (set once by the writer). -/
theorem protocol_total : ∀ L ∈ Slock.Gen.allLayouts, L.name ≠ "AofLock" → total L = true := by decide +kernel

/-! README offsets (hand-transcribed from README.md "Slock Binary Protocol") -/

def readmeRequest : List (String × Nat × Nat) :=
  [("Magic", 0, 1), ("Version", 1, 1), ("CommandType", 2, 1), ("RequestId", 3, 16), ("Flag", 19, 1),
   ("DbId", 20, 1), ("LockId", 21, 16), ("LockKey", 37, 16), ("TimeoutFlag", 55, 2), ("Timeout", 53, 2),
   ("ExpriedFlag", 59, 2), ("Expried", 57, 2), ("Count", 61, 2), ("Rcount", 63, 1)]

def readmeResponse : List (String × Nat × Nat) :=
  [("Magic", 0, 1), ("Version", 1, 1), ("CommandType", 2, 1), ("RequestId", 3, 16), ("Result", 19, 1),
   ("Flag", 20, 1), ("DbId", 21, 1), ("LockId", 22, 16), ("LockKey", 38, 16), ("Lcount", 54, 2),
   ("Count", 56, 2), ("Lrcount", 58, 1), ("Rcount", 59, 1)]

theorem readme_request : offsetsTable Slock.Gen.lockCommand = readmeRequest := by decide +kernel
theorem readme_response : offsetsTable Slock.Gen.lockResultCommand = readmeResponse := by decide +kernel

/-! Non-vacuity: a concrete LOCK frame meets the hypotheses and round-trips -/

def sampleLock : Val :=
  [[0x56], [1], [1], List.replicate 16 7, [0x20], [3], List.replicate 16 9, List.replicate 16 5,
   [0x10, 0x04], [5, 0], [0, 0x40], [0x2c, 1], [0xff, 0xff], [2]]

example : consistent Slock.Gen.lockCommand = true ∧ wellTyped Slock.Gen.lockCommand sampleLock = true :=
  ⟨all_consistent _ (.tail _ (.tail _ (.tail _ (.tail _ (.head _))))), by decide +kernel⟩
example : decode Slock.Gen.lockCommand (encode Slock.Gen.lockCommand sampleLock []) = .ok sampleLock := by
  decide +kernel

end Slock.C14
