import Slock.Properties.EngineSim
import Slock.Proofs.EngineSimTickSweep
import Slock.Proofs.EngineSimTickCongr
import Slock.Proofs.EngineSimWU
import Slock.Proofs.EngineQuiet
import Slock.Proofs.EngineNotLate
/-!
# EngineSimTick — one second of server time: the record-level sweeps against stage 1's `opTick`

`Engine2.opTick` (clock + 1; `checkTimeTimeOut`: visit the slot entries of that second — tombstoned ⇒ drop the sweeper's reference, not yet
due ⇒ back-off + 1 and re-arm, due ⇒ collect —, pop the long-table entries of that second, then `doTimeOut` of every collected entry, each
ending with a wake pass; `checkTimeExpried` likewise with `doExpried`) **on the leader** is stage 1's `Engine.opTick` on any stage-1
database `a` that is `Equiv` to `abs s` and satisfies the stage-1 invariants `Inv1`: same replies in the same order, `abs` of the
record-level result `Equiv` to stage 1's result, `Inv1` again (`sim_tick`).

The ideas:

* both models process the due entries of the DATABASE sorted by wheel sequence number, enumerating the key table and the records / queues
  in different orders. `sortBySeq` is a stable insertion sort (`SimTick.filter_sortBySeq`, `map_sortBySeq_on`), so the record-level list
  restricted to the live entries and mapped to stage-1 views is the sorted list of stage 1's requests / holds PROVIDED the sequence numbers
  of stage 1's requests (holds) are pairwise distinct — the stage-1 invariant `SimTick.SQ` (all `sched.seq` below `db.seq`, pairwise
  distinct over the database), kept by every stage-1 operation (`opLock_sq`, `opUnlock_sq`, `opTick_s3`), together with distinct key ids
  (`KN`); `SimTick.corrT` / `corrE`. No record-level sequence-number invariant is needed.
* the record-level invariant `SimTick.KT` of every reachable state (`kt_closed`): a lock record that is a live queued request sits in the
  wait queue and has a timeout-wheel entry caching its back-off counter (`tSched.checked = tChecked`); a record that is a hold sits in
  `currentLock` / the holder queue. "`cmd.key` = key" is taken from stage 1 (`KW`, `HN.ok` through `Equiv`).
* per entry: `sim_visitT_stutter` / `sim_visitE_stutter` / `sim_fireT_stutter` / `sim_fireE_stutter` (tombstoned entries, incl. the record
  freed and the key record reclaimed), `sim_rearmT` / `sim_rearmE`, `sim_collectT`, `sim_fireT_live` / `sim_fireE_live`.
* the sweeper pops a due long-table entry (`collectT` clears its `long` flag) before it fires it; stage 1 does not. `SimTick.EqL S x y`:
  `x` is `y` with the flag cleared on the requests named in `S`; stage 1's firing phase does not read the flag and every fired request
  leaves `S` (`fireTimeoutStep_eqL_shrink`; the firing fold `fireT_step` carries `S` with every name in it among the requests still to be
  fired, `FireTN`, so at the end `S = []`: `Equiv`. `fire_eqL` says the same of stage 1 alone).
* both sweeps run over lists made at their start, and entries die during a sweep (a wake pass of an earlier `doTimeOut` grants a
  collected request). Every wheel entry still to be visited is PAIRED with stage 1's request / hold: `SimTick.PT` / `PE` (same identity,
  and the entry is live iff stage 1 still has an item of that identity, in the CURRENT state), in the collecting passes also "stage 1 still
  has that very item" (`atT` / `atE`). Every sweep step keeps `PT` / `PE` (`pt_step`, `pe_step`, from the record-level frame `WFK`: surviving
  records keep command and connection, nothing becomes a live request, a hold keeps its identity or was granted by the step with a fresh
  one); a stage-1 step leaves the other items as they are. With the pairing as part of the relation, the three phases of a sweep are folds
  in step (`sim_foldl`, `sweep_sim`).
* `Equiv`-congruence of stage 1's sweeps: `SimTick.sweepTimeout_congr`, `sweepExpire_congr`, `opTick_congr`.

Domain: the LEADER (`s.leader = true`). Off-leader the record-level `doExpried` defers the end of a replicated hold (re-arms it 30 s ahead
while the leader is silent for less than 300 s); stage 1 has no such rule — its `fireExpire` is "`doExpried` on the leader" — so there the
two models DIFFER (example at the end); the follower-side deferral is property C10, proved on the record-level model itself.
-/
namespace Slock.SimP
open Slock Slock.Sim Slock.SimTick

/-- what is carried along the stage-1 run (`SimTick.I1` is the part of it the sweeps read) -/
structure Inv1 (a : Engine.DB) : Prop where
  inv : Engine.DBInv a
  quiet : Engine.QuietDB a
  wu : Engine.WU a
  /-- key ids are distinct -/
  kn : Engine.KN a
  /-- wheel sequence numbers are below the counter and pairwise distinct -/
  sq : SQ a
  /-- a queued request sits under the key its command names -/
  kw : Engine.KW a
  /-- the expiry-side invariant of C06 (a hold sits under the key its command names, …) -/
  hn : Engine.HN a
  /-- equal (connection, RequestId) ⇒ equal commands among the queued requests; queues sorted by priority -/
  qinv : Engine.QInv a

theorem Inv1.init (now : Nat) : Inv1 (Engine.DB.init now) :=
  ⟨Engine.DBInv.init now, Engine.QuietDB.init now, Engine.WU.init now, by simp [Engine.KN, Engine.DB.init], SQ.init now, Engine.KW.init now,
   Engine.HN.init now, ⟨Engine.IdDet.init now, Engine.DBSorted.init now⟩⟩

theorem Inv1.i1 {a : Engine.DB} (h : Inv1 a) : I1 a :=
  ⟨⟨h.kn, h.wu, h.sq⟩, h.inv, fun k hk => (h.quiet k hk).flag.mp, h.kw, fun n x hx => (h.hn.ok n x hx).key⟩

theorem reachable_sy {s : Engine2.DB} (h : Reachable2 s) : WF s := reachable_wf h

/-- **The clock tick.** On the leader, one second of server time of the record-level model — timeout sweep and expiry sweep with all their
re-arms, drops of tombstoned entries, timeouts, expiries and wake passes — is stage 1's `opTick` on any stage-1 database `Equiv` to `abs s`:
same replies, `abs` of the result `Equiv` to stage 1's result, and the stage-1 invariants hold again. -/
theorem sim_tick {s : Engine2.DB} (hr : Reachable2 s) (hld : s.leader = true) {a : Engine.DB} (he : Equiv (Engine2.abs s) a) (hi : Inv1 a) :
    Equiv (Engine2.abs (Engine2.opTick s).1) (Engine.opTick a).1 ∧ (Engine2.opTick s).2.map (·.r) = (Engine.opTick a).2 ∧
    Inv1 (Engine.opTick a).1 := by
  obtain ⟨_, i1', e1, e2⟩ := sim_tick_core s a (reachable_wf hr) hi.i1 he hld
  have hiq := Engine.opTick_iq a ⟨hi.qinv, hi.quiet⟩
  have hhn := Engine.opTick_HN a hi.kn hi.kw hi.hn
  exact ⟨e1, e2, Engine.opTick_inv a hi.inv, hiq.2, i1'.s3.wu, i1'.s3.kn, i1'.s3.sq, i1'.kw, hhn.1, hiq.1⟩

/-- **Stage 1's `opTick` respects `Equiv`** (same scalar fields, same state under every key; the key tables may be ordered differently):
the sweeps process the due entries sorted by pairwise distinct wheel sequence numbers. -/
theorem opTick_respects_equiv {a b : Engine.DB} (h : Equiv a b) (ha : Inv1 a) (hb : Inv1 b) :
    Equiv (Engine.opTick a).1 (Engine.opTick b).1 ∧ (Engine.opTick a).2 = (Engine.opTick b).2 :=
  opTick_congr h ⟨ha.kn, ha.wu, ha.sq⟩ ⟨hb.kn, hb.wu, hb.sq⟩

/-- the record-level invariant the sweeps need beyond `reachable_ki`, in every reachable state -/
theorem reachable_kt {s : Engine2.DB} (h : Reachable2 s) (n : Nat) : KT (s.getKey n) := (reachable_wf h).dbkt.getKey n

/-! the hypotheses are satisfiable, the theorem is not vacuous: a tick that fires a timeout, a tick that expires a hold -/

def tH : Engine.Cmd := { req := 1, conn := 1, flag := 0, lockId := 1, key := 7, tflag := 0, timeout := 0, eflag := 0, expried := 2, count := 0, rcount := 0 }
def tW : Engine.Cmd := { tH with req := 2, lockId := 2, timeout := 1 }
/-- a hold (expires after 2 s) and a request queued behind it (times out after 1 s) -/
def tickDemo : List Engine2.Op := [.lock tH none, .lock tW none]

def sDemo : Engine2.DB := Engine2.run (Engine2.DB.init 100 0) tickDemo
theorem sDemo_reachable : Reachable2 sDemo := ⟨100, 0, tickDemo, rfl⟩

/-- the second tick times the queued request out (`RESULT_TIMEOUT = 8`) … -/
example : ((Engine2.opTick (Engine2.opTick sDemo).1).2.map (·.r.result)) = [8] := by decide +kernel
/-- … and the third one ends the hold (`RESULT_EXPRIED = 9`); all on the leader -/
example : ((Engine2.opTick (Engine2.opTick (Engine2.opTick sDemo).1).1).2.map (·.r.result)) = [9] := by decide +kernel
example : sDemo.leader = true ∧ (Engine2.opTick sDemo).1.leader = true ∧ (Engine2.opTick (Engine2.opTick sDemo).1).1.leader = true := by decide +kernel

/-! off-leader the two models differ (the deferral of C10 has no stage-1 counterpart) -/

def fH : Engine.Cmd := { tH with flag := 4 }
/-- a follower holding a replicated hold (LOCK with the from-AOF flag) that is due -/
def fDemo : Engine2.DB := Engine2.run (Engine2.DB.init 100 0) [.setLeader false, .lock fH none, .tick, .tick]

example : ((Engine2.opTick fDemo).1.getKey 7).holders.length = 1 ∧ ((Engine.opTick (Engine2.abs fDemo)).1.getKey 7).holders.length = 0 := by decide +kernel

end Slock.SimP
