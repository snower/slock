import Slock.Proofs.EngineWake
import Slock.Proofs.Kernels
/-!
# C02 — only the owning LockId releases; re-entrant depth is exact

Functional specification of `UnLock` / the re-lock arm of `Lock`, proved over M-ENGINE for EVERY state that satisfies the
reachable-state invariant (`Slock.C01.reachable_inv` shows every reachable state does).
Reading note (DESIGN.md): a re-lock carrying Expried = 0 is answered SUCCED without adding depth; "each success adding
one" is read for requests that ask for a hold (Expried > 0).
-/
namespace Slock.C02
open Slock.Engine

/-- An unlock that names no outstanding hold (and does not ask for unlock-first on a held key, nor for cancel-wait)
is refused with UNLOCK_ERROR or UNOWN_ERROR, addressed to the requester, and changes nothing but the error counter. -/
theorem C02_unlock_refused (db : DB) (c : Cmd) (hinv : DBInv db) (hl : db.leader = true)
    (hnone : findHolder (db.getKey c.key) c.lockId = none)
    (hfirst : has c.flag UF_FIRST = false ∨ (db.getKey c.key).holders = [])
    (hcancel : has c.flag UF_CANCEL = false) :
    ∃ r, opUnlock db c = (bumpErr db, [r]) ∧ r.req = c.req ∧ r.conn = c.conn ∧
      (r.result = RESULT_UNLOCK_ERROR ∨ r.result = RESULT_UNOWN_ERROR) := by
  have hk := getKey_inv hinv c.key
  unfold opUnlock classifyUnlock
  simp only [hl, Bool.not_true, Bool.false_and, Bool.false_eq_true, if_false, hcancel, hnone]
  by_cases h0 : (db.getKey c.key).locked = 0
  · simp only [beq_iff_eq, h0, if_true]
    exact ⟨_, rfl, rfl, rfl, Or.inl rfl⟩
  · simp only [beq_iff_eq, h0, if_false]
    rcases hfirst with hf | hf
    · simp only [hf, Bool.false_eq_true, if_false]
      exact ⟨_, rfl, rfl, rfl, Or.inr rfl⟩
    · exact absurd (hk.locked_zero_iff.mpr hf) h0

/-- With cancel-wait (and no hold to release) the LAST queued request bearing that LockId is removed; it is answered
UNLOCK_ERROR and the canceller LOCKED_ERROR. (A wake pass follows: the cancelled request may have been the head of the
queue, so the two replies may be followed by grants — SUCCED replies — to requests queued behind it.) -/
theorem C02_cancel_wait (db : DB) (c : Cmd) (w : Waiter) (hl : db.leader = true)
    (hnone : findHolder (db.getKey c.key) c.lockId = none)
    (hfirst : has c.flag UF_FIRST = false) (hcancel : has c.flag UF_CANCEL = true)
    (hw : findCancel (db.getKey c.key).waiters c.lockId = some w) :
    ∃ more, (opUnlock db c).2 =
        [mkReply c RESULT_LOCKED_ERROR (db.getKey c.key).locked 0,
         mkReply { w.cmd with conn := w.conn } RESULT_UNLOCK_ERROR (db.getKey c.key).locked 0] ++ more ∧
      (∀ r ∈ more, r.result = RESULT_SUCCED) ∧
      ((opUnlock db c).2.take 2).map (fun r => (r.conn, r.req, r.result)) =
        [(c.conn, c.req, RESULT_LOCKED_ERROR), (w.conn, w.cmd.req, RESULT_UNLOCK_ERROR)] := by
  have hcl : classifyUnlock db c = .cancel w := by
    unfold classifyUnlock
    simp only [hl, Bool.not_true, Bool.false_and, Bool.false_eq_true, if_false, hcancel, hnone, hfirst, hw, if_true]
    by_cases h0 : (db.getKey c.key).locked = 0
    · simp only [beq_iff_eq, h0, if_true]
    · simp only [beq_iff_eq, h0, if_false]
  unfold opUnlock
  rw [hcl]
  simp only [applyUnlock]
  refine Exists.imp (fun more h => ⟨h.1, h.2, ?_⟩) (wake_out_succed _ _ _)
  rw [h.1]
  rfl

/-- Re-entrancy decision: while `h` (LockId of the request) holds the key, a plain re-lock succeeds iff
`depth ≤ Rcount ∧ depth < 255` (and the priority flag is clear). -/
theorem C02_reentrant_decision (db : DB) (c : Cmd) (h : Hold) (hl : db.leader = true)
    (hconc : has c.flag F_CONCURRENT = false) (hshow : has c.flag F_SHOW = false) (hupd : has c.flag F_UPDATE = false)
    (hlocked : (db.getKey c.key).locked > 0) (hh : findHolder (db.getKey c.key) c.lockId = some h) :
    classifyLock db c =
      if h.depth < 0xff ∧ h.depth ≤ c.rcount ∧ has c.tflag TF_PRIORITY = false then
        (if c.expried = 0 then .relockNoHold h else .relock h)
      else .relockRefused h :=
  classifyLock_of_holder db c h hl hconc hshow hupd hlocked hh

/-- A successful re-lock is answered SUCCED with the key's outstanding depth + 1 and the hold's depth + 1
(the state change is `relock_inv`: the hold's depth and the key's depth sum both grow by exactly one). -/
theorem C02_relock_effect (db : DB) (c : Cmd) (h : Hold) (hinv : DBInv db) (hb : classifyLock db c = .relock h) :
    (∃ more, (opLock db c).2 = mkReply c RESULT_SUCCED ((db.getKey c.key).locked + 1) (h.depth + 1) :: more ∧
        ∀ r ∈ more, r.result = RESULT_SUCCED) ∧
      h ∈ (db.getKey c.key).holders ∧ h.depth ≤ (db.getKey c.key).locked := by
  have hm := classifyLock_mem hb rfl
  have hk := getKey_inv hinv c.key
  refine ⟨?_, hm, hk.depth_le hm⟩
  unfold opLock
  rw [hb]
  simp only [applyLock, updateHold_depth]
  -- a wake pass follows the reply: the re-lock installs the new command, whose Count may be higher
  exact wake_out_succed _ _ _

/-- Depth ceiling: a re-lock is only ever accepted while `depth ≤ Rcount` and `depth < 255`;
so a LockId first granted with depth 1 succeeds at most `Rcount` more times (and never beyond depth 255). -/
theorem C02_depth_ceiling (db : DB) (c : Cmd) (h : Hold) (hb : classifyLock db c = .relock h) :
    h.depth ≤ c.rcount ∧ h.depth < 0xff :=
  ⟨(LockFacts.of hb).2.2.2.1, (LockFacts.of hb).2.2.1⟩

/-- Unlock decision for the hold `h` of that LockId: `Rcount > 0 ∧ depth > 1` removes one level, otherwise all. -/
theorem C02_unlock_decision (db : DB) (c : Cmd) (h : Hold) (hl : db.leader = true)
    (hlocked : (db.getKey c.key).locked ≠ 0) (hh : findHolder (db.getKey c.key) c.lockId = some h) :
    classifyUnlock db c =
      if h.depth > 1 ∧ c.rcount > 0 ∧ has c.tflag TF_PRIORITY = false then .dec h c else .release h c :=
  classifyUnlock_of_holder db c h hl hlocked hh

/-- Removing one level keeps the hold (depth − 1 ≥ 1) and lowers the key's depth by one; releasing removes the hold
and lowers it by the whole depth — the hold ends exactly when its depth reaches zero. -/
theorem C02_unlock_depth_effect (k : Key) (h : Hold) (hk : KeyInv k) (hm : h ∈ k.holders) :
    (1 < h.depth →
      depthSum (replaceHolder k.holders h { h with depth := h.depth - 1 }) + 1 = depthSum k.holders) ∧
    depthSum (removeHolder k.holders h) + h.depth = depthSum k.holders := by
  constructor
  · intro hd
    have := depthSum_replaceHolder (h' := { h with depth := h.depth - 1 }) hm
    simp only at this; omega
  · exact depthSum_removeHolder hm

def c1 : Cmd := { req := 1, conn := 1, flag := 0, lockId := 1, key := 7, tflag := 0, timeout := 0, eflag := 0, expried := 10, count := 0, rcount := 2 }
example : (findHolder ((opLock (DB.init 5) c1).1.getKey 7) 1).isSome = true ∧
    (match classifyLock (opLock (DB.init 5) c1).1 { c1 with req := 2 } with | .relock _ => true | _ => false) = true := by
  decide +kernel
example : findHolder ((DB.init 5).getKey 7) 9 = none := by decide

end Slock.C02
