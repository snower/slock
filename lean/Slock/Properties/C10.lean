import Slock.Proofs.Engine2Sect
/-!
# C10 — only the leader decides (engine part)

Over M-ENGINE stage 2 (`Slock.Engine2`, the record-level model of `LockDB.Lock` / `UnLock` / the sweepers that the
differential harness compares with the real code, non-leader phases included).

* `gate_lock`, `gate_unlock`: on a node that is not the leader a client request (no from-aof flag) is answered STATE_ERROR and changes
  nothing but the error counter and the clean-up of an EMPTY key record. Two readings to note: a LOCK with the concurrent-check flag
  and Timeout 0 is answered from the node's own state BEFORE the role is looked at (rows P0a/P0b of `Lock`; the hypothesis `hc`
  excludes them — observation F7 of the design); an UNLOCK for a key this node has no record of is answered UNLOCK_ERROR.
* `no_journal_off_leader`: while the node is not the leader, no operation — request, replicated request, timer tick — pushes a
  record to the journal channel.
* `follower_expiry_deferred`: off-leader, a journalled (`isAof`) hold that reaches its deadline is not ended: it is re-armed 30 s
  ahead, nothing is sent, its depth and the key's `locked` are unchanged — as long as `now − deadline < 300`;
  `follower_expiry_ended_only_after`: if a follower does send EXPRIED for such a hold, `now − deadline ≥ 300`.
  NOTE: the re-arm OVERWRITES the deadline with `now + 30`, so at the next visit `now − deadline` is 0 again: the 300 s
  bound is measured against the last re-arm, not against the original deadline (`follower_defers_again`: deferred again at every
  visit within 330 s of the re-arm).
-/
namespace Slock.C10
open Slock.Engine2
open Slock.Engine (has mkReply F_FROM_AOF F_CONCURRENT RESULT_STATE_ERROR RESULT_UNLOCK_ERROR RESULT_EXPRIED)

/-- the role gate of `Lock` -/
theorem gate_lock (db : DB) (c : Cmd) (data : Option Bytes) (hl : db.leader = false) (hf : has c.flag F_FROM_AOF = false)
    (hc : (has c.flag F_CONCURRENT && c.timeout == 0) = false) :
    classifyLock db c data = .stateError ∧
    (∃ d, (opLock db c data).2 = [{ r := mkReply c RESULT_STATE_ERROR (db.getKey c.key).locked 0, data := d }]) ∧
    (opLock db c data).1.ctr = db.ctr ∧ (opLock db c data).1.aofOut = db.aofOut ∧ (opLock db c data).1.leader = false ∧
    (∀ n, n ≠ c.key → (opLock db c data).1.getKey n = db.getKey n) ∧
    ((opLock db c data).1.getKey c.key = db.getKey c.key ∨
      ((db.getKey c.key).refCount = 0 ∧ (opLock db c data).1.hasKey c.key = false)) := by
  have hcl : classifyLock db c data = .stateError := by
    unfold classifyLock
    simp [hl, hf, hc]
  refine ⟨hcl, ?_⟩
  unfold opLock
  rw [hcl]
  simp only [applyLock]
  have hk : (db.enter c.key).k.key = c.key := by rw [enter_k]; exact getKey_key _ _
  obtain ⟨f1, f2, _, f4, _⟩ := create_fields db c.key
  rcases removeIfZero_cases (db.enter c.key) with e | ⟨hg, _, _, h0, hd⟩
  · -- the key record has lock records: nothing changes
    rw [e]
    have hcm : ((db.enter c.key).reply c RESULT_STATE_ERROR 0 (db.enter c.key).lockData).commit = (db.create c.key).setKey (db.getKey c.key) := by
      unfold W.commit; simp [enter_gone, enter_db, enter_k]
    rw [hcm]
    obtain ⟨s1, s2, _, s4, _⟩ := setKey_fields (db.create c.key) (db.getKey c.key)
    refine ⟨⟨_, by rw [reply_out, enter_out, enter_k]; rfl⟩, by rw [s4, f4], by rw [s2, f2], by rw [s1, f1, hl], ?_, Or.inl ?_⟩
    · intro n hn
      rw [getKey_setKey_other _ _ _ (by rw [getKey_key]; exact hn), getKey_create]
    · have := getKey_setKey_same (db.create c.key) (db.getKey c.key)
      rw [getKey_key] at this; exact this
  · -- an empty key record (just created, or left over): it is dropped again
    have hcm : ((db.enter c.key).removeIfZero.reply c RESULT_STATE_ERROR 0 (db.enter c.key).removeIfZero.lockData).commit =
        (db.create c.key).dropKey c.key := by
      unfold W.commit; simp [hg, hd, enter_db, hk]
    rw [hcm]
    obtain ⟨d1, d2, _, d4, _⟩ := dropKey_fields (db.create c.key) c.key
    refine ⟨⟨_, by rw [reply_out, removeIfZero_out, removeIfZero_locked, enter_out, enter_k]; rfl⟩, by rw [d4, f4], by rw [d2, f2],
      by rw [d1, f1, hl], ?_, Or.inr ⟨?_, hasKey_dropKey _ _⟩⟩
    · intro n hn
      rw [getKey_dropKey_other _ _ _ hn, getKey_create]
    · rw [← enter_k]; exact h0

/-- the role gate of `UnLock` -/
theorem gate_unlock (db : DB) (c : Cmd) (data : Option Bytes) (hl : db.leader = false) (hf : has c.flag F_FROM_AOF = false) :
    (classifyUnlock db c = .stateError ∨ (classifyUnlock db c = .noManager ∧ db.hasKey c.key = false)) ∧
    (∃ d res, (opUnlock db c data).2 = [{ r := mkReply c res (db.getKey c.key).locked 0, data := d }] ∧
      (res = RESULT_STATE_ERROR ∨ (res = RESULT_UNLOCK_ERROR ∧ db.hasKey c.key = false))) ∧
    (opUnlock db c data).1.ctr = { db.ctr with unlockErrorCount := db.ctr.unlockErrorCount + 1 } ∧
    (opUnlock db c data).1.aofOut = db.aofOut ∧ (opUnlock db c data).1.leader = false ∧
    (∀ n, (opUnlock db c data).1.getKey n = db.getKey n) := by
  rcases Bool.eq_false_or_eq_true (db.hasKey c.key) with hh | hh
  · have hcl : classifyUnlock db c = .stateError := by unfold classifyUnlock; simp [hh, hl, hf]
    refine ⟨Or.inl hcl, ?_⟩
    unfold opUnlock
    rw [hcl]
    simp only [applyUnlock]
    have hcm : ((db.openKey c.key).bumpErr.reply c RESULT_STATE_ERROR 0 (db.openKey c.key).lockData).commit =
        (db.openKey c.key).bumpErr.db.setKey (db.getKey c.key) := by
      unfold W.commit; simp [DB.openKey, hh]
    rw [hcm]
    obtain ⟨s1, s2, _, s4, _⟩ := setKey_fields (db.openKey c.key).bumpErr.db (db.getKey c.key)
    refine ⟨⟨_, RESULT_STATE_ERROR, rfl, Or.inl rfl⟩, by rw [s4]; rfl, by rw [s2]; rfl, by rw [s1]; exact hl, ?_⟩
    intro n
    by_cases hn : n = c.key
    · subst hn
      have := getKey_setKey_same (db.openKey c.key).bumpErr.db (db.getKey c.key)
      rw [getKey_key] at this; exact this
    · rw [getKey_setKey_other _ _ _ (by rw [getKey_key]; exact hn)]; rfl
  · have hcl : classifyUnlock db c = .noManager := by unfold classifyUnlock; simp [hh]
    refine ⟨Or.inr ⟨hcl, hh⟩, ?_⟩
    unfold opUnlock
    rw [hcl]
    simp only [applyUnlock]
    have hcm : ({ (db.openKey c.key).bumpErr with out := [{ r := mkReply c RESULT_UNLOCK_ERROR 0 0, data := none }] } : W).commit =
        (db.openKey c.key).bumpErr.db := by
      unfold W.commit; simp [DB.openKey, hh]
    rw [hcm]
    refine ⟨⟨none, RESULT_UNLOCK_ERROR, ?_, Or.inr ⟨rfl, hh⟩⟩, rfl, rfl, hl, fun n => rfl⟩
    rw [getKey_of_not_hasKey db c.key hh]; rfl

/-- a sequence during which the node never becomes leader -/
def StaysOffLeader (ops : List Op) : Prop := ∀ o ∈ ops, o ≠ .setLeader true

/-- **no journalling off-leader**: whatever happens while the node is not the leader — client requests, replicated requests, timer
ticks, expiries — not a single record is pushed to the journal channel -/
theorem no_journal_off_leader (db : DB) (ops : List Op) (hl : db.leader = false) (hs : StaysOffLeader ops) :
    (run db ops).aofOut = db.aofOut ∧ (run db ops).leader = false :=
  run_inv (I := fun d => d.aofOut = db.aofOut ∧ d.leader = false) ops (fun d o ho h => ⟨(step_journal d o h.2).trans h.1, by
    cases o with
    | lock c x => exact (opLock_journal d c x).1.trans h.2
    | unlock c x => exact (opUnlock_journal d c x).1.trans h.2
    | tick => exact (opTick_journal d).1.trans h.2
    | setLeader b =>
      cases b with
      | false => rfl
      | true => exact absurd rfl (hs _ ho)⟩) db ⟨rfl, hl⟩

/-- **the follower-side deferral**: off-leader, a journalled hold that has reached its deadline less than 300 s ago is NOT ended —
no notice, same depth, same `locked`; it is re-armed 30 s ahead -/
theorem follower_expiry_deferred (db : DB) (key rid : Nat) (hk : db.hasKey key = true) (hm : (db.getKey key).hasRec rid)
    (hs : ((db.getKey key).getR rid).eSched.isSome = true) (hl : db.leader = false) (ha : ((db.getKey key).getR rid).isAof = true) (he : ((db.getKey key).getR rid).expried = false)
    (ht : db.now - ((db.getKey key).getR rid).expT < 300) (hc : db.eCheck ≤ db.now + 30) :
    (fireExpire db key rid).2 = [] ∧
    (((fireExpire db key rid).1.getKey key).getR rid).expT = db.now + 30 ∧
    (((fireExpire db key rid).1.getKey key).getR rid).expried = false ∧
    (((fireExpire db key rid).1.getKey key).getR rid).depth = ((db.getKey key).getR rid).depth ∧
    (((fireExpire db key rid).1.getKey key).getR rid).isAof = true ∧
    (((fireExpire db key rid).1.getKey key).getR rid).eSched.isSome = true ∧
    ((fireExpire db key rid).1.getKey key).locked = (db.getKey key).locked ∧
    ((fireExpire db key rid).1.getKey key).current = (db.getKey key).current ∧
    ((fireExpire db key rid).1.getKey key).locks = (db.getKey key).locks := by
  have hd : deferExpiry db ((db.getKey key).getR rid) = true := by
    unfold deferExpiry WAIT_LEADER_MAX; simp [hl, ha]; omega
  obtain ⟨o1, o2, o3, o4, o5, o6, o7, o8⟩ := fireExpire_deferred (db.openKey key) rid hm hs hl hd he
  have hg : ((db.openKey key).fireExpire rid).gone = false := by rw [o2]; simp [DB.openKey, hk]
  have hkey : ((db.openKey key).fireExpire rid).k.key = key := by rw [o3]; exact getKey_key _ _
  have hget : (fireExpire db key rid).1.getKey key = ((db.openKey key).fireExpire rid).k := by
    unfold fireExpire W.commit
    simp only [hg, Bool.false_eq_true, if_false]
    have := getKey_setKey_same ((db.openKey key).fireExpire rid).db ((db.openKey key).fireExpire rid).k
    rw [hkey] at this; exact this
  rw [hget, o4, o5, o6, o7]
  refine ⟨by unfold fireExpire; exact o1, ?_, rfl, rfl, ha, rfl, rfl, rfl, rfl⟩
  show (Slock.Engine.wheelAdd db.eCheck db.seq (db.now + 30) ((db.getKey key).getR rid).eChecked).1 = db.now + 30
  simp only [Slock.Engine.wheelAdd]
  split
  · simp only []; split
    · omega
    · rfl
  · rfl

/-- … and ended only after: a follower that does send the EXPRIED notice for a journalled hold does so at least 300 s past the
deadline the record carries -/
theorem follower_expiry_ended_only_after (db : DB) (key rid : Nat) (hk : db.hasKey key = true) (hm : (db.getKey key).hasRec rid)
    (hs : ((db.getKey key).getR rid).eSched.isSome = true) (hl : db.leader = false) (ha : ((db.getKey key).getR rid).isAof = true) (he : ((db.getKey key).getR rid).expried = false)
    (hc : db.eCheck ≤ db.now + 30) (hr : (fireExpire db key rid).2 ≠ []) :
    300 ≤ db.now - ((db.getKey key).getR rid).expT := by
  apply Classical.byContradiction
  intro hn
  exact hr (follower_expiry_deferred db key rid hk hm hs hl ha he (by omega) hc).1

/-- a hold re-armed at `db.now` (deadline `db.now + 30`) is deferred AGAIN at any visit before `db.now + 330`: the deadline the 300 s
are measured against is the re-arm time, not the original one (the "up to 300 s" of the statement is not what the code does).
This is the one arithmetic step; that a follower therefore never ends a replicated hold on its own clock is the reading, not the
statement. -/
theorem follower_defers_again (db : DB) (r : Rec) (now' : Nat) (hl : db.leader = false) (ha : r.isAof = true)
    (hexp : r.expT = db.now + 30) (hvisit : now' < db.now + 30 + 300) :
    deferExpiry { db with now := now' } r = true := by
  unfold deferExpiry WAIT_LEADER_MAX
  simp [hl, ha, hexp]; omega

/-! ### Non-vacuity: a follower with a replicated hold of 2 s; 5 ticks later the hold is still there, re-armed -/
def c1 : Cmd := { req := 1, conn := 1, flag := 4, lockId := 1, key := 7, tflag := 0, timeout := 0, eflag := 0, expried := 2, count := 0, rcount := 0 }
def ops1 : List Op := [.setLeader false, .lock c1 none, .tick, .tick, .tick, .tick, .tick]
example : ((run (DB.init 100 0xff) ops1).getKey 7).locked = 1 ∧ (((run (DB.init 100 0xff) ops1).getKey 7).holders.map (·.expT)) = [133] ∧
    (run (DB.init 100 0xff) ops1).aofOut = [] := by decide
example : (opLock (run (DB.init 100 0xff) ops1) { c1 with req := 2, flag := 0, lockId := 2 } none).2.map (·.r.result) = [RESULT_STATE_ERROR] := by decide

end Slock.C10
