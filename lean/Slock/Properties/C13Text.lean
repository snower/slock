import Slock.Proofs.TextPanic
import Slock.Proofs.TextChunk
import Slock.Proofs.TextHandlers
import Slock.Proofs.TextValue
import Slock.Gen.TextHandlers
import Slock.Gen.DbsIndex
/-!
# C13 (text part) — no argument list crashes a text command converter

Also here: the parser on `BuildRequest` output (`parser_no_panic_on_built`), the generated tables of handler reads (`handlers_no_oob`) and
of `dbs[…]` indexes (`dbs_index_guarded`), and the value readers (`value_readers_total`).

`Conv.panic` / `FlagOut.panic` / `Run.panic` are the model's explicit images of a Go runtime
panic (index out of range); the model is compared with the real converters on every run of the check.
In `TextServerProtocol.Process` the handler runs in the connection goroutine without `recover`: a panic there ends the
server process.
-/
namespace Slock.C13T
open Slock.Text

/-- a context for the concrete witnesses (the hash is irrelevant for keys of at most 16 bytes) -/
def ctx0 : Ctx := { md5 := fun _ => List.replicate 16 0 }

/-- `ConvertTextLockAndUnLockCommand` never panics: any number of arguments, any bytes, any nesting of EXECUTE. -/
theorem convert_no_panic_lock (ctx : Ctx) (args : List Bytes) : (convertLock ctx args).isPanic = false := by
  have := convertLock_no_panic ctx args
  cases h : convertLock ctx args <;> simp_all [Conv.isPanic]

/-- `ConvertArgs2Flag` (the EX / PX / TX / PTX tails of SET, SETNX, SETEX, APPEND, INCR, DECR, …) never panics, for
every tail: the guard `i+1 >= len(args)` precedes `args[i+1]`. -/
theorem args2flag_no_panic (h : Hdr) (tail : List Bytes) : convertArgs2Flag h tail ≠ .panic :=
  argsFlag_no_panic _ _ _ _

theorem args2flag_missing_value :
    convertArgs2Flag {} [kEX] = .err "Args_Count" ∧ convertArgs2Flag {} [kNX, kPTX] = .err "Args_Count" := by decide

/-- a well-formed tail with the keyword in the last-but-one position is accepted: `XX NX EX 10` -/
theorem args2flag_accepts_valid :
    convertArgs2Flag {} [kXX, kNX, kEX, [49, 48]] =
      .ok { flag := 32, lockId := .gen, timeoutFlag := 512, expried := 10 } := by decide

/-- Inputs whose last keyword lacks its value are ordinary errors (each is replayed against the real
converter by the harness): `SET k v EX` -/
theorem set_ex_rejected : convertKeyOp ctx0 0 [kSET, [107], [118], kEX] = .err "Args_Count" := by decide
/-- `APPEND k v PX` -/
theorem append_px_rejected : convertKeyOp ctx0 0 [kAPPEND, [107], [118], kPX] = .err "Args_Count" := by decide
/-- `SETEX k 10` / `PSETEX k 10` -/
theorem setex_short_rejected : convertKeyOp ctx0 0 [kSETEX, [107], [49, 48]] = .err "Args_Count" ∧
    convertKeyOp ctx0 0 [kPSETEX, [107], [49, 48]] = .err "Args_Count" := by decide
/-- `INCR k 1 x EX` -/
theorem incr_ex_rejected : convertKeyOp ctx0 0 [kINCR, [107], [49], [120], kEX] = .err "Args_Count" := by decide

theorem withTail_no_panic (args : List Bytes) (n : Nat) (h : Hdr) (k : Hdr → Conv) (hk : ∀ h', k h' ≠ .panic) :
    withTail args n h k ≠ .panic := by
  unfold withTail
  refine ite_ne ?_ (hk h)
  have := args2flag_no_panic h (args.drop n)
  cases hc : convertArgs2Flag h (args.drop n) with
  | ok h' => exact hk h'
  | err e => nofun
  | panic => exact absurd hc this

/-- DEL, GET, STRLEN, EXISTS, TYPE, DUMP -/
theorem convert_no_panic_read (ctx : Ctx) (args : List Bytes) :
    convDel ctx args ≠ .panic ∧ convRead ctx args ≠ .panic := by
  unfold convDel convRead
  by_cases h : args.length < 2
  · simp [h]
  · simp [h, idx_lt (Nat.not_lt.mp h)]

/-- EXPIRE, PEXPIRE, PEXPIREAT, PERSIST -/
theorem convert_no_panic_expire (ctx : Ctx) (now : Int) (args : List Bytes) : convExpire ctx now args ≠ .panic := by
  unfold convExpire
  by_cases h : args.length < 3
  · simp [h]
  · rw [if_neg h, idx_lt (by omega), idx_lt (by omega), idx_lt (by omega)]
    dsimp only
    cases atoi args[2] <;> nofun

/-- SET / GETSET, SETNX, APPEND -/
theorem convert_no_panic_set (ctx : Ctx) (args : List Bytes) :
    convSet ctx args ≠ .panic ∧ convSetNX ctx args ≠ .panic ∧ convAppend ctx args ≠ .panic := by
  unfold convSet convSetNX convAppend
  by_cases h : args.length < 3
  · simp [h]
  · simp only [if_neg h, idx_lt (l := args) (i := 1) (by omega), idx_lt (l := args) (i := 2) (by omega)]
    refine ⟨?_, ?_, ?_⟩ <;> exact withTail_no_panic _ _ _ _ fun _ h => Conv.noConfusion h

/-- SETEX / PSETEX -/
theorem convert_no_panic_setex (ctx : Ctx) (args : List Bytes) : convSetEX ctx args ≠ .panic := by
  unfold convSetEX
  by_cases h : args.length < 4
  · simp [h]
  · rw [if_neg h, idx_lt (by omega), idx_lt (by omega), idx_lt (by omega), idx_lt (by omega)]
    dsimp only
    cases atoi args[2] with
    | none => nofun
    | some x => exact withTail_no_panic _ _ _ _ fun _ h => Conv.noConfusion h

/-- INCR / INCRBY / DECR / DECRBY -/
theorem convert_no_panic_incr (neg : Bool) (ctx : Ctx) (args : List Bytes) : convIncr neg ctx args ≠ .panic := by
  unfold convIncr
  by_cases h : args.length < 2
  · simp [h]
  · rw [if_neg h, idx_lt (by omega)]
    dsimp only
    by_cases hg : args.length > 2
    · rw [if_pos hg, idx_lt hg]
      dsimp only
      cases atoi args[2] with
      | none => nofun
      | some v => exact withTail_no_panic _ _ _ _ fun _ h => Conv.noConfusion h
    · rw [if_neg hg]
      exact withTail_no_panic _ _ _ _ fun _ h => Conv.noConfusion h

/-- `ConvertTextKeyOperateValueCommand` — the registry lookup followed by ANY registered converter — never panics, for
every non-empty argument list (the dispatcher found the handler by `args[0]`, so the list is non-empty), any argument
count, any bytes. -/
theorem convert_no_panic (ctx : Ctx) (now : Int) (args : List Bytes) (hne : args ≠ []) :
    convertKeyOp ctx now args ≠ .panic := by
  unfold convertKeyOp
  rw [idx_lt (List.length_pos_iff.mpr hne)]
  exact ite_ne (convertLock_no_panic ctx _) <| ite_ne (convert_no_panic_read ctx _).1 <|
    ite_ne (convert_no_panic_set ctx _).1 <| ite_ne (convert_no_panic_setex ctx _) <|
    ite_ne (convert_no_panic_set ctx _).2.1 <| ite_ne (convert_no_panic_set ctx _).2.2 <|
    ite_ne (convert_no_panic_incr _ ctx _) <| ite_ne (convert_no_panic_incr _ ctx _) <|
    ite_ne (convert_no_panic_expire ctx now _) <| ite_ne (convert_no_panic_read ctx _).2 nofun

/-- the parser's only index expression that could fail (`args[len(args)-1] +=`) is never reached on `BuildRequest`
output — (C14T.parse_build); on arbitrary bytes the model keeps the explicit `panic` outcome and the differential
check has never observed it. -/
theorem parser_no_panic_on_built (args : List Bytes) (h : sizeOK args) (l : Loc) :
    ∃ l', runBytes {} l [] (buildRequest args) = .ok [(0, args)] {} l' := by
  have := buildRun args h.1 h.2.1 h.2.2 (l := l) (acc := []) (tail := [])
  simp only [List.append_nil, List.nil_append] at this
  exact ⟨⟨some 10, .entry⟩, by rw [this]; simp [runBytes]⟩

/-- Every read `args[e]` / `args[e:]` in `TextServerProtocol.commandHandler*` and `Admin.commandHandle*` (and the local
functions they pass `args` to) is in range for ALL argument lists: the table `Slock.Gen.textHandlerReads` is regenerated
from /repo/server on every run (each read with the guards that dominate it in the source), `Read.check` is evaluated on
it, and `check_sound` lifts that to every length and every loop position. -/
theorem handlers_no_oob : ∀ r ∈ Slock.Gen.textHandlerReads, r.safe :=
  Slock.TextH.all_safe _ (by decide)

/-- a SCAN loop that reads `args[i+1]` under the guard `i < len` is (correctly) rejected by the checker … -/
example : (Slock.TextH.Read.mk "old SCAN" 0 "i+1" 1 1 [.lenGe 2, .iLtLen]).check = false := by decide
/-- … because it is unsafe: `len = 3`, `i = 2` -/
example : ¬ (Slock.TextH.Read.mk "old SCAN" 0 "i+1" 1 1 [.lenGe 2, .iLtLen]).safe := by
  intro h
  have := h 3 2 (by intro f hf; simp at hf; rcases hf with rfl | rfl <;> simp [Slock.TextH.Fact.holds])
  simp at this

/-- both registries are seen by the extractor (a renamed table would empty the list) -/
theorem handlers_registry_seen : 40 ≤ Slock.Gen.textHandlerRegistry.length := by decide

/-- Every `….dbs[e]` in the server package is in range: the table has `dbsTableSize` = 256 slots (read off NewSLock),
and each index expression is either of type uint8, the key of a `range` over the table, or — the protobuf `db_id` of the
CALL handlers LIST_LOCK / LIST_LOCKED / LIST_WAIT, a uint32 — dominated by `if e >= uint32(len(….dbs)) { return … }`.
The table is regenerated from /repo/server on every run; an unguarded wide index is emitted as `.unguarded` and this
theorem stops checking. -/
theorem dbs_index_guarded : ∀ r ∈ Slock.Gen.dbsReads, r.safe Slock.Gen.dbsTableSize :=
  Slock.TextH.dbs_all_safe _ _ (by decide)

/-- an unguarded wide index is (correctly) rejected, and is unsafe: index 256 into 256 slots -/
example : (Slock.TextH.DbsRead.mk "old LIST_LOCK" "" 0 "request.DbId" .unguarded).check 256 = false := by decide
example : ¬ (Slock.TextH.DbsRead.mk "old LIST_LOCK" "" 0 "request.DbId" .unguarded).safe 256 := by
  intro h
  have := h 256 trivial
  omega

open Slock.TextV in
/-- The value readers behind GET / STRLEN / GETSET / LOCK replies / KEYS / SCAN: on every value frame that passed the ingress check (`NewLockCommandDataFromOriginBytes`: at least 6 bytes, a declared
property section fits) — whatever its inner element / property lengths say — none of the readers indexes or slices out
of range. -/
theorem value_readers_total (d : Slock.TextV.Bytes) (h : ingressOK d = true) :
    (getString d).isPanic = false ∧ (getArray d).isPanic = false ∧ (getKV d).isPanic = false ∧
    (getProps d).isPanic = false ∧ ∀ code, (getProp d code).isPanic = false := by
  unfold ingressOK at h
  simp only [Bool.and_eq_true, decide_eq_true_eq] at h
  obtain ⟨h6, h2⟩ := h
  obtain ⟨t, fl, hh⟩ := header_some d h6
  -- the flag byte the header carries is the one the ingress check looked at
  have h5 : ∃ b : UInt8, d[5]? = some b ∧ fl = b.toNat := by
    unfold header at hh
    cases h4 : d[4]? with
    | none => simp [h4] at hh
    | some a =>
      cases h5 : d[5]? with
      | none => simp [h4, h5] at hh
      | some b =>
        simp only [h4, h5, Option.some.injEq, Prod.mk.injEq] at hh
        exact ⟨b, rfl, hh.2.symm⟩
  obtain ⟨b, hb, hfb⟩ := h5
  simp only [hb] at h2
  -- value offset: defined, and inside the frame
  have hoff : ∃ off, valueOffset d fl = .ok off ∧ off ≤ d.length := by
    unfold valueOffset
    by_cases hp : fl &&& Slock.Gen.C.LOCK_DATA_FLAG_CONTAINS_PROPERTY ≠ 0
    · have hp' : b.toNat &&& Slock.Gen.C.LOCK_DATA_FLAG_CONTAINS_PROPERTY ≠ 0 := by rw [← hfb]; exact hp
      rw [if_pos hp'] at h2
      simp only [Bool.and_eq_true, decide_eq_true_eq] at h2
      obtain ⟨h8, h3⟩ := h2
      cases hu : u16At d 6 with
      | none => simp [hu] at h3
      | some pl =>
        simp only [hu, decide_eq_true_eq] at h3
        exact ⟨pl + 8, by simp [hp], h3⟩
    · exact ⟨6, by simp [hp], h6⟩
  obtain ⟨off, ho, hle⟩ := hoff
  have hprops : (getProps d).isPanic = false := by
    unfold getProps
    simp only [hh]
    by_cases hp : fl &&& Slock.Gen.C.LOCK_DATA_FLAG_CONTAINS_PROPERTY = 0
    · simp [hp, R.isPanic]
    · simp only [hp, if_false]
      by_cases h8 : d.length < 8
      · simp [h8, R.isPanic]
      · simp only [h8, if_false]
        obtain ⟨pl, hu⟩ := u16At_some d 6 (by omega)
        simp only [hu]
        obtain ⟨ps, hl⟩ := propLoop_total d (if pl + 8 > d.length then d.length - 8 else pl) (by split <;> omega) (d.length + 1) 0 []
        simp [hl, R.isPanic]
  refine ⟨?_, ?_, ?_, hprops, ?_⟩
  · unfold getString
    simp only [hh]
    by_cases hu : t = Slock.Gen.C.LOCK_DATA_COMMAND_TYPE_UNSET
    · simp [hu, R.isPanic]
    · simp only [hu, if_false, ho]
      obtain ⟨s, hs⟩ := sliceC_some d off d.length hle (Nat.le_refl _)
      simp [hs, R.isPanic]
  · unfold getArray
    simp only [hh]
    by_cases hu : t = Slock.Gen.C.LOCK_DATA_COMMAND_TYPE_UNSET ∨ fl &&& Slock.Gen.C.LOCK_DATA_FLAG_VALUE_TYPE_ARRAY = 0
    · simp [hu, R.isPanic]
    · simp only [hu, if_false, ho]
      obtain ⟨vs, hl⟩ := arrayLoop_total d d.length off []
      simp [hl, R.isPanic]
  · unfold getKV
    simp only [hh]
    by_cases hu : t = Slock.Gen.C.LOCK_DATA_COMMAND_TYPE_UNSET ∨ fl &&& Slock.Gen.C.LOCK_DATA_FLAG_VALUE_TYPE_KV = 0
    · simp [hu, R.isPanic]
    · simp only [hu, if_false, ho]
      obtain ⟨vs, hl⟩ := kvLoop_total d d.length off []
      simp [hl, R.isPanic]
  · intro code
    unfold getProp
    cases hg : getProps d with
    | panic => simp [hg, R.isPanic] at hprops
    | ok o => cases o <;> simp [R.isPanic]

/-- the hypothesis is satisfiable by frames with hostile inner lengths: an array cell of declared length 0xffffffff,
a property entry of declared length 0xffff -/
example : Slock.TextV.ingressOK [9, 0, 0, 0, 0, 2, 255, 255, 255, 255, 7] = true := by decide
example : Slock.TextV.ingressOK [11, 0, 0, 0, 0, 16, 3, 0, 1, 255, 255, 65, 66] = true := by decide

end Slock.C13T
