import Slock.Proofs.ConnThm
import Slock.Proofs.ConnReg
/-!
# C18 — disconnect semantics: wills run once, nothing leaks or misroutes

Over M-CONN (`Slock.Model.Conn`): connections (binary / text) with their `closed` / `inited` flags, announced client id,
will queue and proxy; the server's `clients` map; events `open`, `init`, `will`, `request`, `deliver`, `close`, `admin`. The lock
engine is abstract: a will's execution is `Close` handing it to `ProcessCommad` (`Server.willLog`, `execOf s c` = the
tokens of connection `c` so handled, in order). `ProcessCommad` submits it to the engine or — `Will.self`: DbId 0xff, an
UNLOCK for a db id never created — answers it itself with UNKNOWN_DB on the closed connection, which fails ("Protocol
Closed", ignored by the loop) or reaches the re-announced connection. A pending request is a token the engine later
answers (`deliver`).
`run evs` = the state after ANY event sequence `evs` from the empty server; `registered {} evs c` = the tokens of the
`will c …` events the server accepted (answered `ok`) during `evs`, in order — defined from the events alone.

The model mirrors /repo after a1e474f (binary `Close` unregisters before it drains the wills),
66bd35e (text wills are executed; a closed text connection drops lock
results), 5edcdb1 (a proxy with the all-zero id is never looked up in `clients`), b4e3914 (the text protocol nested by a
binary ADMIN command ends like any text connection when the stream ends: its wills run, its session leaves
`protocolSessions`; `Event.admin`, `Conn.nested` / `Conn.outer`). One lifetime per commit is an `example` below.
-/
namespace Slock.C18
open Slock.Conn

/-- no event sequence makes `Close` recurse: the fatal outcome of the model (`Dest.loop` → `dead`) is unreachable -/
theorem C18_server_survives (evs : List Event) : (run evs).dead = none := (gsa_run evs).2.2

/-- **Wills run exactly once, in registration order**: after any event sequence, the will commands `Close` has executed
for a closed connection (binary or text) are exactly the registrations the server accepted for it — same tokens, same
order, same multiplicity. ALL of them, whatever the outcome of the earlier ones: a will the protocol answers itself
(and whose reply write fails) does not stop the loop (`C18_will_outcomes` gives the outcome of each). -/
theorem C18_wills_once (evs : List Event) (c : Nat) (x : Conn) (hx : (run evs).conns[c]? = some x)
    (hc : x.closed = true) : execOf (run evs) c = registered {} evs c := by
  rw [← reg_eq_registered evs c x hx]
  exact (gsa_run evs).1.willsClosed c x hx hc

/-- **Never before the close**: while a connection is open, none of its wills has reached the engine — in every state
of every event sequence. Together with `C18_wills_once` for every prefix of a lifetime: all executions happen at / after
the connection's close event. -/
theorem C18_no_will_without_close (evs : List Event) (c : Nat) (x : Conn) (hx : (run evs).conns[c]? = some x)
    (ho : x.closed = false) : execOf (run evs) c = [] :=
  (gsa_run evs).2.1.execOpen c x hx ho

/-- **At the close**: the close event of an open, unblocked connection appends its whole will queue, in queue order, to
the engine log — in that very step. -/
theorem C18_wills_run_at_close (evs : List Event) (c : Nat) (k : Cause) (x : Conn) (hx : (run evs).conns[c]? = some x)
    (ho : x.closed = false) (ha : x.awaiting = 0) (hn : x.nested = none) (hu : x.outer = none) :
    (step (run evs) (.close c k)).1.willLog = (run evs).willLog ++ (x.wills.map (·.tok)).map (fun t => (c, t)) := by
  rw [step_close (gsa_run evs).2.2, stepClose_plain hx hn hu, closeOne_do hx ho ha]
  exact doClose_all (gsa_run evs).1 hx

/-- **At the close, ADMIN mode**: when the stream of a binary connection `o` ends whose nested text protocol `n` (started
by ADMIN) is running and not blocked, the close event appends the nested protocol's whole will queue, in order, and then
the connection's own — in that very step. (A blocked nested handler defers both to its next write: `Out.deferred`,
then the `deliver` of its reply does the same through `Dest.lost`.) -/
theorem C18_admin_wills_run_at_close (evs : List Event) (o n : Nat) (k : Cause) (x y : Conn)
    (hx : (run evs).conns[o]? = some x) (hxo : x.closed = false) (hxa : x.awaiting = 0) (hxn : x.nested = some n)
    (hxu : x.outer = none) (hne : n ≠ o) (hy : (run evs).conns[n]? = some y) (hyo : y.closed = false) (hya : y.awaiting = 0) :
    (step (run evs) (.close o k)).1.willLog =
      (run evs).willLog ++ (y.wills.map (·.tok)).map (fun t => (n, t)) ++ (x.wills.map (·.tok)).map (fun t => (o, t)) := by
  rw [step_close (gsa_run evs).2.2]
  exact stepClose_admin_log (gsa_run evs) hx hxo hxa hxn hxu hne hy hyo hya

/-- **Outcome of every will** (binary connection): the close event reports, for EVERY will of the queue in order, what
happened to it — `reply = none`: submitted to the engine and queued there; `self = false`, `reply = some d`: submitted,
answered in the call, reply routed to `d`; `self = true`: answered by the protocol itself, never submitted, reply
routed to `d` (dropped unless a connection re-announced the id — `C18_routing_will_replies`). -/
theorem C18_will_outcomes (evs : List Event) (c : Nat) (k : Cause) (x : Conn) (hx : (run evs).conns[c]? = some x)
    (ho : x.closed = false) (ha : x.awaiting = 0) (hk : x.kind = .binary) (hn : x.nested = none) (hu : x.outer = none) :
    (step (run evs) (.close c k)).2 =
      .closed (x.wills.map (willOutcome (closeState (run evs) c x) c)) none := by
  rw [step_close (gsa_run evs).2.2, stepClose_plain hx hn hu, closeOne_do hx ho ha, doClose_outcomes (gsa_run evs).1 hx hk]

/-- `close (close c) = close c`: a second close event (any cause) changes nothing — no will runs twice. -/
theorem C18_close_idempotent (s : Server) (c : Nat) (k k' : Cause) :
    (step (step s (.close c k)).1 (.close c k')).1 = (step s (.close c k)).1 := by
  cases hd : s.dead with
  | some f => rw [step_dead _ f hd]; exact step_dead _ f hd
  | none =>
    rw [step_close hd]
    cases hd2 : (stepClose s c).1.dead with
    | some f => exact step_dead _ f hd2
    | none => rw [step_close hd2]; exact stepClose_idem s c hd2

/-- the registration bookkeeping: the ghost list `reg` of a connection is the list of accepted registrations -/
theorem C18_registered_spec (evs : List Event) (c : Nat) (x : Conn) (hx : (run evs).conns[c]? = some x) :
    x.reg = registered {} evs c :=
  reg_eq_registered evs c x hx

/-- **Routing**: when the engine answers token `tok` issued by connection `o` and the reply is written to connection
`d`, then either `d` is the issuer and it is still open, or the issuer is closed, it had announced a (non-zero) client
id, and `d` is ANOTHER, OPEN connection that announced the same id. Everything else is dropped (or filtered by the text
late-reply filter). -/
theorem C18_routing (evs : List Event) (tok o : Nat) (x : Conn) (d : Nat)
    (ho : aget (run evs).owner tok = some o) (hx : (run evs).conns[o]? = some x)
    (hd : (route (run evs) tok).2 = .to d) :
    (d = o ∧ x.closed = false) ∨
    (x.closed = true ∧ d ≠ o ∧ x.cid ≠ 0 ∧ x.cid ∈ x.announced ∧
      ∃ y, (run evs).conns[d]? = some y ∧ y.closed = false ∧ x.cid ∈ y.announced) :=
  route_to (gsa_run evs).1 tok o x d ho hx hd

/-- a closed connection that never announced an id gets its replies dropped — they reach nobody -/
theorem C18_routing_anonymous_dropped (evs : List Event) (tok o : Nat) (x : Conn)
    (ho : aget (run evs).owner tok = some o) (hx : (run evs).conns[o]? = some x) (hc : x.closed = true)
    (ha : x.announced = []) (d : Nat) : (route (run evs) tok).2 ≠ .to d := by
  intro hd
  rcases C18_routing evs tok o x d ho hx hd with ⟨_, h⟩ | ⟨_, _, _, h, _⟩
  · rw [hc] at h; cases h
  · rw [ha] at h; cases h

/-- **Routing of the wills' own replies**: if the `Close()` of record `c` (`closeOne`: what a close event does to a plain
connection, and to each of the two records of a connection in ADMIN mode) reports that the reply of one of its wills
was written to connection `d`, then `c` had announced an id, `d` is the connection registered under that id at that
moment, `d ≠ c`, and `d` is open. (A nested text protocol never has an id: all replies of its wills are dropped.) -/
theorem C18_routing_will_replies (evs : List Event) (c : Nat) (res : List WillRes)
    (f : Option Fatal) (r : WillRes) (d : Nat)
    (h : (closeOne (run evs) c).2 = .closed res f) (hm : r ∈ res) (hrd : r.reply = some (Dest.to d)) :
    ∃ x, (run evs).conns[c]? = some x ∧ x.inited = true ∧ aget (run evs).clients x.cid = some d ∧ d ≠ c ∧
      ∃ y, (run evs).conns[d]? = some y ∧ y.closed = false :=
  close_reply_to (gsa_run evs).1 c res f r d h hm hrd

/-- REMARK (not a violation of the property as worded — the receiver did announce the id): "announced" in `C18_routing`
is "at some point". Connection 1 adopted the proxy of closed connection 0 under id 5, then re-announced id 6;
connection 2 now holds id 5 — the next reply for connection 0's token still goes to connection 1. -/
theorem C18_routing_follows_adoption :
    (route (run [.open .binary, .init 0 5, .request 0 3, .close 0 .client, .open .binary, .init 1 5, .deliver 3,
                 .init 1 6, .open .binary, .init 2 5]) 3).2 = .to 1 ∧
    aget (run [.open .binary, .init 0 5, .request 0 3, .close 0 .client, .open .binary, .init 1 5, .deliver 3,
               .init 1 6, .open .binary, .init 2 5]).clients 5 = some 2 := by
  decide

/-- **Close touches the engine only by executing wills**: the will log after a close event is the log before plus
executed wills (of the closing connection, and of its nested text protocol in ADMIN mode — which ones and in which order:
`C18_wills_run_at_close`, `C18_admin_wills_run_at_close`), and the issuer the engine remembers for every other pending
token (queued request or hold) is unchanged: those stay exactly as valid as they were. -/
theorem C18_holds_survive (s : Server) (c : Nat) (k : Cause) :
    ∃ subs : List (Nat × Nat), (step s (.close c k)).1.willLog = s.willLog ++ subs ∧
      (∀ tok, tok ∉ subs.map (·.2) → aget (step s (.close c k)).1.owner tok = aget s.owner tok) := by
  cases hd : s.dead with
  | some f =>
    rw [step_dead _ f hd]
    exact ⟨[], by simp, fun _ _ => rfl⟩
  | none => rw [step_close hd]; exact stepClose_engine s c

/-- **No connection-layer leak**: once a connection is closed, no `clients` entry and no proxy refers to it any more. -/
theorem C18_no_leak (evs : List Event) (c : Nat) (x : Conn)
    (hx : (run evs).conns[c]? = some x) (hc : x.closed = true) :
    (∀ k, aget (run evs).clients k ≠ some c) ∧
    (∀ (o : Nat) (y : Conn), (run evs).conns[o]? = some y → y.target ≠ .conn c) :=
  closed_unreferenced (gsa_run evs).1 c x hx hc

/-- **Pending tokens stay answerable**: in every reachable state the engine can answer every token — the routing of the
reply terminates (delivered, dropped or filtered), whatever happened to the issuer. -/
theorem C18_pending_answerable (evs : List Event) (tok : Nat) : (route (run evs) tok).2 ≠ .loop :=
  route_noloop (gsa_run evs).1 tok

/-! Non-vacuity, and one lifetime per commit of the head. -/
/-- a lifetime with INIT, three wills (one queued in the engine), a same-id reconnect before the close: the wills run
in order, the immediate replies go to the reconnected connection -/
def demo : List Event :=
  [.open .binary, .init 0 7, .will 0 1 true false, .will 0 2 false false, .will 0 3 true false, .request 0 9, .open .binary, .init 1 7,
   .close 0 .protoErr]

example : execOf (run demo) 0 = [1, 2, 3] ∧ registered {} demo 0 = [1, 2, 3] := by decide
example : (runOut {} demo).getLast? = some (.closed [⟨1, false, some (.to 1)⟩, ⟨2, false, none⟩, ⟨3, false, some (.to 1)⟩] none) := by decide
example : (route (run demo) 9).2 = .to 1 ∧ aget (run demo).owner 9 = some 0 := by decide
example : (route (run (demo ++ [.close 1 .client])) 9).2 = .dropped := by decide
example : execOf (run (demo.dropLast)) 0 = [] := by decide

/-- a self-answered will in the MIDDLE (token 2: e.g. WILL_UNLOCK for a db that was never created) of an anonymous
connection: its reply write fails, the wills after it still run, all three are executed in order -/
def selfMid : List Event :=
  [.open .binary, .will 0 1 true false, .will 0 2 false true, .will 0 3 false false, .close 0 .client]

example : execOf (run selfMid) 0 = [1, 2, 3] ∧ registered {} selfMid 0 = [1, 2, 3] := by decide
example : (runOut {} selfMid).getLast? =
    some (.closed [⟨1, false, some .dropped⟩, ⟨2, true, some .dropped⟩, ⟨3, false, none⟩] none) := by decide
/-- the same with a same-id reconnect: the self-answered will's UNKNOWN_DB reply is delivered to the new connection -/
example : (runOut {} [.open .binary, .init 0 7, .will 0 1 true false, .will 0 2 false true, .will 0 3 false false,
                      .open .binary, .init 1 7, .close 0 .server]).getLast? =
    some (.closed [⟨1, false, some (.to 1)⟩, ⟨2, true, some (.to 1)⟩, ⟨3, false, none⟩] none) := by decide

/-- ADMIN: a will on the binary connection, ADMIN, two wills on the nested text protocol (record 1), the stream ends:
the nested protocol's wills run first, then the connection's own (b4e3914: tokens 2 and 3 are executed) -/
def adminLife : List Event :=
  [.open .binary, .will 0 1 true false, .admin 0, .will 1 2 true false, .will 1 3 false false, .request 1 7, .deliver 7,
   .close 1 .client]

example : execOf (run adminLife) 1 = [2, 3] ∧ execOf (run adminLife) 0 = [1] ∧
    registered {} adminLife 1 = [2, 3] ∧ registered {} adminLife 0 = [1] := by decide
example : (runOut {} adminLife).getLast? =
    some (.closed [⟨2, false, some .dropped⟩, ⟨3, false, none⟩, ⟨1, false, some .dropped⟩] none) := by decide
example : ((run adminLife).conns.map (·.closed)) = [true, true] := by decide
/-- the nested handler is blocked when the peer goes: everything waits for its reply, which is lost and ends both -/
example : (runOut {} [.open .binary, .admin 0, .will 1 2 true false, .request 1 7, .close 0 .server, .deliver 7]).drop 4 =
    [.deferred, .routedClosed (.lost 1) [⟨2, false, some .dropped⟩] none] := by decide

/-- a1e474f: INIT + two wills + disconnect — both run, their replies are dropped, the server lives -/
example : (runOut {} [.open .binary, .init 0 7, .will 0 1 true false, .will 0 2 true false, .close 0 .client]).getLast? =
    some (.closed [⟨1, false, some .dropped⟩, ⟨2, false, some .dropped⟩] none) := by decide
/-- 66bd35e: a text connection's will is executed -/
example : execOf (run [.open .text, .will 0 1 true false, .close 0 .client]) 0 = [1] := by decide
/-- 5edcdb1: a reply for a proxy with the all-zero id is not delivered to a connection that announced the all-zero id -/
example : (route (run [.open .binary, .open .binary, .request 0 5, .close 0 .client, .init 1 0]) 5).2 = .dropped := by decide

end Slock.C18
