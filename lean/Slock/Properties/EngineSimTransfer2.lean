import Slock.Properties.EngineSimReplies
import Slock.Properties.C02
import Slock.Properties.C06
/-!
# EngineSimTransfer2 — stage-1 theorems at record level (C02, C04, C05, C06, C17)

`EngineSimTransfer.lean` / `EngineSimReplies.lean` carry C01, C03, the quiescent claim of C04, the reply-history theorem of C05 and the
census of C17 down to the record-level model M-ENGINE stage 2 through the simulation `sim_run`. Here the same is done for the
stage-1 theorems that speak about

* every key of every reachable state — stated over `Engine2.Key.abs ((Engine2.run init ops).getKey n)`: the live holder / waiter records of
  the key record `n`, seen through `Rec.toHold` / `Rec.toWaiter` (which keep identity, command, connection, depth, start, deadline and the
  wheel entry);
* the scalar fields (clock, check times, record counter, STATE counters) — stated over `Engine2.abs (Engine2.run init ops)`;
* one LOCK / UNLOCK from a reachable state — stated over the replies of `Engine2.step`, value frames dropped (`Engine2.Reply.r`), through
  `step_view_lock` / `step_view_unlock` (the operation is stage 1's on `abs s`) and stage 1's effect theorem on `abs s`.

Each theorem comes with the semantic premise `RunOK init ops`, or is stated of any state stage 1 views (`View s now ops1`; `run_view`: the
state such a run ends in is one) resp. of any linked pair (`Linked s a`), and comes again, as `…_syn`, with the syntactic premises
`FrameFree ops ∧ leaderTicksFrom true ops = true` (`runOK_init_iff`, `view_syn`); RequestIds are connection-unique in both. Hypotheses a stage-1 theorem makes about
the run are carried over the record-level operations (`noShorten2`, and `noShorten_imgs`: it IS stage 1's hypothesis on the image run).

The branch-table theorems of C02 / C05 (`C02_depth_ceiling`, `C02_reentrant_decision`, `C02_unlock_decision`, `C05_zero`) are carried to the
record-level branch tables through `lock_branch_refines` / `unlock_branch_refines` (no premise on the run beyond "no value cell").
What is not transferred, and why: at the end of the file.
-/
namespace Slock.SimP
open Slock Slock.Sim
open Slock.Engine (has Rid)

/-- **C06 scheduled ahead, at record level.** After every admissible record-level run the expiry check time is `now + 1`, and under every
key the live holder records are on the expiry wheel for a second `visit ≥ now + 1`; a long-table entry is keyed by the deadline, a slot
entry satisfies `visit ≤ now + 1 + MAX_WAIT` and (server time below 2^63−1) `visit ≤ deadline + MAX_WAIT`. -/
theorem C06_scheduled_ahead_transfers (now aofTime : Nat) (ops : List Engine2.Op) (hok : RunOK (Engine2.DB.init now aofTime) ops)
    (hid : ∀ x, (issued2 ops).count x ≤ 1) :
    (Engine2.abs (Engine2.run (Engine2.DB.init now aofTime) ops)).eCheck = (Engine2.abs (Engine2.run (Engine2.DB.init now aofTime) ops)).now + 1 ∧
    ∀ n, ∀ h ∈ (Engine2.Key.abs ((Engine2.run (Engine2.DB.init now aofTime) ops).getKey n)).holders,
      (Engine2.abs (Engine2.run (Engine2.DB.init now aofTime) ops)).now + 1 ≤ h.sched.visit ∧
      (h.sched.long = true → h.sched.visit = h.expT) ∧
      (h.sched.long = false → h.sched.visit ≤ (Engine2.abs (Engine2.run (Engine2.DB.init now aofTime) ops)).now + 1 + Engine.MAX_WAIT) ∧
      ((Engine2.abs (Engine2.run (Engine2.DB.init now aofTime) ops)).now < Engine.INF_TIME → h.sched.long = false →
        h.sched.visit ≤ h.expT + Engine.MAX_WAIT) := by
  have v := run_view hok hid
  obtain ⟨h1, h2⟩ := C06.C06_scheduled_ahead now (imgs (Engine2.DB.init now aofTime) ops)
  simp only [v.equiv.now, v.equiv.eCheck, v.key]
  exact ⟨h1, Engine.KeysAll.getKey h2 fun _ _ hx => nomatch hx⟩

/-- **C06 not late (general), at record level.** At every quiescent moment a live holder record is less than `MAX_WAIT` = 8 seconds past
its deadline: `now + 1 ≤ deadline + 8` (server time below 2^63−1). -/
theorem C06_not_late_transfers (now aofTime : Nat) (ops : List Engine2.Op) (hok : RunOK (Engine2.DB.init now aofTime) ops)
    (hid : ∀ x, (issued2 ops).count x ≤ 1)
    (hT : (Engine2.abs (Engine2.run (Engine2.DB.init now aofTime) ops)).now < Engine.INF_TIME) :
    ∀ n, ∀ h ∈ (Engine2.Key.abs ((Engine2.run (Engine2.DB.init now aofTime) ops).getKey n)).holders,
      (Engine2.abs (Engine2.run (Engine2.DB.init now aofTime) ops)).now + 1 ≤ h.expT + Engine.MAX_WAIT := by
  have v := run_view hok hid
  rw [v.equiv.now] at hT ⊢
  simp only [v.key]
  exact Engine.KeysAll.getKey (C06.C06_not_late now _ hT) fun _ _ hx => nomatch hx

/-- **C06 record identity, at record level.** Under every key the `hid`s of the live holder records are pairwise distinct and below the
record counter `seq`, and every holder record sits under the key its command names. -/
theorem C06_hid_unique_transfers (now aofTime : Nat) (ops : List Engine2.Op) (hok : RunOK (Engine2.DB.init now aofTime) ops)
    (hid : ∀ x, (issued2 ops).count x ≤ 1) (n : Nat) :
    ((Engine2.Key.abs ((Engine2.run (Engine2.DB.init now aofTime) ops).getKey n)).holders.map (·.hid)).Nodup ∧
    ∀ h ∈ (Engine2.Key.abs ((Engine2.run (Engine2.DB.init now aofTime) ops).getKey n)).holders,
      h.hid < (Engine2.abs (Engine2.run (Engine2.DB.init now aofTime) ops)).seq ∧ h.cmd.key = n := by
  have v := run_view hok hid
  rw [v.equiv.seq, v.key]
  have h := Engine.KeysAll.getKey (C06.C06_hid_unique now (imgs (Engine2.DB.init now aofTime) ops)) (fun _ => ⟨List.nodup_nil, fun _ hx => nomatch hx⟩) n
  rwa [Engine.getKey_key] at h

/-- **The expiry-wheel invariant (`C06.reachable_HInv`) at record level**: a live holder record that sits in the long table is keyed by
its deadline. -/
theorem reachable_HInv_transfers (now aofTime : Nat) (ops : List Engine2.Op) (hok : RunOK (Engine2.DB.init now aofTime) ops)
    (hid : ∀ x, (issued2 ops).count x ≤ 1) (n : Nat) :
    Engine.KeyHOK (Engine2.Key.abs ((Engine2.run (Engine2.DB.init now aofTime) ops).getKey n)) :=
  transfer_key Engine.KeyHOK (fun now ops1 _ => Engine.KeysAll.getKey (C06.reachable_HInv now ops1) fun _ _ hx => nomatch hx) now aofTime ops hok hid n

theorem reachable_HInv_abs {s : Engine2.DB} {now : Nat} {ops1 : List C01.Op} (v : View s now ops1) : Engine.HInv (Engine2.abs s) :=
  fun k hk => C06.reachable_HInv now _ k (abs_keys_sub v.toLinked k hk)

/-- **C06 never early, for stage 1's collecting pass on the abstraction.** The expiry sweep of the current second, run on `abs` of a
state that stage 1 views (`View`), hands to `doExpried` only holds whose deadline has been reached. (The record-level sweep on
the leader IS that sweep, up to `Equiv`: `sim_tick`.) -/
theorem C06_not_early_transfers {s : Engine2.DB} {now : Nat} {ops1 : List C01.Op} (v : View s now ops1) :
    ∀ h ∈ (Engine.expirePass1 (Engine2.abs s) (Engine2.abs s).now).2, h.expT ≤ (Engine2.abs s).now :=
  Engine.expirePass1_due _ _ (reachable_HInv_abs v) rfl

/-- **C06 unlimited, likewise**: a hold whose deadline is ∞ is never handed to `doExpried` while server time is below 2^63−1. -/
theorem C06_unlimited_transfers {s : Engine2.DB} {now : Nat} {ops1 : List C01.Op} (v : View s now ops1) (hT : (Engine2.abs s).now < Engine.INF_TIME) :
    ∀ h ∈ (Engine.expirePass1 (Engine2.abs s) (Engine2.abs s).now).2, h.expT ≠ Engine.INF_TIME :=
  fun h hh he => absurd (C06_not_early_transfers v h hh) (by rw [he]; exact Nat.not_le.mpr hT)


/-! `C06_not_late_unshortened`: the hypothesis "no update / re-lock of key `n` moves a deadline back", over the record-level run -/

/-- stage 1's `shortens` reads the database through the key's state and the scalar fields only -/
theorem shortens_congr {a b : Engine.DB} (h : Equiv a b) (c : Engine.Cmd) : Engine.shortens a c = Engine.shortens b c := by
  unfold Engine.shortens
  rw [classifyLock_congr h c]
  cases Engine.classifyLock b c <;> simp only [(updateHold_se h.se _ _).2]

/-- no LOCK of the record-level run that updates or re-locks a hold of key `n` moves that hold's deadline back: `Engine.shortens`, asked of
the abstraction of the state the LOCK is applied to -/
def noShorten2 (n : Nat) : Engine2.DB → List Engine2.Op → Bool
  | _, [] => true
  | s, o :: os =>
    (match o with
      | .lock c _ => c.key != n || !Engine.shortens (Engine2.abs s) c
      | _ => true) && noShorten2 n (Engine2.step s o).1 os

/-- … and that IS stage 1's hypothesis `C06.noShorten` on the image run -/
theorem noShorten_imgs (n : Nat) (ops : List Engine2.Op) : ∀ (s : Engine2.DB) (a : Engine.DB), Linked s a →
    RunOK s ops → C04.FreshRun a (imgs s ops) → C06.noShorten n a (imgs s ops) = noShorten2 n s ops :=
  Linked.run_ind (M := fun s a ops => C06.noShorten n a (imgs s ops) = noShorten2 n s ops) (fun _ _ _ => rfl) (fun s a o os r _ ih => by
    simp only [imgs, C06.noShorten, noShorten2]
    rw [ih]
    cases o with
    | lock c d => simp only [img]; rw [shortens_congr r.equiv c]
    | unlock c d => rfl
    | tick => rfl
    | setLeader b => rfl) ops

/-- **C06 not late (deadline never moved back), at record level.** Along an admissible record-level run in which no update / re-lock of
key `n` moves a deadline back (`noShorten2`), every live holder record of `n` is on the wheel at or before its deadline and its deadline is
still ahead: it is never past its deadline at a quiescent moment. -/
theorem C06_not_late_unshortened_transfers (now aofTime : Nat) (ops : List Engine2.Op) (hok : RunOK (Engine2.DB.init now aofTime) ops)
    (hid : ∀ x, (issued2 ops).count x ≤ 1) (n : Nat) (hs : noShorten2 n (Engine2.DB.init now aofTime) ops = true)
    (hT : (Engine2.abs (Engine2.run (Engine2.DB.init now aofTime) ops)).now < Engine.INF_TIME) :
    ∀ h ∈ (Engine2.Key.abs ((Engine2.run (Engine2.DB.init now aofTime) ops).getKey n)).holders,
      (Engine2.abs (Engine2.run (Engine2.DB.init now aofTime) ops)).now + 1 ≤ h.sched.visit ∧ h.sched.visit ≤ h.expT ∧
      (Engine2.abs (Engine2.run (Engine2.DB.init now aofTime) ops)).now < h.expT := by
  have v := run_view hok hid
  rw [v.equiv.now] at hT ⊢
  rw [v.key]
  exact C06.C06_not_late_unshortened now _ n ((noShorten_imgs n ops _ _ (Linked.init now aofTime) hok v.fresh).trans hs) hT

/-- the same with stage 1's hypothesis stated on the image run directly -/
theorem C06_not_late_unshortened_transfers_imgs (now aofTime : Nat) (ops : List Engine2.Op) (hok : RunOK (Engine2.DB.init now aofTime) ops)
    (hid : ∀ x, (issued2 ops).count x ≤ 1) (n : Nat)
    (hs : C06.noShorten n (Engine.DB.init now) (imgs (Engine2.DB.init now aofTime) ops) = true)
    (hT : (Engine2.abs (Engine2.run (Engine2.DB.init now aofTime) ops)).now < Engine.INF_TIME) :
    ∀ h ∈ (Engine2.Key.abs ((Engine2.run (Engine2.DB.init now aofTime) ops).getKey n)).holders,
      (Engine2.abs (Engine2.run (Engine2.DB.init now aofTime) ops)).now + 1 ≤ h.sched.visit ∧ h.sched.visit ≤ h.expT ∧
      (Engine2.abs (Engine2.run (Engine2.DB.init now aofTime) ops)).now < h.expT :=
  C06_not_late_unshortened_transfers now aofTime ops hok hid n
    ((noShorten_imgs n ops _ _ (Linked.init now aofTime) hok (run_view hok hid).fresh).symm.trans hs) hT

/-- **The timeout-wheel invariant (`C05.reachable_WInv`) at record level**: the timeout check time is `now + 1`; every live queued record is
on the wheel not after its deadline, a long-table entry is keyed by the deadline. -/
theorem reachable_WInv_transfers (now aofTime : Nat) (ops : List Engine2.Op) (hok : RunOK (Engine2.DB.init now aofTime) ops)
    (hid : ∀ x, (issued2 ops).count x ≤ 1) :
    (Engine2.abs (Engine2.run (Engine2.DB.init now aofTime) ops)).tCheck = (Engine2.abs (Engine2.run (Engine2.DB.init now aofTime) ops)).now + 1 ∧
    ∀ n, ∀ w ∈ (Engine2.Key.abs ((Engine2.run (Engine2.DB.init now aofTime) ops).getKey n)).waiters, Engine.WOK w := by
  have v := run_view hok hid
  obtain ⟨h1, h2⟩ := C05.reachable_WInv now (imgs (Engine2.DB.init now aofTime) ops)
  simp only [v.equiv.now, v.equiv.tCheck, v.key]
  exact ⟨h1, fun _ w hw => h2 w (Engine.mem_getKey_waiters hw)⟩

theorem reachable_WInv_abs {s : Engine2.DB} {now : Nat} {ops1 : List C01.Op} (v : View s now ops1) : Engine.WInv (Engine2.abs s) := by
  obtain ⟨h1, h2⟩ := C05.reachable_WInv now ops1
  refine ⟨by rw [v.equiv.tCheck, v.equiv.now]; exact h1, fun w hw => ?_⟩
  obtain ⟨k, hk, hwk⟩ := Engine.mem_allW.mp hw
  exact h2 w (Engine.mem_allW.mpr ⟨k, abs_keys_sub v.toLinked k hk, hwk⟩)

/-- **C05 deadline, at record level.** A request queued on the state an admissible record-level run ends in, with timeout `T`, gets the
deadline `now + T·unit + 1` (unit = 1 s, or 60 s with the minute flag). -/
theorem C05_deadline_transfers (now aofTime : Nat) (ops : List Engine2.Op) (hok : RunOK (Engine2.DB.init now aofTime) ops)
    (hid : ∀ x, (issued2 ops).count x ≤ 1) (c : Engine.Cmd) :
    (Engine.newWaiter (Engine2.abs (Engine2.run (Engine2.DB.init now aofTime) ops)) c).timeoutT =
      (Engine2.abs (Engine2.run (Engine2.DB.init now aofTime) ops)).now + c.timeout * (if has c.tflag Engine.TF_MINUTE then 60 else 1) + 1 :=
  Engine.newWaiter_deadline _ c (reachable_WInv_abs (run_view hok hid)).1

/-- **C05 never early, for stage 1's collecting pass on the abstraction.** The timeout sweep of the current second, run on `abs` of a
state that stage 1 views (`View`), hands to `doTimeOut` only requests whose deadline has been reached. -/
theorem C05_not_early_transfers {s : Engine2.DB} {now : Nat} {ops1 : List C01.Op} (v : View s now ops1) :
    ∀ w ∈ (Engine.timeoutPass1 (Engine2.abs s) (Engine2.abs s).now).2, w.timeoutT ≤ (Engine2.abs s).now :=
  Engine.timeoutPass1_due _ _ (reachable_WInv_abs v) rfl

/-- **C05 scheduled ahead, at record level.** After every admissible record-level run the timeout check time is `now + 1`, and under every
key every live queued record is on the timeout wheel for a second `visit` with `now + 1 ≤ visit ≤ deadline`. -/
theorem C05_scheduled_ahead_transfers (now aofTime : Nat) (ops : List Engine2.Op) (hok : RunOK (Engine2.DB.init now aofTime) ops)
    (hid : ∀ x, (issued2 ops).count x ≤ 1) :
    (Engine2.abs (Engine2.run (Engine2.DB.init now aofTime) ops)).tCheck = (Engine2.abs (Engine2.run (Engine2.DB.init now aofTime) ops)).now + 1 ∧
    ∀ n, ∀ w ∈ (Engine2.Key.abs ((Engine2.run (Engine2.DB.init now aofTime) ops).getKey n)).waiters,
      (Engine2.abs (Engine2.run (Engine2.DB.init now aofTime) ops)).now + 1 ≤ w.sched.visit ∧ w.sched.visit ≤ w.timeoutT := by
  have v := run_view hok hid
  obtain ⟨h1, h2⟩ := C05.C05_scheduled_ahead now (imgs (Engine2.DB.init now aofTime) ops) v.uniq
  simp only [v.equiv.now, v.equiv.tCheck, v.key]
  exact ⟨h1, fun _ w hw => h2 w (Engine.mem_getKey_waiters hw)⟩

/-- **C05 not late, at record level.** No live queued record has a deadline `≤ now`: once the sweep of its deadline second has run, the
request is no longer queued — it has been answered. -/
theorem C05_not_late_transfers (now aofTime : Nat) (ops : List Engine2.Op) (hok : RunOK (Engine2.DB.init now aofTime) ops)
    (hid : ∀ x, (issued2 ops).count x ≤ 1) :
    ∀ n, ∀ w ∈ (Engine2.Key.abs ((Engine2.run (Engine2.DB.init now aofTime) ops).getKey n)).waiters,
      (Engine2.abs (Engine2.run (Engine2.DB.init now aofTime) ops)).now < w.timeoutT :=
  fun n w hw => have h := (C05_scheduled_ahead_transfers now aofTime ops hok hid).2 n w hw; Nat.lt_of_lt_of_le h.1 h.2

/-- … in terms of the lock records themselves: every live queued lock record of every key record has `timeoutT` ahead of server time -/
theorem C05_not_late_records {s : Engine2.DB} {now : Nat} {ops1 : List C01.Op} (v : View s now ops1) :
    ∀ n, ∀ r ∈ (s.getKey n).waiters, s.now < r.timeoutT := fun n r hr => by
  have h := (C05.C05_scheduled_ahead now ops1 v.uniq).2 r.toWaiter
    (Engine.mem_getKey_waiters (n := n) (v.key n ▸ List.mem_map_of_mem hr))
  exact Nat.lt_of_le_of_lt (Nat.le_of_eq v.equiv.now) (Nat.lt_of_lt_of_le h.1 h.2)


/-- **C17 drain, at record level.** When, in a state that stage 1 views (`View`: after every admissible record-level run), no key record has a live
holder record or a live queued record, `LockedCount` and `WaitCount` are zero. -/
theorem C17_drain_transfers {s : Engine2.DB} {now : Nat} {ops1 : List C01.Op} (v : View s now ops1)
    (hempty : ∀ n, (Engine2.Key.abs (s.getKey n)).holders = [] ∧ (Engine2.Key.abs (s.getKey n)).waiters = []) :
    (Engine2.abs s).ctr.lockedCount = 0 ∧ (Engine2.abs s).ctr.waitCount = 0 := by
  rw [v.equiv.ctr]
  refine C17.C17_drain now _ fun k hk => ?_
  rw [← Engine.getKey_of_mem v.inv.kn hk, ← v.key]
  exact hempty k.key

/-- … with hypothesis and conclusion on the records and the STATE counters themselves -/
theorem C17_drain_records {s : Engine2.DB} {now : Nat} {ops1 : List C01.Op} (v : View s now ops1) (hempty : ∀ n, (s.getKey n).holders = [] ∧ (s.getKey n).waiters = []) :
    s.ctr.lockedCount = 0 ∧ s.ctr.waitCount = 0 :=
  C17_drain_transfers v fun n => by
    unfold Engine2.Key.abs
    simp only [(hempty n).1, (hempty n).2, List.map_nil, and_self]

/-- **C17 depth census, at record level** (`C17.lockedCount_is_depth_census`, `C17.reachable_counts`): `LockedCount` is the sum, over the
keys of `abs s`, of the depths of the live holder records; `WaitCount` the number of live queued records. -/
theorem C17_depth_census_transfers {s : Engine2.DB} {now : Nat} {ops1 : List C01.Op} (v : View s now ops1) :
    (Engine2.abs s).ctr.lockedCount = ((Engine2.abs s).keys.map (fun k => (Engine.depthSum k.holders : Int))).sum ∧
    (Engine2.abs s).ctr.waitCount = ((Engine2.abs s).keys.map (fun k => (k.waiters.length : Int))).sum := by
  have kn := abs_kn v.reach
  rw [v.equiv.ctr, C17.lockedCount_is_depth_census, (C17.reachable_counts now ops1).2.2]
  exact ⟨(sum_eq_of_getKey _ (fun _ => rfl) _ _ kn v.inv.kn v.equiv.keys).symm,
    (sum_eq_of_getKey (fun k => (k.waiters.length : Int)) (fun _ => rfl) _ _ kn v.inv.kn v.equiv.keys).symm⟩

/-- **C04 no lost wake-up, at record level.** After an admissible record-level run, the first live queued record of a key record is never
admissible (`doLock` refuses it) when it does not carry the wait-when-unlocked flag or the key has something outstanding. -/
theorem C04_no_lost_wakeup_transfers (now aofTime : Nat) (ops : List Engine2.Op) (hok : RunOK (Engine2.DB.init now aofTime) ops)
    (hid : ∀ x, (issued2 ops).count x ≤ 1) (n : Nat) (w : Engine.Waiter) (rest : List Engine.Waiter)
    (hw : (Engine2.Key.abs ((Engine2.run (Engine2.DB.init now aofTime) ops).getKey n)).waiters = w :: rest)
    (hx : has w.cmd.tflag Engine.TF_WAIT_UNLOCK = false ∨ (Engine2.Key.abs ((Engine2.run (Engine2.DB.init now aofTime) ops).getKey n)).locked ≠ 0) :
    Engine.doLock (Engine2.Key.abs ((Engine2.run (Engine2.DB.init now aofTime) ops).getKey n)) w.cmd = false := by
  have v := run_view hok hid
  rw [v.key] at hw hx ⊢
  exact C04.C04_no_lost_wakeup now _ v.fresh n w rest hw hx

/-- **C04 in the vocabulary of `headAdmissible`, at record level**: an admissible head of the queue only occurs as a wait-when-unlocked
request on an unlocked key. -/
theorem C04_headAdmissible_transfers {s : Engine2.DB} {now : Nat} {ops1 : List C01.Op} (v : View s now ops1) (n : Nat) (h : Engine.headAdmissible (Engine2.Key.abs (s.getKey n)) = true) :
    (Engine2.Key.abs (s.getKey n)).locked = 0 ∧
      ∃ w rest, (Engine2.Key.abs (s.getKey n)).waiters = w :: rest ∧ has w.cmd.tflag Engine.TF_WAIT_UNLOCK = true := by
  rw [v.key] at h ⊢
  exact C04.C04_headAdmissible now _ v.fresh n h

/-- **C02 depth effect of an unlock, at record level** (`C02_unlock_depth_effect` needs `KeyInv`, which holds of the abstraction of every
key record: `C01_counter_transfers`): for a live holder record `h` of key record `n`, removing one level keeps the hold and lowers the
key's depth sum by one; releasing removes it and lowers the sum by its whole depth. -/
theorem C02_unlock_depth_effect_transfers (now aofTime : Nat) (ops : List Engine2.Op) (hok : RunOK (Engine2.DB.init now aofTime) ops)
    (hid : ∀ x, (issued2 ops).count x ≤ 1) (n : Nat) (h : Engine.Hold)
    (hm : h ∈ (Engine2.Key.abs ((Engine2.run (Engine2.DB.init now aofTime) ops).getKey n)).holders) :
    (1 < h.depth →
      Engine.depthSum (Engine.replaceHolder (Engine2.Key.abs ((Engine2.run (Engine2.DB.init now aofTime) ops).getKey n)).holders h
        { h with depth := h.depth - 1 }) + 1 =
      Engine.depthSum (Engine2.Key.abs ((Engine2.run (Engine2.DB.init now aofTime) ops).getKey n)).holders) ∧
    Engine.depthSum (Engine.removeHolder (Engine2.Key.abs ((Engine2.run (Engine2.DB.init now aofTime) ops).getKey n)).holders h) + h.depth =
      Engine.depthSum (Engine2.Key.abs ((Engine2.run (Engine2.DB.init now aofTime) ops).getKey n)).holders :=
  C02.C02_unlock_depth_effect _ h (C01_counter_transfers now aofTime ops hok hid n) hm

theorem abs_dbinv {s : Engine2.DB} {a : Engine.DB} (r : Linked s a) : Engine.DBInv (Engine2.abs s) :=
  fun k hk => r.inv.inv k (abs_keys_sub r k hk)

/-- the refused unlock, for any linked pair -/
theorem C02_unlock_refused_linked {s : Engine2.DB} {a : Engine.DB} (r : Linked s a) (c : Engine.Cmd) (hld : (Engine2.abs s).leader = true)
    (hnone : Engine.findHolder (Engine2.Key.abs (s.getKey c.key)) c.lockId = none)
    (hfirst : has c.flag Engine.UF_FIRST = false ∨ (Engine2.Key.abs (s.getKey c.key)).holders = [])
    (hcancel : has c.flag Engine.UF_CANCEL = false) :
    ∃ x, (Engine2.step s (.unlock c none)).2.map (·.r) = [x] ∧
      x.req = c.req ∧ x.conn = c.conn ∧ (x.result = Engine.RESULT_UNLOCK_ERROR ∨ x.result = Engine.RESULT_UNOWN_ERROR) ∧
      Equiv (Engine2.abs (Engine2.step s (.unlock c none)).1) (Engine.bumpErr (Engine2.abs s)) := by
  obtain ⟨e1, e2⟩ := step_view_unlock r c
  rw [← abs_is_key_local r.reach] at hnone hfirst
  obtain ⟨x, h1, h2, h3, h4⟩ := C02.C02_unlock_refused _ { c with mgr := s.hasKey c.key } (abs_dbinv r) hld hnone hfirst hcancel
  rw [h1] at e1 e2
  exact ⟨x, e2, h2, h3, h4, e1⟩

/-- **C02 refused unlock, at record level.** On the leader, an UNLOCK that names no live holder record of its key (and neither asks for
unlock-first on a held key nor for cancel-wait) gets exactly one reply, UNLOCK_ERROR or UNOWN_ERROR, under its own RequestId on its own
connection, and — up to `Equiv` — changes nothing but the error counter. -/
theorem C02_unlock_refused_transfers (now aofTime : Nat) (ops : List Engine2.Op) (hok : RunOK (Engine2.DB.init now aofTime) ops)
    (hid : ∀ x, (issued2 ops).count x ≤ 1) (c : Engine.Cmd)
    (hld : (Engine2.abs (Engine2.run (Engine2.DB.init now aofTime) ops)).leader = true)
    (hnone : Engine.findHolder (Engine2.Key.abs ((Engine2.run (Engine2.DB.init now aofTime) ops).getKey c.key)) c.lockId = none)
    (hfirst : has c.flag Engine.UF_FIRST = false ∨
      (Engine2.Key.abs ((Engine2.run (Engine2.DB.init now aofTime) ops).getKey c.key)).holders = [])
    (hcancel : has c.flag Engine.UF_CANCEL = false) :
    ∃ r, (Engine2.step (Engine2.run (Engine2.DB.init now aofTime) ops) (.unlock c none)).2.map (·.r) = [r] ∧
      r.req = c.req ∧ r.conn = c.conn ∧ (r.result = Engine.RESULT_UNLOCK_ERROR ∨ r.result = Engine.RESULT_UNOWN_ERROR) ∧
      Equiv (Engine2.abs (Engine2.step (Engine2.run (Engine2.DB.init now aofTime) ops) (.unlock c none)).1)
        (Engine.bumpErr (Engine2.abs (Engine2.run (Engine2.DB.init now aofTime) ops))) :=
  C02_unlock_refused_linked (run_view hok hid).toLinked c hld hnone hfirst hcancel

/-- cancel-wait, for any linked pair -/
theorem C02_cancel_wait_linked {s : Engine2.DB} {a : Engine.DB} (r : Linked s a) (c : Engine.Cmd) (w : Engine.Waiter) (hld : (Engine2.abs s).leader = true)
    (hnone : Engine.findHolder (Engine2.Key.abs (s.getKey c.key)) c.lockId = none)
    (hfirst : has c.flag Engine.UF_FIRST = false) (hcancel : has c.flag Engine.UF_CANCEL = true)
    (hw : Engine.findCancel (Engine2.Key.abs (s.getKey c.key)).waiters c.lockId = some w) :
    ∃ more, (Engine2.step s (.unlock c none)).2.map (·.r) =
        [Engine.mkReply c Engine.RESULT_LOCKED_ERROR (s.getKey c.key).locked 0,
         Engine.mkReply { w.cmd with conn := w.conn } Engine.RESULT_UNLOCK_ERROR (s.getKey c.key).locked 0] ++ more ∧
      (∀ x ∈ more, x.result = Engine.RESULT_SUCCED) ∧
      ((Engine2.step s (.unlock c none)).2.take 2).map (fun x => (x.r.conn, x.r.req, x.r.result)) =
        [(c.conn, c.req, Engine.RESULT_LOCKED_ERROR), (w.conn, w.cmd.req, Engine.RESULT_UNLOCK_ERROR)] := by
  obtain ⟨_, e2⟩ := step_view_unlock r c
  rw [← abs_is_key_local r.reach] at hnone hw
  obtain ⟨more, h1, h2, h3⟩ := C02.C02_cancel_wait _ { c with mgr := s.hasKey c.key } w hld hnone hfirst hcancel hw
  rw [← e2] at h1 h3
  refine ⟨more, ?_, h2, ?_⟩
  · rw [h1, abs_is_key_local r.reach]; rfl
  · rw [← h3, ← List.map_take, List.map_map]; rfl

/-- **C02 cancel-wait, at record level.** On the leader, an UNLOCK with cancel-wait (no unlock-first) that names no live holder record but
a live queued record `w` (the LAST one bearing that LockId) is answered LOCKED_ERROR, the cancelled request UNLOCK_ERROR; what may follow are
grants (SUCCED) of the wake pass. -/
theorem C02_cancel_wait_transfers (now aofTime : Nat) (ops : List Engine2.Op) (hok : RunOK (Engine2.DB.init now aofTime) ops)
    (hid : ∀ x, (issued2 ops).count x ≤ 1) (c : Engine.Cmd) (w : Engine.Waiter)
    (hld : (Engine2.abs (Engine2.run (Engine2.DB.init now aofTime) ops)).leader = true)
    (hnone : Engine.findHolder (Engine2.Key.abs ((Engine2.run (Engine2.DB.init now aofTime) ops).getKey c.key)) c.lockId = none)
    (hfirst : has c.flag Engine.UF_FIRST = false) (hcancel : has c.flag Engine.UF_CANCEL = true)
    (hw : Engine.findCancel (Engine2.Key.abs ((Engine2.run (Engine2.DB.init now aofTime) ops).getKey c.key)).waiters c.lockId = some w) :
    ∃ more, (Engine2.step (Engine2.run (Engine2.DB.init now aofTime) ops) (.unlock c none)).2.map (·.r) =
        [Engine.mkReply c Engine.RESULT_LOCKED_ERROR ((Engine2.run (Engine2.DB.init now aofTime) ops).getKey c.key).locked 0,
         Engine.mkReply { w.cmd with conn := w.conn } Engine.RESULT_UNLOCK_ERROR
           ((Engine2.run (Engine2.DB.init now aofTime) ops).getKey c.key).locked 0] ++ more ∧
      (∀ r ∈ more, r.result = Engine.RESULT_SUCCED) ∧
      ((Engine2.step (Engine2.run (Engine2.DB.init now aofTime) ops) (.unlock c none)).2.take 2).map (fun r => (r.r.conn, r.r.req, r.r.result)) =
        [(c.conn, c.req, Engine.RESULT_LOCKED_ERROR), (w.conn, w.cmd.req, Engine.RESULT_UNLOCK_ERROR)] :=
  C02_cancel_wait_linked (run_view hok hid).toLinked c w hld hnone hfirst hcancel hw

/-- the effect of a re-lock, for any linked pair -/
theorem C02_relock_effect_linked {s : Engine2.DB} {a : Engine.DB} (r : Linked s a) (c : Engine.Cmd) (h : Engine.Hold) (hcell : (s.getKey c.key).cell = none)
    (hb : Engine.classifyLock (Engine2.abs s) c = .relock h) :
    (∃ more, (Engine2.step s (.lock c none)).2.map (·.r) =
        Engine.mkReply c Engine.RESULT_SUCCED ((s.getKey c.key).locked + 1) (h.depth + 1) :: more ∧
        ∀ x ∈ more, x.result = Engine.RESULT_SUCCED) ∧
      h ∈ (Engine2.Key.abs (s.getKey c.key)).holders ∧ h.depth ≤ (s.getKey c.key).locked := by
  have h1 := C02.C02_relock_effect _ c h (abs_dbinv r) hb
  rwa [← (step_view_lock r c hcell).2, abs_is_key_local r.reach] at h1

/-- **C02 effect of a re-lock, at record level.** When the LOCK is a successful re-lock of the live holder record `h` (stage 1's branch table
on `abs s`; the record-level table is the same: `lock_branch_refines`), the first reply is SUCCED to the requester with LCount = the key's
outstanding depth + 1 and LRCount = the hold's depth + 1; what may follow are grants of the wake pass. -/
theorem C02_relock_effect_transfers (now aofTime : Nat) (ops : List Engine2.Op) (hok : RunOK (Engine2.DB.init now aofTime) ops)
    (hid : ∀ x, (issued2 ops).count x ≤ 1) (c : Engine.Cmd) (h : Engine.Hold)
    (hcell : ((Engine2.run (Engine2.DB.init now aofTime) ops).getKey c.key).cell = none)
    (hb : Engine.classifyLock (Engine2.abs (Engine2.run (Engine2.DB.init now aofTime) ops)) c = .relock h) :
    (∃ more, (Engine2.step (Engine2.run (Engine2.DB.init now aofTime) ops) (.lock c none)).2.map (·.r) =
        Engine.mkReply c Engine.RESULT_SUCCED (((Engine2.run (Engine2.DB.init now aofTime) ops).getKey c.key).locked + 1) (h.depth + 1) :: more ∧
        ∀ r ∈ more, r.result = Engine.RESULT_SUCCED) ∧
      h ∈ (Engine2.Key.abs ((Engine2.run (Engine2.DB.init now aofTime) ops).getKey c.key)).holders ∧
      h.depth ≤ ((Engine2.run (Engine2.DB.init now aofTime) ops).getKey c.key).locked :=
  C02_relock_effect_linked (run_view hok hid).toLinked c h hcell hb

/-- **C05 zero timeout, at record level.** When stage 1's branch table on `abs s` answers the LOCK with TIMEOUT (a request that cannot be
granted and has Timeout 0 — it is never queued: `C05_zero`), the record-level LOCK replies TIMEOUT to the requester and nothing changes. -/
theorem C05_zero_effect_transfers {s : Engine2.DB} {a : Engine.DB} (r : Linked s a) (c : Engine.Cmd) (hcell : (s.getKey c.key).cell = none)
    (hb : Engine.classifyLock (Engine2.abs s) c = .timeout) :
    (Engine2.step s (.lock c none)).2.map (·.r) = [Engine.mkReply c Engine.RESULT_TIMEOUT (s.getKey c.key).locked 0] ∧
    Equiv (Engine2.abs (Engine2.step s (.lock c none)).1) (Engine2.abs s) := by
  obtain ⟨e1, e2⟩ := step_view_lock r c hcell
  rw [C05.C05_zero_effect _ c hb] at e1 e2
  rw [abs_is_key_local r.reach] at e2
  exact ⟨e2, e1⟩

/-- **C17 LCount of a direct grant, at record level**: the LCount of the reply to a direct grant is the depth sum of the key record's live
holder records right after the grant (mod 2^16). -/
theorem C17_lcount_grant_transfers {s : Engine2.DB} {a : Engine.DB} (r : Linked s a) (c : Engine.Cmd) (hcell : (s.getKey c.key).cell = none)
    (hb : Engine.classifyLock (Engine2.abs s) c = .grant) :
    ∃ rest, (Engine2.step s (.lock c none)).2.map (·.r) =
      Engine.mkReply c Engine.RESULT_SUCCED (Engine.depthSum (Engine2.Key.abs (s.getKey c.key)).holders + 1) 1 :: rest := by
  have h1 := C17.C17_lcount_grant _ c (abs_dbinv r) hb
  rwa [← (step_view_lock r c hcell).2, abs_is_key_local r.reach] at h1

/-- **C17 LCount of a releasing unlock, at record level**: the depth sum of the live holder records after the release. -/
theorem C17_lcount_release_transfers {s : Engine2.DB} {a : Engine.DB} (r : Linked s a) (c c' : Engine.Cmd) (h : Engine.Hold)
    (hb : Engine.classifyUnlock (Engine2.abs s) { c with mgr := s.hasKey c.key } = .release h c') :
    ∃ rest, (Engine2.step s (.unlock c none)).2.map (·.r) =
      Engine.mkReply c' Engine.RESULT_SUCCED (Engine.depthSum (Engine.removeHolder (Engine2.Key.abs (s.getKey c.key)).holders h)) 0 :: rest := by
  have h1 := C17.C17_lcount_release _ _ c' h (abs_dbinv r) hb
  rwa [← (step_view_unlock r c).2, abs_is_key_local r.reach] at h1


/-! the branch-table theorems of C02 / C05, for the record-level branch table

`lock_branch_refines` / `unlock_branch_refines`: in every reachable record-level state the branch the record-level LOCK / UNLOCK takes is,
under `abs`, the branch stage 1 takes on `abs s`. So what stage 1 proves of its branch table holds of the record-level one. These need no
premise on the run beyond "the addressed key record has no value cell" (LOCK); the `_syn` forms derive it from `FrameFree ops`. -/

/-- **C02 depth ceiling, at record level.** The record-level LOCK takes the re-lock branch on lock record `rid` only while that record's
depth is `≤ Rcount` and `< 255`. -/
theorem C02_depth_ceiling_transfers {s : Engine2.DB} (hr : Reachable2 s) (c : Engine.Cmd) (hcell : (s.getKey c.key).cell = none) (rid : Nat)
    (hb : Engine2.classifyLock s c none = .relock rid) :
    ((s.getKey c.key).getR rid).depth ≤ c.rcount ∧ ((s.getKey c.key).getR rid).depth < 0xff :=
  C02.C02_depth_ceiling (Engine2.abs s) c _ (hb ▸ lock_branch_refines hr c hcell fun _ => wait_priority_refines hr c)

/-- **C05 zero timeout, at record level.** A LOCK with Timeout 0 never takes the queueing branch of the record-level branch table. -/
theorem C05_zero_transfers {s : Engine2.DB} (hr : Reachable2 s) (c : Engine.Cmd) (hcell : (s.getKey c.key).cell = none) (h0 : c.timeout = 0) :
    Engine2.classifyLock s c none ≠ .queue :=
  fun hb => C05.C05_zero (Engine2.abs s) c h0 (hb ▸ lock_branch_refines hr c hcell fun _ => wait_priority_refines hr c :)

/-- **C02 re-entrancy decision, at record level.** On the leader, while a live holder record `h` with the request's LockId holds the key, a
plain LOCK (no concurrent-check / show / update flag) takes, in the record-level branch table, the re-lock branch iff
`depth < 255 ∧ depth ≤ Rcount` and the priority flag is clear — otherwise it is refused. -/
theorem C02_reentrant_decision_transfers {s : Engine2.DB} (hr : Reachable2 s) (c : Engine.Cmd) (hcell : (s.getKey c.key).cell = none)
    (h : Engine.Hold) (hl : s.leader = true)
    (hconc : has c.flag Engine.F_CONCURRENT = false) (hshow : has c.flag Engine.F_SHOW = false) (hupd : has c.flag Engine.F_UPDATE = false)
    (hlocked : (s.getKey c.key).locked > 0) (hh : Engine.findHolder (Engine2.Key.abs (s.getKey c.key)) c.lockId = some h) :
    absLB (s.getKey c.key) (Engine2.classifyLock s c none) =
      if h.depth < 0xff ∧ h.depth ≤ c.rcount ∧ has c.tflag Engine.TF_PRIORITY = false then
        (if c.expried = 0 then .relockNoHold h else .relock h)
      else .relockRefused h := by
  rw [← lock_branch_refines hr c hcell (fun _ => wait_priority_refines hr c)]
  refine C02.C02_reentrant_decision (Engine2.abs s) c h hl hconc hshow hupd ?_ ?_
  · rw [abs_is_key_local hr]; exact hlocked
  · rw [abs_is_key_local hr]; exact hh

/-- **C02 unlock decision, at record level.** On the leader, for the live holder record `h` of the UNLOCK's LockId: `Rcount > 0 ∧ depth > 1`
(priority flag clear) removes one level, otherwise the whole hold is released — in the record-level branch table. -/
theorem C02_unlock_decision_transfers {s : Engine2.DB} (hr : Reachable2 s) (c : Engine.Cmd) (h : Engine.Hold) (hl : s.leader = true)
    (hlocked : (s.getKey c.key).locked ≠ 0) (hh : Engine.findHolder (Engine2.Key.abs (s.getKey c.key)) c.lockId = some h) :
    absUB (s.getKey c.key) c (Engine2.classifyUnlock s c) =
      if h.depth > 1 ∧ c.rcount > 0 ∧ has c.tflag Engine.TF_PRIORITY = false then .dec h { c with mgr := s.hasKey c.key }
      else .release h { c with mgr := s.hasKey c.key } := by
  rw [← unlock_branch_refines hr c]
  refine C02.C02_unlock_decision (Engine2.abs s) { c with mgr := s.hasKey c.key } h hl ?_ ?_
  · rw [abs_is_key_local hr]; exact hlocked
  · rw [abs_is_key_local hr]; exact hh

theorem C02_depth_ceiling_transfers_syn (now aofTime : Nat) (ops : List Engine2.Op) (hf : FrameFree ops) (c : Engine.Cmd) (rid : Nat)
    (hb : Engine2.classifyLock (Engine2.run (Engine2.DB.init now aofTime) ops) c none = .relock rid) :
    (((Engine2.run (Engine2.DB.init now aofTime) ops).getKey c.key).getR rid).depth ≤ c.rcount ∧
    (((Engine2.run (Engine2.DB.init now aofTime) ops).getKey c.key).getR rid).depth < 0xff :=
  C02_depth_ceiling_transfers ⟨now, aofTime, ops, rfl⟩ c (frameFree_cell_none now aofTime ops hf c.key).1 rid hb

theorem C05_zero_transfers_syn (now aofTime : Nat) (ops : List Engine2.Op) (hf : FrameFree ops) (c : Engine.Cmd) (h0 : c.timeout = 0) :
    Engine2.classifyLock (Engine2.run (Engine2.DB.init now aofTime) ops) c none ≠ .queue :=
  C05_zero_transfers ⟨now, aofTime, ops, rfl⟩ c (frameFree_cell_none now aofTime ops hf c.key).1 h0

theorem C02_reentrant_decision_transfers_syn (now aofTime : Nat) (ops : List Engine2.Op) (hf : FrameFree ops) (c : Engine.Cmd)
    (h : Engine.Hold) (hl : (Engine2.run (Engine2.DB.init now aofTime) ops).leader = true)
    (hconc : has c.flag Engine.F_CONCURRENT = false) (hshow : has c.flag Engine.F_SHOW = false) (hupd : has c.flag Engine.F_UPDATE = false)
    (hlocked : ((Engine2.run (Engine2.DB.init now aofTime) ops).getKey c.key).locked > 0)
    (hh : Engine.findHolder (Engine2.Key.abs ((Engine2.run (Engine2.DB.init now aofTime) ops).getKey c.key)) c.lockId = some h) :
    absLB ((Engine2.run (Engine2.DB.init now aofTime) ops).getKey c.key)
        (Engine2.classifyLock (Engine2.run (Engine2.DB.init now aofTime) ops) c none) =
      if h.depth < 0xff ∧ h.depth ≤ c.rcount ∧ has c.tflag Engine.TF_PRIORITY = false then
        (if c.expried = 0 then .relockNoHold h else .relock h)
      else .relockRefused h :=
  C02_reentrant_decision_transfers ⟨now, aofTime, ops, rfl⟩ c (frameFree_cell_none now aofTime ops hf c.key).1 h hl hconc hshow hupd hlocked hh


/-! the premise "the key record has no value cell" of the single-LOCK theorems is discharged by `frameFree_cell_none` -/

theorem view_syn {now aofTime : Nat} {ops : List Engine2.Op} (hf : FrameFree ops) (hl : leaderTicksFrom true ops = true)
    (hid : ∀ x, (issued2 ops).count x ≤ 1) : View (Engine2.run (Engine2.DB.init now aofTime) ops) now (imgs (Engine2.DB.init now aofTime) ops) :=
  run_view (runOK_syn hf hl) hid

theorem run_view_syn (now aofTime : Nat) (ops : List Engine2.Op) (hf : FrameFree ops) (hl : leaderTicksFrom true ops = true)
    (hid : ∀ x, (issued2 ops).count x ≤ 1) :
    Equiv (Engine2.abs (Engine2.run (Engine2.DB.init now aofTime) ops))
      (C01.run (Engine.DB.init now) (imgs (Engine2.DB.init now aofTime) ops)) ∧
    Inv1 (C01.run (Engine.DB.init now) (imgs (Engine2.DB.init now aofTime) ops)) ∧
    (∀ x, (C03.issued (imgs (Engine2.DB.init now aofTime) ops)).count x ≤ 1) :=
  have v := view_syn hf hl hid
  ⟨v.equiv, v.inv, v.uniq⟩

theorem C06_scheduled_ahead_transfers_syn (now aofTime : Nat) (ops : List Engine2.Op) (hf : FrameFree ops) (hl : leaderTicksFrom true ops = true)
    (hid : ∀ x, (issued2 ops).count x ≤ 1) :
    (Engine2.abs (Engine2.run (Engine2.DB.init now aofTime) ops)).eCheck = (Engine2.abs (Engine2.run (Engine2.DB.init now aofTime) ops)).now + 1 ∧
    ∀ n, ∀ h ∈ (Engine2.Key.abs ((Engine2.run (Engine2.DB.init now aofTime) ops).getKey n)).holders,
      (Engine2.abs (Engine2.run (Engine2.DB.init now aofTime) ops)).now + 1 ≤ h.sched.visit ∧
      (h.sched.long = true → h.sched.visit = h.expT) ∧
      (h.sched.long = false → h.sched.visit ≤ (Engine2.abs (Engine2.run (Engine2.DB.init now aofTime) ops)).now + 1 + Engine.MAX_WAIT) ∧
      ((Engine2.abs (Engine2.run (Engine2.DB.init now aofTime) ops)).now < Engine.INF_TIME → h.sched.long = false →
        h.sched.visit ≤ h.expT + Engine.MAX_WAIT) :=
  C06_scheduled_ahead_transfers now aofTime ops (runOK_syn hf hl) hid

theorem C06_not_late_transfers_syn (now aofTime : Nat) (ops : List Engine2.Op) (hf : FrameFree ops) (hl : leaderTicksFrom true ops = true)
    (hid : ∀ x, (issued2 ops).count x ≤ 1) (hT : (Engine2.abs (Engine2.run (Engine2.DB.init now aofTime) ops)).now < Engine.INF_TIME) :
    ∀ n, ∀ h ∈ (Engine2.Key.abs ((Engine2.run (Engine2.DB.init now aofTime) ops).getKey n)).holders,
      (Engine2.abs (Engine2.run (Engine2.DB.init now aofTime) ops)).now + 1 ≤ h.expT + Engine.MAX_WAIT :=
  C06_not_late_transfers now aofTime ops (runOK_syn hf hl) hid hT

theorem C06_hid_unique_transfers_syn (now aofTime : Nat) (ops : List Engine2.Op) (hf : FrameFree ops) (hl : leaderTicksFrom true ops = true)
    (hid : ∀ x, (issued2 ops).count x ≤ 1) (n : Nat) :
    ((Engine2.Key.abs ((Engine2.run (Engine2.DB.init now aofTime) ops).getKey n)).holders.map (·.hid)).Nodup ∧
    ∀ h ∈ (Engine2.Key.abs ((Engine2.run (Engine2.DB.init now aofTime) ops).getKey n)).holders,
      h.hid < (Engine2.abs (Engine2.run (Engine2.DB.init now aofTime) ops)).seq ∧ h.cmd.key = n :=
  C06_hid_unique_transfers now aofTime ops (runOK_syn hf hl) hid n

theorem reachable_HInv_transfers_syn (now aofTime : Nat) (ops : List Engine2.Op) (hf : FrameFree ops) (hl : leaderTicksFrom true ops = true)
    (hid : ∀ x, (issued2 ops).count x ≤ 1) (n : Nat) :
    Engine.KeyHOK (Engine2.Key.abs ((Engine2.run (Engine2.DB.init now aofTime) ops).getKey n)) :=
  reachable_HInv_transfers now aofTime ops (runOK_syn hf hl) hid n

theorem C06_not_early_transfers_syn (now aofTime : Nat) (ops : List Engine2.Op) (hf : FrameFree ops) (hl : leaderTicksFrom true ops = true)
    (hid : ∀ x, (issued2 ops).count x ≤ 1) :
    ∀ h ∈ (Engine.expirePass1 (Engine2.abs (Engine2.run (Engine2.DB.init now aofTime) ops))
        (Engine2.abs (Engine2.run (Engine2.DB.init now aofTime) ops)).now).2,
      h.expT ≤ (Engine2.abs (Engine2.run (Engine2.DB.init now aofTime) ops)).now :=
  C06_not_early_transfers (view_syn hf hl hid)

theorem C06_unlimited_transfers_syn (now aofTime : Nat) (ops : List Engine2.Op) (hf : FrameFree ops) (hl : leaderTicksFrom true ops = true)
    (hid : ∀ x, (issued2 ops).count x ≤ 1) (hT : (Engine2.abs (Engine2.run (Engine2.DB.init now aofTime) ops)).now < Engine.INF_TIME) :
    ∀ h ∈ (Engine.expirePass1 (Engine2.abs (Engine2.run (Engine2.DB.init now aofTime) ops))
        (Engine2.abs (Engine2.run (Engine2.DB.init now aofTime) ops)).now).2,
      h.expT ≠ Engine.INF_TIME :=
  C06_unlimited_transfers (view_syn hf hl hid) hT

theorem C06_not_late_unshortened_transfers_syn (now aofTime : Nat) (ops : List Engine2.Op) (hf : FrameFree ops) (hl : leaderTicksFrom true ops = true)
    (hid : ∀ x, (issued2 ops).count x ≤ 1) (n : Nat) (hs : noShorten2 n (Engine2.DB.init now aofTime) ops = true)
    (hT : (Engine2.abs (Engine2.run (Engine2.DB.init now aofTime) ops)).now < Engine.INF_TIME) :
    ∀ h ∈ (Engine2.Key.abs ((Engine2.run (Engine2.DB.init now aofTime) ops).getKey n)).holders,
      (Engine2.abs (Engine2.run (Engine2.DB.init now aofTime) ops)).now + 1 ≤ h.sched.visit ∧ h.sched.visit ≤ h.expT ∧
      (Engine2.abs (Engine2.run (Engine2.DB.init now aofTime) ops)).now < h.expT :=
  C06_not_late_unshortened_transfers now aofTime ops (runOK_syn hf hl) hid n hs hT

theorem reachable_WInv_transfers_syn (now aofTime : Nat) (ops : List Engine2.Op) (hf : FrameFree ops) (hl : leaderTicksFrom true ops = true)
    (hid : ∀ x, (issued2 ops).count x ≤ 1) :
    (Engine2.abs (Engine2.run (Engine2.DB.init now aofTime) ops)).tCheck = (Engine2.abs (Engine2.run (Engine2.DB.init now aofTime) ops)).now + 1 ∧
    ∀ n, ∀ w ∈ (Engine2.Key.abs ((Engine2.run (Engine2.DB.init now aofTime) ops).getKey n)).waiters, Engine.WOK w :=
  reachable_WInv_transfers now aofTime ops (runOK_syn hf hl) hid

theorem C05_deadline_transfers_syn (now aofTime : Nat) (ops : List Engine2.Op) (hf : FrameFree ops) (hl : leaderTicksFrom true ops = true)
    (hid : ∀ x, (issued2 ops).count x ≤ 1) (c : Engine.Cmd) :
    (Engine.newWaiter (Engine2.abs (Engine2.run (Engine2.DB.init now aofTime) ops)) c).timeoutT =
      (Engine2.abs (Engine2.run (Engine2.DB.init now aofTime) ops)).now + c.timeout * (if has c.tflag Engine.TF_MINUTE then 60 else 1) + 1 :=
  C05_deadline_transfers now aofTime ops (runOK_syn hf hl) hid c

theorem C05_not_early_transfers_syn (now aofTime : Nat) (ops : List Engine2.Op) (hf : FrameFree ops) (hl : leaderTicksFrom true ops = true)
    (hid : ∀ x, (issued2 ops).count x ≤ 1) :
    ∀ w ∈ (Engine.timeoutPass1 (Engine2.abs (Engine2.run (Engine2.DB.init now aofTime) ops))
        (Engine2.abs (Engine2.run (Engine2.DB.init now aofTime) ops)).now).2,
      w.timeoutT ≤ (Engine2.abs (Engine2.run (Engine2.DB.init now aofTime) ops)).now :=
  C05_not_early_transfers (view_syn hf hl hid)

theorem C05_scheduled_ahead_transfers_syn (now aofTime : Nat) (ops : List Engine2.Op) (hf : FrameFree ops) (hl : leaderTicksFrom true ops = true)
    (hid : ∀ x, (issued2 ops).count x ≤ 1) :
    (Engine2.abs (Engine2.run (Engine2.DB.init now aofTime) ops)).tCheck = (Engine2.abs (Engine2.run (Engine2.DB.init now aofTime) ops)).now + 1 ∧
    ∀ n, ∀ w ∈ (Engine2.Key.abs ((Engine2.run (Engine2.DB.init now aofTime) ops).getKey n)).waiters,
      (Engine2.abs (Engine2.run (Engine2.DB.init now aofTime) ops)).now + 1 ≤ w.sched.visit ∧ w.sched.visit ≤ w.timeoutT :=
  C05_scheduled_ahead_transfers now aofTime ops (runOK_syn hf hl) hid

theorem C05_not_late_transfers_syn (now aofTime : Nat) (ops : List Engine2.Op) (hf : FrameFree ops) (hl : leaderTicksFrom true ops = true)
    (hid : ∀ x, (issued2 ops).count x ≤ 1) :
    ∀ n, ∀ w ∈ (Engine2.Key.abs ((Engine2.run (Engine2.DB.init now aofTime) ops).getKey n)).waiters,
      (Engine2.abs (Engine2.run (Engine2.DB.init now aofTime) ops)).now < w.timeoutT :=
  C05_not_late_transfers now aofTime ops (runOK_syn hf hl) hid

theorem C05_not_late_records_syn (now aofTime : Nat) (ops : List Engine2.Op) (hf : FrameFree ops) (hl : leaderTicksFrom true ops = true)
    (hid : ∀ x, (issued2 ops).count x ≤ 1) :
    ∀ n, ∀ r ∈ ((Engine2.run (Engine2.DB.init now aofTime) ops).getKey n).waiters,
      (Engine2.run (Engine2.DB.init now aofTime) ops).now < r.timeoutT :=
  C05_not_late_records (view_syn hf hl hid)

theorem C17_drain_transfers_syn (now aofTime : Nat) (ops : List Engine2.Op) (hf : FrameFree ops) (hl : leaderTicksFrom true ops = true)
    (hid : ∀ x, (issued2 ops).count x ≤ 1)
    (hempty : ∀ n, (Engine2.Key.abs ((Engine2.run (Engine2.DB.init now aofTime) ops).getKey n)).holders = [] ∧
      (Engine2.Key.abs ((Engine2.run (Engine2.DB.init now aofTime) ops).getKey n)).waiters = []) :
    (Engine2.abs (Engine2.run (Engine2.DB.init now aofTime) ops)).ctr.lockedCount = 0 ∧
    (Engine2.abs (Engine2.run (Engine2.DB.init now aofTime) ops)).ctr.waitCount = 0 :=
  C17_drain_transfers (view_syn hf hl hid) hempty

theorem C17_drain_records_syn (now aofTime : Nat) (ops : List Engine2.Op) (hf : FrameFree ops) (hl : leaderTicksFrom true ops = true)
    (hid : ∀ x, (issued2 ops).count x ≤ 1)
    (hempty : ∀ n, ((Engine2.run (Engine2.DB.init now aofTime) ops).getKey n).holders = [] ∧
      ((Engine2.run (Engine2.DB.init now aofTime) ops).getKey n).waiters = []) :
    (Engine2.run (Engine2.DB.init now aofTime) ops).ctr.lockedCount = 0 ∧ (Engine2.run (Engine2.DB.init now aofTime) ops).ctr.waitCount = 0 :=
  C17_drain_records (view_syn hf hl hid) hempty

theorem C17_depth_census_transfers_syn (now aofTime : Nat) (ops : List Engine2.Op) (hf : FrameFree ops) (hl : leaderTicksFrom true ops = true)
    (hid : ∀ x, (issued2 ops).count x ≤ 1) :
    (Engine2.abs (Engine2.run (Engine2.DB.init now aofTime) ops)).ctr.lockedCount =
      ((Engine2.abs (Engine2.run (Engine2.DB.init now aofTime) ops)).keys.map (fun k => (Engine.depthSum k.holders : Int))).sum ∧
    (Engine2.abs (Engine2.run (Engine2.DB.init now aofTime) ops)).ctr.waitCount =
      ((Engine2.abs (Engine2.run (Engine2.DB.init now aofTime) ops)).keys.map (fun k => (k.waiters.length : Int))).sum :=
  C17_depth_census_transfers (view_syn hf hl hid)

theorem C04_no_lost_wakeup_transfers_syn (now aofTime : Nat) (ops : List Engine2.Op) (hf : FrameFree ops) (hl : leaderTicksFrom true ops = true)
    (hid : ∀ x, (issued2 ops).count x ≤ 1) (n : Nat) (w : Engine.Waiter) (rest : List Engine.Waiter)
    (hw : (Engine2.Key.abs ((Engine2.run (Engine2.DB.init now aofTime) ops).getKey n)).waiters = w :: rest)
    (hx : has w.cmd.tflag Engine.TF_WAIT_UNLOCK = false ∨ (Engine2.Key.abs ((Engine2.run (Engine2.DB.init now aofTime) ops).getKey n)).locked ≠ 0) :
    Engine.doLock (Engine2.Key.abs ((Engine2.run (Engine2.DB.init now aofTime) ops).getKey n)) w.cmd = false :=
  C04_no_lost_wakeup_transfers now aofTime ops (runOK_syn hf hl) hid n w rest hw hx

theorem C04_headAdmissible_transfers_syn (now aofTime : Nat) (ops : List Engine2.Op) (hf : FrameFree ops) (hl : leaderTicksFrom true ops = true)
    (hid : ∀ x, (issued2 ops).count x ≤ 1) (n : Nat)
    (h : Engine.headAdmissible (Engine2.Key.abs ((Engine2.run (Engine2.DB.init now aofTime) ops).getKey n)) = true) :
    (Engine2.Key.abs ((Engine2.run (Engine2.DB.init now aofTime) ops).getKey n)).locked = 0 ∧
      ∃ w rest, (Engine2.Key.abs ((Engine2.run (Engine2.DB.init now aofTime) ops).getKey n)).waiters = w :: rest ∧
        has w.cmd.tflag Engine.TF_WAIT_UNLOCK = true :=
  C04_headAdmissible_transfers (view_syn hf hl hid) n h

theorem C02_unlock_depth_effect_transfers_syn (now aofTime : Nat) (ops : List Engine2.Op) (hf : FrameFree ops) (hl : leaderTicksFrom true ops = true)
    (hid : ∀ x, (issued2 ops).count x ≤ 1) (n : Nat) (h : Engine.Hold)
    (hm : h ∈ (Engine2.Key.abs ((Engine2.run (Engine2.DB.init now aofTime) ops).getKey n)).holders) :
    (1 < h.depth →
      Engine.depthSum (Engine.replaceHolder (Engine2.Key.abs ((Engine2.run (Engine2.DB.init now aofTime) ops).getKey n)).holders h
        { h with depth := h.depth - 1 }) + 1 =
      Engine.depthSum (Engine2.Key.abs ((Engine2.run (Engine2.DB.init now aofTime) ops).getKey n)).holders) ∧
    Engine.depthSum (Engine.removeHolder (Engine2.Key.abs ((Engine2.run (Engine2.DB.init now aofTime) ops).getKey n)).holders h) + h.depth =
      Engine.depthSum (Engine2.Key.abs ((Engine2.run (Engine2.DB.init now aofTime) ops).getKey n)).holders :=
  C02_unlock_depth_effect_transfers now aofTime ops (runOK_syn hf hl) hid n h hm

theorem step_view_lock_syn (now aofTime : Nat) (ops : List Engine2.Op) (hf : FrameFree ops) (hl : leaderTicksFrom true ops = true)
    (hid : ∀ x, (issued2 ops).count x ≤ 1) (c : Engine.Cmd) :
    Equiv (Engine2.abs (Engine2.step (Engine2.run (Engine2.DB.init now aofTime) ops) (.lock c none)).1)
      (Engine.opLock (Engine2.abs (Engine2.run (Engine2.DB.init now aofTime) ops)) c).1 ∧
    (Engine2.step (Engine2.run (Engine2.DB.init now aofTime) ops) (.lock c none)).2.map (·.r) =
      (Engine.opLock (Engine2.abs (Engine2.run (Engine2.DB.init now aofTime) ops)) c).2 :=
  step_view_lock (view_syn hf hl hid).toLinked c (frameFree_cell_none now aofTime ops hf c.key).1

theorem step_view_unlock_syn (now aofTime : Nat) (ops : List Engine2.Op) (hf : FrameFree ops) (hl : leaderTicksFrom true ops = true)
    (hid : ∀ x, (issued2 ops).count x ≤ 1) (c : Engine.Cmd) :
    Equiv (Engine2.abs (Engine2.step (Engine2.run (Engine2.DB.init now aofTime) ops) (.unlock c none)).1)
      (Engine.opUnlock (Engine2.abs (Engine2.run (Engine2.DB.init now aofTime) ops))
        { c with mgr := (Engine2.run (Engine2.DB.init now aofTime) ops).hasKey c.key }).1 ∧
    (Engine2.step (Engine2.run (Engine2.DB.init now aofTime) ops) (.unlock c none)).2.map (·.r) =
      (Engine.opUnlock (Engine2.abs (Engine2.run (Engine2.DB.init now aofTime) ops))
        { c with mgr := (Engine2.run (Engine2.DB.init now aofTime) ops).hasKey c.key }).2 :=
  step_view_unlock (view_syn hf hl hid).toLinked c

theorem C02_unlock_refused_transfers_syn (now aofTime : Nat) (ops : List Engine2.Op) (hf : FrameFree ops) (hl : leaderTicksFrom true ops = true)
    (hid : ∀ x, (issued2 ops).count x ≤ 1) (c : Engine.Cmd) (hld : (Engine2.abs (Engine2.run (Engine2.DB.init now aofTime) ops)).leader = true)
    (hnone : Engine.findHolder (Engine2.Key.abs ((Engine2.run (Engine2.DB.init now aofTime) ops).getKey c.key)) c.lockId = none)
    (hfirst : has c.flag Engine.UF_FIRST = false ∨
      (Engine2.Key.abs ((Engine2.run (Engine2.DB.init now aofTime) ops).getKey c.key)).holders = []) (hcancel : has c.flag Engine.UF_CANCEL = false) :
    ∃ r, (Engine2.step (Engine2.run (Engine2.DB.init now aofTime) ops) (.unlock c none)).2.map (·.r) = [r] ∧
      r.req = c.req ∧ r.conn = c.conn ∧ (r.result = Engine.RESULT_UNLOCK_ERROR ∨ r.result = Engine.RESULT_UNOWN_ERROR) ∧
      Equiv (Engine2.abs (Engine2.step (Engine2.run (Engine2.DB.init now aofTime) ops) (.unlock c none)).1)
        (Engine.bumpErr (Engine2.abs (Engine2.run (Engine2.DB.init now aofTime) ops))) :=
  C02_unlock_refused_transfers now aofTime ops (runOK_syn hf hl) hid c hld hnone hfirst hcancel

theorem C02_cancel_wait_transfers_syn (now aofTime : Nat) (ops : List Engine2.Op) (hf : FrameFree ops) (hl : leaderTicksFrom true ops = true)
    (hid : ∀ x, (issued2 ops).count x ≤ 1) (c : Engine.Cmd) (w : Engine.Waiter)
    (hld : (Engine2.abs (Engine2.run (Engine2.DB.init now aofTime) ops)).leader = true)
    (hnone : Engine.findHolder (Engine2.Key.abs ((Engine2.run (Engine2.DB.init now aofTime) ops).getKey c.key)) c.lockId = none)
    (hfirst : has c.flag Engine.UF_FIRST = false) (hcancel : has c.flag Engine.UF_CANCEL = true)
    (hw : Engine.findCancel (Engine2.Key.abs ((Engine2.run (Engine2.DB.init now aofTime) ops).getKey c.key)).waiters c.lockId = some w) :
    ∃ more, (Engine2.step (Engine2.run (Engine2.DB.init now aofTime) ops) (.unlock c none)).2.map (·.r) =
        [Engine.mkReply c Engine.RESULT_LOCKED_ERROR ((Engine2.run (Engine2.DB.init now aofTime) ops).getKey c.key).locked 0,
         Engine.mkReply { w.cmd with conn := w.conn } Engine.RESULT_UNLOCK_ERROR
           ((Engine2.run (Engine2.DB.init now aofTime) ops).getKey c.key).locked 0] ++ more ∧
      (∀ r ∈ more, r.result = Engine.RESULT_SUCCED) ∧
      ((Engine2.step (Engine2.run (Engine2.DB.init now aofTime) ops) (.unlock c none)).2.take 2).map (fun r => (r.r.conn, r.r.req, r.r.result)) =
        [(c.conn, c.req, Engine.RESULT_LOCKED_ERROR), (w.conn, w.cmd.req, Engine.RESULT_UNLOCK_ERROR)] :=
  C02_cancel_wait_transfers now aofTime ops (runOK_syn hf hl) hid c w hld hnone hfirst hcancel hw

theorem C02_relock_effect_transfers_syn (now aofTime : Nat) (ops : List Engine2.Op) (hf : FrameFree ops) (hl : leaderTicksFrom true ops = true)
    (hid : ∀ x, (issued2 ops).count x ≤ 1) (c : Engine.Cmd) (h : Engine.Hold)
    (hb : Engine.classifyLock (Engine2.abs (Engine2.run (Engine2.DB.init now aofTime) ops)) c = .relock h) :
    (∃ more, (Engine2.step (Engine2.run (Engine2.DB.init now aofTime) ops) (.lock c none)).2.map (·.r) =
        Engine.mkReply c Engine.RESULT_SUCCED (((Engine2.run (Engine2.DB.init now aofTime) ops).getKey c.key).locked + 1) (h.depth + 1) :: more ∧
        ∀ r ∈ more, r.result = Engine.RESULT_SUCCED) ∧
      h ∈ (Engine2.Key.abs ((Engine2.run (Engine2.DB.init now aofTime) ops).getKey c.key)).holders ∧
      h.depth ≤ ((Engine2.run (Engine2.DB.init now aofTime) ops).getKey c.key).locked :=
  C02_relock_effect_transfers now aofTime ops (runOK_syn hf hl) hid c h (frameFree_cell_none now aofTime ops hf c.key).1 hb

theorem C05_zero_effect_transfers_syn (now aofTime : Nat) (ops : List Engine2.Op) (hf : FrameFree ops) (hl : leaderTicksFrom true ops = true)
    (hid : ∀ x, (issued2 ops).count x ≤ 1) (c : Engine.Cmd)
    (hb : Engine.classifyLock (Engine2.abs (Engine2.run (Engine2.DB.init now aofTime) ops)) c = .timeout) :
    (Engine2.step (Engine2.run (Engine2.DB.init now aofTime) ops) (.lock c none)).2.map (·.r) =
      [Engine.mkReply c Engine.RESULT_TIMEOUT ((Engine2.run (Engine2.DB.init now aofTime) ops).getKey c.key).locked 0] ∧
    Equiv (Engine2.abs (Engine2.step (Engine2.run (Engine2.DB.init now aofTime) ops) (.lock c none)).1)
      (Engine2.abs (Engine2.run (Engine2.DB.init now aofTime) ops)) :=
  C05_zero_effect_transfers (view_syn hf hl hid).toLinked c (frameFree_cell_none now aofTime ops hf c.key).1 hb

theorem C17_lcount_grant_transfers_syn (now aofTime : Nat) (ops : List Engine2.Op) (hf : FrameFree ops) (hl : leaderTicksFrom true ops = true)
    (hid : ∀ x, (issued2 ops).count x ≤ 1) (c : Engine.Cmd)
    (hb : Engine.classifyLock (Engine2.abs (Engine2.run (Engine2.DB.init now aofTime) ops)) c = .grant) :
    ∃ rest, (Engine2.step (Engine2.run (Engine2.DB.init now aofTime) ops) (.lock c none)).2.map (·.r) =
      Engine.mkReply c Engine.RESULT_SUCCED
        (Engine.depthSum (Engine2.Key.abs ((Engine2.run (Engine2.DB.init now aofTime) ops).getKey c.key)).holders + 1) 1 :: rest :=
  C17_lcount_grant_transfers (view_syn hf hl hid).toLinked c (frameFree_cell_none now aofTime ops hf c.key).1 hb

theorem C17_lcount_release_transfers_syn (now aofTime : Nat) (ops : List Engine2.Op) (hf : FrameFree ops) (hl : leaderTicksFrom true ops = true)
    (hid : ∀ x, (issued2 ops).count x ≤ 1) (c c' : Engine.Cmd) (h : Engine.Hold)
    (hb : Engine.classifyUnlock (Engine2.abs (Engine2.run (Engine2.DB.init now aofTime) ops))
      { c with mgr := (Engine2.run (Engine2.DB.init now aofTime) ops).hasKey c.key } = .release h c') :
    ∃ rest, (Engine2.step (Engine2.run (Engine2.DB.init now aofTime) ops) (.unlock c none)).2.map (·.r) =
      Engine.mkReply c' Engine.RESULT_SUCCED
        (Engine.depthSum (Engine.removeHolder (Engine2.Key.abs ((Engine2.run (Engine2.DB.init now aofTime) ops).getKey c.key)).holders h)) 0 :: rest :=
  C17_lcount_release_transfers (view_syn hf hl hid).toLinked c c' h hb

/-! non-vacuity

`demoR` (`EngineSimReplies.lean`): a grant (1/1, E = 50), two queued requests (2/2 with T = 1, 3/3 with T = 30), two ticks (the second fires the
TIMEOUT of 2/2), the release that wakes 3/3, a further queued request 2/5. `demoT` (`EngineSimRun.lean`): a grant with E = 2, a queued request
with T = 1, three ticks (a TIMEOUT, then the EXPRIED): afterwards nothing is held or queued. `opsExt2`: stage 1's `C06.opsExt` at record level
(a hold with E = 10 re-locked after 3 s with E = 20). -/

/-- C06: after the first four operations of `demoR` key 7 has one live holder record (hid 0), deadline 151, in a wheel slot for second 102
= `now + 1`; the expiry check time is `now + 1` -/
example : (Engine2.Key.abs ((Engine2.run (Engine2.DB.init 100 0) (demoR.take 4)).getKey 7)).holders.map
      (fun h => (h.hid, h.cmd.key, h.expT, h.sched.visit, h.sched.long)) = [(0, 7, 151, 102, false)] ∧
    (Engine2.abs (Engine2.run (Engine2.DB.init 100 0) (demoR.take 4))).now = 101 ∧
    (Engine2.abs (Engine2.run (Engine2.DB.init 100 0) (demoR.take 4))).eCheck = 102 ∧
    (Engine2.abs (Engine2.run (Engine2.DB.init 100 0) (demoR.take 4))).seq = 3 := by decide +kernel

/-- … and `C06_scheduled_ahead_transfers_syn` / `C06_not_late_transfers_syn` / `C06_hid_unique_transfers_syn` say so of that record -/
example : ∀ h ∈ (Engine2.Key.abs ((Engine2.run (Engine2.DB.init 100 0) (demoR.take 4)).getKey 7)).holders,
    101 + 1 ≤ h.sched.visit ∧ 101 + 1 ≤ h.expT + Engine.MAX_WAIT ∧ h.hid < 3 ∧ h.cmd.key = 7 := by
  have e : (Engine2.abs (Engine2.run (Engine2.DB.init 100 0) (demoR.take 4))).now = 101 := by decide +kernel
  have e3 : (Engine2.abs (Engine2.run (Engine2.DB.init 100 0) (demoR.take 4))).seq = 3 := by decide +kernel
  have hu : ∀ x, (issued2 (demoR.take 4)).count x ≤ 1 := List.nodup_iff_count.mp (by decide +kernel)
  have h1 := (C06_scheduled_ahead_transfers_syn 100 0 (demoR.take 4) (by decide +kernel) (by decide +kernel) hu).2 7
  have h2 := C06_not_late_transfers_syn 100 0 (demoR.take 4) (by decide +kernel) (by decide +kernel) hu (by rw [e]; decide +kernel) 7
  have h3 := (C06_hid_unique_transfers_syn 100 0 (demoR.take 4) (by decide +kernel) (by decide +kernel) hu 7).2
  rw [e] at h1 h2
  rw [e3] at h3
  exact fun h hh => ⟨(h1 h hh).1, h2 h hh, h3 h hh⟩

/-- C05: at that moment two requests are queued under key 7: 2/2 with deadline 102 and 3/3 with deadline 131, both in the slot of second
102 = `now + 1`; the next tick answers 2/2 with TIMEOUT (8), after it 3/3 is still queued -/
example : (Engine2.Key.abs ((Engine2.run (Engine2.DB.init 100 0) (demoR.take 4)).getKey 7)).waiters.map
      (fun w => (w.conn, w.cmd.req, w.timeoutT, w.sched.visit)) = [(2, 2, 102, 102), (3, 3, 131, 102)] ∧
    (Engine2.abs (Engine2.run (Engine2.DB.init 100 0) (demoR.take 4))).tCheck = 102 := by decide +kernel
example : (Engine2.step (Engine2.run (Engine2.DB.init 100 0) (demoR.take 4)) .tick).2.map (fun r => (r.r.conn, r.r.req, r.r.result)) = [(2, 2, 8)] ∧
    (Engine2.Key.abs ((Engine2.run (Engine2.DB.init 100 0) (demoR.take 5)).getKey 7)).waiters.map
      (fun w => (w.conn, w.cmd.req, w.timeoutT, w.sched.visit)) = [(3, 3, 131, 105)] := by decide +kernel

/-- `C05_scheduled_ahead_transfers_syn` / `C05_not_late_records_syn` on that state -/
example : (∀ w ∈ (Engine2.Key.abs ((Engine2.run (Engine2.DB.init 100 0) (demoR.take 4)).getKey 7)).waiters,
      101 + 1 ≤ w.sched.visit ∧ w.sched.visit ≤ w.timeoutT) ∧
    ∀ r ∈ ((Engine2.run (Engine2.DB.init 100 0) (demoR.take 4)).getKey 7).waiters, 101 < r.timeoutT := by
  have e : (Engine2.abs (Engine2.run (Engine2.DB.init 100 0) (demoR.take 4))).now = 101 := by decide +kernel
  have e' : (Engine2.run (Engine2.DB.init 100 0) (demoR.take 4)).now = 101 := by decide +kernel
  have hu : ∀ x, (issued2 (demoR.take 4)).count x ≤ 1 := List.nodup_iff_count.mp (by decide +kernel)
  have h1 := (C05_scheduled_ahead_transfers_syn 100 0 (demoR.take 4) (by decide +kernel) (by decide +kernel) hu).2 7
  have h2 := C05_not_late_records_syn 100 0 (demoR.take 4) (by decide +kernel) (by decide +kernel) hu 7
  rw [e] at h1
  rw [e'] at h2
  exact ⟨h1, h2⟩

/-- at the end of `demoR`: 3/3 holds (hid 5, deadline 153 ahead of 102), 2/5 is queued (deadline 133); `LockedCount` = `WaitCount` = 1 —
the census of `C17_depth_census_transfers` is not `0 = 0` -/
example : (Engine2.Key.abs ((Engine2.run (Engine2.DB.init 100 0) demoR).getKey 7)).holders.map (fun h => (h.hid, h.depth, h.expT, h.sched.visit)) =
      [(5, 1, 153, 104)] ∧
    (Engine2.Key.abs ((Engine2.run (Engine2.DB.init 100 0) demoR).getKey 7)).waiters.map (fun w => (w.conn, w.cmd.req, w.timeoutT, w.sched.visit)) =
      [(2, 5, 133, 104)] ∧
    (Engine2.abs (Engine2.run (Engine2.DB.init 100 0) demoR)).now = 102 ∧
    (Engine2.abs (Engine2.run (Engine2.DB.init 100 0) demoR)).ctr.lockedCount = 1 ∧
    (Engine2.abs (Engine2.run (Engine2.DB.init 100 0) demoR)).ctr.waitCount = 1 := by decide +kernel
example : (Engine2.abs (Engine2.run (Engine2.DB.init 100 0) demoR)).ctr.lockedCount =
    ((Engine2.abs (Engine2.run (Engine2.DB.init 100 0) demoR)).keys.map (fun k => (Engine.depthSum k.holders : Int))).sum :=
  (C17_depth_census_transfers_syn 100 0 demoR (by decide +kernel) (by decide +kernel) (List.nodup_iff_count.mp (by decide +kernel))).1

/-- C17 drain: in the middle of `demoT` one hold and one queued request are counted; at its end (TIMEOUT and EXPRIED fired) no key record is
left, the hypothesis of `C17_drain_records` holds and the counters are zero -/
example : (Engine2.run (Engine2.DB.init 100 0) (demoT.take 2)).ctr.lockedCount = 1 ∧ (Engine2.run (Engine2.DB.init 100 0) (demoT.take 2)).ctr.waitCount = 1 := by
  decide +kernel
example : (Engine2.run (Engine2.DB.init 100 0) demoT).ctr.lockedCount = 0 ∧ (Engine2.run (Engine2.DB.init 100 0) demoT).ctr.waitCount = 0 := by
  apply C17_drain_records_syn 100 0 demoT (by decide +kernel) (by decide +kernel) (List.nodup_iff_count.mp (by decide +kernel))
  intro n
  have e : (Engine2.run (Engine2.DB.init 100 0) demoT).keys = [] := by decide +kernel
  have : (Engine2.run (Engine2.DB.init 100 0) demoT).getKey n = Engine2.newKey n := by
    unfold Engine2.DB.getKey Engine2.DB.findKey
    rw [e]; rfl
  rw [this]
  exact ⟨rfl, rfl⟩

/-- C06 not late, unshortened: a hold with E = 10 re-locked after 3 s with E = 20 — no deadline is moved back (`noShorten2`), the record has
depth 2, deadline 124, slot 105 ≤ 124; a shortening update is rejected by `noShorten2` -/
def opsExt2 : List Engine2.Op := [.lock C06.A none, .tick, .tick, .tick, .lock C06.A' none, .tick]
def uShort : Engine.Cmd := { C06.A with req := 2, flag := Engine.F_UPDATE, expried := 1 }
example : noShorten2 7 (Engine2.DB.init 100 0) opsExt2 = true := by decide +kernel
example : noShorten2 7 (Engine2.DB.init 100 0) [.lock C06.A none, .tick, .lock uShort none] = false := by decide +kernel
example : (Engine2.Key.abs ((Engine2.run (Engine2.DB.init 100 0) opsExt2).getKey 7)).holders.map (fun h => (h.depth, h.expT, h.sched.visit)) =
    [(2, 124, 105)] ∧ (Engine2.abs (Engine2.run (Engine2.DB.init 100 0) opsExt2)).now = 104 := by decide +kernel
example : ∀ h ∈ (Engine2.Key.abs ((Engine2.run (Engine2.DB.init 100 0) opsExt2).getKey 7)).holders, h.sched.visit ≤ h.expT :=
  fun h hh => (C06_not_late_unshortened_transfers_syn 100 0 opsExt2 (by decide +kernel) (by decide +kernel) (List.nodup_iff_count.mp (by decide +kernel)) 7 (by decide +kernel)
    (by decide +kernel) h hh).2.1
/-- … the re-lock is the record-level branch `.relock` on record 0, whose depth 1 is `≤ Rcount` = 5 (`C02_depth_ceiling_transfers_syn`) -/
example : Engine2.classifyLock (Engine2.run (Engine2.DB.init 100 0) (opsExt2.take 4)) C06.A' none = .relock 0 := by decide +kernel
example : (((Engine2.run (Engine2.DB.init 100 0) (opsExt2.take 4)).getKey 7).getR 0).depth ≤ 5 :=
  (C02_depth_ceiling_transfers_syn 100 0 (opsExt2.take 4) (by decide +kernel) C06.A' 0 (by decide +kernel)).1

/-- C02 refused unlock: on the state `demoR` ends in, an UNLOCK with LockId 9 (no such hold) — the hypotheses hold, the reply is
UNOWN_ERROR (7) to 1/9 -/
def uX : Engine.Cmd := { rH with req := 9, lockId := 9 }
example : Engine.findHolder (Engine2.Key.abs ((Engine2.run (Engine2.DB.init 100 0) demoR).getKey uX.key)) uX.lockId = none ∧
    (Engine2.step (Engine2.run (Engine2.DB.init 100 0) demoR) (.unlock uX none)).2.map (fun r => (r.r.conn, r.r.req, r.r.result)) = [(1, 9, 7)] := by
  decide +kernel
example : ∃ r, (Engine2.step (Engine2.run (Engine2.DB.init 100 0) demoR) (.unlock uX none)).2.map (·.r) = [r] ∧ r.req = 9 ∧ r.conn = 1 :=
  let ⟨r, h1, h2, h3, _⟩ := C02_unlock_refused_transfers_syn 100 0 demoR (by decide +kernel) (by decide +kernel) (List.nodup_iff_count.mp (by decide +kernel)) uX
    (by decide +kernel) (by decide +kernel) (Or.inl (by decide +kernel)) (by decide +kernel)
  ⟨r, h1, h2, h3⟩

/-- C02 cancel-wait: on the same state, an UNLOCK with cancel-wait for LockId 5 (the queued request 2/5): LOCKED_ERROR (5) to the canceller,
UNLOCK_ERROR (6) to 2/5 -/
def uC : Engine.Cmd := { rH with req := 9, conn := 3, lockId := 5, flag := 2 }
example : (Engine.findCancel (Engine2.Key.abs ((Engine2.run (Engine2.DB.init 100 0) demoR).getKey uC.key)).waiters uC.lockId).map
      (fun w => (w.conn, w.cmd.req)) = some (2, 5) ∧
    (Engine2.step (Engine2.run (Engine2.DB.init 100 0) demoR) (.unlock uC none)).2.map (fun r => (r.r.conn, r.r.req, r.r.result)) =
      [(3, 9, 5), (2, 5, 6)] := by decide +kernel

/-- C17 LCount / C05 zero timeout: on the same state a LOCK for the fresh key 8 is a direct grant with LCount 1; a LOCK with Timeout 0 for
the held key 7 is answered TIMEOUT (8) and (`C05_zero_effect_transfers_syn`) changes nothing -/
def gK : Engine.Cmd := { rH with req := 9, conn := 3, lockId := 9, key := 8 }
def zT : Engine.Cmd := { rH with req := 9, conn := 3, lockId := 9 }
example : Engine.classifyLock (Engine2.abs (Engine2.run (Engine2.DB.init 100 0) demoR)) gK = .grant ∧
    (Engine2.step (Engine2.run (Engine2.DB.init 100 0) demoR) (.lock gK none)).2.map (fun r => (r.r.conn, r.r.req, r.r.result, r.r.lcount)) =
      [(3, 9, 0, 1)] := by decide +kernel
example : Engine.classifyLock (Engine2.abs (Engine2.run (Engine2.DB.init 100 0) demoR)) zT = .timeout ∧
    (Engine2.step (Engine2.run (Engine2.DB.init 100 0) demoR) (.lock zT none)).2.map (fun r => (r.r.conn, r.r.req, r.r.result)) = [(3, 9, 8)] := by
  decide +kernel
example : Equiv (Engine2.abs (Engine2.step (Engine2.run (Engine2.DB.init 100 0) demoR) (.lock zT none)).1)
    (Engine2.abs (Engine2.run (Engine2.DB.init 100 0) demoR)) :=
  (C05_zero_effect_transfers_syn 100 0 demoR (by decide +kernel) (by decide +kernel) (List.nodup_iff_count.mp (by decide +kernel)) zT (by decide +kernel)).2

/-! Stage-1 theorems that are not carried through the run simulation here, and where their record-level content is.

* `C02_depth_ceiling`, `C02_reentrant_decision`, `C02_unlock_decision`, `C05_zero`: facts about stage 1's branch tables on an ARBITRARY
  database — transferred above to the record-level branch tables through `lock_branch_refines` / `unlock_branch_refines`, not through the
  run simulation. A reachable-state invariant "every live hold has depth ≤ 255" is not a stage-1 theorem (C02 proves the ceiling as the
  condition under which a re-lock is accepted), so there is nothing to transfer.
* `C05_not_early`, `C06_not_early`, `C06_unlimited`: about stage 1's collecting passes `timeoutPass1` / `expirePass1`; transferred for these
  passes run on `abs s` (`…_not_early_transfers`); the record-level sweeps are tied to them by `sim_tick`, step by step, not by a theorem
  about their collected lists.
* `C06_deadline_grant`, `C06_update_restarts`, `C06_update_keep_token`, `expiryDeadline_eq`, `C05_fire_effect`, `C06_effects`,
  `C05_not_late_step_partial`, `C04_order_*`, `C04_grant_is_head`, `C04_wake_pass_settles`, `C04_after_unlock`, `C04_after_expiry`,
  `C04_quiescent_partial`: statements about stage 1's helper functions (`grantHold`, `updateHold`, `fireTimeout`, `fireExpire`, `timeoutStep`,
  `insertWaiter`, `wakeIter`, `wake`) on arbitrary arguments: no reachability in them, and the record-level model has no function they
  would be the image of under `abs` other than through the whole-operation simulations `sim_lock` / `sim_unlock` / `sim_tick`. The state-level
  content of `C04_after_*` is subsumed by `C04_quiescent_transfers`.
* `C05_answered_by_deadline`, C03: in `EngineSimReplies.lean`; `C04_quiescent`, `C17.reachable_counts`, `C01.reachable_inv`: in
  `EngineSimTransfer.lean`.
* `C06.reachable_HN` / `C05.reachable_ahead` / `reachable_KN` / `reachable_QU` / `reachable_NS`: the invariants behind the theorems above.
  Stated here: the `HN` conjunct of `reachable_HN` (`C06_scheduled_ahead_transfers`, `C06_hid_unique_transfers`), the `WLB` conjunct of
  `reachable_ahead` (`C05_scheduled_ahead_transfers`), `NS` (`C06_not_late_unshortened_transfers`). NOT stated at record level: their `KW`
  conjunct (a queued request sits under the key its command names — only the hold twin `h.cmd.key = n` is, in `C06_hid_unique_transfers`),
  `KN`, `QU`. `KW` and `KN` are fields of `Linked.inv` (`Inv1.kw`, `Inv1.kn`): each is one line from a `Linked` pair through `Linked.key`. -/

end Slock.SimP
