import Slock.Proofs.TextChunk
import Slock.Proofs.TextConv
/-!
# C14 (text part) — the RESP request parser, BuildRequest, key/id normalisation, text LOCK/UNLOCK, result rendering,
the response parser (`ParseResponse`) and `BuildResponse`

Model: `Slock/Model/Text.lean`, `Slock/Model/TextCmd.lean` (validated against the real
`protocol.TextParser`, `TextCommandConverter`, `ConvertString2LockKey` on every run of the check).
-/
namespace Slock.C14T
open Slock.Text

/-- The parser reads its own `BuildRequest` output back to the original arguments: every binary-safe argument list
with at least one argument (a zero-argument request `*0\r\n` never completes — the parser waits for `$`). -/
theorem parse_build (args : List Bytes) (h : sizeOK args) :
    (parseAll [buildRequest args]).outcome = ([args], .done) := by
  have := buildRun args h.1 h.2.1 h.2.2 (l := {}) (acc := []) (tail := [])
  simp only [List.append_nil, List.nil_append] at this
  simp [parseAll, feed, this, runBytes, Run.outcome]

/-- … and a pipeline of requests in one buffer back to the list of argument lists. -/
theorem parse_build_many (cmds : Cmds) (h : ∀ c ∈ cmds, sizeOK c) :
    (parseAll [(cmds.map buildRequest).flatten]).outcome = (cmds, .done) := by
  obtain ⟨l', h2⟩ := buildManyRun cmds h {} []
  have e := map_drop_ty cmds
  simp [parseAll, feed, h2, Run.outcome, e]

example : sizeOK [[76, 79, 67, 75], [], [13, 10, 0, 36, 42]] := by
  refine ⟨by simp, by simp, ?_⟩
  intro a ha
  simp at ha
  rcases ha with rfl | rfl | rfl <;> simp

/-- `*0\r\n` (what `BuildRequest` emits for an empty list) is not parsed back: the parser stays pending. -/
theorem zero_args_pending : (parseAll [buildRequest []]).outcome = ([], .pending) := by decide

/-- The parse is independent of the chunking, at full strength: for EVERY byte stream on which the one-buffer parse does
not fail (no protocol error) and EVERY way of cutting it into chunks (any number, empty chunks included), the chunked
parse yields the same commands and the same persistent parser state — complete or pending alike.  By induction over
the chunk list; the automaton's chunk-local state satisfies the reachability invariant `Inv` and can therefore be
forgotten at any byte position. -/
theorem chunking_invariant (stream : Bytes) (chunks : List Bytes) (hflat : chunks.flatten = stream)
    (c : Replies) (sf : PState) (lf : Loc) (href : parseAll [stream] = .ok c sf lf) :
    ∃ lf', parseAll chunks = .ok c sf lf' := by
  subst hflat
  exact feed_of_single {} chunks c sf lf href

/-- In particular every well-formed stream — any pipeline of `BuildRequest` outputs — parses to exactly the original
argument lists under every chunking. -/
theorem chunking_invariant_wellformed (cmds : Cmds) (h : ∀ c ∈ cmds, sizeOK c) (chunks : List Bytes)
    (hflat : chunks.flatten = (cmds.map buildRequest).flatten) :
    (parseAll chunks).outcome = (cmds, .done) := by
  obtain ⟨l', h2⟩ := buildManyRun cmds h {} []
  have href : parseAll [(cmds.map buildRequest).flatten] = .ok (cmds.map (fun c => (0, c))) {} {} := by
    simp [parseAll, feed, h2]
  obtain ⟨lf', h3⟩ := chunking_invariant _ chunks hflat _ {} {} href
  have e := map_drop_ty cmds
  simp [h3, Run.outcome, e]

/-- `*1\r\n$2\r\na | b | \r\n` is parsed as "ab" (not "ab\r") -/
theorem chunking_regression :
    (parseAll [[42, 49, 13, 10, 36, 50, 13, 10, 97], [98], [13, 10]]).outcome = ([[[97, 98]]], .done) := by decide

/-- What remains chunking-dependent lies outside the hypothesis "the one-buffer parse does not fail": a lone LF
terminator is accepted at a chunk start and rejected mid-chunk (malformed input; recorded as an observation). -/
theorem lone_lf_depends_on_chunking :
    (parseAll [[42, 49], [10, 36, 48], [10], [10]]).outcome = ([[[]]], .done) ∧
    (parseAll [[42, 49, 10, 36, 48, 10, 10]]).outcome = ([], .err) := by decide

/-- `ConvertString2LockKey` is the documented rule for ALL strings: at most 16 bytes → left-padded with zeros,
exactly 32 hexadecimal characters (either case) → decoded, anything else → MD5.  `h` stands for `md5.Sum`; the only
fact used about it is that it returns 16 bytes. -/
theorem normalisation_key (h : Bytes → Bytes) (hh : ∀ x, (h x).length = 16) (k : Bytes) :
    convertString2LockKey h k = docRule h k :=
  key_eq_doc h hh k

/-- The two copies (`protocol.ConvertString2LockKey`, `TextCommandConverter.ConvertArgId2LockId`) agree on every string
(no assumption on the hash at all). -/
theorem normalisation_copies_equal (h : Bytes → Bytes) (k : Bytes) :
    convertArgId2LockId h k = convertString2LockKey h k :=
  argId_eq_key h k

theorem normalisation_id (h : Bytes → Bytes) (hh : ∀ x, (h x).length = 16) (k : Bytes) :
    convertArgId2LockId h k = docRule h k :=
  argId_eq_doc h hh k

theorem normalisation_length (h : Bytes → Bytes) (hh : ∀ x, (h x).length = 16) (k : Bytes) :
    (docRule h k).length = 16 := by
  unfold docRule
  by_cases hle : k.length ≤ 16
  · simp [hle, leftPad16]
  · simp only [hle, if_false]
    by_cases h32 : k.length = 32
    · simp only [h32, if_true]
      cases hd : hexDecode k with
      | none => exact hh k
      | some v =>
        have := hexDecode_length k v hd
        simp only; omega
    · simp [h32, hh]

/-- the three branches are all inhabited -/
example : docRule (fun _ => List.replicate 16 7) [97, 98] = [0, 0, 0, 0, 0, 0, 0, 0, 0, 0, 0, 0, 0, 0, 97, 98] := by decide
example : docRule (fun _ => List.replicate 16 7)
    [48, 49, 48, 50, 65, 98, 99, 68, 48, 48, 48, 48, 48, 48, 48, 48, 48, 48, 48, 48, 48, 48, 48, 48, 48, 48, 48, 48, 102, 102, 70, 70] =
    [1, 2, 171, 205, 0, 0, 0, 0, 0, 0, 0, 0, 0, 0, 255, 255] := by decide
example : docRule (fun _ => List.replicate 16 7) (List.replicate 17 48) = List.replicate 16 7 := by decide

/-- `LOCK|UNLOCK <key> (KEYWORD value)*` with keywords LOCK_ID / FLAG / TIMEOUT / EXPRIED / COUNT / RCOUNT in ANY order and
multiplicity, values in range for the binary fields: the converted command has command type 1 / 2, the protocol's db,
the normalised key, defaults TIMEOUT 15 / EXPRIED 120, and exactly the given field values — COUNT and RCOUNT stored
−1 (`KV.apply`); without LOCK_ID the lock id is the request id (LOCK) resp. the connection's last lock id (UNLOCK). -/
theorem text_eq_binary (ctx : Ctx) (hmd5 : ∀ x, (ctx.md5 x).length = 16) (isUnlock : Bool) (key : Bytes) (kvs : List KV)
    (hwf : ∀ kv ∈ kvs, kv.wf) :
    convertLock ctx ((if isUnlock then kUNLOCK else kLOCK) :: key :: renderAll kvs) =
      .ok { hdr := finishId (if isUnlock then kUNLOCK else kLOCK) (kvs.any KV.isId)
              (kvs.foldl (KV.apply ctx.md5)
                { commandType := if isUnlock then 2 else 1, dbId := ctx.dbId, lockKey := docRule ctx.md5 key,
                  timeout := 15, expried := 120 }) } := by
  unfold convertLock
  have hlen : ((if isUnlock then kUNLOCK else kLOCK) :: key :: renderAll kvs).length = 2 * kvs.length + 2 := by
    simp [renderAll_length]
  rw [hlen, lockConv]
  have hbad : ¬ (2 * kvs.length + 2 < 2 ∨ (2 * kvs.length + 2) % 2 ≠ 0) := by omega
  rw [hlen, if_neg hbad]
  have hu : upper (if isUnlock then kUNLOCK else kLOCK) = (if isUnlock then kUNLOCK else kLOCK) := by
    cases isUnlock <;> decide
  simp only [idx, List.getElem?_cons_zero, List.getElem?_cons_succ, List.drop_succ_cons, List.drop_zero, hu]
  rw [lockLoop_kvs ctx hmd5 _ kvs hwf _ (by omega)]
  cases isUnlock
  · have : (kLOCK = kUNLOCK) = False := by decide
    simp [initHdr, argId_eq_doc _ hmd5, this, Slock.Gen.C.COMMAND_LOCK]
  · simp [initHdr, argId_eq_doc _ hmd5, Slock.Gen.C.COMMAND_UNLOCK]

example : ∀ kv ∈ [KV.timeout 5, KV.count 2, KV.lockId [1, 2, 3], KV.rcount 256, KV.expried 4294967295], kv.wf := by
  intro kv h
  simp at h
  rcases h with rfl | rfl | rfl | rfl | rfl <;> simp [KV.wf]

/-- The renderer puts the +1 back and its output is a well-formed RESP array of the 12 result fields: for every result
code below 12 and a reply without data, `WriteTextLockAndUnLockCommandResult` writes exactly
`BuildRequest [result, ERROR_MSG[result], "LOCK_ID", hex id, "LCOUNT", n, "COUNT", count+1, "LRCOUNT", n, "RCOUNT", rcount+1]`. -/
theorem render_plus_one (r : ResultCmd) (msg : String) (hm : errorMsg r.result = some msg)
    (hf : r.flag &&& Slock.Gen.C.UNLOCK_FLAG_CONTAINS_DATA = 0) (hc : r.count < 65535) (hrc : r.rcount < 255) :
    renderLockResult r = .ok (buildRequest [natToDec r.result, strBytes msg, kLOCK_ID, hexLower r.lockId, kLCOUNT,
      natToDec r.lcount, kCOUNT, natToDec (r.count + 1), kLRCOUNT, natToDec r.lrcount, kRCOUNT, natToDec (r.rcount + 1)]) := by
  unfold renderLockResult
  simp only [hm, hf]
  have e1 : (r.count + 1) % 65536 = r.count + 1 := Nat.mod_eq_of_lt (by omega)
  have e2 : (r.rcount + 1) % 256 = r.rcount + 1 := Nat.mod_eq_of_lt (by omega)
  simp [buildRequest, e1, e2]

/-- … hence (by `parse_build`) a client parsing the reply with the same RESP automaton reads those 12 fields back. -/
theorem render_parses_back (r : ResultCmd) (msg : String) (hm : errorMsg r.result = some msg)
    (hf : r.flag &&& Slock.Gen.C.UNLOCK_FLAG_CONTAINS_DATA = 0) (hc : r.count < 65535) (hrc : r.rcount < 255)
    (hsz : sizeOK [natToDec r.result, strBytes msg, kLOCK_ID, hexLower r.lockId, kLCOUNT,
      natToDec r.lcount, kCOUNT, natToDec (r.count + 1), kLRCOUNT, natToDec r.lrcount, kRCOUNT, natToDec (r.rcount + 1)])
    (b : Bytes) (hb : renderLockResult r = .ok b) :
    (parseAll [b]).outcome = ([[natToDec r.result, strBytes msg, kLOCK_ID, hexLower r.lockId, kLCOUNT,
      natToDec r.lcount, kCOUNT, natToDec (r.count + 1), kLRCOUNT, natToDec r.lrcount, kRCOUNT, natToDec (r.rcount + 1)]], .done) := by
  rw [render_plus_one r msg hm hf hc hrc] at hb
  injection hb with hb
  rw [← hb]
  exact parse_build _ hsz

/-- All 13 result codes 0..12 (RESULT_SUCCED … RESULT_LOCK_ACK_WAITING) have an `ERROR_MSG` entry, so both renderers
(`WriteTextLockAndUnLockCommandResult` and `TextServerProtocol.WriteCommand/ProcessBuild`) produce a reply for every
value of the other fields (a reply flagged as carrying data must carry it). -/
theorem every_result_code_has_rendering (r : ResultCmd) (h : r.result ≤ Slock.Gen.C.RESULT_LOCK_ACK_WAITING)
    (hd : r.flag &&& Slock.Gen.C.UNLOCK_FLAG_CONTAINS_DATA ≠ 0 → r.data ≠ none) :
    (renderLockResult r).isPanic = false ∧ (renderServerResult r).isPanic = false := by
  have hm : ∀ n, n < 13 → (errorMsg n).isSome = true := by decide
  have h13 : r.result < 13 := by
    have : Slock.Gen.C.RESULT_LOCK_ACK_WAITING = 12 := rfl
    omega
  obtain ⟨m, hm⟩ := Option.isSome_iff_exists.mp (hm r.result h13)
  have e : Slock.Gen.C.LOCK_FLAG_CONTAINS_DATA = Slock.Gen.C.UNLOCK_FLAG_CONTAINS_DATA := by decide
  unfold renderLockResult renderServerResult
  simp only [hm, e]
  by_cases hf : r.flag &&& Slock.Gen.C.UNLOCK_FLAG_CONTAINS_DATA ≠ 0
  · cases hdat : r.data with
    | none => exact absurd hdat (hd hf)
    | some d => simp [hf, Render.isPanic]
  · simp [hf, Render.isPanic]

theorem error_msg_complete : Slock.Gen.C.ERROR_MSG.length = Slock.Gen.C.RESULT_LOCK_ACK_WAITING + 1 := by decide

/-- `+<text>\r\n`: any text without CR / LF (the empty text included) is read back as `(1, [text])`. -/
theorem parse_build_response_ok (msg : Bytes) (h : ∀ b ∈ msg, b ≠ 10 ∧ b ≠ 13) :
    (parseAllR [buildResponse true msg []]).outcomeR = ([(1, [msg])], .done) := by
  have e : runBytes { resp := true } {} [] (buildResponse true msg []) =
      runBytes ⟨.s5, [], 0, 0, [] ++ [[]], 0, true, 1⟩ ⟨some 43, .entry⟩ [] (msg ++ 13 :: 10 :: []) := rfl
  rw [parseAllR, feed, e, textRun [] 1 rfl msg (fun b hb => (h b hb).1)]
  simp only [List.nil_append]
  rw [stripCR_id _ (fun b hb => (h b hb).2)]
  rfl

/-- `-<TYPE> <message>\r\n`: type without blank / CR / LF, message without CR / LF → `(2, [TYPE, message])` -/
theorem parse_build_response_error (type msg : Bytes) (ht : ∀ b ∈ type, b ≠ 10 ∧ b ≠ 13 ∧ b ≠ 32)
    (hm : ∀ b ∈ msg, b ≠ 10 ∧ b ≠ 13) :
    (parseAllR [buildResponse false (type ++ 32 :: msg) []]).outcomeR = ([(2, [type, msg])], .done) := by
  have e : runBytes { resp := true } {} [] (buildResponse false (type ++ 32 :: msg) []) =
      runBytes ⟨.s6, [], 0, 0, [[], []], 0, true, 2⟩ ⟨some 45, .entry⟩ [] (type ++ 32 :: (msg ++ 13 :: 10 :: [])) := by
    simp [buildResponse, crlf, runBytes, step, step0R]
  rw [parseAllR, feed, e, typeRunBlank type (fun b hb => ⟨(ht b hb).1, (ht b hb).2.2⟩),
    show [stripCR ([] ++ type), []] = [stripCR ([] ++ type)] ++ [[]] from rfl,
    textRun [_] 2 rfl msg (fun b hb => (hm b hb).1)]
  simp only [List.nil_append]
  rw [stripCR_id _ (fun b hb => (ht b hb).2.1), stripCR_id _ (fun b hb => (hm b hb).2)]
  rfl

/-- `-<TYPE>\r\n` → `(2, [TYPE, ""])` -/
theorem parse_build_response_error_bare (type : Bytes) (ht : ∀ b ∈ type, b ≠ 10 ∧ b ≠ 13 ∧ b ≠ 32) :
    (parseAllR [buildResponse false type []]).outcomeR = ([(2, [type, []])], .done) := by
  have e : runBytes { resp := true } {} [] (buildResponse false type []) =
      runBytes ⟨.s6, [], 0, 0, [[], []], 0, true, 2⟩ ⟨some 45, .entry⟩ [] (type ++ 13 :: 10 :: []) := rfl
  rw [parseAllR, feed, e, typeRunEnd type (fun b hb => ⟨(ht b hb).1, (ht b hb).2.2⟩)]
  simp only [List.nil_append]
  rw [stripCR_id _ (fun b hb => (ht b hb).2.1)]
  rfl

/-- a single result is a bulk string `$<len>\r\n<bytes>\r\n` — any bytes — and is read back as `(3, [r])` -/
theorem parse_build_response_bulk (msg r : Bytes) (hr : r.length < 9223372036854775808) :
    (parseAllR [buildResponse true msg [r]]).outcomeR = ([(3, [r])], .done) := by
  have e : runBytes { resp := true } {} [] (buildResponse true msg [r]) =
      runBytes ⟨.s2, [], 0, 0, [], 0, true, 3⟩ ⟨some 36, .entry⟩ [] (bulk r ++ []) := by
    rw [List.append_nil]; rfl
  rw [parseAllR, feed, e, bulkRun r hr]
  rfl

/-- two or more results are an array of bulk strings and are read back as `(4, results)` -/
theorem parse_build_response_array (msg : Bytes) (rs : List Bytes) (h2 : 2 ≤ rs.length) (h : sizeOK rs) :
    (parseAllR [buildResponse true msg rs]).outcomeR = ([(4, rs)], .done) := by
  obtain ⟨hne, hcount, hlen⟩ := h
  have hv := atoi_natToDec rs.length hcount
  have hl := natToDec_length rs.length hcount
  have hn := numLine_s1 (natToDec rs.length) (natToDec_all_digit _) [] (by simp; omega) (rs.length : Int) (by simpa using hv)
    (g := 0) (cl := 0) (as := []) (ac := 0) (rs := true) (ty := 4) (l := ⟨some 42, .entry⟩) (acc := []) (tail := bulks rs)
  have hb := bulksRun rs hne hlen [] (rs := true) (ty := 4) (l := ⟨some 10, .entry⟩) (acc := []) (tail := [])
  simp only [List.append_nil, List.nil_append, List.length_nil, Nat.zero_add] at hb
  cases rs with
  | nil => simp at h2
  | cons a rest =>
    cases rest with
    | nil => simp at h2
    | cons b rest =>
      simp only [parseAllR, feed, buildResponse, Bool.not_true, Bool.false_eq_true, if_false, crlf]
      rw [runBytes]
      simp only [step, step0R, if_true, show ((42 : UInt8) = 43) = False by decide, show ((42 : UInt8) = 45) = False by decide,
        show ((42 : UInt8) = 36) = False by decide, if_false, List.cons_append, List.nil_append]
      rw [hn, hb]
      simp [runBytes, Run.outcomeR]

example : (parseAllR [[45, 69, 82, 82, 32, 120, 13, 10]]).outcomeR = ([(2, [[69, 82, 82], [120]])], .done) := by decide

/-- Independence of the framing, response side, at full strength: for EVERY byte stream on which the one-buffer
`ParseResponse` loop does not fail and EVERY chunking of it, the chunked parse yields the same replies `(argsType, args)`
and the same parser state.  (Same induction as on the request side; stages 5 / 6 keep no chunk-local information but
the previous byte.) -/
theorem chunking_invariant_response (stream : Bytes) (chunks : List Bytes) (hflat : chunks.flatten = stream)
    (c : Replies) (sf : PState) (lf : Loc) (href : parseAllR [stream] = .ok c sf lf) :
    ∃ lf', parseAllR chunks = .ok c sf lf' := by
  subst hflat
  exact feed_of_single { resp := true } chunks c sf lf href

/-- four chunkings that cut inside or before the terminator parse as the unchunked stream does: `+OK` | `\r\n`, `+OK\r` | `\n`, `-ERR` | ` x\r\n`, `+a\r` | `b\r\n` -/
theorem response_chunking_regression :
    (parseAllR [[43, 79, 75], [13, 10]]).outcomeR = (([(1, [[79, 75]])] : Replies), Status.done) ∧
    (parseAllR [[43, 79, 75, 13], [10]]).outcomeR = (([(1, [[79, 75]])] : Replies), Status.done) ∧
    (parseAllR [[45, 69, 82, 82], [32, 120, 13, 10]]).outcomeR = (([(2, [[69, 82, 82], [120]])] : Replies), Status.done) ∧
    (parseAllR [[43, 97, 13], [98, 13, 10]]).outcomeR = (parseAllR [[43, 97, 13, 98, 13, 10]]).outcomeR := by
  refine ⟨by decide, by decide, by decide, by decide⟩

/-- observations (not violations): an integer reply `:1\r\n` — which the server does send for DEL / EXISTS / INCR … — is
not understood by this parser at all, and the nil bulk `$-1\r\n` never completes -/
theorem response_parser_gaps :
    (parseAllR [[58, 49, 13, 10]]).outcomeR = (([] : Replies), Status.err) ∧
    (parseAllR [[36, 45, 49, 13, 10]]).outcomeR = (([] : Replies), Status.pending) := by
  refine ⟨by decide, by decide⟩

end Slock.C14T
