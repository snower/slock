import Slock.Proofs.QueueRun
import Slock.Proofs.Queue2Thm
/-!
# C20 — internal queues refine a plain deque (resp. a stable priority queue) under every operation mix

Part A: the segmented doubling deque of `server/queue.go` (one model for the three textual copies
`LockManagerQueue` / `LockQueue` / `LockCommandQueue`; model `Slock/Model/Queue.lean`).
  * `abs : Q → List (Option Nat)` = the cells from the head cursor to the tail cursor across nodes, holes included.
  * `QInv` = cursor / size / node-table consistency.
  * Spec = plain `List` deque: push = append, pushLeft = cons, pop = remove first, popRight = remove last,
    head / tail = first / last element (`none` for a hole or an empty queue), len = length (holes count).
  * PROVED for all states satisfying `QInv`, all constructor parameters from 1 up (a queue size below 2^30 = 1073741824), and (by induction) all operation
    sequences of any length: Push, PushLeft, Pop, PopRight, Head, Tail, Len, Reset, Rellac, freeQueue (`deque_run`);
    and — each under its decidable precondition — in-place holes, iteration (IterNodes / IterNodeQueues), Shrink, Resize,
    Restructuring, again lifted to sequences of any length that mix all of them (`deque_run_maintenance`).
    Preconditions: Shrink `ShrinkNoop` (it must have nothing to do: outside, `shrink_breaks_len`); Resize `ResizeOK`
    (nothing to do, or no spare node behind the tail node and a sane recomputed size: outside, `resize_leaves_orphan_node`);
    Restructuring `NoSpare` (outside, `restructuring_with_spare_node_breaks_push`) plus `HeadClean` (cells before the head
    cursor are nil), which is an INVARIANT of every operation and holds in every reachable state.
  * `LongWaitLockQueue` (db.go): Push, Pop, Remove (hole at the lock's `longWaitIndex`), `restructuringLong*Queue` and their
    sequences (`long_run`).  NOT PROVED (`long_remove_index_partial`): that `longWaitIndex` always designates the lock's cell
    in every reachable state (the precondition `removeAt` of Remove is evaluated along the run instead).
  * Where the real code does NOT refine the spec, a concrete witness is proved by `decide`:
    `pushLeft_refuses_at_origin`, `shrink_breaks_len`, `restructuring_with_spare_node_breaks_push`.
  * The db.go copies `restructuringLong*Queue` are modelled as repaired in /repo f18505b (before, they had such a defect on a
    production path); the runs that panicked then are `long_restructuring_then_push_ok` / `long_restructuring_spare_node_ok`.

Part B: the containers of `server/lock.go` (model `Slock/Model/Queue2.lean`, theorems proved in
`Slock/Proofs/Queue2*.lean`): ring = FIFO and priority ring = stable priority queue for all operation sequences;
holder queue and wait queue per operation, across every representation switch.
-/
namespace Slock.C20

section Deque
open Slock.Queue

/-- Constructor: for ALL parameters from 1 up the invariant holds and the content is empty. -/
theorem deque_new (b n s : Nat) (hb : 1 ≤ b) (hn : 1 ≤ n) (hs : 1 ≤ s) (hs2 : s < 1073741824) :
    ∃ q, newQueue b n s = .ok q ∧ QInv q ∧ abs q = [] := init3 (newQueue_inv b n s hb hn hs hs2)

/-- Push ≙ append at the end (never panics, never refuses), across node boundaries and growth. -/
theorem deque_push {q : Q} (h : QInv q) (x : Elem) :
    ∃ q', push q x = .ok q' ∧ QInv q' ∧ abs q' = abs q ++ [x] := push_refines h x

/-- PushLeft ≙ cons, PROVIDED the head cursor is not at cell 0 of node 0. -/
theorem deque_pushLeft {q : Q} (h : QInv q) (x : Elem) (hnf : ¬ (q.hni = 0 ∧ q.hqi = 0)) :
    ∃ q', pushLeft q x = .ok (q', true) ∧ QInv q' ∧ abs q' = x :: abs q := init3 (pushLeft_spec h x hnf)

/-- PushLeft outside that precondition: the element is refused ("full") and the state is unchanged — whatever the
content is.  (No production call site uses PushLeft.) -/
theorem deque_pushLeft_full (q : Q) (x : Elem) (hf : q.hni = 0 ∧ q.hqi = 0) :
    pushLeft q x = .ok (q, false) := pushLeft_full q x hf

/-- Pop ≙ remove first; returns the first element (`none` for a hole or when empty). -/
theorem deque_pop {q : Q} (h : QInv q) :
    ∃ q', pop q = .ok (q', (abs q).head?.join) ∧ QInv q' ∧ abs q' = (abs q).tail := pop_refines h

/-- PopRight ≙ remove last. -/
theorem deque_popRight {q : Q} (h : QInv q) :
    ∃ q', popRight q = .ok (q', (abs q).getLast?.join) ∧ QInv q' ∧ abs q' = (abs q).dropLast := init3 (popRight_spec h)

/-- Head / Tail / Len are the first element, the last element and the length of the abstract deque. -/
theorem deque_head_tail_len {q : Q} (h : QInv q) :
    head q = .ok (abs q).head?.join ∧ tail q = .ok (abs q).getLast?.join ∧ len q = .ok ((abs q).length : Int) :=
  ⟨head_refines h, tail_refines h, len_refines h⟩

/-- Reset ≙ clear and Rellac ≙ clear: no panic, invariant re-established, content empty — from EVERY state satisfying
the invariant. -/
theorem deque_reset_rellac {q : Q} (h : QInv q) :
    (∃ q', reset q = .ok q' ∧ QInv q' ∧ abs q' = []) ∧ (∃ q', rellac q = .ok q' ∧ QInv q' ∧ abs q' = []) :=
  ⟨init3 (reset_spec h), init3 (rellac_spec h)⟩

/-- freeQueue ≙ identity (spare nodes behind the tail node are released, the content is untouched). -/
theorem deque_freeQueue {q : Q} (h : QInv q) :
    ∃ q', freeQueue q = .ok q' ∧ QInv q' ∧ abs q' = abs q := init3 (freeQueue_spec h)

/-- Lifted: EVERY operation sequence (any length) of Push / PushLeft / Pop / PopRight / Head / Tail / Len / Reset /
Rellac / freeQueue from any
state satisfying the invariant runs without panic, keeps the invariant, and its observations are a run of the plain
deque (`SpecRun`; PushLeft may answer "full" and then inserts nothing). -/
theorem deque_run {q : Q} (h : QInv q) (ops : List Op) :
    ∃ q' os, runModel q ops = .ok (q', os) ∧ QInv q' ∧ SpecRun (abs q) ops os (abs q') := run_refines h ops

/-- … in particular from every constructor call with parameters from 1 up. -/
theorem deque_run_from_new (b n s : Nat) (hb : 1 ≤ b) (hn : 1 ≤ n) (hs : 1 ≤ s) (hs2 : s < 1073741824) (ops : List Op) :
    ∃ q0 q' os, newQueue b n s = .ok q0 ∧ runModel q0 ops = .ok (q', os) ∧ QInv q' ∧ SpecRun [] ops os (abs q') :=
  run_from_new b n s hb hn hs hs2 ops

/-- IterNodes / IterNodeQueues (`for i := range q.IterNodes() { q.IterNodeQueues(i) }`) yield exactly the cells of the
abstract deque in order (holes as `none`); a caller skipping nil entries sees exactly the non-hole content in order. -/
theorem deque_iter {q : Q} (h : QInv q) :
    ∃ l, iterAll q = .ok l ∧ l.flatten = abs q ∧ l.flatten.filterMap id = (abs q).filterMap id :=
  (iterAll_refines h).imp fun _ h => ⟨h.1, h.2, congrArg _ h.2⟩

/-- the in-place hole of db.go (`nodeQueues := q.IterNodeQueues(i); nodeQueues[p] = nil`) ≙ `set pos none`; the later
Pop returns that hole as nil exactly like the code (`deque_pop`: `(abs q).head?.join`). -/
theorem deque_hole {q : Q} (h : QInv q) (pos : Nat) :
    ∃ q', hole q pos = .ok (q', decide (pos < (abs q).length)) ∧ QInv q' ∧ abs q' = (abs q).set pos none :=
  init3 (hole_spec h pos)

/-- Shrink inside its precondition `ShrinkNoop` (a positive size smaller than the head node, or
`shrinkNodeSize ≥ nodeSize`): returns 0, same state. -/
theorem deque_shrink {q : Q} (h : QInv q) (sz : Nat) (hp : ShrinkNoop q sz) : shrink q sz = .ok (q, 0) :=
  shrink_noop h sz hp

/-- Resize ≙ identity under `ResizeOK` (nothing to do, or no spare node behind the tail node and a sane recomputed
allocation size). -/
theorem deque_resize {q : Q} (h : QInv q) (hp : ResizeOK q) :
    ∃ q', resize q = .ok q' ∧ QInv q' ∧ abs q' = abs q := init3 (resize_spec h hp)

/-- Restructuring ≙ drop the holes, under `NoSpare` and the invariant `HeadClean`. -/
theorem deque_restructuring {q : Q} (h : QInv q) (hc : HeadClean q) (hns : NoSpare q) :
    ∃ q', restructuring q = .ok q' ∧ QInv q' ∧ abs q' = (abs q).filter Option.isSome ∧ HeadClean q' :=
  restructuring_refines h hc hns

/-- Lifted, maintenance included: every operation sequence of any length mixing the ten base operations with holes,
iteration, Shrink, Resize and Restructuring — each maintenance operation called inside its precondition (`runPre`
evaluates `preM` along the run) — runs without panic, keeps `QInv ∧ HeadClean`, and observes the plain deque with
holes (`SpecRunM`). -/
theorem deque_run_maintenance {q : Q} (h : QInv2 q) (ops : List MOp) (hp : runPre q ops = true) :
    ∃ q' os, runM q ops = .ok (q', os) ∧ QInv2 q' ∧ SpecRunM (abs q) ops os (abs q') := runM_refines h ops hp

/-- … from every constructor call with parameters from 1 up (in particular `HeadClean` holds in every state reachable
through the public operations). -/
theorem deque_run_maintenance_from_new (b n s : Nat) (hb : 1 ≤ b) (hn : 1 ≤ n) (hs : 1 ≤ s) (hs2 : s < 1073741824)
    (ops : List MOp) :
    ∃ q0, newQueue b n s = .ok q0 ∧ (runPre q0 ops = true →
      ∃ q' os, runM q0 ops = .ok (q', os) ∧ QInv2 q' ∧ SpecRunM [] ops os (abs q')) :=
  runM_from_new b n s hb hn hs hs2 ops

def pushN (q : Q) : List Nat → Res Q
  | [] => .ok q
  | x :: xs => do let q ← push q (some x); pushN q xs

def popN (q : Q) : Nat → Res Q
  | 0 => .ok q
  | n + 1 => do let (q, _) ← pop q; popN q n

/-- a three-node state with the head in node 1 and the tail in node 2 -/
def sample : Res Q := do
  let q ← newQueue 2 2 1
  let q ← pushN q [1, 2, 3, 4, 5, 6]
  popN q 2

example : (do let q ← sample; pure (abs q, q.hni, q.tni) : Res (List Elem × Nat × Nat)) =
    .ok ([some 3, some 4, some 5, some 6], 1, 2) := by decide +kernel

def flat (q : Q) : Res (List Elem) := do let l ← iterAll q; pure l.flatten

/-- New(2,2,1); Push 1..9; Pop ×4; hole at position 1; then each maintenance operation applied to that state -/
def maintWitness : Res (List (List Elem)) := do
  let q ← newQueue 2 2 1
  let q ← pushN q [1, 2, 3, 4, 5, 6, 7, 8, 9]
  let q ← popN q 4
  let (q, _) ← hole q 1
  let i0 ← flat q
  let q1 ← resize q
  let i1 ← flat q1
  let q2 ← freeQueue q1
  let i2 ← flat q2
  let q3 ← restructuring q2
  let i3 ← flat q3
  let q4 ← push q3 (some 10)
  let i4 ← flat q4
  let q5 ← reset q4
  let i5 ← flat q5
  let q6 ← pushN q5 [11, 12, 13]
  let q7 ← rellac q6
  let i7 ← flat q7
  pure [abs q, i0, abs q1, i1, abs q2, i2, abs q3, i3, i4, i5, abs q6, i7]

/-- One concrete run through every maintenance operation.  Nothing about it is partial: each step is an instance of
`deque_hole`, `deque_iter`, `deque_resize`, `deque_freeQueue`, `deque_restructuring`, `deque_reset_rellac`, lifted in
`deque_run_maintenance`. -/
theorem deque_maintenance_partial :
    maintWitness = .ok
      [[some 5, none, some 7, some 8, some 9], [some 5, none, some 7, some 8, some 9],
       [some 5, none, some 7, some 8, some 9], [some 5, none, some 7, some 8, some 9],
       [some 5, none, some 7, some 8, some 9], [some 5, none, some 7, some 8, some 9],
       [some 5, some 7, some 8, some 9], [some 5, some 7, some 8, some 9],
       [some 5, some 7, some 8, some 9, some 10], [], [some 11, some 12, some 13], []] := by decide +kernel

/-- PushLeft on a fresh queue is refused although a plain deque would accept it (API precondition: there must be
room before the head cursor; no production caller). -/
theorem pushLeft_refuses_at_origin :
    (do let q ← newQueue 1 3 4; let (q, ok) ← pushLeft q (some 1); let n ← len q; pure (ok, n) : Res (Bool × Int)) =
      .ok (false, 0) := by decide

/-- New(1,1,4); Push 1..5; Len() = 5; Shrink(0) (returns 4: it frees the HEAD node although it is in use);
Len() = 1.  `Shrink` has no state in which it both does something and refines the identity; no production caller. -/
def shrinkWitness : Res (Int × Nat × Int) := do
  let q ← newQueue 1 1 4
  let q ← pushN q [1, 2, 3, 4, 5]
  let n0 ← len q
  let (q, r) ← shrink q 0
  let n1 ← len q
  pure (n0, r, n1)

theorem shrink_breaks_len : shrinkWitness = .ok (5, 4, 1) := by decide +kernel

/-- `Resize` (no production caller) in a state with a spare allocated node behind the tail node: the content is kept
([4,5,6]) but `nodeIndex` (1) no longer covers the allocated nodes (node 3 stays allocated): `QInv` is lost, which is
why `deque_resize` asks for `NoSpare`.  New(1,1,1); Push 1..8; PopRight ×2; Pop ×3; Resize. -/
def resizeWitness : Res (List Elem × Nat × List Bool) := do
  let q ← newQueue 1 1 1
  let q ← pushN q [1, 2, 3, 4, 5, 6, 7, 8]
  let (q, _) ← popRight q
  let (q, _) ← popRight q
  let q ← popN q 3
  let q ← resize q
  pure (abs q, q.nodeIndex, q.queues.map Option.isSome)

theorem resize_leaves_orphan_node :
    resizeWitness = .ok ([some 4, some 5, some 6], 1, [true, true, false, true]) := by decide +kernel

/-- `Restructuring` (queue.go; no production caller) in a state with a spare allocated node behind the tail node
(`nodeIndex > tailNodeIndex`): New(1,1,1); Push 1..8; PopRight ×2; Pop ×6; Restructuring leaves `queueSize = 0`
(it reads the size of a node it has just freed); three pushes later a zero-length node is allocated and the next
Push panics with index out of range. -/
def restrWitness : Res Unit := do
  let q ← newQueue 1 1 1
  let q ← pushN q [1, 2, 3, 4, 5, 6, 7, 8]
  let (q, _) ← popRight q
  let (q, _) ← popRight q
  let q ← popN q 6
  let q ← restructuring q
  let q ← pushN q [9, 10, 11]
  let _ ← push q (some 12)
  pure ()

theorem restructuring_with_spare_node_breaks_push : restrWitness = .panic := by decide +kernel

/-! ### the db.go copies `restructuringLong{TimeOut,Expried}Queue` (production path, reached from
`RemoveLongTimeOut` / `RemoveLongExpried`) — REPAIRED in /repo f18505b

Before the repair they freed the trailing nodes without `nodeIndex--`; once the queue became empty `Reset` read
`queueSize = nodeQueueSizes[nodeIndex] = 0` and a later Push panicked (index out of range on a zero-length node).
A repair that only adds `nodeIndex--` is NOT enough: with a spare allocated node behind the tail node (left there by
an earlier restructuring) the same happens (second witness).  The repaired code frees from `nodeIndex` downwards. -/

def longPushN (l : LongQ) : List Nat → Res LongQ
  | [] => .ok l
  | x :: xs => do let l ← longPush l x; longPushN l xs

def longRemoveN (l : LongQ) : List Nat → Res LongQ
  | [] => .ok l
  | x :: xs => do let l ← longRemove l x; longRemoveN l xs

/-- LongWaitLockQueue(3,3,1): Push 1..4; Remove all four; restructuring (≙ drop holes: empty); Push 5..8. -/
def longWitness : Res (List Elem × List Elem × Int) := do
  let q ← newQueue 3 3 1
  let l : LongQ := { q := q, lockCount := 0, freeCount := 0, idx := [] }
  let l ← longPushN l [1, 2, 3, 4]
  let l ← longRemoveN l [1, 2, 3, 4]
  let l ← longRestructuring l
  let a0 := abs l.q
  let l ← longPushN l [5, 6, 7, 8]
  let n ← len l.q
  pure (a0, abs l.q, n)

/-- The sequence that panicked before the repair now behaves like the plain deque. -/
theorem long_restructuring_then_push_ok :
    longWitness = .ok ([], [some 5, some 6, some 7, some 8], 4) := by decide +kernel

/-- LongWaitLockQueue(4,1,1): Push 1..8; Remove 1,2; restructuring (leaves a spare node behind the tail node);
Remove 3..8; restructuring (empties and Resets the queue); Push 9..16. -/
def longSpareWitness : Res (List Elem × List Elem × List Elem) := do
  let q ← newQueue 4 1 1
  let l : LongQ := { q := q, lockCount := 0, freeCount := 0, idx := [] }
  let l ← longPushN l [1, 2, 3, 4, 5, 6, 7, 8]
  let l ← longRemoveN l [1, 2]
  let l ← longRestructuring l
  let a0 := abs l.q
  let l ← longRemoveN l [3, 4, 5, 6, 7, 8]
  let l ← longRestructuring l
  let a1 := abs l.q
  let l ← longPushN l [9, 10, 11, 12, 13, 14, 15, 16]
  pure (a0, a1, abs l.q)

/-- restructuring ≙ drop holes on both calls, and the pushes afterwards succeed (this is the case a bare
`nodeIndex--` repair would still get wrong). -/
theorem long_restructuring_spare_node_ok :
    longSpareWitness = .ok ([some 3, some 4, some 5, some 6, some 7, some 8], [],
      [some 9, some 10, some 11, some 12, some 13, some 14, some 15, some 16]) := by decide +kernel

/-- Push ≙ append, Pop ≙ remove first (a hole pops as nil), for every state satisfying `LInv = QInv ∧ HeadClean`. -/
theorem long_push_pop {l : LongQ} (h : LInv l) (id : Nat) :
    (∃ l', longPush l id = .ok l' ∧ LInv l' ∧ abs l'.q = abs l.q ++ [some id]) ∧
    (∃ l', longPop l = .ok (l', (abs l.q).head?.join) ∧ LInv l' ∧ abs l'.q = (abs l.q).tail) :=
  ⟨longPush_spec h id, longPop_spec h⟩

/-- Remove(lock) ≙ hole at content position `p`, when the lock's `longWaitIndex` designates that cell (`removeAt`). -/
theorem long_remove {l : LongQ} (h : LInv l) (id p : Nat) (hp : removeAt l id p = true) :
    ∃ l', longRemove l id = .ok l' ∧ LInv l' ∧ abs l'.q = (abs l.q).set p none := longRemove_spec h id p hp

/-- `restructuringLong*Queue` ≙ drop the holes (and Reset an emptied queue), for EVERY state satisfying the invariant —
no `NoSpare` precondition: the repaired code frees from `nodeIndex` downwards — provided the recomputed `queueSize` fits (`LongQsOK`:
`baseQueueSize * 2^nodeIndex < 2^31`; with the production `baseQueueSize = 256` that is `nodeIndex ≤ 22`). -/
theorem long_restructuring {l : LongQ} (h : LInv l) (hq : LongQsOK l.q) :
    ∃ l', longRestructuring l = .ok l' ∧ LInv l' ∧ abs l'.q = (abs l.q).filter Option.isSome :=
  longRestructuring_spec h hq

/-- Lifted: Push / Pop / Remove / restructuring / Len sequences of any length on a LongWaitLockQueue. -/
theorem long_run {l : LongQ} (h : LInv l) (ops : List LOp) (hp : runPreL l ops = true) :
    ∃ l' os, runL l ops = .ok (l', os) ∧ LInv l' ∧ SpecRunL (abs l.q) ops os (abs l'.q) := runL_refines h ops hp

/-- PARTIAL: that `lock.longWaitIndex` designates the lock's own cell in every reachable state (so that `removeAt` holds
for every lock that is in the queue) is NOT proved in general — it needs an index-table invariant through the
compaction loop.  Checked here on one run: after Push 1..6, Pop, Remove 4, restructuring (cells move), every remaining
lock's index designates its cell; on the real code this is what the differential (`remove:<id>` uses the real
`longWaitIndex`) and the monitor check on every run. -/
def longIndexWitness : Res (List Bool) := do
  let q ← newQueue 2 2 1
  let l : LongQ := { q := q, lockCount := 0, freeCount := 0, idx := [] }
  let l ← longPushN l [1, 2, 3, 4, 5, 6]
  let (l, _) ← longPop l
  let l ← longRemove l 4
  let a := [removeAt l 2 0, removeAt l 3 1, removeAt l 5 3, removeAt l 6 4]
  let l ← longRestructuring l
  pure (a ++ [removeAt l 2 0, removeAt l 3 1, removeAt l 5 2, removeAt l 6 3, removeAt l 6 2])

theorem long_remove_index_partial :
    longIndexWitness = .ok [true, true, true, true, true, true, true, true, false] := by decide +kernel

end Deque

section Containers
open Slock.Queue2

/-- RING = FIFO for every size, every admissible capacity growth and EVERY operation list. -/
theorem ring_refines_fifo (grow : Nat → Nat) (hg : GrowOK grow) (size : Nat) (ops : List QOp) :
    runOps (Ring.step grow) (Ring.new size) ops = runOps fifoStep [] ops :=
  runOps_sim (fun _ => True) (Ring.step grow) fifoStep (fun q l => q.Inv ∧ q.abs = l)
    (fun q l op _ h => Ring.step_sim grow hg q l op h) _ _ ⟨Ring.new_inv size, Ring.new_abs size⟩ ops
    (fun _ _ => trivial)

/-- PRIORITY RING = stable priority queue (higher priority first, FIFO among equals) for EVERY operation list whose
in-place mutations keep a lock's priority. -/
theorem prio_refines_stable_priority_queue (grow : Nat → Nat) (hg : GrowOK grow) (size : Nat)
    (ops : List QOp) (hops : ∀ op ∈ ops, PrioPreserving op) :
    runOps (PRing.step grow) (PRing.new size) ops = runOps prioStep [] ops :=
  runOps_sim PrioPreserving (PRing.step grow) prioStep (fun q l => q.Inv ∧ q.abs = l)
    (fun q l op hop h => PRing.step_sim grow hg q l op hop h) _ _
    ⟨PRing.new_inv size, PRing.new_abs size⟩ ops hops

/-- what "stable priority queue" means: sorted descending, a permutation, order kept inside each priority class -/
theorem stable_insert_spec (x : Slot) (l : List Slot) (h : SortedDesc l) :
    SortedDesc (specPushPrio x l) ∧ (specPushPrio x l).Perm (x :: l) ∧
      ∀ p, (specPushPrio x l).filter (fun y => prioOf y == p) =
        l.filter (fun y => prioOf y == p) ++ [x].filter (fun y => prioOf y == p) :=
  ⟨specPushPrio_sorted x l h, specPushPrio_perm x l, fun p => specPushPrio_stable x l p h⟩

/-- HOLDER queue Push across every representation (inline slice, compaction, growth, switch to the map-backed scale
queue): FIFO append, except that tombstoned (`locked = 0`) entries may be shed, and only those. -/
theorem holder_push (grow : Nat → Nat) (hg : GrowOK grow) (q : HolderQ) (e : Slock.Queue2.Elem) (h : q.Inv) :
    ∃ q' o, q.push grow (some e) = .ok (q', o) ∧ q'.Inv ∧
      PushSpec holderLive q.abs q'.abs (some e) o.dropped := HolderQ.push_refines grow hg q e h

/-- HOLDER queue Pop / Head / Len / IterNodes / Reset / Resize. -/
theorem holder_pop_observers (q : HolderQ) (h : q.Inv) :
    (q.pop.1.Inv ∧ q.pop.1.abs = q.abs.tail ∧ q.pop.2 = q.abs.headD none) ∧
    (q.head = q.abs.headD none ∧ q.len = (q.abs.length : Int) ∧
      q.iterNodes.1.flatten ++ (q.iterNodes.2.getD []) = q.abs ∧
      (q.reset.Inv ∧ q.reset.abs = []) ∧ q.resize = q) :=
  ⟨HolderQ.pop_refines q h, HolderQ.head_refines q, HolderQ.len_refines q h, HolderQ.iterNodes_refines q,
    HolderQ.reset_refines q h, rfl⟩

/-- WAIT queue Push in FIFO mode (inline slice → ring of 64), tombstoned = `timeouted || ackCount != 0xff`. -/
theorem wait_push_fifo (grow : Nat → Nat) (hg : GrowOK grow) (q : WaitQ) (e : Slock.Queue2.Elem)
    (h : q.Inv) (hm : 0 ≤ q.fastIndex) :
    ∃ q' o, q.push grow (some e) = .ok (q', o) ∧ q'.Inv ∧ 0 ≤ q'.fastIndex ∧
      PushSpec waitLive q.abs q'.abs (some e) o.dropped := WaitQ.push_fifo_refines grow hg q e h hm

/-- WAIT queue Push in priority mode = stable priority insert. -/
theorem wait_push_prio (grow : Nat → Nat) (hg : GrowOK grow) (q : WaitQ) (e : Slock.Queue2.Elem)
    (h : q.Inv) (hm : q.fastIndex < 0) :
    ∃ q', q.push grow (some e) = .ok (q', {}) ∧ q'.Inv ∧ q'.fastIndex < 0 ∧
      q'.abs = specPushPrio (some e) q.abs := WaitQ.push_prio_refines grow hg q e h hm

/-- WAIT queue Pop (either mode) and Head / Len / IterNodes / Reset. -/
theorem wait_pop_observers (q : WaitQ) (h : q.Inv) :
    (q.pop.1.Inv ∧ q.pop.1.abs = q.abs.tail ∧ q.pop.2 = q.abs.headD none ∧
      (q.pop.1.fastIndex < 0 ↔ q.fastIndex < 0)) ∧
    (q.head = q.abs.headD none ∧ q.len = (q.abs.length : Int) ∧ q.iterNodes.flatten = q.abs ∧
      (q.reset.Inv ∧ q.reset.abs = [] ∧ q.reset.fastIndex = 0)) :=
  ⟨WaitQ.pop_refines q h, WaitQ.head_refines q h, WaitQ.len_refines q h, WaitQ.iterNodes_refines q,
    WaitQ.reset_refines q⟩

/-- WAIT queue representation switch FIFO → priority ring = stable descending sort of the content. -/
theorem wait_repush (grow : Nat → Nat) (hg : GrowOK grow) (q : WaitQ) (h : q.Inv)
    (hm : 0 ≤ q.fastIndex) (hnn : ∀ s ∈ q.abs, s ≠ none) :
    ∃ q', q.rePush grow = .ok q' ∧ q'.Inv ∧ q'.fastIndex < 0 ∧ q'.abs = specSortPrio q.abs :=
  WaitQ.rePush_refines grow hg q h hm hnn

/-- the four constructors establish their invariants with empty content -/
theorem containers_new (size : Nat) (b : Bool) :
    ((Ring.new size).Inv ∧ (Ring.new size).abs = []) ∧ ((PRing.new size).Inv ∧ (PRing.new size).abs = []) ∧
    (HolderQ.new.Inv ∧ HolderQ.new.abs = []) ∧ ((WaitQ.new b).Inv ∧ (WaitQ.new b).abs = []) ∧
    ((WaitQ.new b).fastIndex < 0 ↔ b = true) :=
  ⟨⟨Ring.new_inv _, Ring.new_abs _⟩, ⟨PRing.new_inv _, PRing.new_abs _⟩, ⟨HolderQ.new_inv, HolderQ.new_abs⟩,
    ⟨WaitQ.new_inv b, WaitQ.new_abs b⟩, by cases b <;> simp [WaitQ.new]⟩

/-- PARTIAL: for the holder and wait queues only the per-operation theorems above are proved; the lift to
arbitrary operation sequences (their Push is nondeterministic about which tombstones are shed) and the statement
"under `LockManager.AddWaitLock` the wait queue is always in stable priority order" are NOT proved.  What IS proved
about arbitrary sequences: every per-operation theorem has `Inv` as its only state hypothesis and re-establishes it,
so the invariant holds in every reachable state. -/
theorem holder_wait_sequences_partial (grow : Nat → Nat) (hg : GrowOK grow) (q : WaitQ) (e : Slock.Queue2.Elem)
    (h : q.Inv) : ∃ q' o, q.push grow (some e) = .ok (q', o) ∧ q'.Inv := by
  by_cases hm : 0 ≤ q.fastIndex
  · obtain ⟨q', o, h1, h2, _, _⟩ := wait_push_fifo grow hg q e h hm
    exact ⟨q', o, h1, h2⟩
  · obtain ⟨q', h1, h2, _, _⟩ := wait_push_prio grow hg q e h (by omega)
    exact ⟨q', _, h1, h2⟩

end Containers

end Slock.C20
