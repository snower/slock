import Slock.Proofs.Engine2SimQueue
import Slock.Proofs.Engine2SimRelease
import Slock.Proofs.Engine2SimUpdOps
import Slock.Proofs.Engine2SimTomb
import Slock.Proofs.EngineSimTickKTTick
import Slock.Properties.C01
/-!
# EngineSim — the record-level model (M-ENGINE stage 2) against the stage-1 model, through `abs`

`Engine2.abs` forgets lock records, reference counts, tombstones, wheel bookkeeping, the value cell and the journal: what is left of a key
record is its live holders in order (`currentLock`, then the holder queue), its live queued requests in queue order, `locked`, `waited`.
The driver checks on every operation of every generated sequence that `abs` commutes with the two models (`crossCheck`, `ABS-MISMATCH`).

The key TABLE is ordered differently in the two models (stage 1 re-appends a stored key, the record-level model updates it in place), so
statements about whole databases are up to `Sim.Equiv`: same scalar fields, same state under every key.

For every reachable state of the record-level model, LOCK and UNLOCK without a value frame, on a key without a value (stage 1 has no
value cell), are stage 1's operations on `abs s` — same replies, `Equiv` results: `sim_lock`, `sim_unlock`. The record-level facts this
needs are invariants of the reachable states (`reachable_ki`, `reachable_ks`). What is ASSUMED: the two stage-1 invariants of the key's
view, `Engine.KeyInv` (`locked` = Σ depth) and `waited ⇒ waiters ≠ []` — they hold of every reachable stage-1 state and arrive through the
induction over a run (`Properties/EngineSimRun.lean`) — and, for cancel, that the key's live queued requests carry distinct
(RequestId, connection) pairs, by which stage 1's `removeWaiter` identifies a request (an input assumption). The clock tick is in
`Properties/EngineSimTick.lean`.
-/
namespace Slock.SimP
open Slock Slock.Sim
open Slock.Engine (has)

/-- a reachable state of the record-level model -/
def Reachable2 (s : Engine2.DB) : Prop := ∃ now aofTime ops, s = Engine2.run (Engine2.DB.init now aofTime) ops

/-- every invariant of the key records proved of the reachable states, at once; the `reachable_…` below are its parts -/
theorem reachable_wf {s : Engine2.DB} (h : Reachable2 s) : SimTick.WF s := by
  obtain ⟨now, a, ops, e⟩ := h
  rw [e]; exact SimTick.run_wf now a ops

theorem reachable_dbq {s : Engine2.DB} (h : Reachable2 s) : Engine2.DBQ s := (reachable_wf h).dbq

theorem abs_is_key_local {s : Engine2.DB} (h : Reachable2 s) (n : Nat) :
    (Engine2.abs s).getKey n = Engine2.Key.abs (s.getKey n) := abs_getKey s (reachable_dbq h).dbt.dbi.kn n

theorem lock_branch_refines {s : Engine2.DB} (h : Reachable2 s) (c : Engine.Cmd)
    (hcell : (s.getKey c.key).cell = none)
    (hp : has c.tflag Engine.TF_PRIORITY = true →
      Engine.checkWaitPriority (Engine2.Key.abs (s.getKey c.key)) c = Engine2.checkWaitPriority (s.getKey c.key) c) :
    Engine.classifyLock (Engine2.abs s) c = absLB (s.getKey c.key) (Engine2.classifyLock s c none) :=
  classify_lock_refines s (reachable_dbq h) c hcell hp

theorem unlock_branch_refines {s : Engine2.DB} (h : Reachable2 s) (c : Engine.Cmd) :
    Engine.classifyUnlock (Engine2.abs s) { c with mgr := s.hasKey c.key } = absUB (s.getKey c.key) c (Engine2.classifyUnlock s c) :=
  classify_unlock_refines s (reachable_dbq h) c

/-- **What the branch simulations assume of the key record is an invariant of reachable states** (`Sim.KI`, proved through every branch of LOCK / UNLOCK
and the two sweeps: `Sim.ki_closed`): connection = command's connection, wheel entries cache the back-off counter, holds carry distinct
identities below the sequence counter, what sits in the holder queue is not a live waiter, both queues hold distinct records. -/
theorem reachable_ki {s : Engine2.DB} (h : Reachable2 s) (n : Nat) : KI s.seq (s.getKey n) := ((reachable_wf h).dbs.getKey n).ki

theorem sim_lock_quiet {s : Engine2.DB} (h : Reachable2 s) (c : Engine.Cmd)
    (hcell : (s.getKey c.key).cell = none)
    (hp : has c.tflag Engine.TF_PRIORITY = true →
      Engine.checkWaitPriority (Engine2.Key.abs (s.getKey c.key)) c = Engine2.checkWaitPriority (s.getKey c.key) c)
    (hb : quietL (Engine2.classifyLock s c none) = true) :
    Equiv (Engine2.abs (Engine2.opLock s c none).1) (Engine.opLock (Engine2.abs s) c).1 ∧
    (Engine2.opLock s c none).2.map (·.r) = (Engine.opLock (Engine2.abs s) c).2 :=
  Sim.sim_lock_quiet s (reachable_dbq h) c hcell hp (reachable_ki h c.key) hb

theorem sim_unlock_quiet {s : Engine2.DB} (h : Reachable2 s) (c : Engine.Cmd)
    (hb : quietU (Engine2.classifyUnlock s c) = true) :
    Equiv (Engine2.abs (Engine2.opUnlock s c none).1) (Engine.opUnlock (Engine2.abs s) { c with mgr := s.hasKey c.key }).1 ∧
    (Engine2.opUnlock s c none).2.map (·.r) = (Engine.opUnlock (Engine2.abs s) { c with mgr := s.hasKey c.key }).2 :=
  Sim.sim_unlock_quiet s (reachable_dbq h) c (reachable_ki h c.key) hb

/-- **A stage-1 theorem transferred.** The contract of the admission kernel (C01 `doLock_sound`), for the direct grant of the
record-level model: when the record-level LOCK takes the grant branch, either nothing is held, or the request's Count is non-zero,
there is a current holder, and — below 65 535 outstanding holds — `locked` is at most the current holder's Count and at most the
request's Count (from 65 535 on both Counts are 0xffff). -/
theorem admission_contract_transfers {s : Engine2.DB} (h : Reachable2 s) (c : Engine.Cmd)
    (hcell : (s.getKey c.key).cell = none) (hnp : has c.tflag Engine.TF_PRIORITY = false)
    (hg : Engine2.classifyLock s c none = .grant) :
    (s.getKey c.key).locked = 0 ∨ (c.count ≠ 0 ∧ ∃ cur, (s.getKey c.key).current = some cur ∧
      (((s.getKey c.key).locked < 0xffff →
          (s.getKey c.key).locked ≤ ((s.getKey c.key).getR cur).cmd.count ∧ (s.getKey c.key).locked ≤ c.count) ∧
       (0xffff ≤ (s.getKey c.key).locked → ((s.getKey c.key).getR cur).cmd.count = 0xffff ∧ c.count = 0xffff))) := by
  have hq := reachable_dbq h
  have hb := lock_branch_refines h c hcell (fun hp => by rw [hnp] at hp; exact absurd hp (by simp))
  rw [hg] at hb
  have hd := Engine.classifyLock_grant_doLock (Engine2.abs s) c hb
  rw [abs_is_key_local h] at hd
  have hl : Engine2.CurLive (s.getKey c.key) := Engine2.cur_getKey hq.dbt.tight c.key
  have hn : Engine2.CurNone (s.getKey c.key) := (Engine2.qi_getKey hq.qi c.key).cn
  rcases Slock.C01.doLock_sound _ c hd with h0 | ⟨hc, cur, hcur, hb1, hb2⟩
  · exact Or.inl h0
  · right
    refine ⟨hc, ?_⟩
    rw [abs_head _ hl hn] at hcur
    cases hcc : (s.getKey c.key).current with
    | none => rw [hcc] at hcur; simp at hcur
    | some x =>
      rw [hcc] at hcur
      simp only [Option.map_some, Option.some.injEq] at hcur
      refine ⟨x, rfl, ?_⟩
      rw [← hcur] at hb1 hb2
      exact ⟨hb1, hb2⟩

/-- the facts about one key record of a reachable state, as one bundle (`SimInv.of_reachable`): `wq`, `hd`, `ck` are read off `reachable_ki`;
`ki` and `fl` are invariants of STAGE 1 (`Engine.KeyInv`, `Engine.Quiet.flag`) and arrive through the simulation itself. No theorem
takes the bundle: the branch theorems take `KI`, `ki`, `fl` -/
structure SimInv (k : Engine2.Key) : Prop where
  /-- wait-queue entries are distinct records; a live request is not in the holder queue and carries its command's connection -/
  wq : WQ k
  /-- stage 1's `locked = Σ depth` -/
  ki : Engine.KeyInv (Engine2.Key.abs k)
  /-- stage 1's `waited ⇒ something is queued` -/
  fl : (Engine2.Key.abs k).waited = true → (Engine2.Key.abs k).waiters ≠ []
  /-- the live holds carry pairwise distinct identities (the wheel sequence number of their grant) -/
  hd : ((Engine2.Key.abs k).holders.map (·.hid)).Nodup
  /-- a hold's expiry-wheel entry caches the hold's back-off counter -/
  ck : ∀ y sc, k.liveHolder y = true → (k.getR y).eSched = some sc → sc.checked = (k.getR y).eChecked

theorem SimInv.of_reachable {s : Engine2.DB} (h : Reachable2 s) (n : Nat) (ki : Engine.KeyInv (Engine2.Key.abs (s.getKey n)))
    (fl : (Engine2.Key.abs (s.getKey n)).waited = true → (Engine2.Key.abs (s.getKey n)).waiters ≠ []) : SimInv (s.getKey n) :=
  ⟨(reachable_ki h n).wq, ki, fl, (reachable_ki h n).hidNodup, fun y sc hl => (reachable_ki h n).ck y (Engine2.hasRec_of_depth (of_decide_eq_true hl)) sc⟩

/-- **The wake pass.** `wakeUpWaitLocks` on a linked key record — pop tombstoned heads, test the live head with `doLock`, grant it (hold
or no hold), repeat; clear `waited` and reclaim the key record when the queue runs empty — is stage 1's `wake` on the stage-1 view:
same counters / sequence number, same replies in the same order, same key afterwards (an EMPTY key if the record was reclaimed). -/
theorem wake_pass_refines (w : Engine2.W) (g : Engine2.Good w) (cl : Engine2.CurLive w.k) (hg : w.gone = false) (cn : Engine2.CurNone w.k)
    (q : WQ w.k) (a : Engine.DB) (hs : Scal a w.db) (ki : Engine.KeyInv (Engine2.Key.abs w.k)) :
    Scal (Engine.wake a (Engine2.Key.abs w.k) (w.out.map (·.r))).1 w.wake.db ∧
    Loc w.wake (Engine.wake a (Engine2.Key.abs w.k) (w.out.map (·.r))).2.1 ∧
    w.wake.out.map (·.r) = (Engine.wake a (Engine2.Key.abs w.k) (w.out.map (·.r))).2.2 :=
  sim_wake w g cl hg cn q a hs ki _ rfl

/-- **LOCK, direct grant (with or without a hold), then the wake pass**: the record-level step is stage 1's step on `abs`. -/
theorem sim_lock_grant {s : Engine2.DB} (h : Reachable2 s) (c : Engine.Cmd)
    (hcell : (s.getKey c.key).cell = none)
    (hp : has c.tflag Engine.TF_PRIORITY = true →
      Engine.checkWaitPriority (Engine2.Key.abs (s.getKey c.key)) c = Engine2.checkWaitPriority (s.getKey c.key) c)
    (ki : Engine.KeyInv (Engine2.Key.abs (s.getKey c.key)))
    (fl : (Engine2.Key.abs (s.getKey c.key)).waited = true → (Engine2.Key.abs (s.getKey c.key)).waiters ≠ [])
    (hb : Engine2.classifyLock s c none = .grant ∨ Engine2.classifyLock s c none = .grantNoHold) :
    Equiv (Engine2.abs (Engine2.opLock s c none).1) (Engine.opLock (Engine2.abs s) c).1 ∧
    (Engine2.opLock s c none).2.map (·.r) = (Engine.opLock (Engine2.abs s) c).2 := by
  have hq := reachable_dbq h
  have hcl := lock_branch_refines h c hcell hp
  unfold Engine.opLock Engine2.opLock
  simp only []
  rcases hb with hb | hb
  · rw [hb] at hcl ⊢
    rw [hcl]
    exact Sim.sim_lock_grant s hq c none hb (reachable_ki h c.key) ki
  · rw [hb] at hcl ⊢
    rw [hcl]
    exact Sim.sim_lock_grantNoHold s hq c none hb (reachable_ki h c.key) ki fl

/-- **UNLOCK of a hold — one level of a re-entrant hold, or the release (record freed when nothing refers to it, key record reclaimed
when it was the last), then the wake pass**: the record-level step is stage 1's step on `abs`. -/
theorem sim_unlock_hold {s : Engine2.DB} (h : Reachable2 s) (c : Engine.Cmd) (data : Option Engine2.Bytes)
    (ki : Engine.KeyInv (Engine2.Key.abs (s.getKey c.key)))
    (fl : (Engine2.Key.abs (s.getKey c.key)).waited = true → (Engine2.Key.abs (s.getKey c.key)).waiters ≠ [])
    (hb : (∃ x c', Engine2.classifyUnlock s c = .dec x c') ∨ (∃ x c', Engine2.classifyUnlock s c = .release x c')) :
    Equiv (Engine2.abs (Engine2.opUnlock s c data).1) (Engine.opUnlock (Engine2.abs s) { c with mgr := s.hasKey c.key }).1 ∧
    (Engine2.opUnlock s c data).2.map (·.r) = (Engine.opUnlock (Engine2.abs s) { c with mgr := s.hasKey c.key }).2 := by
  have hq := reachable_dbq h
  have hcl := unlock_branch_refines h c
  unfold Engine.opUnlock Engine2.opUnlock
  simp only []
  rcases hb with ⟨x, c', hb⟩ | ⟨x, c', hb⟩
  · rw [hb] at hcl ⊢
    rw [hcl]
    exact Sim.sim_unlock_dec s hq c data x c' hb (reachable_ki h c.key) ki _ _
  · rw [hb] at hcl ⊢
    rw [hcl]
    exact Sim.sim_unlock_release s hq c data x c' hb (reachable_ki h c.key) ki fl _ _

/-- **LOCK on a held LockId that changes the hold — update with different terms, or re-entrant lock — then the wake pass**: the
record-level step (`UpdateLockedLock`, long-table move, journal) is stage 1's `updateHold` step on `abs`. -/
theorem sim_lock_hold {s : Engine2.DB} (h : Reachable2 s) (c : Engine.Cmd)
    (hcell : (s.getKey c.key).cell = none)
    (hp : has c.tflag Engine.TF_PRIORITY = true →
      Engine.checkWaitPriority (Engine2.Key.abs (s.getKey c.key)) c = Engine2.checkWaitPriority (s.getKey c.key) c)
    (ki : Engine.KeyInv (Engine2.Key.abs (s.getKey c.key)))
    (hb : (∃ x, Engine2.classifyLock s c none = .update x) ∨ (∃ x, Engine2.classifyLock s c none = .relock x)) :
    Equiv (Engine2.abs (Engine2.opLock s c none).1) (Engine.opLock (Engine2.abs s) c).1 ∧
    (Engine2.opLock s c none).2.map (·.r) = (Engine.opLock (Engine2.abs s) c).2 := by
  have hq := reachable_dbq h
  have hcl := lock_branch_refines h c hcell hp
  unfold Engine.opLock Engine2.opLock
  simp only []
  rcases hb with ⟨x, hb⟩ | ⟨x, hb⟩
  · rw [hb] at hcl ⊢
    rw [hcl]
    exact Sim.sim_lock_update s hq c none x hb (reachable_ki h c.key) ki
  · rw [hb] at hcl ⊢
    rw [hcl]
    exact Sim.sim_lock_relock s hq c none x hb (reachable_ki h c.key) ki

/-- **UNLOCK with the cancel flag hitting a queued request** (tombstone where it sits, `settleWait`, reclaim check, two replies, then
the wake pass) is stage 1's `removeWaiter` step — given that the live queued requests of the key carry pairwise distinct
(RequestId, connection) pairs, which is what stage 1's `removeWaiter` identifies a request by (an input assumption: a client does not
reuse the id of a pending request). -/
theorem sim_unlock_cancel {s : Engine2.DB} (h : Reachable2 s) (c : Engine.Cmd) (data : Option Engine2.Bytes)
    (ki : Engine.KeyInv (Engine2.Key.abs (s.getKey c.key)))
    (wu : ((Engine2.Key.abs (s.getKey c.key)).waiters.map rcOf).Nodup)
    (hb : ∃ x, Engine2.classifyUnlock s c = .cancel x) :
    Equiv (Engine2.abs (Engine2.opUnlock s c data).1) (Engine.opUnlock (Engine2.abs s) { c with mgr := s.hasKey c.key }).1 ∧
    (Engine2.opUnlock s c data).2.map (·.r) = (Engine.opUnlock (Engine2.abs s) { c with mgr := s.hasKey c.key }).2 := by
  have hq := reachable_dbq h
  have hcl := unlock_branch_refines h c
  unfold Engine.opUnlock Engine2.opUnlock
  simp only []
  obtain ⟨x, hb⟩ := hb
  rw [hb] at hcl ⊢
  rw [hcl]
  exact Sim.sim_unlock_cancel s hq c data x hb (reachable_ki h c.key) ki wu _

/-- **Every reachable state**: `KI` + the SHAPE of every wait queue (`Sim.QS`: empty unless `waited`; cached priorities current;
priority mode sorted, FIFO mode all equal; nothing behind the head is held) + the raw head of every wait queue is a live request
(`Sim.HL`) — `Sim.ks_closed`. -/
theorem reachable_ks {s : Engine2.DB} (h : Reachable2 s) (n : Nat) : KS s.seq (s.getKey n) := (reachable_wf h).dbs.getKey n

/-- the waiter-priority test reads the same number in both models: the hypothesis `hp` of `lock_branch_refines` holds in every
reachable state -/
theorem wait_priority_refines {s : Engine2.DB} (h : Reachable2 s) (c : Engine.Cmd) :
    Engine.checkWaitPriority (Engine2.Key.abs (s.getKey c.key)) c = Engine2.checkWaitPriority (s.getKey c.key) c :=
  checkWaitPriority_refines (reachable_ks h c.key) c

/-- **LOCK (no value frame, key without a value) — every branch**: the record-level operation is stage 1's operation on `abs`, given
the two stage-1 invariants of the key's view. -/
theorem sim_lock {s : Engine2.DB} (h : Reachable2 s) (c : Engine.Cmd) (hcell : (s.getKey c.key).cell = none)
    (ki : Engine.KeyInv (Engine2.Key.abs (s.getKey c.key)))
    (fl : (Engine2.Key.abs (s.getKey c.key)).waited = true → (Engine2.Key.abs (s.getKey c.key)).waiters ≠ []) :
    Equiv (Engine2.abs (Engine2.opLock s c none).1) (Engine.opLock (Engine2.abs s) c).1 ∧
    (Engine2.opLock s c none).2.map (·.r) = (Engine.opLock (Engine2.abs s) c).2 := by
  have hp := fun (_ : has c.tflag Engine.TF_PRIORITY = true) => wait_priority_refines h c
  cases hb : Engine2.classifyLock s c none with
  | p0a | p0b | stateError | «show» _ | updateEqual _ | relockNoHold _ | relockRefused _ | unlockedWaitRefused | timeout =>
    exact sim_lock_quiet h c hcell hp (by rw [hb]; rfl)
  | updateEqualData x => exact absurd hb (classifyLock_no_ued s c x hcell)
  | update x => exact sim_lock_hold h c hcell hp ki (Or.inl ⟨x, hb⟩)
  | relock x => exact sim_lock_hold h c hcell hp ki (Or.inr ⟨x, hb⟩)
  | grant => exact sim_lock_grant h c hcell hp ki fl (Or.inl hb)
  | grantNoHold => exact sim_lock_grant h c hcell hp ki fl (Or.inr hb)
  | queue =>
    have hq := reachable_dbq h
    have hcl := lock_branch_refines h c hcell hp
    unfold Engine.opLock Engine2.opLock
    simp only []
    rw [hb] at hcl ⊢
    rw [hcl]
    exact Sim.sim_lock_queue s hq c none hb (reachable_ks h c.key)

/-- **UNLOCK (no value frame) — every branch**, given the two stage-1 invariants of the key's view and that the key's live queued
requests carry distinct (RequestId, connection) pairs. -/
theorem sim_unlock {s : Engine2.DB} (h : Reachable2 s) (c : Engine.Cmd)
    (ki : Engine.KeyInv (Engine2.Key.abs (s.getKey c.key)))
    (fl : (Engine2.Key.abs (s.getKey c.key)).waited = true → (Engine2.Key.abs (s.getKey c.key)).waiters ≠ [])
    (wu : ((Engine2.Key.abs (s.getKey c.key)).waiters.map rcOf).Nodup) :
    Equiv (Engine2.abs (Engine2.opUnlock s c none).1) (Engine.opUnlock (Engine2.abs s) { c with mgr := s.hasKey c.key }).1 ∧
    (Engine2.opUnlock s c none).2.map (·.r) = (Engine.opUnlock (Engine2.abs s) { c with mgr := s.hasKey c.key }).2 := by
  cases hb : Engine2.classifyUnlock s c with
  | noManager | stateError | notLocked | unown | cancelNone => exact sim_unlock_quiet h c (by rw [hb]; rfl)
  | cancel x => exact sim_unlock_cancel h c none ki wu ⟨x, hb⟩
  | dec x c' => exact sim_unlock_hold h c none ki fl (Or.inl ⟨x, c', hb⟩)
  | release x c' => exact sim_unlock_hold h c none ki fl (Or.inr ⟨x, c', hb⟩)

end Slock.SimP
