import Slock.Properties.EngineSimRun
import Slock.Proofs.Engine2CellNone
/-!
# EngineSimFrameFree — the simulation's premise `RunOK` discharged for frame-free runs

`SimP.sim_run` (stage 2 → stage 1) has the premise `RunOK init ops`, whose LOCK clause is SEMANTIC: "the key record the LOCK addresses has no
value cell at that moment". Here that clause is derived from a SYNTACTIC condition on the operation list: no LOCK / UNLOCK carries a value
frame (`FrameFree ops`). The invariant behind it (`Proofs/Engine2CellNone.lean`, `CellNone.run_dn`): along such a run from the initial
database no key record ever has a value cell and no lock record a pending frame — the cell is only ever created by the value operation of a
command (or of a queued record) that carries a frame.

What is left of `RunOK` is the condition on the clock ticks, `LeaderTicks init ops`: every tick happens while the node is leader (off-leader
the record-level expiry sweep defers, stage 1 has no such rule). It is semantic in form but depends on the role flips only; its syntactic
form is `leaderTicksFrom role ops` (the role at a tick = the last `setLeader` before it, else the initial role): `leaderTicks_iff`.

So: `RunOK (DB.init …) ops ↔ FrameFree ops ∧ leaderTicksFrom true ops` (`runOK_init_iff`), and `sim_run` / `C01_mutex_transfers` hold under
purely syntactic premises (`sim_run_frameFree_syn`, `C01_mutex_transfers_frameFree_syn`).
-/
namespace Slock.SimP
open Slock Slock.Sim
open Slock.CellNone (NoFrame DN)

/-- no operation of the sequence carries a value frame (syntactic) -/
def FrameFree (ops : List Engine2.Op) : Prop := ∀ o ∈ ops, NoFrame o

instance (ops : List Engine2.Op) : Decidable (FrameFree ops) := by unfold FrameFree; infer_instance

/-- every clock tick of the sequence happens while the node is leader -/
def LeaderTicks : Engine2.DB → List Engine2.Op → Prop
  | _, [] => True
  | s, o :: ops => (o = .tick → s.leader = true) ∧ LeaderTicks (Engine2.step s o).1 ops

/-- … syntactically: the role at a tick is the last `setLeader` before it, else the initial role -/
def leaderTicksFrom : Bool → List Engine2.Op → Bool
  | _, [] => true
  | _, .setLeader b :: ops => leaderTicksFrom b ops
  | l, .tick :: ops => l && leaderTicksFrom l ops
  | l, .lock _ _ :: ops => leaderTicksFrom l ops
  | l, .unlock _ _ :: ops => leaderTicksFrom l ops

/-- only a role flip changes the role -/
theorem step_leader (s : Engine2.DB) (o : Engine2.Op) :
    (Engine2.step s o).1.leader = (match o with | .setLeader b => b | _ => s.leader) := by
  cases o with
  | lock c d => exact (Engine2.opLock_journal s c d).1
  | unlock c d => exact (Engine2.opUnlock_journal s c d).1
  | tick => exact (Engine2.opTick_journal s).1
  | setLeader b => rfl

theorem leaderTicks_iff (ops : List Engine2.Op) : ∀ s : Engine2.DB, LeaderTicks s ops ↔ leaderTicksFrom s.leader ops = true := by
  induction ops with
  | nil => intro s; simp [LeaderTicks, leaderTicksFrom]
  | cons o os ih =>
    intro s
    have hl := step_leader s o
    cases o <;> simp [LeaderTicks, leaderTicksFrom, ih, hl]

/-- from a database without value state: frame-free operations and ticks on the leader satisfy the simulation's premises -/
theorem runOK_of_dn (ops : List Engine2.Op) : ∀ s : Engine2.DB, DN s → FrameFree ops → LeaderTicks s ops → RunOK s ops := by
  induction ops with
  | nil => intro _ _ _ _; trivial
  | cons o os ih =>
    intro s hs hf hl
    have ho : NoFrame o := hf o (by simp)
    refine ⟨?_, ih _ (CellNone.step_dn hs o ho) (fun x hx => hf x (List.mem_cons_of_mem _ hx)) hl.2⟩
    cases o with
    | lock c d =>
      have e : d = none := ho
      subst e
      exact (hs.getKey c.key).cell
    | unlock c d =>
      have e : d = none := ho
      subst e
      trivial
    | tick => exact hl.1 rfl
    | setLeader b => trivial

/-- **`RunOK` from syntactic premises** (plus the role condition on ticks) -/
theorem runOK_of_frameFree {now aofTime : Nat} {ops : List Engine2.Op} (hf : FrameFree ops)
    (hl : LeaderTicks (Engine2.DB.init now aofTime) ops) : RunOK (Engine2.DB.init now aofTime) ops :=
  runOK_of_dn ops _ (DN.init now aofTime) hf hl

theorem StepOK.noFrame {s : Engine2.DB} {o : Engine2.Op} (h : StepOK s o) : NoFrame o := by
  cases o with
  | lock c d => cases d with
    | none => rfl
    | some _ => exact h.elim
  | unlock c d => cases d with
    | none => rfl
    | some _ => exact h.elim
  | tick => trivial
  | setLeader b => trivial

/-- nothing is lost: `RunOK` (from any state) implies both conditions -/
theorem frameFree_of_runOK (ops : List Engine2.Op) : ∀ s : Engine2.DB, RunOK s ops → FrameFree ops ∧ LeaderTicks s ops := by
  induction ops with
  | nil => intro _ _; exact ⟨fun _ h => (nomatch h), trivial⟩
  | cons o os ih =>
    intro s h
    obtain ⟨f, l⟩ := ih _ h.2
    exact ⟨fun x hx => (List.mem_cons.mp hx).elim (· ▸ h.1.noFrame) (f x), fun e => by subst e; exact h.1, l⟩

theorem runOK_syn {now aofTime : Nat} {ops : List Engine2.Op} (hf : FrameFree ops) (hl : leaderTicksFrom true ops = true) :
    RunOK (Engine2.DB.init now aofTime) ops :=
  runOK_of_frameFree hf ((leaderTicks_iff ops _).mpr hl)

/-- **the premise of `sim_run`, characterised syntactically** -/
theorem runOK_init_iff (now aofTime : Nat) (ops : List Engine2.Op) :
    RunOK (Engine2.DB.init now aofTime) ops ↔ FrameFree ops ∧ leaderTicksFrom true ops = true :=
  ⟨fun h => have ⟨f, l⟩ := frameFree_of_runOK ops _ h; ⟨f, (leaderTicks_iff ops _).mp l⟩, fun ⟨f, l⟩ => runOK_syn f l⟩

/-- **the closing statement of the simulation for frame-free runs**: no value frames, ticks on the leader, connection-unique RequestIds -/
theorem sim_run_frameFree (now aofTime : Nat) (ops : List Engine2.Op) (hf : FrameFree ops) (hl : LeaderTicks (Engine2.DB.init now aofTime) ops)
    (hu : ∀ x, (issued2 ops).count x ≤ 1) :
    ∃ ops1 : List C01.Op, ops1.length = ops.length ∧
      Equiv (Engine2.abs (Engine2.run (Engine2.DB.init now aofTime) ops)) (C01.run (Engine.DB.init now) ops1) :=
  sim_run now aofTime ops (runOK_of_frameFree hf hl) hu

theorem sim_run_frameFree_syn (now aofTime : Nat) (ops : List Engine2.Op) (hf : FrameFree ops) (hl : leaderTicksFrom true ops = true)
    (hu : ∀ x, (issued2 ops).count x ≤ 1) :
    ∃ ops1 : List C01.Op, ops1.length = ops.length ∧
      Equiv (Engine2.abs (Engine2.run (Engine2.DB.init now aofTime) ops)) (C01.run (Engine.DB.init now) ops1) :=
  sim_run now aofTime ops (runOK_syn hf hl) hu

/-- **C01 (mutual exclusion) transferred to the record-level model, for frame-free runs** -/
theorem C01_mutex_transfers_frameFree (now aofTime : Nat) (ops : List Engine2.Op) (hf : FrameFree ops)
    (hl : LeaderTicks (Engine2.DB.init now aofTime) ops) (hid : ∀ x, (issued2 ops).count x ≤ 1) (k : Nat)
    (hu : ∀ c d, Engine2.Op.lock c d ∈ ops → c.key = k → c.count = 0) :
    ((Engine2.run (Engine2.DB.init now aofTime) ops).getKey k).holders.length ≤ 1 :=
  C01_mutex_transfers now aofTime ops (runOK_of_frameFree hf hl) hid k hu

theorem C01_mutex_transfers_frameFree_syn (now aofTime : Nat) (ops : List Engine2.Op) (hf : FrameFree ops)
    (hl : leaderTicksFrom true ops = true) (hid : ∀ x, (issued2 ops).count x ≤ 1) (k : Nat)
    (hu : ∀ c d, Engine2.Op.lock c d ∈ ops → c.key = k → c.count = 0) :
    ((Engine2.run (Engine2.DB.init now aofTime) ops).getKey k).holders.length ≤ 1 :=
  C01_mutex_transfers now aofTime ops (runOK_syn hf hl) hid k hu

/-- the invariant itself, at the properties level: along a frame-free run from the initial database no key record has a value cell and no
lock record a pending value frame -/
theorem frameFree_cell_none (now aofTime : Nat) (ops : List Engine2.Op) (hf : FrameFree ops) (n : Nat) :
    ((Engine2.run (Engine2.DB.init now aofTime) ops).getKey n).cell = none ∧
    ∀ rid, (((Engine2.run (Engine2.DB.init now aofTime) ops).getKey n).getR rid).data = none :=
  CellNone.run_init_cell_none now aofTime ops hf n

/-! the premises are satisfiable: a grant, two queued requests, role flips, a tick that fires a timeout, a release that wakes a waiter -/

def ffH : Engine.Cmd := { req := 1, conn := 1, flag := 0, lockId := 1, key := 7, tflag := 0, timeout := 0, eflag := 0, expried := 50, count := 0, rcount := 0 }
def ffW : Engine.Cmd := { ffH with req := 2, lockId := 2, timeout := 1 }
def ffV : Engine.Cmd := { ffH with req := 3, lockId := 3, timeout := 30 }
def ffU : Engine.Cmd := { ffH with req := 4 }
def demoF : List Engine2.Op :=
  [.lock ffH none, .lock ffW none, .lock ffV none, .setLeader false, .setLeader true, .tick, .tick, .unlock ffU none]

example : FrameFree demoF := by decide +kernel
example : leaderTicksFrom true demoF = true := by decide +kernel
example : LeaderTicks (Engine2.DB.init 100 0) demoF := (leaderTicks_iff _ _).mpr (by decide +kernel)
example : ∀ x, (issued2 demoF).count x ≤ 1 := List.nodup_iff_count.mp (by decide +kernel)
example : RunOK (Engine2.DB.init 100 0) demoF := runOK_syn (by decide +kernel) (by decide +kernel)

/-- the first LOCK is granted (0), the other two get no reply yet (queued) -/
example : (Engine2.step (Engine2.DB.init 100 0) (.lock ffH none)).2.map (·.r.result) = [0] := by decide +kernel
example : (Engine2.step (Engine2.run (Engine2.DB.init 100 0) (demoF.take 1)) (.lock ffW none)).2 = [] := by decide +kernel
example : (Engine2.step (Engine2.run (Engine2.DB.init 100 0) (demoF.take 2)) (.lock ffV none)).2 = [] := by decide +kernel
example : ((Engine2.run (Engine2.DB.init 100 0) (demoF.take 3)).getKey 7).waiters.length = 2 := by decide +kernel
/-- the second tick answers the first queued request with TIMEOUT (8) -/
example : (Engine2.step (Engine2.run (Engine2.DB.init 100 0) (demoF.take 6)) .tick).2.map (·.r.result) = [8] := by decide +kernel
/-- the release answers the UNLOCK (0) and grants the remaining queued request (0), which then holds the lock -/
example : (Engine2.step (Engine2.run (Engine2.DB.init 100 0) (demoF.take 7)) (.unlock ffU none)).2.map (fun r => (r.r.req, r.r.result)) = [(4, 0), (3, 0)] := by
  decide +kernel
example : ((Engine2.run (Engine2.DB.init 100 0) demoF).getKey 7).holders.map (·.cmd.lockId) = [3] := by decide +kernel

/-- a tick off-leader is rejected by the syntactic role condition -/
example : leaderTicksFrom true [.setLeader false, .tick] = false := by decide +kernel
/-- a LOCK with a value frame is rejected by `FrameFree` -/
example : ¬ FrameFree [.lock ffH (some [])] := by decide +kernel

end Slock.SimP
