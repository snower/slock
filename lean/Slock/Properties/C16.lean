import Slock.Proofs.AofCompact
import Slock.Properties.C08
/-!
# C16 — log compaction preserves the recoverable state, even if interrupted

Model (Model/Aof.lean): a directory is a list of (parsed name, bytes); `recoverDir` = `FindAofFiles` + `LoadAofFiles`
(`none` = start-up error); `compactionSteps cfg now keep cur d` = the ordered file-system mutations of `rewriteAofFiles`:
`writeSteps` (open `rewrite.aof.tmp` in append mode, write kept records, write their values) then `clearSteps` (for each input:
remove it, remove its `.dat`; rename tmp → `rewrite.aof`; rename tmp.dat → `rewrite.aof.dat`) — the order of `clearRewriteAofFiles`.
`keep` is a parameter in the crash theorems; the real rule is `keepRule now view` = `LockDB.HasLock` on the command the
compaction builds, with `Expried := GetLockCommandExpriedTime(now)` — the REMAINING lifetime — and `CheckLockedEqual` through the
regenerated kernels (`C16_keep_*`).

Verdict on the code: `C16_crash` (every prefix of the mutation list recovers to the same state) is FALSE:
* crash after an input has been removed and before the first rename: its live records are gone (`C16_crash_fails`);
* crash between the two renames: `rewrite.aof` has value-carrying records but no `rewrite.aof.dat`: start-up error
  (`C16_crash_between_renames_fails`).
Proved for all inputs: every crash during the write phase is invisible to the next start (`C16_crash_partial`), and — at the
level of record lists — replaying the kept records equals replaying all of them, given the two stated hypotheses on the
engine (`C16_content_partial`). The identification "recoverDir of the compacted directory = kept records of the inputs,
then the current append file" is checked on the witness below by evaluation and against the real code by the `aofrewrite`
differential; it is not proved for all directories.
-/
namespace Slock.C16
open Slock.Aof

/-- **Safe prefixes, all inputs**: a crash after any of the first `|writeSteps|` mutations (everything before the first
remove) leaves a directory that recovers exactly as the directory before the compaction. -/
theorem C16_crash_partial (cfg : Nat) (now : Int) (kept : List Rec) (inputs : List Base) (d : Dir) (i : Nat)
    (hi : i ≤ (writeSteps kept).length) :
    recoverDir cfg now (applyPrefix i (writeSteps kept ++ clearSteps inputs) d) = recoverDir cfg now d := by
  unfold recoverDir applyPrefix
  rw [List.take_append_of_le_length hi,
    relevant_applyOps _ d (fun op hop => writeSteps_tmp kept op (List.mem_of_mem_take hop))]

/-- The mutation list of a compaction always has that shape (or is empty: nothing to compact). -/
theorem C16_steps_shape (cfg : Nat) (now : Int) (keep : Rec → Bool) (cur : Nat) (d : Dir) :
    compactionSteps cfg now keep cur d = [] ∨
    ∃ inputs, compactionSteps cfg now keep cur d = writeSteps (keptRecords cfg now keep d inputs) ++ clearSteps inputs := by
  unfold compactionSteps
  split
  · exact Or.inl rfl
  · exact Or.inl rfl
  · exact Or.inr ⟨_, rfl⟩

/-- **Content, record level, all inputs.** Hypotheses, explicitly: (`hdrop`) replaying a record the keep-rule drops does not
change the engine state; (`hmark`) the engine ignores the REWRITED bit the compaction sets. Then replaying what the compaction
wrote (`(recs.filter keep).map markRewritten`), followed by the current append file's records `cur`, gives the same state as
replaying the replaced files' records `recs` followed by `cur`. -/
theorem C16_content_partial {σ : Type} (replay : σ → Rec → σ) (keep : Rec → Bool)
    (hdrop : ∀ s r, keep r = false → replay s r = s) (hmark : ∀ s r, replay s (markRewritten r) = replay s r)
    (recs cur : List Rec) (s : σ) :
    (((recs.filter keep).map markRewritten) ++ cur).foldl replay s = (recs ++ cur).foldl replay s := by
  rw [List.foldl_append, List.foldl_append, replay_kept replay keep hdrop hmark recs s]

/-- **A record that describes a live hold is kept whatever its age — seconds.** The hold has deadline `d = s + e + 1`; the
record was written at `c` (`s ≤ c`), the compaction runs at `n` (`c ≤ n < d`): the expiry comparison of `CheckLockedEqual` on
the remaining lifetime succeeds, so the decision is the count comparison alone. -/
theorem C16_keep_aged_seconds (ef e : Nat) (s c n : Int) (countEq : Bool) (h : IsSeconds ef) (he : 0 < e) (he2 : e ≤ 65535)
    (hs : 0 ≤ s) (hsc : s ≤ c) (hcn : c ≤ n) (hnd : n < s + e + 1) :
    Slock.Gen.K.checkLockedEqual n (s + e + 1) ef (loadRemaining ef (writeRemaining ef e (some (s + e + 1)) c) c n) countEq = countEq := by
  obtain ⟨_, _, _, hd, hsat⟩ := sec_write ef e (s + e + 1) c h (by omega) (Int.lt_of_le_of_lt hcn hnd)
  generalize writeRemaining ef e (some (s + e + 1)) c = rem at hd hsat
  have hl := sec_load ef rem c n h hcn (by omega)
  generalize loadRemaining ef rem c n = re at hl
  rw [checkLockedEqual_sec _ _ _ _ _ h, decide_eq_true (by omega), Bool.true_and]

theorem C16_keep_aged_minutes (ef e : Nat) (s c n : Int) (countEq : Bool) (h : IsMinutes ef)
    (hcn : c ≤ n) (hnd : n < s + (e : Int) * 60 + 1) (hov : s + (e : Int) * 60 + 1 - c ≤ 60 * 65535) :
    Slock.Gen.K.checkLockedEqual n (s + (e : Int) * 60 + 1) ef
      (loadRemaining ef (writeRemaining ef e (some (s + (e : Int) * 60 + 1)) c) c n) countEq = countEq := by
  obtain ⟨hr, hlo, hhi⟩ := min_write_bounds ef e (s + (e : Int) * 60 + 1) c h (Int.lt_of_le_of_lt hcn hnd) hov
  have := min_reload (n := n) h hcn hr (by omega)
  rw [checkLockedEqual_min _ _ _ _ _ h, decide_eq_true (by omega), Bool.true_and]

/-- The keep-rule on a LOCK record with the update-when-locked flag and no value is exactly that comparison. -/
theorem C16_keep_rule_update_record (now : Int) (view : List KeyView) (r : Rec) (k : KeyView) (h : HoldView)
    (hk : view.find? (fun k => k.db = recDb r.buf ∧ k.key = recKey r.buf) = some k)
    (hh : k.holds.find? (fun h => h.lockId = recLockId r.buf) = some h)
    (hct : commandType r.buf = 1) (hfl : recFlag r.buf &&& 0x02 ≠ 0) (hd : r.data = none)
    (hnz : ¬ (keepExpried now r.buf = 0 ∧ expriedFlag r.buf &&& 0x4440 = 0)) :
    keepRule now view r = lockedEqual now h r.buf := by
  have hne : k.holds.isEmpty = false := by
    cases hkh : k.holds with
    | nil => rw [hkh] at hh; simp at hh
    | cons a l => rfl
  unfold keepRule
  simp only [hk, hne, Bool.false_eq_true, if_false, hct, if_true, hnz, hfl, ne_eq, not_false_eq_true, hh, hd]

/-- Non-vacuity, and why the rule must use the REMAINING lifetime: a 100-second hold granted at 1000 (deadline 1101),
journalled at 1010 (91 s stored), compacted at 1050 (40 s old): remaining lifetime 51 ⇒ kept; comparing the RECORDED lifetime
(91) instead would drop the record of a live hold. -/
theorem C16_keep_aged_example :
    writeRemaining 0 100 (some 1101) 1010 = 91 ∧ loadRemaining 0 91 1010 1050 = 51 ∧
    Slock.Gen.K.checkLockedEqual 1050 1101 0 51 true = true ∧ Slock.Gen.K.checkLockedEqual 1050 1101 0 91 true = false := by decide

def a (i : Nat) (dat : Bool) : FName := ⟨.append i, dat⟩

/-- One live hold journalled in `append.aof.1`; `append.aof.2` is the current (empty) append file. -/
def d0 : Dir := [(a 1 false, encodeFile [C08.r1]), (a 1 true, []), (a 2 false, headerBytes), (a 2 true, [])]

def steps0 : List FsOp := compactionSteps 4096 0 (fun _ => true) 2 d0

example : steps0 = [.openAppend .rewriteTmp, .append tmpLog (encodeRecs [markRewritten C08.r1]),
    .remove (a 1 false), .remove (a 1 true), .rename tmpLog ⟨.rewrite, false⟩, .rename tmpDat ⟨.rewrite, true⟩] := by decide +kernel

/-- The complete compaction preserves the recoverable state of the witness (up to the REWRITED bit). -/
theorem C16_content_example :
    recoverDir 4096 0 d0 = some [C08.r1] ∧ recoverDir 4096 0 (applyOps d0 steps0) = some [markRewritten C08.r1] := by decide +kernel

/-- **`C16_crash` is false.** Crash after mutation 3 (`append.aof.1` removed, `rewrite.aof.tmp` not yet renamed): the next
start succeeds and recovers NOTHING — the live hold is lost. Same after mutation 4. -/
theorem C16_crash_fails :
    recoverDir 4096 0 d0 = some [C08.r1] ∧
    recoverDir 4096 0 (applyPrefix 3 steps0 d0) = some [] ∧ recoverDir 4096 0 (applyPrefix 4 steps0 d0) = some [] := by decide +kernel

/-- One live hold WITH a value. -/
def d1 : Dir := [(a 1 false, encodeFile [C08.v1]), (a 1 true, encodeData [C08.v1]), (a 2 false, headerBytes), (a 2 true, [])]
def steps1 : List FsOp := compactionSteps 4096 0 (fun _ => true) 2 d1

/-- Crash between the two renames (mutation 6 of 7): `rewrite.aof` is in place, `rewrite.aof.dat` is still called
`rewrite.aof.tmp.dat`: the next start FAILS ("data file error"). -/
theorem C16_crash_between_renames_fails :
    steps1.length = 7 ∧ (recoverDir 4096 0 d1).isSome = true ∧ recoverDir 4096 0 (applyPrefix 6 steps1 d1) = none ∧
    (recoverDir 4096 0 (applyPrefix 7 steps1 d1)).isSome = true := by decide +kernel

/-- A gap in the append indices is a start-up error (`FindAofFiles`). -/
example : recoverDir 4096 0 [(a 1 false, headerBytes), (a 3 false, headerBytes)] = none := by decide +kernel

end Slock.C16
