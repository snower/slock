import Slock.Proofs.ElectRun
import Slock.Proofs.ElectCand
/-!
# C12 — election safety: one winner, newest log, numbers never regress

Model: `Slock.Elect` (M-ELECT, `Slock/Model/Elect.lean`), tied to server/arbiter.go by the differential harness (real
`ArbiterManager`s, real `DoVote`/`DoProposal`/`DoCommit`, real handlers, real `ArbiterStore`).

The model mirrors a tree in which `DoProposal` does not rewrite the member's promise (D2) and a failed `DoCommit` releases
only a latch the member set itself (D3); nothing of the vote round is persisted (D1):

* numbers never regress — PROVED at full strength for the no-restart clause: for EVERY member (candidates included), in
  every execution that does not restart that member, `proposalId` and `commitId` never decrease (`C12_monotone`).
  Across a restart both numbers fall back to the saved `commitId` (`C12_monotone_with_restart_counterexample`, D1).
* one winner — PROVED: a latched member never acknowledges a commit (`C12_latched_never_acks`); a failed commit round
  keeps a latch somebody else set (`C12_failed_commit_keeps_foreign_latch`); without restarts, two different
  (number, host) pairs can both be acknowledged by majorities only if every member of the intersection released its OWN
  latch after a failed commit round of its own (`C12_one_winner_partial`). FALSE at the acceptor level: a candidate
  that loses the replies of its commit round releases its own latch although a majority holds the commit, and a second
  majority forms for another host (`C12_one_winner_counterexample`; only ONE candidate sees its `DoCommit` succeed — in
  160 000 generated executions on the real code no execution without restart elected two leaders). With a restart the
  latch and the un-persisted `commitId` are lost and two leaders are elected (`C12_one_winner_with_restart_counterexample`).
* no proposal succeeds at a member that knows an online leader (`C12_refuse_while_leader_known`).
* candidate choice, refusal of older logs, `CompareAofId` facts — TRUE as stated below.
-/
namespace Slock.C12
open Slock.Elect

/-- Each acceptor handler on its own (`commandHandleVoteCommand`, `commandHandleProposalCommand`/`DoSelfProposal`,
`commandHandleCommitCommand`/`DoSelfCommit`), from ANY member state: `proposalId` and `commitId` do not decrease. -/
theorem C12_monotone_handlers (n : Nat) (m : Member) (self from_ k host : Nat) (aof : AofId) :
    (m.pid ≤ (handleVote self m).2.pid ∧ m.cid ≤ (handleVote self m).2.cid) ∧
    (m.pid ≤ (handleProposal n self m k host aof).2.pid ∧ m.cid ≤ (handleProposal n self m k host aof).2.cid) ∧
    (m.pid ≤ (handleCommit n m from_ k host).2.pid ∧ m.cid ≤ (handleCommit n m from_ k host).2.cid) :=
  ⟨(accRel_handleVote self m).mono, (accRel_handleProposal n self m k host aof).mono, (accRel_handleCommit n m from_ k host).mono⟩

/-- No handler of the vote / proposal / commit round writes `meta.pb`: an accepted commit is NOT persisted (D1). -/
theorem C12_commit_not_persisted (n self : Nat) (m : Member) (from_ k host : Nat) (aof : AofId) :
    (handleCommit n m from_ k host).2.saved = m.saved ∧ (handleProposal n self m k host aof).2.saved = m.saved := by
  constructor
  · rcases handleCommit_snd n m from_ k host with h | ⟨_, h⟩ <;> rw [h]
  · rcases handleProposal_snd n self m k host aof with h | ⟨_, _, h⟩ <;> rw [h]

/-- a member that has not taken part in an election yet (any numbers with `commitId ≤ proposalId`, any log, any table) -/
def FreshMember (m : Member) : Prop :=
  m.phase = .idle ∧ m.commits = [] ∧ m.latch = none ∧ m.cid ≤ m.pid

instance (m : Member) : Decidable (FreshMember m) := by unfold FreshMember; exact inferInstance

theorem good_of_fresh {m : Member} (h : FreshMember m) : GoodFrom m.clears m := by
  obtain ⟨h1, h2, h3, h4⟩ := h
  refine ⟨h4, fun hl => absurd h3 hl, ?_, ?_⟩
  · intro hp; rw [h1] at hp; simp at hp
  · rw [h2]; simp

/-- `C12_monotone`, no-restart clause, FULL strength: in every execution (any events in
any order — candidacies of this and of other members, deliveries, losses, saves, restarts of OTHER members — any length,
any member count), a member that is not itself restarted never sees its `proposalId` or its `commitId` decrease.
The proposer-side code is covered: `step_decomp` splits every step into an acceptor move and one of {bookkeeping, the
guarded raise at the end of `DoProposal`, the release of the member's own latch, the win}, and each keeps
`commitId ≤ proposalId` and both numbers non-decreasing. -/
theorem C12_monotone (s : State) (es : List Event) (i : Nat)
    (hnr : ∀ e ∈ es, e ≠ .restart i) (hfresh : FreshMember (getM s.members i)) :
    (getM s.members i).pid ≤ (getM (run s es).members i).pid ∧ (getM s.members i).cid ≤ (getM (run s es).members i).cid :=
  (run_good es s i hnr (good_of_fresh hfresh)).2

/-- … and the same between any two points of the execution (prefix `es1`, then `es2`). -/
theorem C12_monotone_between (s : State) (es1 es2 : List Event) (i : Nat)
    (hnr : ∀ e ∈ es1 ++ es2, e ≠ .restart i) (hfresh : FreshMember (getM s.members i)) :
    (getM (run s es1).members i).pid ≤ (getM (run (run s es1) es2).members i).pid ∧
    (getM (run s es1).members i).cid ≤ (getM (run (run s es1) es2).members i).cid := by
  obtain ⟨g, _⟩ := run_good es1 s i (fun e he => hnr e (by simp [he])) (good_of_fresh hfresh)
  exact (run_good es2 (run s es1) i (fun e he => hnr e (by simp [he])) g).2

/-- pure acceptors (never a candidate, never restarted) need no hypothesis on the numbers of the initial state -/
theorem C12_monotone_partial (s : State) (es : List Event) (i : Nat)
    (hpure : PureAcceptor i es) (hidle : (getM s.members i).phase = .idle) :
    (getM s.members i).pid ≤ (getM (run s es).members i).pid ∧ (getM s.members i).cid ≤ (getM (run s es).members i).cid := by
  refine (run_pure (P := fun m => (getM s.members i).pid ≤ m.pid ∧ (getM s.members i).cid ≤ m.cid) ?_ es s i hpure hidle
    ⟨Nat.le_refl _, Nat.le_refl _⟩).2
  intro m m' h hm
  have := h.mono
  omega

/-! three members with identical logs; host order: member 0 < member 1 < member 2 -/
def logA : AofId := ⟨3, 64, 1700000000⟩
def cluster3 : State := ⟨[initMember 3 0 1 0 logA, initMember 3 1 1 0 logA, initMember 3 2 1 0 logA], []⟩

example : FreshMember (getM cluster3.members 0) := by decide

/-- An execution for D2 (replayed on the real code by the harness): member 0 proposes number 1, promises
number 2 to candidate 1 while its own round is still open, then its own `DoProposal` finishes successfully — its
`proposalId` stays 2 (not `proposalIndex = 1`), and its own commit 1 is then refused by itself. -/
def regressTrace : List Event :=
  [.start 0, .deliverReq 0 0, .deliverReq 0 1, .deliverRep 0 1, .deliverReq 0 2, .deliverRep 0 2,   -- vote
   .deliverReq 0 0, .deliverReq 0 2, .deliverRep 0 2, .deliverReq 0 1,                             -- proposal 1 (reply of 1 pending)
   .start 1, .deliverReq 1 1, .deliverReq 1 0, .deliverRep 1 0, .deliverReq 1 2, .deliverRep 1 2,   -- candidate 1 votes
   .deliverReq 1 1, .deliverReq 1 0]                                                              -- proposal 2: member 0 promises 2

theorem C12_monotone_corpus :
    (getM (run cluster3 regressTrace).members 0).pid = 2 ∧
    (getM (run cluster3 (regressTrace ++ [.deliverRep 0 1])).members 0).pid = 2 ∧
    (getM (run cluster3 (regressTrace ++ [.deliverRep 0 1])).members 0).phase = .commit ∧
    (getM (run cluster3 (regressTrace ++ [.deliverRep 0 1, .deliverReq 0 0])).members 0).latch = none := by decide

/-- a complete candidacy of member `c` in a 3-member cluster in which only `c` and `t` take part (the third member `u`
is unreachable): vote, proposal, commit -/
def soloRound (c t u : Nat) : List Event :=
  [.start c, .deliverReq c c, .deliverReq c t, .deliverRep c t, .dropReq c u,
   .deliverReq c c, .deliverReq c t, .deliverRep c t, .dropReq c u,
   .deliverReq c c, .deliverReq c t, .deliverRep c t, .dropReq c u]

/-- host order for the restart witness: member 0 is the largest host, so {0,1} elects 0 and {1,2} elects 2 -/
def cluster3r : State := ⟨[initMember 3 2 1 0 logA, initMember 3 0 1 0 logA, initMember 3 1 1 0 logA], []⟩

def restartTrace : List Event := soloRound 0 1 2 ++ [.restart 1] ++ soloRound 2 1 0

/-- `C12_monotone` across a restart FAILS (D1): member 1 accepted proposal 1 and commit 1; the commit
handler did not save; after the restart it is back at proposalId = commitId = 0. -/
theorem C12_monotone_with_restart_counterexample :
    (getM (run cluster3r (soloRound 0 1 2)).members 1).pid = 1 ∧ (getM (run cluster3r (soloRound 0 1 2)).members 1).cid = 1 ∧
    (getM (run cluster3r (soloRound 0 1 2 ++ [.restart 1])).members 1).pid = 0 ∧
    (getM (run cluster3r (soloRound 0 1 2 ++ [.restart 1])).members 1).cid = 0 ∧
    (getM (run cluster3r (soloRound 0 1 2 ++ [.restart 1])).members 1).latch = none := by decide

def Fresh (s : State) : Prop := ∀ i, i < s.n → FreshMember (getM s.members i)

/-- a latched member never acknowledges a commit (its `commitId` equals its `proposalId`; an acknowledgement needs
`commitId < number = proposalId`) -/
theorem C12_latched_never_acks (n : Nat) (m : Member) (from_ k host : Nat) (hg : Good m) (hl : m.latch ≠ none) :
    handleCommit n m from_ k host = (.propId, m) ∨ handleCommit n m from_ k host = (.commitId, m) ∨
    handleCommit n m from_ k host = (.badHost, m) := by
  have he := hg.2.1 hl
  unfold handleCommit classifyCommit
  by_cases h1 : host ≥ n
  · right; right; simp [h1]
  · by_cases h2 : m.pid = k
    · right; left
      have : m.cid ≥ k := by omega
      simp [h1, h2, this]
    · left; simp [h1, h2]

/-- a failed commit round keeps a latch that somebody else set (D3) -/
theorem C12_failed_commit_keeps_foreign_latch (n c : Nat) (m : Member) (hfail : m.accepts < voteMajority n)
    (hforeign : m.fromHost ≠ some c) :
    (finishCommit n c m).1.latch = m.latch ∧ (finishCommit n c m).1.clears = m.clears := by
  unfold finishCommit
  simp [hfail, hforeign]

/-- the end of `DoProposal` never lowers `proposalId`, never moves it while the member is latched, and sends the
round's own number on to `DoCommit` (D2) -/
theorem C12_doproposal_keeps_promise (n c : Nat) (m : Member) :
    m.pid ≤ (finishProposal n c m).1.pid ∧ (m.latch ≠ none → (finishProposal n c m).1.pid = m.pid) ∧
    ((finishProposal n c m).1.phase = .commit → (finishProposal n c m).1.pidx = m.round) := by
  unfold finishProposal
  split
  · simp
  · split
    · simp
    · simp only [beginCommit]
      rcases raise_pid m with h | ⟨hl, h⟩
      · exact ⟨by rw [h]; exact Nat.le_refl _, fun _ => h, fun _ => trivial⟩
      · exact ⟨Nat.le_of_lt h, fun hl' => absurd hl hl', fun _ => trivial⟩

theorem no_restart {es : List Event} (hnr : es.all (fun e => !e.isRestart) = true) (i : Nat) : ∀ e ∈ es, e ≠ .restart i := by
  intro e he hc
  rw [hc] at he
  have := List.all_eq_true.mp hnr _ he
  simp [Event.isRestart] at this

/-- without restarts a fresh member acknowledges at most one commit more than it released latches of its own -/
theorem acks_le_releases (s : State) (es : List Event) (hfresh : Fresh s) (hnr : es.all (fun e => !e.isRestart) = true)
    (i : Nat) (hi : i < s.n) :
    (getM (run s es).members i).commits.length + (getM s.members i).clears ≤ (getM (run s es).members i).clears + 1 := by
  have g4 := (run_good es s i (no_restart hnr i) (good_of_fresh (hfresh i hi))).1.2.2.2
  split at g4 <;> omega

/-- One winner (C12) as far as the handlers + proposer code guarantee it at the level of acknowledgements
(`_partial`), for ALL executions without restart events, any length, any member count, any number of candidates:

if two different (number, host) pairs were each acknowledged as committed by a majority (`len/2+1`) of the members,
then the two majorities share a member (quorum intersection), and EVERY member that acknowledged both released its own
latch at least once after a failed commit round of its own (`clears ≥ 1`) — in particular it was a candidate.

Argument: `filter_overlap` (two sub-populations of size ≥ n/2+1 overlap) + `run_good`: every member keeps
"acknowledged commits ≤ releases of its own latch + (1 if latched)"; the proposal handler refuses a latched member, the
commit handler refuses because its `commitId = proposalId`, `DoProposal` does not move a latched member's number, a
failed `DoCommit` keeps a foreign latch. What is missing for the full statement: the release of the member's OWN latch
is unsafe when acknowledgements were lost (`C12_one_winner_counterexample`). -/
theorem C12_one_winner_partial (s : State) (es : List Event) (hfresh : Fresh s)
    (hnr : es.all (fun e => !e.isRestart) = true)
    (k h k' h' : Nat) (hne : (k, h) ≠ (k', h'))
    (hm : hasCommitMajority (run s es) k h = true) (hm' : hasCommitMajority (run s es) k' h' = true) :
    (∃ i, i < s.n ∧ (k, h) ∈ (getM (run s es).members i).commits ∧ (k', h') ∈ (getM (run s es).members i).commits) ∧
    (∀ i, i < s.n → (k, h) ∈ (getM (run s es).members i).commits → (k', h') ∈ (getM (run s es).members i).commits →
      1 ≤ (getM (run s es).members i).clears ∧ Event.start i ∈ es) := by
  constructor
  · unfold hasCommitMajority commitCount at hm hm'
    simp only [State.n, decide_eq_true_eq, ge_iff_le] at hm hm'
    obtain ⟨i, hi, h1, h2⟩ := majorities_intersect (run s es).members (k, h) (k', h') hm hm'
    exact ⟨i, by rw [State.n, ← run_length s es]; exact hi, h1, h2⟩
  · intro i hi h1 h2
    have hb := acks_le_releases s es hfresh hnr i hi
    have h2l := two_le_length_of_ne h1 h2 hne
    refine ⟨by omega, Decidable.byContradiction fun hst => ?_⟩
    -- a pure acceptor releases nothing
    have hp : PureAcceptor i es := fun e he => ⟨fun hc => hst (hc ▸ he), no_restart hnr i e he⟩
    have := (run_pure (P := fun m => m.clears = (getM s.members i).clears) (fun _ _ h hm => h.2.1.trans hm)
      es s i hp (hfresh i hi).1 rfl).2
    omega

/-- Corollary: a member that never released its own latch acknowledges at most one commit; if such a member belongs to
both majorities the pairs are equal. -/
theorem C12_one_winner_stable_intersection (s : State) (es : List Event) (hfresh : Fresh s)
    (hnr : es.all (fun e => !e.isRestart) = true) (k h k' h' i : Nat) (hi : i < s.n)
    (hc : (getM (run s es).members i).clears = 0)
    (h1 : (k, h) ∈ (getM (run s es).members i).commits) (h2 : (k', h') ∈ (getM (run s es).members i).commits) :
    (k, h) = (k', h') := by
  have hb := acks_le_releases s es hfresh hnr i hi
  refine Decidable.byContradiction fun hne => ?_
  have := two_le_length_of_ne h1 h2 hne
  omega

example : Fresh cluster3 := by
  intro i hi
  have : i = 0 ∨ i = 1 ∨ i = 2 := by simp [State.n, cluster3] at hi; omega
  rcases this with h | h | h <;> subst h <;> decide

/-- the hypotheses are satisfiable, and a majority does form: after member 0's solo round (0,1 take part) the pair
(number 1, host 1) has a commit majority -/
example : (soloRound 0 1 2).all (fun e => !e.isRestart) = true ∧ hasCommitMajority (run cluster3 (soloRound 0 1 2)) 1 1 = true := by decide

/-- An execution for D3 (replayed on the real code by the harness). Members X=0, B=1, C=2:
X's proposal 1 is accepted by X and B (the request to C stays in flight); B runs a whole candidacy with number 2 that X
takes part in — X is then latched on B by B's commit; C accepts X's proposal 1, X's commit round for number 1 fails
everywhere. X does not clear the latch B's commit had set: it stays
latched on B, holds proposalId 2, and a new candidacy of X does not start (it waits for B's announcement). -/
def f9bTrace : List Event :=
  [.start 0, .deliverReq 0 0, .deliverReq 0 1, .deliverRep 0 1, .deliverReq 0 2, .deliverRep 0 2,
   .deliverReq 0 0, .deliverReq 0 1, .deliverRep 0 1] ++
  soloRound 1 0 2 ++
  [.deliverReq 0 2, .deliverRep 0 2, .deliverReq 0 0, .dropReq 0 1, .dropReq 0 2]

theorem C12_one_winner_corpus :
    hasCommitMajority (run cluster3 f9bTrace) 2 1 = true ∧
    (getM (run cluster3 f9bTrace).members 0).latch = some 1 ∧ (getM (run cluster3 f9bTrace).members 0).pid = 2 ∧
    (getM (run cluster3 f9bTrace).members 0).phase = .idle ∧ (getM (run cluster3 f9bTrace).members 0).clears = 0 ∧
    (step (run cluster3 f9bTrace) (.start 0)).2 = .waiting := by decide +kernel

/-- One winner (C12) at the level of acknowledgements FAILS without restart (residual of D3; the same execution is
replayed on the real code by the harness, which agrees event by event and reports
`C12:two-commit-majorities:failed-commit-cleared-latch`). Members 0, 1, 2 (hosts ordered 0<1<2):
 1. member 0 votes (0,1 answer; elects 1), proposes number 1 — accepted by 0 and 1 — and commits (1, host 1): member 0
    acknowledges its own request, member 1 acknowledges but the REPLY IS LOST, member 2 is unreachable; member 0 counts
    one acknowledgement, its `DoCommit` fails and releases the latch it set itself — although (1, host 1) is held by the
    majority {0,1};
 2. member 2 votes (2,0 answer; elects 2); its number 1 is refused by 0; it retries with number 2 — accepted by 2 and by
    0 (not latched any more) — and commits (2, host 2) at 2 and 0: a second majority, for another host.
Only member 2 sees its `DoCommit` succeed. -/
def lostReplyTrace : List Event :=
  [.start 0, .deliverReq 0 0, .deliverReq 0 1, .deliverRep 0 1, .dropReq 0 2,
   .deliverReq 0 0, .deliverReq 0 1, .deliverRep 0 1, .dropReq 0 2,
   .deliverReq 0 0, .deliverReq 0 1, .dropRep 0 1, .dropReq 0 2,
   .start 2, .deliverReq 2 2, .deliverReq 2 0, .deliverRep 2 0, .dropReq 2 1,
   .deliverReq 2 2, .deliverReq 2 0, .deliverRep 2 0, .dropReq 2 1] ++
  soloRound 2 0 1

theorem C12_one_winner_counterexample :
    lostReplyTrace.any Event.isRestart = false ∧
    hasCommitMajority (run cluster3 lostReplyTrace) 1 1 = true ∧ hasCommitMajority (run cluster3 lostReplyTrace) 2 2 = true ∧
    (getM (run cluster3 lostReplyTrace).members 0).phase = .idle ∧ (getM (run cluster3 lostReplyTrace).members 0).clears = 1 ∧
    (getM (run cluster3 lostReplyTrace).members 2).phase = .won ∧ (getM (run cluster3 lostReplyTrace).members 2).latch = some 2 := by decide +kernel

/-- One winner (C12) with a restart FAILS (D1): member 0 wins with (1, host 0) through the majority {0,1};
member 1 restarts from its meta file (commit not persisted, latch gone, proposalId back to 0); member 2 then wins with
(1, host 2) through the majority {1,2}. Both candidates saw `DoCommit` succeed. -/
theorem C12_one_winner_with_restart_counterexample :
    hasCommitMajority (run cluster3r restartTrace) 1 0 = true ∧ hasCommitMajority (run cluster3r restartTrace) 1 2 = true ∧
    (getM (run cluster3r restartTrace).members 0).phase = .won ∧ (getM (run cluster3r restartTrace).members 2).phase = .won ∧
    (getM (run cluster3r restartTrace).members 0).latch = some 0 ∧ (getM (run cluster3r restartTrace).members 2).latch = some 2 ∧
    (restartTrace.filter Event.isRestart).length = 1 := by decide +kernel

/-- a member that is the leader itself refuses (ERR_ROLE); a member whose table holds an ONLINE entry with role LEADER
refuses with ERR_STATUS (or ERR_AOFID, if an earlier entry's cached log is newer than the proposed one); nothing changes.
(The refusal of a newer own log, ERR_REJECT, comes first in the code and is covered by `C12_refuse_newer`.) -/
theorem C12_refuse_while_leader_known (n self : Nat) (m : Member) (k host : Nat) (aof : AofId)
    (hlen1 : m.roles.length = m.statuses.length) (hlen2 : m.roles.length = m.views.length)
    (j : Nat) (hj : j < m.roles.length) (hr : getN m.roles j = ROLE_LEADER) (hs : getN m.statuses j = STATUS_ONLINE) :
    (handleProposal n self m k host aof).2 = m ∧ ∀ o, (handleProposal n self m k host aof).1 ≠ .ok o := by
  have key : ∀ o, classifyProposal n self m k host aof ≠ .ok o := by
    intro o ho
    have hn := (classifyProposal_ok ho).2.2.2.2.2.1
    rcases scanMembers_leader m.roles m.statuses m.views aof j hlen1 hlen2 hj hr hs with h | h <;> rw [h] at hn <;> cases hn
  constructor
  · rcases handleProposal_snd n self m k host aof with h | ⟨o, ho, _⟩
    · exact h
    · exact absurd ho (key o)
  · rw [handleProposal_fst]; exact key

/-- the hypotheses are satisfiable: member 1's table says member 0 is the leader and online -/
example : getN ({ initMember 3 1 1 0 logA with roles := [ROLE_LEADER, 2, 2] }).roles 0 = ROLE_LEADER ∧
    (handleProposal 3 1 { initMember 3 1 1 0 logA with roles := [ROLE_LEADER, 2, 2] } 5 2 logA).1 = .status := by decide

/-- `C12_candidate`: the response `DoVote` selects was received, is data-bearing (`arbiter = 0`) with `weight ≠ 0`, and
no other data-bearing weight ≠ 0 response is preferred to it by the code's comparison (newer log by `CompareAofId`;
equal log and larger weight; equal and larger host) — under the explicit hypothesis that all received log positions
lie within one `CompareAofId` window (outside it the comparison is not transitive: `compareAofId_not_transitive`). -/
theorem C12_candidate (rs : List VoteResp) (hw : AllInWindow rs) (r : VoteResp) (h : choose none rs = some r) :
    r ∈ rs ∧ r.arbiter = 0 ∧ r.weight ≠ 0 ∧ ∀ y ∈ rs, y.arbiter = 0 → y.weight ≠ 0 → ¬ Better y r := by
  obtain ⟨h1, h2, h3⟩ := choose_max hw h
  unfold eligible at h2
  simp only [Bool.and_eq_true, beq_iff_eq, bne_iff_ne, ne_eq] at h2
  refine ⟨h1, h2.1, h2.2, ?_⟩
  intro y hy ha hwt
  apply h3 y hy
  unfold eligible
  simp [ha, hwt]

/-- … and nothing is selected only if no response is electable -/
theorem C12_candidate_none (rs : List VoteResp) (h : choose none rs = none) : ∀ y ∈ rs, eligible y = false :=
  (choose_eq_none rs none h).2

def respA : VoteResp := { host := 0, rank := 0, weight := 1, arbiter := 0, aof := ⟨3, 64, 5⟩, role := 2 }
def respB : VoteResp := { host := 1, rank := 1, weight := 1, arbiter := 0, aof := ⟨3, 128, 2⟩, role := 2 }
def respArb : VoteResp := { host := 2, rank := 2, weight := 1, arbiter := 1, aof := ⟨3, 128, 2⟩, role := 3 }

/-- the window hypothesis is satisfiable and the selection is the newest data member, not the arbiter -/
example : AllInWindow [respA, respArb, respB] ∧ choose none [respA, respArb, respB] = some respB := by
  constructor
  · intro x hx y hy
    simp at hx hy
    rcases hx with hx | hx | hx <;> rcases hy with hy | hy | hy <;> subst hx <;> subst hy <;> decide
  · decide

/-- `C12_refuse_newer`: a data-bearing acceptor whose own log is newer (by `CompareAofId`) than the proposed one answers
ERR_REJECT / ProposalRejectError and changes nothing — whatever the number, host, latch or roles. -/
theorem C12_refuse_newer (n self : Nat) (m : Member) (k host : Nat) (aof : AofId)
    (hdata : m.arbiter = 0) (hnewer : compareAofId m.ownAof aof > 0) :
    handleProposal n self m k host aof = (.reject, m) :=
  handleProposal_refuse_newer n self m k host aof hdata hnewer

/-- one such refusal makes the whole proposal round fail, even with a majority of acceptances (`isReject`) -/
theorem C12_reject_vetoes (n c : Nat) (m : Member) (h : m.isReject = true) : (finishProposal n c m).1.phase = .idle := by
  unfold finishProposal; simp [h]

example : compareAofId (⟨3, 128, 2⟩ : AofId) ⟨3, 64, 5⟩ > 0 := by decide

theorem compareAofId_reflexive (a : AofId) : compareAofId a a = 0 := compareAofId_refl a

theorem compareAofId_zero_iff_eq (a b : AofId) : compareAofId a b = 0 ↔ a = b := compareAofId_eq_zero_iff a b

/-- antisymmetric on decoded 16-byte ids -/
theorem compareAofId_antisymmetric (a b : AofId) (ha : a.WF) (hb : b.WF) : compareAofId a b = - compareAofId b a :=
  compareAofId_antisymm ha hb

/-- a decoded id is well-formed: `decodeAofId` reads two 4-byte halves and an 8-byte time -/
example : (decodeAofId [1, 2, 3, 4, 5, 6, 7, 8, 9, 10, 11, 12, 13, 14, 15, 16]).WF := by decide

/-- inside one window the comparison is the lexicographic order on (index·2³²+offset, time): a strict total order -/
theorem compareAofId_window_order (a b : AofId) (hw : InWindow a b) : compareAofId a b > 0 ↔ LexGt a b :=
  compareAofId_pos_iff hw

/-- outside one window `CompareAofId` is NOT transitive: a < b < c < a -/
theorem compareAofId_not_transitive :
    compareAofId (⟨0x40000000, 0, 0⟩ : AofId) ⟨0, 0, 0⟩ > 0 ∧
    compareAofId (⟨0x80000000, 0, 0⟩ : AofId) ⟨0x40000000, 0, 0⟩ > 0 ∧
    compareAofId (⟨0, 0, 0⟩ : AofId) ⟨0x80000000, 0, 0⟩ > 0 := by decide

/-! vote majority vs. acknowledgement quorum (F10, model level) -/

/-- in an all-data cluster the ack quorum (`GetMajorityMemberCount`) equals the vote majority, and two such sets overlap -/
theorem C12_quorum_overlap_all_data (n : Nat) (hn : 0 < n) :
    getMajorityMemberCount (List.replicate n 0) = voteMajority n ∧ voteMajority n + voteMajority n > n := by
  unfold getMajorityMemberCount voteMajority
  have h1 : (List.replicate n 0).isEmpty = false := by cases n with | zero => omega | succ k => rfl
  rw [h1, List.filter_replicate_of_pos rfl, List.length_replicate]
  exact ⟨if_neg Bool.false_ne_true, by omega⟩

/-- with arbiters they need not overlap: 3 data members + 2 arbiters — an ack quorum of 2 data members and a vote majority
made of the third data member and the two arbiters are disjoint (2 + 3 = 5) -/
theorem C12_quorum_disjoint_with_arbiters :
    getMajorityMemberCount [0, 0, 0, 1, 1] = 2 ∧ voteMajority 5 = 3 ∧ getMajorityMemberCount [0, 0, 0, 1, 1] + voteMajority 5 ≤ 5 := by decide

end Slock.C12
