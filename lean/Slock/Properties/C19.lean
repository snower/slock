import Slock.Proofs.ClientCmd
import Slock.Proofs.ClientSteps
import Slock.Properties.C04
/-!
# C19 — client-library primitives keep their textbook guarantees over TCP

Statement (properties.jsonl): used through the Go client against a running server, the packaged primitives keep their
textbook guarantees under concurrency: Lock is exclusive, RLock is re-entrant for its holder only and needs as many unlocks
as locks, Semaphore(n) and MaxConcurrentFlow(n) admit at most n at a time, RWLock admits either one writer or any number of
readers, PriorityLock hands over to the highest waiting priority, and Event.Wait returns only once the event is set.

What is PROVED here (for every operation sequence of M-ENGINE, any length, any other traffic on other keys):
the chain  client/*.go  →(G2, regenerated `Slock.Gen.Client` tuples; expectations below)→  the LOCK/UNLOCK command each
primitive sends (M-CLIENT, `Slock.Client.cmdOf`)  →  invariants of the server's lock engine under those commands.

What is NOT proved (level stays "proof" with this partiality recorded; exercised by the process-level run of
tools/props/c19.py only): the client's request/response matching, pipelining, reconnects, the follower's forwarding, TCP.
Event: the default-set mode (`NewEvent` / `NewDefaultSetEvent`) is proved; the default-clear mode's tuples are tied
(expectations below) and exercised by the process-level run, but its protocol (wait-for-unlock flag 0x0200, Count 1) is
outside stage 1 of M-ENGINE's proved theorems.
-/
namespace Slock.C19
open Slock.Engine Slock.C01 Slock.Client Slock.Gen.Client

/-! ## 1. The tie to client/*.go: committed expectations on the regenerated tuples

A source change that alters how a primitive parametrises `client.Lock` changes `Slock.Gen.Client`, and one of these (or a
shape lemma of `Slock/Proofs/ClientCmd.lean`) stops checking. -/

theorem tie_lock_struct_literal : newLock =
    { prim := "Lock", op := "NewLock", mode := "", lockId := .fresh, key := .param "lockKey", timeout := .param "timeout",
      expried := .param "expried", count := .const 0, rcount := .const 0, calls := [] } := rfl

theorem tie_rlock : newRLock.count = .const 0 ∧ newRLock.rcount = .const 0xff ∧ newRLock.lockId = .fresh ∧
    rlock_lock.calls = ["Lock"] ∧ rlock_unlock.calls = ["Unlock"] := by decide

theorem tie_rwlock : rwlock_rLock.count = .const 0xffff ∧ rwlock_rLock.rcount = .const 0 ∧ rwlock_rLock.lockId = .fresh ∧
    rwlock_lock.count = .const 0 ∧ rwlock_lock.rcount = .const 0 ∧ rwlock_rLock.calls = ["Lock"] ∧ rwlock_lock.calls = ["Lock"] ∧
    rwlock_rUnlock.calls = ["Unlock"] ∧ rwlock_unlock.calls = ["Unlock"] := by decide

/-- `NewSemaphore(count)` stores `count − 1` (0 stays 0); `Acquire` passes the stored field as Count with Rcount 0 and a
fresh LockId; `Release` is `UnlockHead` of the zero LockId. -/
theorem tie_semaphore : newSemaphore_count.xform = .decIfPos ∧ newSemaphore_count.field = "count" ∧
    semaphore_acquire.count = .field "count" ∧ semaphore_acquire.rcount = .const 0 ∧ semaphore_acquire.lockId = .fresh ∧
    semaphore_acquire.calls = ["Lock"] ∧ semaphore_release.lockId = .zero ∧ semaphore_release.calls = ["UnlockHead"] := by decide

theorem tie_flow : newMaxConcurrentFlow_count.xform = .decIfPos ∧ newMaxConcurrentFlow_count.field = "count" ∧
    maxconcurrentflow_acquire.count = .field "count" ∧ maxconcurrentflow_acquire.rcount = .field "priority" ∧
    maxconcurrentflow_acquire.timeout = .condOr (.field "timeout") 0x100000 "self.priority > 0" ∧
    maxconcurrentflow_acquire.calls = ["Lock"] ∧ maxconcurrentflow_release.calls = ["Unlock"] := by decide

/-- `PriorityLock.Lock`: TimeoutFlag |= 0x10 (`TIMEOUT_FLAG_RCOUNT_IS_PRIORITY`, or-ed into the high half of the 32-bit
timeout word), Rcount = priority, Count = its count field (0 unless `SetCount`), a fresh LockId per Lock call. -/
theorem tie_prioritylock : prioritylock_lock.timeout = .or (.field "timeout") 0x100000 ∧ prioritylock_lock.rcount = .field "priority" ∧
    prioritylock_lock.count = .field "count" ∧ prioritylock_lock.lockId = .fresh ∧ prioritylock_lock.calls = ["Lock"] ∧
    prioritylock_unlock.calls = ["Unlock"] ∧ prioritylock_setCount_count.xform = .decIfPos := by decide

theorem tie_lock_setcount : lock_setCount_count.xform = .decIfPosKeepFFFF := by decide

/-- Event, default-set mode: Clear = `LockUpdate` of (LockId = key = eventKey, Count 0); Set = `Unlock` of the same;
Wait = `Lock` with a fresh LockId, the caller's timeout, Expried 0, Count 0; IsSet = the same with Timeout 0. -/
theorem tie_event_set_mode :
    event_clear_set =
      { prim := "Event", op := "Event.Clear", mode := "set", lockId := .field "eventKey", key := .field "eventKey",
        timeout := .field "timeout", expried := .field "expried", count := .const 0, rcount := .const 0, calls := ["LockUpdate"] } ∧
    event_set_set =
      { prim := "Event", op := "Event.Set", mode := "set", lockId := .field "eventKey", key := .field "eventKey",
        timeout := .field "timeout", expried := .field "expried", count := .const 0, rcount := .const 0, calls := ["Unlock"] } ∧
    event_wait_set =
      { prim := "Event", op := "Event.Wait", mode := "set", lockId := .fresh, key := .field "eventKey",
        timeout := .param "timeout", expried := .const 0, count := .const 0, rcount := .const 0, calls := ["Lock"] } ∧
    event_isSet_set.timeout = .const 0 ∧ event_isSet_set.expried = .const 0 ∧ event_isSet_set.count = .const 0 :=
  ⟨rfl, rfl, rfl, rfl, rfl, rfl⟩

/-- Event, default-clear mode (tied, exercised at process level; not covered by the theorems below). -/
theorem tie_event_clear_mode :
    event_set_clear.count = .const 1 ∧ event_set_clear.calls = ["LockUpdate"] ∧ event_clear_clear.calls = ["Unlock"] ∧
    event_wait_clear.timeout = .or (.param "timeout") 0x2000000 ∧ event_wait_clear.count = .const 1 ∧
    event_wait_clear.expried = .const 0 ∧ EVENT_MODE_DEFAULT_SET = 0 ∧ EVENT_MODE_DEFAULT_CLEAR = 1 := by decide

/-- The methods of `client.Lock` the primitives call: which fields go to `doLock`/`doUnlock`, with which flag, and which
results come back with a nil error. -/
theorem tie_lock_methods :
    lock_lock =
      { name := "Lock", isLock := true, flag := .const 0, lockId := .field "lockId", timeout := .field "timeout",
        expried := .field "expried", count := .field "count", rcount := .field "rcount", ok := [0] } ∧
    lock_unlock =
      { name := "Unlock", isLock := false, flag := .const 0, lockId := .field "lockId", timeout := .field "timeout",
        expried := .field "expried", count := .field "count", rcount := .field "rcount", ok := [0] } ∧
    lock_lockUpdate =
      { name := "LockUpdate", isLock := true, flag := .const 2, lockId := .field "lockId", timeout := .field "timeout",
        expried := .field "expried", count := .field "count", rcount := .field "rcount", ok := [0, 5] } ∧
    lock_unlockHead =
      { name := "UnlockHead", isLock := false, flag := .const 1, lockId := .zero, timeout := .field "timeout",
        expried := .field "expried", count := .field "count", rcount := .field "rcount", ok := [0] } := ⟨rfl, rfl, rfl, rfl⟩

/-- what `Lock.doLock` / `Lock.doUnlock` put on the wire: the flag halves and value halves of the two 32-bit words, Count,
Rcount, LockId, the object's key — the mapping M-CLIENT's `cmdOf` implements. -/
theorem tie_wire :
    doLock_wire = [("Command.Magic", "protocol.MAGIC"), ("Command.Version", "protocol.VERSION"),
      ("Command.CommandType", "protocol.COMMAND_LOCK"), ("Command.RequestId", "self.db.GenRequestId()"),
      ("Flag", "self.buildLockFlag(flag, data)"), ("DbId", "self.db.dbId"), ("LockId", "lockId"), ("LockKey", "self.lockKey"),
      ("TimeoutFlag", "uint16(timeout >> 16)"), ("Timeout", "uint16(timeout)"), ("ExpriedFlag", "uint16(expried >> 16)"),
      ("Expried", "uint16(expried)"), ("Count", "count"), ("Rcount", "rcount"), ("Data", "data")] ∧
    doUnlock_wire = [("Command.Magic", "protocol.MAGIC"), ("Command.Version", "protocol.VERSION"),
      ("Command.CommandType", "protocol.COMMAND_UNLOCK"), ("Command.RequestId", "self.db.GenRequestId()"),
      ("Flag", "self.buildUnlockFlag(flag, data)"), ("DbId", "self.db.dbId"), ("LockId", "lockId"), ("LockKey", "self.lockKey"),
      ("TimeoutFlag", "uint16(timeout >> 16)"), ("Timeout", "uint16(timeout)"), ("ExpriedFlag", "uint16(expried >> 16)"),
      ("Expried", "uint16(expried)"), ("Count", "count"), ("Rcount", "rcount"), ("Data", "data")] ∧
    buildLockFlag_body = "{ if data != nil && data.Data != nil { return flag | protocol.LOCK_FLAG_CONTAINS_DATA } return flag }" ∧
    buildUnlockFlag_body = "{ if data != nil && data.Data != nil { return flag | protocol.UNLOCK_FLAG_CONTAINS_DATA } return flag }" :=
  ⟨rfl, rfl, rfl, rfl⟩

/-- the engine's flag constants the shapes refer to agree with what the client passes -/
theorem tie_flags : F_UPDATE = 2 ∧ UF_FIRST = 1 ∧ TF_PRIORITY = 0x10 ∧ RESULT_SUCCED = 0 ∧ RESULT_LOCKED_ERROR = 5 := by decide

/-! ## 2. Every reachable state: a per-key discipline on the LOCK commands gives a per-key invariant -/

/-- every LOCK of the sequence that addresses key `K` satisfies `D` (all other traffic is unconstrained) -/
def LocksObey (ops : List Op) (K : Nat) (D : Cmd → Prop) : Prop := ∀ c, Op.lock c ∈ ops → c.key = K → D c

theorem policy_reachable (P : Policy) (now : Nat) (ops : List Op) (h : LocksObey ops P.K P.D) :
    PolInv P (run (DB.init now) ops) := policy_run P ops _ (PolInv.init now) h

/-- **Count bound, as an invariant.** If every LOCK on key `K` carries Count ≤ N (N < 0xffff) then, after ANY operation
sequence, key `K` has at most N + 1 holders. -/
theorem count_bound (now : Nat) (ops : List Op) (K N : Nat) (hN : N < 0xffff) (h : LocksObey ops K (fun c => c.count ≤ N)) :
    ((run (DB.init now) ops).getKey K).holders.length ≤ N + 1 :=
  (policy_reachable (lenPolicy K N hN (fun c => c.count ≤ N) (fun _ h => h) (fun _ _ h => h)) now ops h).holders

/-! ## 3. Lock, Semaphore(n), MaxConcurrentFlow(n) -/

/-- **Lock is exclusive.** If every LOCK on key `K` is a `client.Lock` / `client.RLock` request (any number of Lock objects,
connections, interleavings; unlocks, expiries, timeouts, role changes and other keys' traffic arbitrary), the key never has
two holders. -/
theorem lock_exclusive (now : Nat) (ops : List Op) (K : Nat)
    (h : LocksObey ops K (fun c => (∃ e r n, c = lockCmd e r n) ∨ (∃ e r n, c = rlockCmd e r n))) :
    ((run (DB.init now) ops).getKey K).holders.length ≤ 1 := by
  apply count_bound now ops K 0 (by decide)
  intro c hc hk
  rcases h c hc hk with ⟨e, r, n, rfl⟩ | ⟨e, r, n, rfl⟩
  · rw [(lockCmd_shape e r n).1]; exact Nat.le_refl _
  · rw [(rlockCmd_shape e r n).1]; exact Nat.le_refl _

/-- **Semaphore(n) admits at most n.** (1 ≤ n ≤ 0xffff; `Acquire` sends Count n − 1.) -/
theorem semaphore_bound (n : Nat) (hn : 1 ≤ n) (hn' : n ≤ 0xffff) (now : Nat) (ops : List Op) (K : Nat)
    (h : LocksObey ops K (fun c => ∃ e r m, c = semAcquireCmd n e r m)) :
    ((run (DB.init now) ops).getKey K).holders.length ≤ n := by
  have := count_bound now ops K (n - 1) (by omega) (by
    intro c hc hk
    obtain ⟨e, r, m, rfl⟩ := h c hc hk
    rw [(semAcquireCmd_shape n e r m).1]
    have : n > 0 := by omega
    simp [this])
  omega

/-- **MaxConcurrentFlow(n) admits at most n** (whatever priority the flow was given). -/
theorem flow_bound (n : Nat) (hn : 1 ≤ n) (hn' : n ≤ 0xffff) (now : Nat) (ops : List Op) (K : Nat)
    (h : LocksObey ops K (fun c => ∃ e r m, c = flowAcquireCmd n e r m)) :
    ((run (DB.init now) ops).getKey K).holders.length ≤ n := by
  have := count_bound now ops K (n - 1) (by omega) (by
    intro c hc hk
    obtain ⟨e, r, m, rfl⟩ := h c hc hk
    rw [(flowAcquireCmd_shape n e r m).1]
    have : n > 0 := by omega
    simp [this])
  omega

/-! ## 4. RWLock -/

def IsRW (c : Cmd) : Prop := (∃ e r n, c = rwReadCmd e r n) ∨ (∃ e r n, c = rwWriteCmd e r n)

theorem rw_obeys (c : Cmd) (h : IsRW c) : c.rcount = 0 ∧ has c.flag F_UPDATE = false := by
  rcases h with ⟨e, r, n, rfl⟩ | ⟨e, r, n, rfl⟩
  · exact ⟨(rwReadCmd_shape e r n).2.1, by rw [(rwReadCmd_shape e r n).2.2.1]; exact has_zero _⟩
  · exact ⟨(rwWriteCmd_shape e r n).2.1, by rw [(rwWriteCmd_shape e r n).2.2.1]; exact has_zero _⟩

/-- **A writer is alone.** If every LOCK on key `K` is an `RWLock.RLock` (Count 0xffff) or `RWLock.Lock` (Count 0) request,
then in every reachable state a holder whose command has Count 0 — a writer — is the key's only holder. -/
theorem rwlock_writer_alone (now : Nat) (ops : List Op) (K : Nat) (h : LocksObey ops K IsRW) :
    ∀ hw ∈ ((run (DB.init now) ops).getKey K).holders, hw.cmd.count = 0 →
      ((run (DB.init now) ops).getKey K).holders = [hw] := by
  intro hw hm h0
  have hp := (policy_reachable (waPolicy K) now ops (fun c hc hk => rw_obeys c (h c hc hk))).holders
  have hl : ((run (DB.init now) ops).getKey K).holders.length = 1 := hp hw hm h0
  match hks : ((run (DB.init now) ops).getKey K).holders, hl with
  | [y], _ => rw [hks] at hm; simp at hm; rw [hm]

/-- **Readers never coexist with a writer**: no reachable state has a Count-0 holder next to a Count-0xffff holder. -/
theorem rwlock_readers_exclude_writer (now : Nat) (ops : List Op) (K : Nat) (h : LocksObey ops K IsRW) :
    ¬ ∃ hw ∈ ((run (DB.init now) ops).getKey K).holders, ∃ hr ∈ ((run (DB.init now) ops).getKey K).holders,
        hw.cmd.count = 0 ∧ hr.cmd.count = 0xffff := by
  rintro ⟨hw, hmw, hr, hmr, h0, hf⟩
  have := rwlock_writer_alone now ops K h hw hmw h0
  rw [this] at hmr
  simp at hmr
  rw [hmr, h0] at hf
  exact absurd hf (by decide)

/-! ## 5. RLock: re-entrant for its holder only; n locks need n unlocks

State-level theorems (any state satisfying the reachable-state invariant `DBInv`, which `Slock.C01.reachable_inv` gives
for every reachable state) for a key whose only holder is the RLock's LockId — by `lock_exclusive` a key used through
Lock/RLock never has more than one holder. `e.fresh` is the LockId `NewRLock` drew for the object; `e.param "timeout"` /
`"expried"` the words it was constructed with. -/

/-- **Re-entry by the holder succeeds and adds exactly one level** (while depth < 255). -/
theorem rlock_reentrant (db : DB) (e : Env) (r n : Nat) (h : Hold) (hinv : DBInv db) (hl : db.leader = true)
    (hprio : has ((e.param "timeout" >>> 16) % 65536) TF_PRIORITY = false) (hexp : e.param "expried" % 65536 > 0)
    (hs : (db.getKey (e.param "lockKey")).holders = [h]) (hid : h.cmd.lockId = e.fresh) (hd : h.depth < 0xff) :
    ∃ h1, ((opLock db (rlockCmd e r n)).1.getKey (e.param "lockKey")).holders = [h1] ∧ h1.depth = h.depth + 1 ∧
      h1.cmd.lockId = e.fresh ∧
      (opLock db (rlockCmd e r n)).2 =
        [mkReply (rlockCmd e r n) RESULT_SUCCED ((db.getKey (e.param "lockKey")).locked + 1) (h.depth + 1)] := by
  obtain ⟨h1, e1, e2, e3, e4⟩ := relock_state db (rlockCmd e r n) h hinv hl rfl hprio hexp hs hid hd
    (by rw [(rlockCmd_shape e r n).2.1]; omega) (rlockCmd_shape e r n).1
  exact ⟨h1, e1, e2, by rw [e3]; rfl, e4⟩

/-- **Another LockId is kept out**: while the key is held, a Lock/RLock request of any other LockId is queued
(Timeout > 0) or answered TIMEOUT — never granted. -/
theorem rlock_other_excluded (db : DB) (e : Env) (r n : Nat) (hl : db.leader = true)
    (hlocked : (db.getKey (e.param "lockKey")).locked > 0)
    (hnone : findHolder (db.getKey (e.param "lockKey")) e.fresh = none) :
    classifyLock db (rlockCmd e r n) = (if (rlockCmd e r n).timeout > 0 then .queue else .timeout) ∧
      ((opLock db (rlockCmd e r n)).2 = [] ∨
       (opLock db (rlockCmd e r n)).2 = [mkReply (rlockCmd e r n) RESULT_TIMEOUT (db.getKey (e.param "lockKey")).locked 0]) := by
  have hb := other_refused db (rlockCmd e r n) hl rfl rfl hlocked hnone
  refine ⟨hb, ?_⟩
  unfold opLock
  rw [hb]
  split
  · exact Or.inl rfl
  · exact Or.inr rfl

/-- **Unlock removes one level at a time**: with depth > 1 the hold stays (one level shallower, nobody else admitted);
only the unlock at depth 1 releases it (`rlock_last_unlock_releases`). -/
theorem rlock_unlock_one_level (db : DB) (e : Env) (r n : Nat) (h : Hold) (hinv : DBInv db) (hl : db.leader = true)
    (hprio : has ((e.param "timeout" >>> 16) % 65536) TF_PRIORITY = false)
    (hs : (db.getKey (e.param "lockKey")).holders = [h]) (hid : h.cmd.lockId = e.fresh) (hd : 1 < h.depth)
    (hw : ∀ w ∈ (db.getKey (e.param "lockKey")).waiters, w.cmd.count = 0) :
    ((opUnlock db (runlockCmd e r n)).1.getKey (e.param "lockKey")).holders = [{ h with depth := h.depth - 1 }] ∧
      (opUnlock db (runlockCmd e r n)).2 =
        [mkReply (runlockCmd e r n) RESULT_SUCCED ((db.getKey (e.param "lockKey")).locked - 1) (h.depth - 1)] := by
  obtain ⟨e1, _, e3⟩ := dec_state db (runlockCmd e r n) h hinv hl hprio (by rw [(runlockCmd_shape e r n).1]; decide) hs hid hd hw
  exact ⟨e1, e3⟩

theorem rlock_last_unlock_releases (db : DB) (e : Env) (r n : Nat) (h : Hold) (hinv : DBInv db) (hl : db.leader = true)
    (hs : (db.getKey (e.param "lockKey")).holders = [h]) (hid : h.cmd.lockId = e.fresh) (hd : h.depth = 1) :
    classifyUnlock db (runlockCmd e r n) = .release h (runlockCmd e r n) ∧
      (opUnlock db (runlockCmd e r n)).2.head? = some (mkReply (runlockCmd e r n) RESULT_SUCCED 0 0) :=
  release_reply db (runlockCmd e r n) h hinv hl hs hid hd

/-- **n locks need n unlocks.** From the state right after the RLock's first grant (depth 1): after n − 1 further `Lock()`
calls the depth is n (n ≤ 255); after any j < n `Unlock()` calls the same LockId still holds the key, at depth n − j, and
nobody else was admitted; the hold can only end with the n-th unlock (`rlock_last_unlock_releases`, at depth 1). -/
theorem rlock_n_locks_n_unlocks (db : DB) (e : Env) (r n' : Nat) (h : Hold) (n j : Nat) (hn : 1 ≤ n) (hn' : n ≤ 0xff) (hj : j < n)
    (hinv : DBInv db) (hl : db.leader = true)
    (hprio : has ((e.param "timeout" >>> 16) % 65536) TF_PRIORITY = false) (hexp : e.param "expried" % 65536 > 0)
    (hs : (db.getKey (e.param "lockKey")).holders = [h]) (hid : h.cmd.lockId = e.fresh) (hd : h.depth = 1)
    (hw : ∀ w ∈ (db.getKey (e.param "lockKey")).waiters, w.cmd.count = 0) :
    let dbL := lockN db (rlockCmd e r n') (n - 1)
    ∃ hL, (dbL.getKey (e.param "lockKey")).holders = [hL] ∧ hL.depth = n ∧
      ((∀ w ∈ (dbL.getKey (e.param "lockKey")).waiters, w.cmd.count = 0) →
        ∃ hU, ((unlockN dbL (runlockCmd e r n') j).getKey (e.param "lockKey")).holders = [hU] ∧ hU.depth = n - j ∧
          hU.cmd.lockId = e.fresh) := by
  intro dbL
  obtain ⟨hL, f1, f2, f3, f4, f5⟩ := lockN_depth (n - 1) db (rlockCmd e r n') h hinv hl rfl hprio hexp rfl hs hid (by omega) (rlockCmd_shape e r n').1
  refine ⟨hL, f1, by rw [f2, hd]; omega, ?_⟩
  intro hwL
  obtain ⟨hU, g1, g2, g3, _⟩ := unlockN_depth j dbL (runlockCmd e r n') hL f4 f5 hprio
    (by rw [(runlockCmd_shape e r n').1]; decide) f1 f3 (by rw [f2, hd]; omega) hwL
  exact ⟨hU, g1, by rw [g2, f2, hd]; omega, g3⟩

/-! ## 6. PriorityLock: hand-over to the highest waiting priority -/

/-- no LOCK reuses the (connection, RequestId) of a request that is still queued — what `GenRequestId` guarantees -/
def FreshRun : DB → List Op → Prop
  | _, [] => True
  | db, o :: ops => (match o with | .lock c => Fresh db c | _ => True) ∧ FreshRun (step db o) ops

theorem freshRun_iff : ∀ (ops : List Op) (db : DB), FreshRun db ops ↔ Slock.C04.FreshRun db ops
  | [], _ => Iff.rfl
  | _ :: os, _ => and_congr Iff.rfl (freshRun_iff os _)

/-- **Queue order is a reachable-state invariant**: every key's wait queue is sorted by priority, higher first (equal
priorities in arrival order by `C04_order_never_overtakes`). -/
theorem queue_sorted_reachable (now : Nat) (ops : List Op) (hf : FreshRun (DB.init now) ops) (K : Nat) :
    PrioSorted ((run (DB.init now) ops).getKey K).waiters :=
  getKey_sorted (Slock.C04.reachable_IQ ops _ (IQ.init now) ((freshRun_iff ops _).mp hf)).1.2 K

/-- **Hand-over.** In every reachable state, when an UNLOCK ends a hold (branch `release`) and the wake pass grants
somebody, the FIRST request granted has the highest priority among all requests queued on the key. (A PriorityLock
request's priority is its `priority` field: `prioLockCmd_priority`.) -/
theorem prioritylock_handover (now : Nat) (ops : List Op) (hf : FreshRun (DB.init now) ops) (c : Cmd) (h : Hold) (c' : Cmd)
    (hb : classifyUnlock (run (DB.init now) ops) c = .release h c') (r0 r1 : Reply) (rest : List Reply)
    (hout : (opUnlock (run (DB.init now) ops) c).2 = r0 :: r1 :: rest) :
    ∃ w ∈ ((run (DB.init now) ops).getKey c.key).waiters, r1.req = w.cmd.req ∧ r1.conn = w.conn ∧ r1.result = RESULT_SUCCED ∧
      ∀ x ∈ ((run (DB.init now) ops).getKey c.key).waiters, cmdPriority x.cmd ≤ cmdPriority w.cmd := by
  have hs := queue_sorted_reachable now ops hf c.key
  unfold opUnlock at hout
  rw [hb] at hout
  exact wake_second_max hs hout rfl

theorem prioritylock_handover_expiry (now : Nat) (ops : List Op) (hf : FreshRun (DB.init now) ops) (key : Nat) (h : Hold)
    (r0 r1 : Reply) (rest : List Reply) (hout : (fireExpire (run (DB.init now) ops) key h).2 = r0 :: r1 :: rest) :
    ∃ w ∈ ((run (DB.init now) ops).getKey key).waiters, r1.req = w.cmd.req ∧ r1.conn = w.conn ∧ r1.result = RESULT_SUCCED ∧
      ∀ x ∈ ((run (DB.init now) ops).getKey key).waiters, cmdPriority x.cmd ≤ cmdPriority w.cmd := by
  have hs := queue_sorted_reachable now ops hf key
  unfold fireExpire at hout
  exact wake_second_max hs hout rfl

/-- the priority the engine orders a PriorityLock request by IS the primitive's priority, whatever the timeout word -/
theorem prioritylock_priority (e : Env) (r n : Nat) : cmdPriority (prioLockCmd e r n) = e.field "priority" :=
  prioLockCmd_priority e r n

/-! ## 7. Event (default-set mode): Wait returns SUCCED only while the event is set

The protocol as client/event.go implements it on the event's key `K = eventKey`:
`Clear()` = update-LOCK by LockId `K` asking for a hold (result SUCCED or LOCKED_ERROR is success) — the event is CLEAR while
that hold is outstanding; `Set()` = UNLOCK by LockId `K`; `Wait(t)` = a LOCK of a fresh LockId with Count 0 that asks for NO
hold (Expried 0) and may queue for `t` seconds; it returns without error exactly on result SUCCED (`tie_lock_methods`).
In the model's terms the event is SET in a state iff nothing is outstanding on its key. -/

def eventIsSet (db : DB) (K : Nat) : Prop := (db.getKey K).locked = 0

/-- **Wait, answered directly.** In any state with the reachable-state invariant, if a `Wait` request is answered SUCCED
by the step that receives it, the event is set in that state. -/
theorem event_wait_direct (db : DB) (hinv : DBInv db) (e : Env) (r n : Nat) (rep : Reply)
    (hrep : (opLock db (evWaitCmd e r n)).2.head? = some rep) (hok : rep.result ∈ lock_lock.ok) :
    eventIsSet db (e.field "eventKey") := by
  have hres : rep.result = RESULT_SUCCED := by simpa [lock_lock, RESULT_SUCCED] using hok
  exact nohold_succed_free db (evWaitCmd e r n) hinv rfl rfl rfl rep hrep hres

/-- **Wait, answered from the queue.** Every grant out of the wait queue is made by a wake iteration at the queue's head
(`C04_grant_is_head`); if the request granted is a `Wait` (Count 0) the key has nothing outstanding at that iteration:
the event is set at the moment Wait succeeds. -/
theorem event_wait_queued (db db' : DB) (k k' : Key) (rep : Reply) (hw : wakeIter db k = some (db', k', rep)) :
    ∃ w rest, k.waiters = w :: rest ∧ rep.req = w.cmd.req ∧ rep.conn = w.conn ∧
      ((∃ e r n, w.cmd = evWaitCmd e r n) → k.locked = 0) := by
  obtain ⟨w, rest, e1, e2, e3, e4⟩ := wake_grant_count_zero_free hw
  refine ⟨w, rest, e1, e2, e3, ?_⟩
  rintro ⟨e, r, n, hc⟩
  exact e4 (by rw [hc]; rfl)

theorem event_wait (now : Nat) (ops : List Op) (e : Env) (r n : Nat) (rep : Reply)
    (hrep : (opLock (run (DB.init now) ops) (evWaitCmd e r n)).2.head? = some rep) (hok : rep.result ∈ lock_lock.ok) :
    eventIsSet (run (DB.init now) ops) (e.field "eventKey") :=
  event_wait_direct _ (reachable_inv now ops) e r n rep hrep hok

/-- **Clear clears.** A `Clear()` that the client reports as successful (result in `LockUpdate`'s ok list: SUCCED or
LOCKED_ERROR) leaves the event NOT set — until a `Set()` (unlock) or the expiry of the hold (a tick) removes the hold. -/
theorem event_clear_unsets (now : Nat) (ops : List Op) (e : Env) (r n : Nat) (hexp : e.field "expried" % 65536 > 0) (rep : Reply)
    (hrep : (opLock (run (DB.init now) ops) (evClearCmd e r n)).2.head? = some rep) (hok : rep.result ∈ lock_lockUpdate.ok) :
    ¬ eventIsSet (opLock (run (DB.init now) ops) (evClearCmd e r n)).1 (e.field "eventKey") := by
  have hres : rep.result = RESULT_SUCCED ∨ rep.result = RESULT_LOCKED_ERROR := by
    simpa [lock_lockUpdate, RESULT_SUCCED, RESULT_LOCKED_ERROR] using hok
  have := update_lock_holds (run (DB.init now) ops) (evClearCmd e r n) (reachable_inv now ops) rfl hexp rep hrep hres
  unfold eventIsSet
  have hk : (evClearCmd e r n).key = e.field "eventKey" := rfl
  rw [hk] at this
  omega

/-! ## 8. Non-vacuity: concrete runs of the generated commands on the executable model -/

def envL (id : Nat) : Env :=
  { field := fun s => if s = "lockKey" ∨ s = "semaphoreKey" ∨ s = "flowKey" ∨ s = "eventKey" then 7 else if s = "timeout" then 5
      else if s = "expried" then 60 else if s = "priority" then id else 0,
    param := fun s => if s = "lockKey" then 7 else if s = "timeout" then 5 else if s = "expried" then 60 else 0,
    fresh := id, cond := fun s => s = "self.priority > 0" && id > 0 }

-- Lock: the second Lock object is queued, and gets the key when the first unlocks
example : ((run (DB.init 100) [.lock (lockCmd (envL 1) 1 1), .lock (lockCmd (envL 2) 2 2)]).getKey 7).holders.length = 1 ∧
    ((run (DB.init 100) [.lock (lockCmd (envL 1) 1 1), .lock (lockCmd (envL 2) 2 2)]).getKey 7).waiters.length = 1 := by decide +kernel
example : (((run (DB.init 100) [.lock (lockCmd (envL 1) 1 1), .lock (lockCmd (envL 2) 2 2), .unlock (unlockCmd (envL 1) 3 1)]).getKey 7).holders.map
    (·.cmd.lockId)) = [2] := by decide +kernel
-- Semaphore(2): two holders, the third queued
example : ((run (DB.init 100) [.lock (semAcquireCmd 2 (envL 1) 1 1), .lock (semAcquireCmd 2 (envL 2) 2 1),
    .lock (semAcquireCmd 2 (envL 3) 3 1)]).getKey 7).holders.length = 2 := by decide +kernel
-- RWLock: two readers share; the writer waits
example : ((run (DB.init 100) [.lock (rwReadCmd (envL 1) 1 1), .lock (rwReadCmd (envL 2) 2 1), .lock (rwWriteCmd (envL 3) 3 1)]).getKey 7).holders.map
    (·.cmd.count) = [0xffff, 0xffff] := by decide +kernel
-- RLock: three locks, depth 3; two unlocks, depth 1
example : ((run (DB.init 100) [.lock (rlockCmd (envL 1) 1 1), .lock (rlockCmd (envL 1) 2 1), .lock (rlockCmd (envL 1) 3 1)]).getKey 7).holders.map
    (·.depth) = [3] := by decide +kernel
example : ((run (DB.init 100) [.lock (rlockCmd (envL 1) 1 1), .lock (rlockCmd (envL 1) 2 1), .lock (rlockCmd (envL 1) 3 1),
    .unlock (runlockCmd (envL 1) 4 1), .unlock (runlockCmd (envL 1) 5 1)]).getKey 7).holders.map (·.depth) = [1] := by decide +kernel
-- PriorityLock: priorities 3, 9, 5 queue behind the holder; the queue is 9, 5, 3 and 9 is granted first on unlock
example : ((run (DB.init 100) [.lock (prioLockCmd (envL 1) 1 1), .lock (prioLockCmd (envL 3) 2 2), .lock (prioLockCmd (envL 9) 3 3),
    .lock (prioLockCmd (envL 5) 4 4)]).getKey 7).waiters.map (fun w => cmdPriority w.cmd) = [9, 5, 3] := by decide +kernel
-- Event: clear, a Wait queues; Set wakes it with SUCCED
example : (opLock (run (DB.init 100) [.lock (evClearCmd (envL 0) 1 1)]) (evWaitCmd (envL 5) 2 2)).2 = [] := by decide +kernel
example : ((opUnlock (run (DB.init 100) [.lock (evClearCmd (envL 0) 1 1), .lock (evWaitCmd (envL 5) 2 2)]) (evSetCmd (envL 0) 3 1)).2.map
    (fun r => (r.req, r.result))) = [(3, 0), (2, 0)] := by decide +kernel
instance (db : DB) (c : Cmd) : Decidable (Fresh db c) := by unfold Fresh; infer_instance
example : FreshRun (DB.init 100) [.lock (lockCmd (envL 1) 1 1), .lock (lockCmd (envL 2) 2 2), .tick] := by
  refine ⟨?_, ?_, trivial, trivial⟩
  · show Fresh _ _; decide
  · show Fresh _ _; decide

end Slock.C19
