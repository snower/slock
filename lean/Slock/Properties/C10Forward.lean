import Slock.Proofs.TransKeep
import Slock.Proofs.TransLog
/-!
# C10 (forwarding half) — only the leader decides; other nodes refuse or forward

Over M-TRANS (`Slock.Model.Trans`): the connection layer of ONE node — its role, the leader address its
`TransparencyManager` knows, its client connections (binary / text) with the protocol object each one has, the link
(`TransparencyBinaryClientProtocol`) behind each, the latest in-flight command of every link — and an abstract leader
whose frames are inputs. Events: `accept`, `request c short q`, `leaderMsg c m early`, `unattached c` (a frame read before
the fresh link was attached: dropped unseen), `linkDown c`, `role r`, `leader a` (`ChangeLeader`), `close c`, `closeCut c k` (close during which the link's reader closes the link after k frames). `step s e = (s', out)`: `out.client` = what CLIENTS receive, `out.fwd` = what is SENT TO THE LEADER, `out.tag` =
who handled it. `run evs` = the state after ANY event sequence from the initial node; the per-step theorems hold in
EVERY state `s` (so in every state of every sequence, whatever the interleaving of connections and role changes).

Where the code violates a full statement the negation is proved on a concrete script (`…_violated`, by
`decide`) and the part that does hold is proved as `…_partial`. The engine half of C10 (role gate inside `LockDB`) is in
`Slock.Properties.C10`.
-/
namespace Slock.C10F
open Slock.Trans Slock.Gen

/-- **Only four sources, every role, every state**: a lock / unlock result that any step hands to the client of
connection `c` is
(i) a refusal fabricated from the request itself — Result UNKNOWN_DB (3) or STATE_ERROR (10), RequestId / DbId / LockId /
LockKey / Count / Rcount copied from the request, LCount = LRCount = 0, no data;
(ii) TIMEOUT (8) from the node's OWN lock table (`CheckProbableLock`: LOCK with the concurrent-check flag and Timeout 0);
(iii) the rollback of the latest in-flight command when its link loses its socket — Result ERROR (11), the RequestId, every
other field zero;
(iv) the frame the leader sent on the connection's own link, which exists only because this node forwarded on it.
(`Src` spells the four cases out.) There is no other source. -/
theorem C10F_never_decides_partial (s : Node) (e : Event) (c : Nat) (m : ToClient) (r : LockRes)
    (h : (c, m) ∈ (step s e).2.client) (hc : Carries m r) : Src s e c r := by
  have rollback : ∀ {s' : Node} {d : Nat} {x : Conn}, s.conns[d]? = some x → (c, m) ∈ (downConn s' d x).2.client →
      (e = .linkDown d ∨ ∃ a, e = .leader a) → Src s e c r := by
    intro s' d x hx hm he
    obtain ⟨rfl, l, ct, hl, hct, ⟨_, rfl⟩ | ⟨_, hc'⟩⟩ := downConn_client hm
    · exact nomatch hc
    · cases carries_inj hc hc'
      exact .inr (.inr (.inl ⟨x, l, ct, hx, hl, hct, rfl, he⟩))
  rcases step_cases s e with ⟨_, _, _, hcl, _⟩ | ⟨a, rfl, _, hcl, _⟩ | ⟨_, hcl, _⟩ | ⟨d, x, ht, hx, _, hout⟩
  · rw [hcl] at h; cases h
  · rw [hcl] at h
    obtain ⟨x, _, hx, hm⟩ := dropAll_client_mem h
    exact rollback hx hm (.inr ⟨a, rfl⟩)
  · rw [hcl] at h; cases h
  · rw [hout] at h
    cases e with
    | request d' short q =>
      cases ht
      rcases will_or_not q with ⟨wct, wcmd, rfl⟩ | hq
      · cases (willConn_client h).2; exact nomatch hc
      rw [connStep_request hq] at h
      obtain ⟨rfl, hb | ⟨r', hb, rfl⟩ | ⟨ct, cmd, l, n, pre, aw, hb⟩ | ⟨_, _, _, rfl⟩⟩ := applyConn_client h
      · have hf := (ClassifyFacts.of hb).2
        cases q with
        | lk ct md cmd rep =>
          rcases hf with ⟨_, _, rfl⟩ | ⟨_, _, rfl⟩ | ⟨_, _, rfl⟩ | ⟨_, _, rfl⟩
          · exact .inl ⟨_, _, _, _, _, rfl, .inl ((carries_iff _ _).mp hc).symm⟩
          · exact .inl ⟨_, _, _, _, _, rfl, .inr ((carries_iff _ _).mp hc).symm⟩
          · exact nomatch hc
          · exact nomatch hc
        | call rid fw => obtain ⟨_, _, _, rfl⟩ := hf; exact nomatch hc
        | _ => exact hf.elim
      · have hf := (ClassifyFacts.of hb).2
        cases q with
        | lk ct md cmd rep =>
          obtain ⟨rfl, _, lc, d, hp, rfl⟩ := hf
          exact .inr (.inl ⟨_, _, _, _, lc, d, rfl, hp, ((carries_iff _ _).mp hc).symm⟩)
        | _ => exact hf.elim
      · -- the acknowledgement of a text PUSH: `+OK`, not a lock result
        rcases classify_ack hb with hack | hack <;> cases hack
        exact nomatch hc
      · exact nomatch hc
    | leaderMsg d' msg early =>
      cases ht
      obtain ⟨l, hl, hr⟩ := onLink_client h
      obtain ⟨rfl, ⟨r', rfl, hc'⟩ | ⟨_, _, _, _, rfl⟩ | ⟨_, _, _, _, rfl⟩⟩ := relay_client hr
      · cases carries_inj hc hc'
        exact .inr (.inr (.inr ⟨early, x, l, rfl, hx, hl⟩))
      · exact nomatch hc
      · exact nomatch hc
    | linkDown d' => cases ht; exact rollback hx h (.inl rfl)
    | close d' => exact (not_mem_closeConn_client h).elim
    | closeCut d' k => exact (not_mem_closeConn_client h).elim
    | _ => cases ht

/-- the Result codes this node can put into a lock / unlock result on its own -/
theorem C10F_fabricated_codes (s : Node) (e : Event) (c : Nat) (m : ToClient) (r : LockRes)
    (h : (c, m) ∈ (step s e).2.client) (hc : Carries m r) (hnot : ∀ early, e ≠ .leaderMsg c (.lockRes r) early) :
    r.result = C.RESULT_UNKNOWN_DB ∨ r.result = C.RESULT_STATE_ERROR ∨ r.result = C.RESULT_TIMEOUT ∨ r.result = C.RESULT_ERROR := by
  rcases C10F_never_decides_partial s e c m r h hc with ⟨_, _, _, _, _, _, h1 | h1⟩ | ⟨_, _, _, _, _, _, _, _, h1⟩ | ⟨_, _, _, _, _, _, h1, _⟩ | ⟨early, _, _, h1, _⟩
  · subst h1; exact Or.inl rfl
  · subst h1; exact Or.inr (Or.inl rfl)
  · subst h1; exact Or.inr (Or.inr (Or.inl rfl))
  · subst h1; exact Or.inr (Or.inr (Or.inr rfl))
  · exact absurd h1 (hnot early)

/-- a node that is not the leader never hands a LOCK / UNLOCK to its own engine — EXCEPT the first command of a text
connection when it fits the first 64-byte read (`short`; see `C10F_first_text_command_refused_locally`: there the node's own
engine refuses, which the statement allows) -/
theorem C10F_not_local_partial (s : Node) (c : Nat) (short : Bool) (ct : CType) (md : TextMode) (cmd : LockCmd) (rep : Replica)
    (hr : s.role ≠ .leader)
    (hs : ∀ x, s.conns[c]? = some x → ¬(x.kind = .text ∧ x.plainLoop = none ∧ short = true)) (a : Bool) :
    (step s (.request c short (.lk ct md cmd rep))).2.tag ≠ .loc a := by
  cases hx : s.conns[c]? with
  | none => simp [step, stepRequest, hx]
  | some x =>
    rw [(step_target (e := .request c short (.lk ct md cmd rep)) rfl hx).2]
    intro h
    change (applyConn s c x _ (classify s x short (.lk ct md cmd rep))).2.tag = _ at h
    generalize hb : classify s x short (.lk ct md cmd rep) = b at h
    cases b with
    | loc =>
      obtain ⟨_, _, h1 | h1 | h1 | ⟨_, ⟨_, _, h1⟩ | ⟨_, _, h1⟩⟩ | ⟨_, h1⟩⟩ := ClassifyFacts.of hb
      · exact hr h1
      · exact hs x hx h1
      all_goals cases h1
    | _ => exact nomatch h

/-- when a refusal is fabricated: the reserved database id, or no link and none can be opened (state not FOLLOWER / SYNC,
or no live leader address) -/
theorem C10F_refusal_reason (s : Node) (c : Nat) (x : Conn) (short : Bool) (ct : CType) (md : TextMode) (cmd : LockCmd) (rep : Replica)
    (hx : s.conns[c]? = some x) (h : (step s (.request c short (.lk ct md cmd rep))).2.tag = .refused) :
    cmd.dbId = 255 ∨ (x.link = none ∧ ¬(s.role.opens = true ∧ s.addr = .live)) := by
  rw [(step_target (e := .request c short (.lk ct md cmd rep)) rfl hx).2] at h
  change (applyConn s c x _ (classify s x short (.lk ct md cmd rep))).2.tag = _ at h
  generalize hb : classify s x short (.lk ct md cmd rep) = b at h
  cases b with
  | refuse m =>
    rcases (ClassifyFacts.of hb).2 with ⟨_, h2, _⟩ | ⟨_, h2, _⟩ | ⟨_, h2, _⟩ | ⟨_, h2, _⟩
    · exact .inl h2
    · exact .inr (checkClient_none h2)
    · exact .inl h2
    · exact .inr (checkClient_none h2)
  | initRefused rid cid => exact nomatch (ClassifyFacts.of hb).2.1
  | _ => exact nomatch h

def demoCmd (rid key flag timeout : Nat) : LockCmd :=
  { rid := rid, flag := flag, dbId := 0, lockId := 7, lockKey := key, timeoutFlag := 0, timeout := timeout, expriedFlag := 0,
    expried := 60, count := 0, rcount := 0, data := [] }

/-- **VIOLATED (full statement "refused with STATE_ERROR or forwarded")**: a follower with a live leader address answers
a LOCK carrying the concurrent-check flag and Timeout 0 with TIMEOUT, LCount from ITS OWN lock table (here: one holder the
leader may know nothing of), forwards nothing and hears nothing from the leader. -/
theorem C10F_never_decides_violated :
    (run [.accept .binary]).role ≠ .leader ∧
    (step (run [.accept .binary]) (.request 0 false (.lk .lock .wait (demoCmd 1 10 8 0) (.mgr 1 [])))).2 =
      { tag := .probed, client := [(0, .lockRes (localRes .lock (demoCmd 1 10 8 0) 8 1 0 []))], fwd := [] } := by
  decide +kernel

/-- REMARK (within the statement: a non-leader may REFUSE with STATE_ERROR instead of forwarding): the FIRST command of
a text connection, when it fits the first 64-byte read, is handed to the node's own (plain) handlers although a link to
the leader could be opened; the node's own engine refuses it (role gate: STATE_ERROR, engine half of C10) — the second
command of the same connection is forwarded. This is the one case `C10F_not_local_partial` excludes. -/
theorem C10F_first_text_command_refused_locally :
    (step (run [.accept .text]) (.request 0 true (.lk .lock .wait (demoCmd 1 10 0 0) .noDb))).2 = { tag := .loc false } ∧
    (step (run [.accept .text, .request 0 true (.lk .lock .wait (demoCmd 1 10 0 0) .noDb)])
        (.request 0 false (.lk .lock .wait (demoCmd 2 10 0 0) .noDb))).2.fwd = [(0, .lk .lock (demoCmd 2 10 0 0))] := by
  decide +kernel

/-- **A relayed lock result is the leader's frame, field for field**: whatever a client receives when frame `msg` arrives
from the leader goes to the client of the connection the link belongs to and to nobody else, and it IS the frame — a
lock result on all twelve fields (CommandType, RequestId, Result, Flag, DbId, LockId, LockKey, LCount, Count, LRCount,
Rcount, data; the text protocol renders the same record), a call result unchanged, an INIT result with RequestId and
Result unchanged and InitType rewritten to `(InitType & 1) | 2 | GetInitCommandState()`. -/
theorem C10F_relay_unchanged (s : Node) (c : Nat) (msg : LeaderMsg) (early : Bool) (c' : Nat) (m : ToClient)
    (h : (c', m) ∈ (step s (.leaderMsg c msg early)).2.client) :
    c' = c ∧ ((∃ r, msg = .lockRes r ∧ Carries m r) ∨
      (∃ rid res it, msg = .initRes rid res it ∧ m = .initRes rid res (rewriteInitType s.role s.addr it)) ∨
      (∃ rid res ct, msg = .callRes rid res ct ∧ m = .callRes rid res ct)) := by
  cases hx : s.conns[c]? with
  | none => rw [(step_target_none (e := .leaderMsg c msg early) rfl hx).2.1] at h; cases h
  | some x =>
    rw [(step_target (e := .leaderMsg c msg early) rfl hx).2] at h
    obtain ⟨l, _, hr⟩ := onLink_client h
    exact relay_client hr

/-- … and a binary connection with a link relays EVERY lock result that arrives on it — also one whose RequestId matches
nothing this connection ever sent -/
theorem C10F_relay_binary_unconditional (s : Node) (c : Nat) (x : Conn) (l : Link) (r : LockRes) (early : Bool)
    (hx : s.conns[c]? = some x) (hk : x.kind = .binary) (hl : x.link = some l) :
    (step s (.leaderMsg c (.lockRes r) early)).2.client = [(c, .lockRes r)] := by
  rw [(step_target (e := .leaderMsg c (.lockRes r) early) rfl hx).2, connStep, msgConn, onLink_some hl, relay_binary_eq hk]

/-- **The forwarded command is the received command**: everything a request makes the node send to the leader is the
request itself on every field (LOCK / UNLOCK: CommandType, RequestId, Flag, DbId, LockId, LockKey, TimeoutFlag, Timeout,
ExpriedFlag, Expried, Count, Rcount, data) — preceded, when the link had to be opened for it, by the INIT command the
connection announced earlier. -/
theorem C10F_forward_unchanged (s : Node) (c : Nat) (short : Bool) (q : Req) (c' : Nat) (f : Fwd)
    (h : (c', f) ∈ (step s (.request c short q)).2.fwd) :
    c' = c ∧ (some f = reqFwd q ∨
      ∃ x rid cid, s.conns[c]? = some x ∧ x.link = none ∧ x.initCmd = some (rid, cid) ∧ f = .init rid cid) := by
  rcases step_cases s (.request c short q) with ⟨_, he, _⟩ | ⟨_, he, _⟩ | ⟨_, _, hfw⟩ | ⟨d, x, ht, hx, _, hout⟩
  · cases he
  · cases he
  · rw [hfw] at h; cases h
  cases ht
  rw [hout] at h
  rcases will_or_not q with ⟨wct, wcmd, rfl⟩ | hq
  · rw [show (connStep s x (.request c short (.will wct wcmd))).2.fwd = [] from willConn_fwd ..] at h; cases h
  rw [connStep_request hq] at h
  obtain ⟨rfl, hb⟩ := applyConn_fwd h
  refine ⟨rfl, ?_⟩
  rcases hb with ⟨ct, cmd, l, n, pre, aw, ack, hb, hf⟩ | ⟨rid', cid, l, n, hb, rfl⟩ | ⟨rid', l, n, pre, hb, hf⟩
  · have hfacts := (ClassifyFacts.of hb).2
    cases q with
    | lk ct' md cmd' rep =>
      obtain ⟨rfl, rfl, hk⟩ := hfacts
      rcases hf with hf | rfl
      · rcases hk with ⟨_, hcc, _⟩ | ⟨_, hcc, _⟩
        · obtain ⟨hl, rid, cid, hic, rfl⟩ := checkClient_pre hcc hf
          exact .inr ⟨x, rid, cid, hx, hl, hic, rfl⟩
        · obtain ⟨_, _, _, hic, _⟩ := checkClient_pre hcc hf
          cases hic
      · exact .inl rfl
    | _ => exact hfacts.elim
  · obtain ⟨_, rfl, _⟩ := ClassifyFacts.of hb
    exact .inl rfl
  · obtain ⟨_, rfl, _, hcc⟩ := ClassifyFacts.of hb
    rcases hf with hf | rfl
    · obtain ⟨hl, rid, cid, hic, rfl⟩ := checkClient_pre hcc hf
      exact .inr ⟨x, rid, cid, hx, hl, hic, rfl⟩
    · exact .inl rfl

/-- nothing else is ever sent to the leader, except (a) the INIT a detached link object re-sends when it reconnects
after losing its socket, and (b) when a connection closes: the will commands it registered, each exactly as registered
(`WillOf`), preceded by the INIT it announced when the link has to be opened for them -/
theorem C10F_forward_nothing_else (s : Node) (e : Event) (c : Nat) (f : Fwd) (h : (c, f) ∈ (step s e).2.fwd)
    (hreq : ∀ d short q, e ≠ .request d short q) :
    ∃ x, s.conns[c]? = some x ∧
      ((∃ l rid cid, x.link = some l ∧ l.initC = some (rid, cid) ∧ f = .init rid cid ∧ ((e = .linkDown c) ∨ ∃ a, e = .leader a)) ∨
       WillOf x f) := by
  rcases step_cases s e with ⟨_, _, _, _, hfw⟩ | ⟨a, rfl, _, _, hfw⟩ | ⟨_, _, hfw⟩ | ⟨d, x, ht, hx, _, hout⟩
  · rw [hfw] at h; cases h
  · rw [hfw] at h
    obtain ⟨x, _, hx, hm⟩ := dropAll_fwd_mem h
    exact ⟨x, hx, (downConn_fwd hm).2.imp (fun ⟨l, rid, cid, hl, hic, hf⟩ => ⟨l, rid, cid, hl, hic, hf, .inr ⟨a, rfl⟩⟩) id⟩
  · rw [hfw] at h; cases h
  · rw [hout] at h
    cases e with
    | request d' short q => exact absurd rfl (hreq d' short q)
    | leaderMsg d' msg early =>
      cases ht
      cases (msgConn_fwd h).1
      exact ⟨x, hx, .inr (msgConn_fwd h).2⟩
    | linkDown d' =>
      cases ht
      cases (downConn_fwd h).1
      exact ⟨x, hx, (downConn_fwd h).2.imp (fun ⟨l, rid, cid, hl, hic, hf⟩ => ⟨l, rid, cid, hl, hic, hf, .inl rfl⟩) id⟩
    | close d' => cases ht; cases (closeConn_fwd h).1; exact ⟨x, hx, .inr (closeConn_fwd h).2⟩
    | closeCut d' k => cases ht; cases (closeConn_fwd h).1; exact ⟨x, hx, .inr (closeConn_fwd h).2⟩
    | _ => cases ht

/-- **Will commands are forwarded at the close, unchanged, in registration order** — when the closing connection has a
transparency wrapper and `CheckClient` yields a link; otherwise nothing is sent (they are DROPPED when there is no link,
also on a node that has become the leader meanwhile: see `C10F_wills_dropped_without_link`). -/
theorem C10F_wills_forwarded_at_close (s : Node) (c : Nat) (x : Conn) (l : Link)
    (hx : s.conns[c]? = some x) (ho : x.closed = false) (ha : x.awaiting = none) (hw : x.wrapped = true) (hl : x.link = some l)
    (hne : x.wills ≠ []) :
    (step s (.close c)).2.fwd = (x.wills.map (fun w => Fwd.lk w.1 w.2)).map (fun f => (c, f)) := by
  have hcf : closeFwd s x = x.wills.map (fun w => Fwd.lk w.1 w.2) := by
    unfold closeFwd
    rw [if_pos ⟨hw, hne⟩]
    simp [checkClient, hl, willFwd]
  simp [step, stepClose, hx, ho, ha, hcf]

/-- a connection registered a will while the node was a follower; the node has no leader address when the connection
closes (or has become the leader): the will is neither forwarded nor executed -/
theorem C10F_wills_dropped_without_link :
    (runOut {} [.accept .binary, .request 0 false (.will .lock (demoCmd 1 10 0 0)), .leader .none, .close 0]).map (·.fwd) = [[], [], [], []] ∧
    (runOut {} [.accept .binary, .request 0 false (.will .lock (demoCmd 1 10 0 0)), .role .leader, .leader .none, .close 0]).map (·.fwd) =
      [[], [], [], [], []] ∧
    (runOut {} [.accept .binary, .request 0 false (.will .lock (demoCmd 1 10 0 0)), .close 0]).map (·.fwd) =
      [[], [], [(0, .lk .lock (demoCmd 1 10 0 0))]] := by
  decide +kernel

/-- **VIOLATED ("registered wills are forwarded when the connection closes")**: while `Close` writes the INIT and the will
commands to the leader, the link's reader relays the leader's first answers to the client that has gone; the second such
write fails, the reader returns and CLOSES the link — the wills not written by then are lost (`closeCut 0 2`: of INIT +
three wills only INIT and the first will went out). Which prefix goes out is a race inside the node; any is possible.
(A second cause of the same outcome, seen with real processes: `Close` closes the socket right after the last write while
answers are unread — RST, the unsent tail of the wills is discarded by the kernel.) -/
theorem C10F_wills_cut_short_violated :
    (runOut {} [.accept .binary, .request 0 false (.init 1 9), .leaderMsg 0 (.initRes 1 0 12) false,
        .request 0 false (.will .unlock (demoCmd 2 10 0 0)), .request 0 false (.will .lock (demoCmd 3 11 0 0)),
        .request 0 false (.will .lock (demoCmd 4 12 0 0)), .linkDown 0, .closeCut 0 2]).getLast?.map (·.fwd) =
      some [(0, .init 1 9), (0, .lk .unlock (demoCmd 2 10 0 0))] ∧
    ∀ (s : Node) (c k : Nat) (f : Nat × Fwd), f ∈ (step s (.closeCut c k)).2.fwd → f ∈ (step s (.close c)).2.fwd := by
  refine ⟨by decide +kernel, ?_⟩
  intro s c k f hf
  simp only [step, stepClose] at hf ⊢
  cases hx : s.conns[c]? with
  | none => simp [hx] at hf
  | some x =>
    simp only [hx] at hf ⊢
    by_cases hc : x.closed = true
    · simp [hc] at hf
    · by_cases ha : x.awaiting.isSome = true
      · simp [hc, ha] at hf
      · simp only [if_neg hc, if_neg ha, List.mem_map] at hf ⊢
        obtain ⟨g, hg, rfl⟩ := hf
        exact ⟨g, List.mem_of_mem_take hg, rfl⟩

/-- **Same outcome through this node as from the leader itself (binary)**: let the leader answer command `cmd` with
`dec ct cmd` — that is what a client connected to the leader gets. If the request of a binary connection is forwarded,
then (a) what the leader receives is `cmd` itself, and (b) after ANY events that leave the link alone (`QuietB`: no loss
of this link, no change of the leader address, no close of this connection — requests of this and other connections,
other answers, role changes are all allowed), the leader's answer reaches the client as `dec ct cmd`, on every field. -/
theorem C10F_same_outcome (dec : CType → LockCmd → LockRes) (s : Node) (c : Nat) (x : Conn) (short : Bool) (ct : CType)
    (md : TextMode) (cmd : LockCmd) (rep : Replica) (a : Bool) (hx : s.conns[c]? = some x) (hk : x.kind = .binary)
    (hf : (step s (.request c short (.lk ct md cmd rep))).2.tag = .forwarded a)
    (evs : List Event) (hq : ∀ e ∈ evs, QuietB c e) (early : Bool) :
    (c, Fwd.lk ct cmd) ∈ (step s (.request c short (.lk ct md cmd rep))).2.fwd ∧
    (step (runFrom (step s (.request c short (.lk ct md cmd rep))).1 evs) (.leaderMsg c (.lockRes (dec ct cmd)) early)).2.client =
      [(c, .lockRes (dec ct cmd))] := by
  obtain ⟨_, _, hfw, x', l', hx', hk', hc', hl', _⟩ := lk_forwarded s c x short ct md cmd rep a hx hf
  refine ⟨hfw, ?_⟩
  have hkeep : KeepB x' := ⟨by rw [hk', hk], hc', by simp [hl']⟩
  obtain ⟨x'', hx'', hk''⟩ := keep_run keepB_step evs hx' hkeep hq
  obtain ⟨l'', hl''⟩ := Option.isSome_iff_exists.mp hk''.2.2
  exact C10F_relay_binary_unconditional _ c x'' l'' _ early hx'' hk''.1 hl''

/-- **… (text)**: the handler blocks until the leader's answer to ITS RequestId arrives; whatever happens meanwhile
(`QuietT`: as above, and no other answer carrying this RequestId), the client then receives the rendering of the leader's
answer — provided the leader echoes the RequestId, as it does. -/
theorem C10F_same_outcome_text (dec : CType → LockCmd → LockRes) (s : Node) (c : Nat) (x : Conn) (short : Bool) (ct : CType)
    (md : TextMode) (cmd : LockCmd) (rep : Replica) (a : Bool) (hx : s.conns[c]? = some x) (hk : x.kind = .text)
    (hmd : md ≠ .push) (hh : x.half = false)
    (hf : (step s (.request c short (.lk ct md cmd rep))).2.tag = .forwarded a)
    (hecho : (dec ct cmd).rid = cmd.rid)
    (evs : List Event) (hq : ∀ e ∈ evs, QuietT c cmd.rid e) (early : Bool) :
    (c, Fwd.lk ct cmd) ∈ (step s (.request c short (.lk ct md cmd rep))).2.fwd ∧
    (step (runFrom (step s (.request c short (.lk ct md cmd rep))).1 evs) (.leaderMsg c (.lockRes (dec ct cmd)) early)).2.client =
      [(c, renderText md (dec ct cmd))] := by
  obtain ⟨_, _, hfw, x', l', hx', hk', hc', hl', _, hh', haw⟩ := lk_forwarded s c x short ct md cmd rep a hx hf
  refine ⟨hfw, ?_⟩
  have hkeep : KeepT cmd.rid md x' := ⟨by rw [hk', hk], hc', by simp [hl'], haw hk hmd, by rw [hh', hh]⟩
  obtain ⟨x'', hx'', k1, _, k3, k4, k5⟩ := keep_run keepT_step evs hx' hkeep hq
  obtain ⟨l'', hl''⟩ := Option.isSome_iff_exists.mp k3
  exact leaderMsg_text_lock _ c x'' l'' _ md early hx'' k1 hl'' (by rw [hecho]; exact k4) k5

/-- **At most one result per request**, over every event sequence: if the client never reuses a RequestId on a
connection and the leader answers each forwarded LOCK / UNLOCK at most once and on the link instance it arrived on
(`OkRun`; an answer may overtake the writer), then no RequestId
occurs twice among the lock / unlock results a
connection's client is handed — refusals, own-table TIMEOUTs, rollbacks and relays all counted (`delivered`). -/
theorem C10F_one_reply (evs : List Event) (hok : OkRun {} evs) (c : Nat) (x : Conn) (hx : (run evs).conns[c]? = some x) :
    (delivered c {} evs).Nodup :=
  delivered_nodup ninv_init evs hok c

/-- the ghost log is the real one: `got` of a connection = the RequestIds of the results its client was handed -/
theorem C10F_delivered_spec (evs : List Event) (c : Nat) (x : Conn) (hx : (run evs).conns[c]? = some x) :
    x.got = delivered c {} evs :=
  got_delivered hx

/-- **With the link up and an answer from the leader: exactly one** — the relay step hands the client precisely one
message (binary: always; text: when it is the answer the handler is blocked on), and by `C10F_one_reply` nothing else
ever carries that RequestId. -/
theorem C10F_one_reply_exactly (s : Node) (c : Nat) (x : Conn) (l : Link) (r : LockRes) (early : Bool)
    (hx : s.conns[c]? = some x) (hl : x.link = some l)
    (h : x.kind = .binary ∨ (x.kind = .text ∧ x.half = false ∧ ∃ md, x.awaiting = some (r.rid, md))) :
    ∃ m, (step s (.leaderMsg c (.lockRes r) early)).2.client = [(c, m)] ∧ Carries m r := by
  rcases h with hk | ⟨hk, hh, md, ha⟩
  · exact ⟨_, C10F_relay_binary_unconditional s c x l r early hx hk hl, Or.inl rfl⟩
  · exact ⟨_, leaderMsg_text_lock s c x l r md early hx hk hl ha hh, carries_renderText md r⟩

/-- a blocked text handler is always released by the loss of its link: what it waits for is the link's latest command,
and that one is rolled back (in every state reachable under `OkRun`) -/
theorem C10F_text_unblocked (evs : List Event) (hok : OkRun {} evs) (c : Nat) (x : Conn) (l : Link)
    (hx : (run evs).conns[c]? = some x) (hl : x.link = some l) :
    (dropLink (run evs) c x l).1.awaiting = none ∨ (dropLink (run evs) c x l).1.closed = true := by
  exact dropLink_unblocks ((ninv_run evs ninv_init hok) x (List.mem_of_getElem? hx)) hl

/-- the loss script: two LOCKs of one binary connection in flight (queued at the leader), then the link loses its socket -/
def lossScript : List Event :=
  [.accept .binary, .request 0 false (.lk .lock .wait (demoCmd 1 10 0 5) .noDb),
   .request 0 false (.lk .lock .wait (demoCmd 2 11 0 5) .noDb), .linkDown 0]

/-- **VIOLATED ("each forwarded request gets a reply")**: at a link loss only the LATEST in-flight request gets a
(fabricated, RESULT_ERROR) answer; the earlier one (RequestId 1) was forwarded, has been answered by nobody, and the link
it could be answered on is gone — while the leader still holds / queues it. -/
theorem C10F_one_reply_link_loss_violated :
    (runOut {} lossScript).map (·.fwd) = [[], [(0, .lk .lock (demoCmd 1 10 0 5))], [(0, .lk .lock (demoCmd 2 11 0 5))], []] ∧
    (runOut {} lossScript).map (·.client) = [[], [], [], [(0, .lockRes (rollbackRes .lock 2))]] ∧
    delivered 0 {} lossScript = [2] ∧ (run lossScript).conns.map (·.link) = [none] := by
  decide +kernel

/-- **VIOLATED (at most one — the leader re-routes)**: the connection announced a client id (INIT); its LOCK 3 is queued
at the leader when the link is lost (the client is handed ERROR for 3); the next request opens a new link, which
re-announces the id; the leader (which re-routes the pending answers of a closed connection to the connection that
announced the same id) later grants LOCK 3 on the NEW link — and the binary relay hands it to the client: two results,
ERROR then SUCCED, for one request. (The step is outside `OkRun`: the answer arrives on another link instance.) -/
theorem C10F_one_reply_rerouted_violated :
    delivered 0 {}
      [.accept .binary, .request 0 false (.init 1 9), .request 0 false (.lk .lock .wait (demoCmd 3 10 0 5) .noDb), .linkDown 0,
       .request 0 false (.lk .lock .wait (demoCmd 4 11 0 0) .noDb),
       .leaderMsg 0 (.lockRes (localRes .lock (demoCmd 3 10 0 5) 0 1 1 [])) false] = [3, 3] := by
  decide +kernel

/-- the leader's answer to LOCK 1 is read before `Write` returns (`early`). `Write` records the command as the latest one
BEFORE its bytes leave, so the answer clears it whichever goroutine runs first: relayed once, nothing is "rolled back" when
the link is lost. -/
theorem C10F_early_answer_harmless :
    delivered 0 {}
      [.accept .binary, .request 0 false (.lk .lock .wait (demoCmd 1 10 0 0) .noDb),
       .leaderMsg 0 (.lockRes (localRes .lock (demoCmd 1 10 0 0) 0 1 1 [])) true, .linkDown 0] = [1] ∧
    ∀ (s : Node) (c : Nat) (m : LeaderMsg) (early : Bool), step s (.leaderMsg c m early) = step s (.leaderMsg c m false) := by
  refine ⟨by decide +kernel, ?_⟩
  intro s c m early
  cases early <;> rfl

/-! INIT: two ways its answer is lost (observed on the real code, mirrored by the model). -/

/-- an INIT sent AFTER another command of the connection is forwarded (by `Write`, the link's own `initCommand` stays
unset), and the leader's answer is DROPPED by the filter in `processBinaryProcotol`: the client never hears about its INIT -/
theorem C10F_late_init_unanswered :
    (runOut {} [.accept .binary, .request 0 false (.lk .lock .wait (demoCmd 1 10 0 0) .noDb), .request 0 false (.init 2 9),
        .leaderMsg 0 (.initRes 2 0 12) false]).map (fun o => (o.client, o.fwd)) =
      [([], []), ([], [(0, .lk .lock (demoCmd 1 10 0 0))]), ([], [(0, .init 2 9)]), ([], [])] := by
  decide +kernel

/-- the answer to the INIT that `Open` itself sends can be read before `CheckClient` has attached the new link object to
the connection (`Event.unattached`): it is dropped unseen — the INIT was forwarded, its answer reaches nobody -/
theorem C10F_init_answer_unattached :
    (runOut {} [.accept .binary, .request 0 false (.init 1 9), .unattached 0]).map (fun o => (o.client, o.fwd)) =
      [([], []), ([], [(0, .init 1 9)]), ([], [])] := by
  decide +kernel

/-- **After the node became the leader**, the next request of an existing open connection — whatever protocol object it
has — is decided by the node's own engine (a will command is queued on the connection, whatever the role): nothing is forwarded, nothing is fabricated here; it reaches the engine through
the `AGAIN` re-dispatch exactly when the transparency loop was serving the connection; the plain loop serves it from
then on; the link (if any) is left as it is. -/
theorem C10F_role_change (s : Node) (c : Nat) (x : Conn) (short : Bool) (q : Req) (hq : ∀ ct cmd, q ≠ .will ct cmd)
    (hx : s.conns[c]? = some x) (ho : x.closed = false) (ha : x.awaiting = none) :
    let s₁ := (step s (.role .leader)).1
    (step s₁ (.request c short q)).2 = { tag := .loc (x.plainLoop == some false) } ∧
    ∃ x', (step s₁ (.request c short q)).1.conns[c]? = some x' ∧ x'.plainLoop = some true ∧ x'.link = x.link := by
  intro s₁
  exact request_as_leader s₁ c x short q hq hx ho ha rfl

/-- **… and vice versa**: once the node is not the leader (any of the six other states), a LOCK / UNLOCK of an existing
connection is never handed to the node's own engine (`C10F_not_local_partial`); when it is forwarded, the `AGAIN`
re-dispatch happened exactly when the plain loop was serving the connection, the command is what goes out, and the
transparency loop serves the connection from then on. Never both: a step's output is tagged with exactly one handler. -/
theorem C10F_role_change_back (s : Node) (c : Nat) (x : Conn) (short : Bool) (ct : CType) (md : TextMode) (cmd : LockCmd)
    (rep : Replica) (a : Bool) (hx : s.conns[c]? = some x)
    (h : (step s (.request c short (.lk ct md cmd rep))).2.tag = .forwarded a) :
    s.role ≠ .leader ∧ (a = true ↔ x.plainLoop = some true) ∧
    (c, Fwd.lk ct cmd) ∈ (step s (.request c short (.lk ct md cmd rep))).2.fwd ∧
    ∃ x', (step s (.request c short (.lk ct md cmd rep))).1.conns[c]? = some x' ∧ x'.plainLoop = some false := by
  obtain ⟨h1, h2, h3, x', _, hx', _, _, _, hp, _⟩ := lk_forwarded s c x short ct md cmd rep a hx h
  exact ⟨h1, h2, h3, x', hx', hp⟩

/-- a request handled by the node's own engine is neither forwarded nor answered by this layer (any state) -/
theorem C10F_local_exclusive (s : Node) (c : Nat) (short : Bool) (q : Req) (a : Bool)
    (h : (step s (.request c short q)).2.tag = .loc a) :
    (step s (.request c short q)).2.fwd = [] ∧ (step s (.request c short q)).2.client = [] := by
  cases hx : s.conns[c]? with
  | none => exact ⟨(step_target_none (e := .request c short q) rfl hx).2.2, (step_target_none (e := .request c short q) rfl hx).2.1⟩
  | some x =>
    rw [(step_target (e := .request c short q) rfl hx).2] at h ⊢
    rcases will_or_not q with ⟨wct, wcmd, rfl⟩ | hq
    · rcases willConn_tag s c x wct wcmd with h1 | h1 | h1 <;> exact nomatch h1.symm.trans h
    · rw [connStep_request hq] at h ⊢
      generalize classify s x short q = b at h ⊢
      cases b with
      | loc => exact ⟨rfl, rfl⟩
      | _ => exact nomatch h

/-- a follower forwards a LOCK unchanged, the leader's answer is relayed unchanged (every hypothesis of `C10F_same_outcome`
holds: the connection is binary, the request is tagged forwarded) -/
example :
    (runOut {} [.accept .binary, .request 0 false (.lk .lock .wait (demoCmd 1 10 0 0) .noDb),
        .leaderMsg 0 (.lockRes (localRes .lock (demoCmd 1 10 0 0) 0 1 1 [])) false]).map (fun o => (o.tag, o.client, o.fwd)) =
      [(.ok, [], []), (.forwarded false, [], [(0, .lk .lock (demoCmd 1 10 0 0))]),
       (.relayed, [(0, .lockRes (localRes .lock (demoCmd 1 10 0 0) 0 1 1 []))], [])] := by decide +kernel

/-- the refusals: no leader address, a dead address, a state in which no link is opened -/
example : ((step (run [.accept .binary, .leader .none]) (.request 0 false (.lk .unlock .wait (demoCmd 1 10 0 0) .noDb))).2.client,
           (step (run [.accept .binary, .leader .dead]) (.request 0 false (.lk .unlock .wait (demoCmd 1 10 0 0) .noDb))).2.client,
           (step (run [.accept .text, .role .vote]) (.request 0 false (.lk .lock .wait (demoCmd 1 10 0 0) .noDb))).2.client) =
    ([(0, .lockRes (localRes .unlock (demoCmd 1 10 0 0) 10 0 0 []))], [(0, .lockRes (localRes .unlock (demoCmd 1 10 0 0) 10 0 0 []))],
     [(0, .textErr .leaderServerError)]) := by decide +kernel

/-- `OkRun` is satisfiable by a non-trivial run: two connections, forwards, answers, a link loss, a role change -/
example : OkRun {}
    [.accept .binary, .accept .text, .request 0 false (.lk .lock .wait (demoCmd 1 10 0 5) .noDb),
     .request 1 false (.lk .lock .wait (demoCmd 1 10 0 5) .noDb), .leaderMsg 0 (.lockRes (localRes .lock (demoCmd 1 10 0 5) 0 1 1 [])) false,
     .request 0 false (.lk .unlock .wait (demoCmd 2 10 0 0) .noDb), .linkDown 0, .role .leader,
     .request 0 false (.lk .lock .wait (demoCmd 3 12 0 0) .noDb), .linkDown 1] :=
  okRunB_ok _ _ (by decide +kernel)

/-- role change on one connection: forwarded, then (leader) local via AGAIN, then (follower again) forwarded via AGAIN -/
example :
    (runOut {} [.accept .binary, .request 0 false (.lk .lock .wait (demoCmd 1 10 0 0) .noDb), .role .leader, .leader .none,
        .request 0 false (.lk .lock .wait (demoCmd 2 11 0 0) .noDb), .leader .live, .role .follower,
        .request 0 false (.lk .lock .wait (demoCmd 3 12 0 0) .noDb)]).map (·.tag) =
      [.ok, .forwarded false, .ok, .down, .loc true, .down, .ok, .forwarded true] := by decide +kernel

end Slock.C10F
