import Slock.Proofs.Kernels
import Slock.Proofs.ClientPolicies
import Slock.Proofs.EngineNotLate
/-!
# C01 — mutual exclusion and Count capacity bound per key

Statement (properties.jsonl): whenever the server grants a lock request as a NEW holder of a key, the holds already
outstanding on that key (re-entrant depth included) number at most the request's Count and at most the Count of the
key's oldest outstanding holder.

Model: `Slock.Engine` (M-ENGINE). A new holder is created at exactly two places of the model — branch `.grant` of
`applyLock` (direct grant, db.go `Lock`) and the granting arm of `wakeIter` (db.go `wakeUpWaitLock`) — both through
`grantHold`. "Outstanding holds, depth included" is `depthSum k.holders`, which the invariant `KeyInv` (proved for every
reachable state below) identifies with the hand-kept counter `k.locked` the code consults.
-/
namespace Slock.C01
open Slock.Engine

inductive Op
  | lock (c : Cmd) | unlock (c : Cmd) | tick | setLeader (b : Bool)

def step (db : DB) : Op → DB
  | .lock c => (opLock db c).1
  | .unlock c => (opUnlock db c).1
  | .tick => (opTick db).1
  | .setLeader b => { db with leader := b }

def run (db : DB) (ops : List Op) : DB := ops.foldl step db

/-- Induction along a run: a property of (state, operations still to come) that every step carries from `o :: os` to
`os`. A premise on the operations (each is of some kind; ids are fresh in the state they meet) travels in `P`. -/
theorem run_induct (P : DB → List Op → Prop) (hstep : ∀ db o os, P db (o :: os) → P (step db o) os) :
    ∀ (ops : List Op) (db : DB), P db ops → P (run db ops) []
  | [], _, h => h
  | o :: os, db, h => run_induct P hstep os (step db o) (hstep db o os h)

theorem steady_step (d : DB) (o : Op) (h : Steady d) : Steady (step d o) :=
  match o with
  | .lock c => h.opLock c
  | .unlock c => h.opUnlock c
  | .tick => h.opTick
  | .setLeader _ => h.of_eq rfl rfl rfl rfl rfl rfl rfl

/-- Every invariant of M-ENGINE that needs no premise on the operations holds in EVERY reachable state: any start time, any
operation sequence of any length. -/
theorem reachable_steady (now : Nat) (ops : List Op) : Steady (run (DB.init now) ops) :=
  run_induct (fun d _ => Steady d) (fun d o _ h => steady_step d o h) ops _ (Steady.init now)

theorem reachable_inv (now : Nat) (ops : List Op) : DBInv (run (DB.init now) ops) := (reachable_steady now ops).inv

/-- Contract of the admission kernel `doLock` (db.go 2530–2562), for all states and commands. -/
theorem doLock_sound (k : Key) (c : Cmd) (h : doLock k c = true) :
    k.locked = 0 ∨ (c.count ≠ 0 ∧ ∃ cur, k.holders.head? = some cur ∧
      ((k.locked < 0xffff → k.locked ≤ cur.cmd.count ∧ k.locked ≤ c.count) ∧
       (0xffff ≤ k.locked → cur.cmd.count = 0xffff ∧ c.count = 0xffff))) :=
  doLock_true k c h

/-- The bound in the property's own words, for a key `k` (with I1) and a request `c` that `doLock` admits. -/
theorem admission_bound (k : Key) (c : Cmd) (hk : KeyInv k) (h : doLock k c = true)
    (hp : c.count < 0xffff ∨ k.locked < 0xffff) :
    depthSum k.holders ≤ c.count ∧ ∀ o, k.holders.head? = some o → depthSum k.holders ≤ o.cmd.count := by
  rw [← hk.sum]
  rcases doLock_sound k c h with h0 | ⟨_, cur, hcur, hlt, hge⟩
  · rw [h0]; exact ⟨Nat.zero_le _, fun _ _ => Nat.zero_le _⟩
  · have hl : k.locked < 0xffff := by
      rcases hp with hp | hp
      · by_cases hx : k.locked < 0xffff
        · exact hx
        · have := (hge (by omega)).2; omega
      · exact hp
    obtain ⟨h1, h2⟩ := hlt hl
    refine ⟨h2, ?_⟩
    intro o ho
    rw [hcur] at ho; injection ho with ho; rw [← ho]; exact h1

/-- **C01 (direct grant).** In every reachable state, a LOCK that the engine grants as a new holder sees at most
`Count` outstanding holds (depth included), and at most the oldest holder's `Count`.
`_partial`: the hypothesis excludes the one regime where the unchanged code has no bound — both Counts 0xffff
with 65 535 or more holds already outstanding (see `ffff_admits_unbounded`). -/
theorem C01_admission_direct_partial (now : Nat) (ops : List Op) (c : Cmd) :
    let db := run (DB.init now) ops
    let k := db.getKey c.key
    classifyLock db c = .grant →
    (c.count < 0xffff ∨ k.locked < 0xffff) →
    depthSum k.holders ≤ c.count ∧ ∀ o, k.holders.head? = some o → depthSum k.holders ≤ o.cmd.count := by
  intro db k hb hp
  have hk : KeyInv k := getKey_inv (reachable_inv now ops) c.key
  have hd : doLock k c = true := classifyLock_grant_doLock db c hb
  exact admission_bound k c hk hd hp

/-- **C01 (grant from the wait queue).** The same bound for every iteration of the wake pass on a key with I1. -/
theorem C01_admission_wake_partial (db db' : DB) (k k' : Key) (r : Reply) (hk : KeyInv k)
    (hw : wakeIter db k = some (db', k', r)) :
    ∃ w rest, k.waiters = w :: rest ∧
      ((w.cmd.count < 0xffff ∨ k.locked < 0xffff) →
        depthSum k.holders ≤ w.cmd.count ∧ ∀ o, k.holders.head? = some o → depthSum k.holders ≤ o.cmd.count) := by
  obtain ⟨w, rest, hws, hd, _⟩ := wakeIter_some hw
  exact ⟨w, rest, hws, admission_bound k w.cmd hk hd⟩

/-- The regime excluded above is real: with both Counts 0xffff and 65 535 holds outstanding, `doLock` still admits. -/
theorem ffff_admits_unbounded (n : Nat) (hn : 0xffff ≤ n) (hn2 : n < 0x7fffffff) (cur : Hold) (c : Cmd)
    (hc : c.count = 0xffff) (hcur : cur.cmd.count = 0xffff) (rest : List Hold) :
    doLock { key := 0, locked := n, holders := cur :: rest, waiters := [], waited := false } c = true := by
  unfold doLock
  have h0 : ¬ n = 0 := by omega
  simp [h0, hc, hcur, hn]
  omega

/-! ### Non-vacuity: a reachable state in which a second request with Count 1 is granted next to one holder -/

def c1 : Cmd := { req := 1, conn := 1, flag := 0, lockId := 1, key := 7, tflag := 0, timeout := 0, eflag := 0, expried := 10, count := 1, rcount := 0 }
def c2 : Cmd := { c1 with req := 2, lockId := 2 }

example : classifyLock (run (DB.init 100) [.lock c1]) c2 = .grant := by decide +kernel
example : depthSum ((run (DB.init 100) [.lock c1]).getKey 7).holders = 1 := by decide +kernel
example : classifyLock (run (DB.init 100) [.lock c1, .lock c2]) { c2 with req := 3, lockId := 3 } = .timeout := by decide +kernel


/-! ## Uniform Count: never more than `c + 1` simultaneous holders

If every LOCK command of the sequence that names key `k` carries the same `Count = c < 0xffff` (commands for other keys
are arbitrary; updates and re-locks of `k` carry `c` too), then in every reachable state key `k` has at most `c + 1`
holders — for `c = 0` at most one (`C01_mutex`). Re-entrant depth is not bounded by Count (a re-lock is admitted on
`Rcount`), which is why the statement counts holders, not `locked`. -/

/-- a policy on the LOCKs addressed to one key is kept along every run whose LOCKs on that key obey its discipline -/
theorem policy_run (P : Policy) (ops : List Op) (db : DB) (h0 : PolInv P db) (h : ∀ c, Op.lock c ∈ ops → c.key = P.K → P.D c) :
    PolInv P (run db ops) :=
  (run_induct (fun d rest => PolInv P d ∧ ∀ c, Op.lock c ∈ rest → c.key = P.K → P.D c)
    (fun d o os ⟨hp, hd⟩ => ⟨by
      cases o with
      | lock c => exact opLock_pol d c (hd c (List.mem_cons_self ..)) hp
      | unlock c => exact opUnlock_pol d c hp
      | tick => exact opTick_pol d hp
      | setLeader b => exact hp.of_keys_eq rfl, fun c hc => hd c (List.mem_cons_of_mem _ hc)⟩) ops db ⟨h0, h⟩).1

/-- the invariants behind the corollary, in every reachable state -/
theorem reachable_U3 (now : Nat) (ops : List Op) (k c : Nat) (hc : c < 0xffff)
    (hu : ∀ cmd, Op.lock cmd ∈ ops → cmd.key = k → cmd.count = c) : U3 k c (run (DB.init now) ops) :=
  U3.of_pol (policy_run (ucPolicy k c hc) ops _ (PolInv.init now) hu)

/-- **C01, uniform Count.** With every LOCK for key `k` carrying `Count = c < 0xffff`, the key never has more than
`c + 1` simultaneous holders, and every request queued under `k` carries `Count = c`. -/
theorem C01_uniform_count (now : Nat) (ops : List Op) (k c : Nat) (hc : c < 0xffff)
    (hu : ∀ cmd, Op.lock cmd ∈ ops → cmd.key = k → cmd.count = c) :
    ((run (DB.init now) ops).getKey k).holders.length ≤ c + 1 ∧
      ∀ w ∈ ((run (DB.init now) ops).getKey k).waiters, w.cmd.count = c :=
  have h := policy_run (ucPolicy k c hc) ops _ (PolInv.init now) hu
  ⟨h.holders, h.waiters⟩

/-- … in every state reached on the way, too (the premise is inherited by prefixes). -/
theorem C01_uniform_count_prefix (now : Nat) (pre post : List Op) (k c : Nat) (hc : c < 0xffff)
    (hu : ∀ cmd, Op.lock cmd ∈ pre ++ post → cmd.key = k → cmd.count = c) :
    ((run (DB.init now) pre).getKey k).holders.length ≤ c + 1 :=
  (C01_uniform_count now pre k c hc (fun cmd hm => hu cmd (List.mem_append_left _ hm))).1

/-- **Mutual exclusion.** With every LOCK for key `k` carrying `Count = 0`, the key never has two holders. -/
theorem C01_mutex (now : Nat) (ops : List Op) (k : Nat)
    (hu : ∀ cmd, Op.lock cmd ∈ ops → cmd.key = k → cmd.count = 0) :
    ((run (DB.init now) ops).getKey k).holders.length ≤ 1 :=
  (C01_uniform_count now ops k 0 (by decide) hu).1

/-- decidable form of the premise -/
def uniformCount (k c : Nat) (ops : List Op) : Bool :=
  ops.all (fun o => match o with | .lock cmd => cmd.key != k || cmd.count == c | _ => true)

theorem uniformCount_spec (k c : Nat) (ops : List Op) (h : uniformCount k c ops = true) :
    ∀ cmd, Op.lock cmd ∈ ops → cmd.key = k → cmd.count = c := by
  intro cmd hm hk
  unfold uniformCount at h
  have := List.all_eq_true.mp h _ hm
  simp only [hk, bne_self_eq_false, Bool.false_or, beq_iff_eq] at this
  exact this

/-! ### Non-vacuity: Count 1 on key 7 (another key uses other Counts); two holders are reached, a third request waits,
is granted after an unlock, and the bound `≤ 2` is attained -/
def c3 : Cmd := { c2 with req := 3, lockId := 3, timeout := 5 }
def other : Cmd := { c1 with req := 9, lockId := 9, key := 8, count := 5 }
def opsU : List Op := [.lock c1, .lock other, .lock c2, .lock c3, .tick, .unlock { c1 with req := 4 }, .tick]
example : ∀ cmd, Op.lock cmd ∈ opsU → cmd.key = 7 → cmd.count = 1 := uniformCount_spec 7 1 opsU (by decide)
example : ((run (DB.init 100) [.lock c1, .lock other, .lock c2, .lock c3]).getKey 7).holders.length = 2 ∧
    ((run (DB.init 100) [.lock c1, .lock other, .lock c2, .lock c3]).getKey 7).waiters.length = 1 := by decide +kernel
example : (((run (DB.init 100) opsU).getKey 7).holders.map (·.cmd.req)) = [2, 3] := by decide +kernel
def m1 : Cmd := { c1 with count := 0 }
def m2 : Cmd := { m1 with req := 2, lockId := 2, timeout := 3 }
example : ∀ cmd, Op.lock cmd ∈ [Op.lock m1, .lock m2, .tick] → cmd.key = 7 → cmd.count = 0 :=
  uniformCount_spec 7 0 _ (by decide)
example : ((run (DB.init 100) [.lock m1, .lock m2, .tick]).getKey 7).holders.length = 1 ∧
    ((run (DB.init 100) [.lock m1, .lock m2, .tick]).getKey 7).waiters.length = 1 := by decide +kernel

end Slock.C01
