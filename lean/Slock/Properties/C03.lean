import Slock.Proofs.EngineReplies
import Slock.Proofs.Kernels
import Slock.Properties.C01
/-!
# C03 — exactly one terminal reply per request, to the right client

Over M-ENGINE. A request id is the pair (connection, RequestId). `answered x out` counts the TERMINAL replies
(everything but the asynchronous EXPRIED notice) in the reply history `out` that carry id `x` — the reply's connection
included, so a reply delivered to another connection would not count for `x`. `queued x ks` counts the queued
requests with id `x`. The conservation law below holds for EVERY operation sequence of any length.
-/
namespace Slock.C03
open Slock.Engine Slock.C01

/-- run with the reply history -/
def stepOut (acc : DB × List Reply) : Op → DB × List Reply
  | .lock c => ((opLock acc.1 c).1, acc.2 ++ (opLock acc.1 c).2)
  | .unlock c => ((opUnlock acc.1 c).1, acc.2 ++ (opUnlock acc.1 c).2)
  | .tick => ((opTick acc.1).1, acc.2 ++ (opTick acc.1).2)
  | .setLeader b => ({ acc.1 with leader := b }, acc.2)

def runOut (db : DB) (ops : List Op) : DB × List Reply := ops.foldl stepOut (db, [])

def issued : List Op → List Rid
  | [] => []
  | .lock c :: ops => (c.conn, c.req) :: issued ops
  | .unlock c :: ops => (c.conn, c.req) :: issued ops
  | _ :: ops => issued ops

def delta (x : Rid) : Op → Int
  | .lock c => hit x (c.conn, c.req)
  | .unlock c => hit x (c.conn, c.req)
  | _ => 0

theorem issued_count_delta (x : Rid) (o : Op) (ops : List Op) :
    ((issued (o :: ops)).count x : Int) = delta x o + (issued ops).count x := by
  cases o <;> simp only [issued, delta, List.count_cons, hit] <;> (try split) <;> simp_all <;> omega

theorem issued_count_cons (x : Rid) (o : Op) (ops : List Op) :
    ((issued (o :: ops)).count x : Int) =
      (match o with | .lock c => hit x (c.conn, c.req) | .unlock c => hit x (c.conn, c.req) | _ => 0) + (issued ops).count x := by
  rw [issued_count_delta]; cases o <;> rfl

/-- one operation: distinct key ids are kept, and (answered + queued) grows exactly by the op's own id -/
theorem stepOut_cons (x : Rid) (acc : DB × List Reply) (o : Op) (hk : KN acc.1) :
    KN (stepOut acc o).1 ∧
      answered x (stepOut acc o).2 + queued x (stepOut acc o).1.keys = answered x acc.2 + queued x acc.1.keys + delta x o := by
  cases o <;> simp only [stepOut, answered_append, delta]
  case lock c => exact ⟨opLock_cinv_kn acc.1 c hk, by have := opLock_cons x acc.1 c hk; omega⟩
  case unlock c => exact ⟨opUnlock_kn acc.1 c hk, by have := opUnlock_cons x acc.1 c hk; omega⟩
  case tick => exact ⟨(opTick_cons x acc.1 hk).1, by have := (opTick_cons x acc.1 hk).2; omega⟩
  case setLeader b => exact ⟨hk, by omega⟩

/-- The conservation law from ANY state with distinct key ids, whatever has been answered so far: along the operations, (terminal
replies carrying id x) + (queued requests with id x) grows by exactly the number of times x is issued. -/
theorem conservation_from (x : Rid) : ∀ (ops : List Op) (acc : DB × List Reply), KN acc.1 →
    KN (ops.foldl stepOut acc).1 ∧
      answered x (ops.foldl stepOut acc).2 + queued x (ops.foldl stepOut acc).1.keys =
        answered x acc.2 + queued x acc.1.keys + (issued ops).count x
  | [], _, hk => ⟨hk, by simp [issued]⟩
  | o :: os, acc, hk => by
    rw [List.foldl_cons, issued_count_delta]
    have h1 := stepOut_cons x acc o hk
    have h2 := conservation_from x os (stepOut acc o) h1.1
    exact ⟨h2.1, by have := h2.2; have := h1.2; omega⟩

/-- **Conservation.** After any operation sequence: (terminal replies carrying id x) + (queued requests with id x)
= (requests issued with id x). -/
theorem conservation (now : Nat) (ops : List Op) (x : Rid) :
    answered x (runOut (DB.init now) ops).2 + queued x (runOut (DB.init now) ops).1.keys = (issued ops).count x := by
  have := (conservation_from x ops (DB.init now, []) List.nodup_nil).2
  have e1 : answered x ([] : List Reply) = 0 := rfl
  have e2 : queued x (DB.init now).keys = 0 := rfl
  simp only [e1, e2] at this
  unfold runOut
  omega

/-- **At most one.** If the id `x` was issued at most once (connection-unique RequestIds), it never gets a second
terminal reply. -/
theorem C03_at_most_one (now : Nat) (ops : List Op) (x : Rid) (hu : (issued ops).count x ≤ 1) :
    answered x (runOut (DB.init now) ops).2 ≤ 1 := by
  have := conservation now ops x
  have := queued_nonneg x (runOut (DB.init now) ops).1.keys
  omega

/-- **Exactly one at rest.** A request that was issued once and is no longer queued has exactly one terminal reply;
while it is queued it has none. -/
theorem C03_exactly_one (now : Nat) (ops : List Op) (x : Rid) (hu : (issued ops).count x = 1) :
    (queued x (runOut (DB.init now) ops).1.keys = 0 → answered x (runOut (DB.init now) ops).2 = 1) ∧
    (queued x (runOut (DB.init now) ops).1.keys = 1 → answered x (runOut (DB.init now) ops).2 = 0) := by
  have := conservation now ops x
  constructor <;> intro h <;> omega

/-- **No foreign ids, right client.** A terminal reply with (connection, RequestId) = x exists only if a request with
exactly that connection and RequestId was issued: no reply carries a RequestId its connection did not send, and none is
delivered to another connection. -/
theorem C03_routing (now : Nat) (ops : List Op) (x : Rid) (hn : (issued ops).count x = 0) :
    answered x (runOut (DB.init now) ops).2 = 0 := by
  have := conservation now ops x
  have := queued_nonneg x (runOut (DB.init now) ops).1.keys
  have := answered_nonneg x (runOut (DB.init now) ops).2
  omega

/-- **EXPRIED notice.** `doExpried` emits exactly one EXPRIED — addressed to the hold's current connection, under the
RequestId of the command that last set the hold's terms (`grantHold` / `updateHold` store that command in the hold) —
followed only by the grants of its wake pass; the hold is removed in the same step (`release_inv`), so it cannot draw a
second notice. -/
theorem C03_expried_once (db : DB) (key : Nat) (h : Hold) :
    ∃ rest, (fireExpire db key h).2 = mkReply { h.cmd with conn := h.conn } RESULT_EXPRIED ((db.getKey key).locked - h.depth) 0 :: rest ∧
      (∀ r ∈ rest, r.result = RESULT_SUCCED) := by
  unfold fireExpire
  exact wake_out_succed _ _ _

/-- The premise "every request id is issued at most once", as a fact about a state and the operations still to come: ids still
queued and ids still to be issued, together at most once each. A step keeps it, by the conservation law of that step. -/
def Once (d : DB) (rest : List Op) : Prop := ∀ x, queued x d.keys + (issued rest).count x ≤ 1

theorem Once.step {d : DB} {o : Op} {os : List Op} (hk : KN d) (h : Once d (o :: os)) : Once (C01.step d o) os := by
  intro x
  have e : (stepOut (d, []) o).1 = C01.step d o := by cases o <;> simp only [stepOut, C01.step]
  have h1 : answered x (stepOut (d, []) o).2 + queued x (C01.step d o).keys = 0 + queued x d.keys + delta x o :=
    e ▸ (stepOut_cons x (d, []) o hk).2
  have h2 := answered_nonneg x (stepOut (d, []) o).2
  have h3 := h x
  rw [issued_count_delta] at h3
  omega

theorem Once.qu {d : DB} {rest : List Op} (h : Once d rest) : QU d := fun x => by have := h x; omega

theorem Once.init (now : Nat) (ops : List Op) (hu : ∀ x, (issued ops).count x ≤ 1) : Once (DB.init now) ops := fun x => by
  have : queued x (DB.init now).keys = 0 := rfl
  have := hu x
  omega

def c1 : Cmd := { req := 1, conn := 1, flag := 0, lockId := 1, key := 7, tflag := 0, timeout := 5, eflag := 0, expried := 10, count := 0, rcount := 0 }
def c2 : Cmd := { c1 with req := 2, conn := 2, lockId := 2 }
example : (issued [.lock c1, .lock c2, .tick]).count (2, 2) = 1 := by decide
example : queued (2, 2) (runOut (DB.init 10) [.lock c1, .lock c2, .tick]).1.keys = 1 ∧
          answered (2, 2) (runOut (DB.init 10) [.lock c1, .lock c2, .tick]).2 = 0 ∧
          answered (1, 1) (runOut (DB.init 10) [.lock c1, .lock c2, .tick]).2 = 1 := by decide +kernel

end Slock.C03
