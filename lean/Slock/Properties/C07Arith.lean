import Slock.Proofs.AofDeadline
/-!
# C07 (arithmetic part) — a restored hold keeps its deadline to within one expiry unit plus a second

A hold with unit flags `ef` and `Expried = e` is granted at second `s` (deadline `d = engineDeadline ef e s`), journalled at
second `c` (`s ≤ c < d`: the expiry sweeper journals live holds; the record's command time is `c`), and the record is
reloaded at second `n ≥ c`: the loader skips it or replays it with `Expried = loadRemaining …`, which the engine turns into the
new deadline `engineDeadline ef · n`.

* seconds: restored deadline is EXACTLY `d + 1` while `n < d`, the record is skipped once `d ≤ n` (`deadline_seconds`); in
  the one saturating case (`Expried = 65535`, journalled in the second of the grant: 65536 s left, stored as 65535) the
  restored deadline is exactly `d` (`deadline_seconds_saturated`); in all cases `d' ≤ d + 1` (`never_renews_seconds`);
* minutes: restored deadline within `[d − 59, d + 60]`, never lost while more than 61 s remain, always skipped from
  `d + 59` on (`deadline_minutes`); `d' ≤ d + 1` is FALSE (`minutes_extends_by_60`) — within the property's tolerance of
  one unit plus a second, not a renewal of the period; the saturating case is restored too (`minutes_overflow_saturates`);
* milliseconds: the record stores the ORIGINAL duration and the loader replays it unchanged: the whole period restarts at
  `n` (`deadline_ms_restarts_period`, witness `deadline_ms_renewed`): the outage renews the hold.
-/
namespace Slock.C07A
open Slock.Aof

/-- **Seconds.** Restored deadline = `d + 1` exactly; an expired record is skipped. -/
theorem deadline_seconds (ef e : Nat) (s c n : Int) (h : IsSeconds ef) (he : 0 < e) (hs : 0 ≤ s) (hsc : s ≤ c)
    (hlive : c < s + e + 1) (hov : s + e + 1 - c < 65536) (hcn : c ≤ n) (hn : n < 2 ^ 61) :
    engineDeadline ef e s = some (s + e + 1) ∧
    pushCommandTime c (some (s + e + 1)) = c ∧
    (n < s + e + 1 →
      skippedAt ef (writeRemaining ef e (some (s + e + 1)) c) c.toNat n = false ∧
      0 < loadRemaining ef (writeRemaining ef e (some (s + e + 1)) c) c n ∧
      engineDeadline ef (loadRemaining ef (writeRemaining ef e (some (s + e + 1)) c) c n) n = some (s + e + 1 + 1)) ∧
    (s + e + 1 ≤ n → skippedAt ef (writeRemaining ef e (some (s + e + 1)) c) c.toNat n = true) := by
  obtain ⟨hpos, hrem, _, hd, _⟩ := sec_write ef e (s + e + 1) c h (by omega) hlive
  exact ⟨sec_deadline ef e s h, pushCommandTime_live c _ hlive,
    sec_reload h (Int.le_trans hs hsc) hcn hn hpos hrem (hd (by omega))⟩

/-- **Seconds, saturating case** (`65536 ≤ d − c`, which for `Expried ≤ 65535` means `Expried = 65535 ∧ c = s`): 65535 is
stored; the restored deadline is exactly `d`; the record is skipped from `d − 1` on. -/
theorem deadline_seconds_saturated (ef e : Nat) (s c n : Int) (h : IsSeconds ef) (he2 : e ≤ 65535) (hs : 0 ≤ s) (hsc : s ≤ c)
    (hov : 65536 ≤ s + e + 1 - c) (hcn : c ≤ n) (hn : n < 2 ^ 61) :
    writeRemaining ef e (some (s + e + 1)) c = 65535 ∧
    (n < s + e + 1 - 1 →
      skippedAt ef (writeRemaining ef e (some (s + e + 1)) c) c.toNat n = false ∧
      0 < loadRemaining ef (writeRemaining ef e (some (s + e + 1)) c) c n ∧
      engineDeadline ef (loadRemaining ef (writeRemaining ef e (some (s + e + 1)) c) c n) n = some (s + e + 1)) ∧
    (s + e + 1 - 1 ≤ n → skippedAt ef (writeRemaining ef e (some (s + e + 1)) c) c.toNat n = true) := by
  obtain ⟨hpos, hrem, _, _, hsat⟩ := sec_write ef e (s + e + 1) c h (by omega) (by omega)
  have hsat := hsat (by omega)
  have hre := sec_reload (d₀ := s + e + 1 - 1) h (Int.le_trans hs hsc) hcn hn hpos hrem (by rw [hsat]; omega)
  rw [Int.sub_add_cancel] at hre
  exact ⟨hsat, hre⟩

/-- **The outage never renews a seconds-unit hold — all inputs**: whenever a live hold's record is replayed with a positive
`Expried`, the restored deadline is at most one second later than the original. -/
theorem never_renews_seconds (ef e : Nat) (s c n d' : Int) (h : IsSeconds ef) (he : 0 < e) (he2 : e ≤ 65535) (hs : 0 ≤ s)
    (hsc : s ≤ c) (hlive : c < s + e + 1) (hcn : c ≤ n) (hn : n < 2 ^ 61)
    (hns : skippedAt ef (writeRemaining ef e (some (s + e + 1)) c) c.toNat n = false)
    (hd' : engineDeadline ef (loadRemaining ef (writeRemaining ef e (some (s + e + 1)) c) c n) n = some d') :
    d' ≤ s + e + 1 + 1 := by
  obtain ⟨hpos, hrem, hd, _⟩ := sec_write ef e (s + e + 1) c h (by omega) hlive
  generalize writeRemaining ef e (some (s + e + 1)) c = rem at hpos hrem hd hns hd'
  -- the record describes `c + rem ≤ d`; replayed, it restores `c + rem + 1`
  obtain ⟨hlt, hge⟩ := sec_reload (n := n) h (Int.le_trans hs hsc) hcn hn hpos hrem (rfl : c + (rem : Int) = _)
  by_cases hnd : n < c + rem
  · rw [(hlt hnd).2.2] at hd'; injection hd' with hd'
    exact hd' ▸ Int.add_le_add_right hd 1
  · rw [hge (Int.not_lt.mp hnd)] at hns; cases hns

/-- `Expried = 65535 s` journalled in the second of the grant stores 65535 (not `uint16(65536) = 0`); the reload one second later
replays 65534 s: deadline 66536 = the original one. -/
theorem seconds_overflow_saturates :
    journalReload 0 65535 1000 1000 1001 = (1000, 0, 65535, false, 65534) ∧
    engineDeadline 0 65535 1000 = some 66536 ∧ engineDeadline 0 65534 1001 = some 66536 := by decide +kernel

/-- **Minutes.** Restored deadline within `[d − 59, d + 60]`; not lost while more than 61 s remain; skipped from `d + 59` on. -/
theorem deadline_minutes (ef e : Nat) (s c n : Int) (h : IsMinutes ef) (hs : 0 ≤ s) (hsc : s ≤ c)
    (hlive : c < s + (e : Int) * 60 + 1) (hov : s + (e : Int) * 60 + 1 - c ≤ 60 * 65535) (hcn : c ≤ n) (hn : n < 2 ^ 61) :
    let d := s + (e : Int) * 60 + 1
    let rem := writeRemaining ef e (some d) c
    let re := loadRemaining ef rem c n
    engineDeadline ef e s = some d ∧
    (skippedAt ef rem c.toNat n = false → 0 < re →
       ∃ d', engineDeadline ef re n = some d' ∧ d - 59 ≤ d' ∧ d' ≤ d + 60) ∧
    (n + 61 < d → skippedAt ef rem c.toNat n = false ∧ 0 < re) ∧
    (d + 59 ≤ n → skippedAt ef rem c.toNat n = true) := by
  intro d rem re
  -- the record describes `d₀ = c + 60·rem ∈ [d, d + 59]`; replayed before `d₀` it restores `[d₀ − 59, d₀ + 1]`
  have ⟨hr, hlo, hhi⟩ : rem ≤ 65535 ∧ d ≤ c + (rem : Int) * 60 ∧ c + (rem : Int) * 60 ≤ d + 59 :=
    min_write_bounds ef e d c h hlive hov
  have hsk : skippedAt ef rem c.toNat n = decide (c + (rem : Int) * 60 ≤ n) :=
    min_skip ef rem c n h (Int.le_trans hs hsc) (by omega)
  have hre : n < c + (rem : Int) * 60 → c + (rem : Int) * 60 ≤ n + (re : Int) * 60 + 60 ∧
      (0 < re → n + (re : Int) * 60 ≤ c + (rem : Int) * 60) := min_reload h hcn hr
  refine ⟨min_deadline ef e s h, fun hns hpos => ?_, fun hnd => ?_, fun hnd => ?_⟩
  · rw [hsk, decide_eq_false_iff_not, Int.not_le] at hns
    have := (hre hns).2 hpos
    exact ⟨_, min_deadline ef re n h, by omega⟩
  · have hns : n < c + (rem : Int) * 60 := by omega
    have := hre hns
    exact ⟨by rw [hsk]; exact decide_eq_false (Int.not_le.mpr hns), by omega⟩
  · rw [hsk]; exact decide_eq_true (by omega)

/-- `d' ≤ d + 1` is false for minutes: a 2-minute hold journalled at the grant (121 s left ⇒ 3 minutes stored) and reloaded
exactly 60 s later is restored with 2 minutes: deadline `d + 60`. -/
theorem minutes_extends_by_60 :
    engineDeadline 0x40 2 1000 = some 1121 ∧ journalReload 0x40 2 1000 1000 1060 = (1000, 0, 3, false, 2) ∧
    engineDeadline 0x40 2 1060 = some (1121 + 60) := by decide +kernel

/-- Minutes, the saturating case: 65535 minutes journalled in the second of the grant (3 932 101 s left = 65536 minutes rounded
up) stores 65535 (not 0); a reload one second later restores 65534 minutes: deadline `d − 59`, inside `[d − 59, d + 60]`. -/
theorem minutes_overflow_saturates :
    journalReload 0x40 65535 1000 1000 1001 = (1000, 0, 65535, false, 65534) ∧
    engineDeadline 0x40 65535 1000 = some 3933101 ∧ engineDeadline 0x40 65534 1001 = some (3933101 - 59) := by decide +kernel

/-- **Milliseconds, all inputs**: the stored value is the original duration and the replayed `Expried` is that same value:
a record that is not skipped restarts the FULL period at `n` — the restored deadline is the original one plus the whole
time since the grant. -/
theorem deadline_ms_restarts_period (ef e : Nat) (s c n : Int) (h : IsMillis ef) :
    writeRemaining ef e (engineDeadline ef e s) c = e ∧ loadRemaining ef e c n = e ∧
    engineDeadline ef e s = some (s + (e / 1000 : Nat) + 1) ∧
    engineDeadline ef e n = some ((s + (e / 1000 : Nat) + 1) + (n - s)) := by
  refine ⟨ms_write ef e _ c h, ms_load ef e c n h, ms_deadline ef e s h, ?_⟩
  rw [ms_deadline ef e n h]; congr 1; omega

/-- Witness (`C07:deadline-renewed:milliseconds`): a 60 000 ms hold granted and journalled at second 1000 (deadline 1061), reloaded at 1059, is not
skipped and is restored with 60 000 ms: deadline 1120, 59 s after the original — more than one unit (1 ms) plus a second. -/
theorem deadline_ms_renewed :
    engineDeadline 0x400 60000 1000 = some 1061 ∧ journalReload 0x400 60000 1000 1000 1059 = (1000, 0, 60000, false, 60000) ∧
    engineDeadline 0x400 60000 1059 = some 1120 := by decide +kernel

/-- Unlimited holds: stored and replayed unchanged; never skipped (when no minute / millisecond flag is set as well — the
loader's filter tests those two flags BEFORE the unlimited flag). -/
theorem unlimited_unchanged (ef e : Nat) (d : Option Int) (c n : Int) (h : ef &&& EXPRIED_FLAG_UNLIMITED_EXPRIED_TIME ≠ 0)
    (hMs : ef &&& EXPRIED_FLAG_MILLISECOND_TIME = 0) (hMin : ef &&& EXPRIED_FLAG_MINUTE_TIME = 0) :
    writeRemaining ef e d c = e ∧ loadRemaining ef e c n = e ∧ skippedAt ef e c.toNat n = false := by
  refine ⟨by simp [writeRemaining, h], by simp [loadRemaining, h], ?_⟩
  simp [skippedAt, hMs, hMin, h]

/-- The hypotheses are satisfiable: a 10-second hold granted at 1000, journalled at 1003, reloaded at 1005. -/
example : IsSeconds 0 ∧ (0 : Nat) < 10 ∧ (1003 : Int) < 1000 + 10 + 1 ∧ journalReload 0 10 1000 1003 1005 = (1003, 3, 8, false, 6) ∧
    engineDeadline 0 6 1005 = some (1000 + 10 + 1 + 1) := by unfold IsSeconds; decide +kernel
example : IsMinutes 0x40 := by unfold IsMinutes; decide
example : IsMillis 0x400 := by unfold IsMillis; decide

end Slock.C07A
