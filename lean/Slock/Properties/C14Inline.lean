import Slock.Model.LayoutInline
import Slock.Gen.Layouts
import Slock.Gen.InlineLayouts
import Slock.Gen.Consts
/-!
# C14 — the server's hand-inlined codecs equal the protocol package's layouts

The tables `Slock.Gen.inlineDecoders` / `inlineEncoders` are regenerated from /repo/server on every run by symbolic
execution of the inlined statement blocks; `decide` compares them with the regenerated tables of `LockCommand.Decode` and
`LockResultCommand.Encode`.  Together with `Slock.C14.roundtrip_*` this puts the server's own fast path under the same
round-trip theorems as the methods.
-/
namespace Slock.C14I
open Slock.Layout

/-- The four hand-inlined LOCK / UNLOCK decoders (`BinaryServerProtocol.ProcessParse`,
`TransparencyBinaryServerProtocol.ProcessParse`) read every field of the command from exactly the bytes, in exactly the
byte order, that `protocol.LockCommand.Decode` uses (Magic and Version are compared with constants before). -/
theorem inline_decoders_eq : ∀ d ∈ Slock.Gen.inlineDecoders, d.agrees Slock.Gen.lockCommand = true := by
  decide +kernel

theorem inline_decoders_found : Slock.Gen.inlineDecoders.length = 4 := by decide

/-- `BinaryServerProtocol.ProcessLockResultCommand` writes the 64 bytes of the result frame exactly as
`protocol.LockResultCommand.Encode` does (Flag = LOCK_FLAG_CONTAINS_DATA iff the reply carries data). -/
theorem inline_result_encoder_eq :
    ∀ e ∈ Slock.Gen.inlineEncoders, e.agrees Slock.Gen.lockResultCommand Slock.Gen.C.LOCK_FLAG_CONTAINS_DATA = true := by
  decide +kernel

theorem inline_encoders_found : Slock.Gen.inlineEncoders.length = 1 := by decide

/-- the comparison is not vacuous: dropping the `<<8` of the Count high byte (both bytes at position 0) is rejected -/
example : (InlineDec.mk "seeded" "" 0 [("Count", [(61, 0), (62, 0)])]).agrees Slock.Gen.lockCommand = false := by
  decide +kernel

end Slock.C14I
