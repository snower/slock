import Slock.Proofs.AofLoad
import Slock.Gen.Layouts
/-!
# C08 — crash at any byte of the log recovers a clean record prefix

Model: `Slock.Aof` (Model/Aof.lean) — `load cfg now recordFile valueFile` is `LoadAofFiles` on the newest append file, with
Go's `bufio.Reader` semantics, for EVERY buffer size `cfg`. `encodeFile` / `encodeData` are what the writer puts on disk.
A record list is well-formed (`WFRec`) when every record is 64 bytes starting 62,0, has the has-value flag iff it has a value
frame, and value frames are length-prefixed.

**The property holds in the model for every input.** It rests on five behaviours of server/aof.go, all mirrored in the model:
ReadLock returns the second read's error; append-mode Open truncates to a record boundary; ReadHeader reports a short header as
end of file; ReadLock reads the rest of a record with io.ReadFull; the start-up load cuts a record whose value is missing off
both files.

* `C08_prefix` — for every cut of the record file (header, every residue of a torn record, beyond the end) and every
  consistent cut of the value file, the next start SUCCEEDS and hands the engine exactly the live prefix of the complete
  records whose values are complete; `C08_no_reconstruction`: no record is ever built from partial bytes;
* `C08_second_restart` — after ANY such cut (record file at or beyond the header, value file anywhere) the restart leaves both
  files aligned (`startupFiles` + the append-mode `openAppend`), and once the writer has appended `more` the following restart
  recovers `prefix ++ more`; `C08_second_restart_header` for a cut inside the header.
The examples (`C08_torn_straddle_repaired`, `C08_second_restart_value_repaired`, …) are the inputs on which a start fails or
misreads when one of the five behaviours is missing.
The writer's output equation (bytes appended = `encodeRecs` / `encodeData` of the new records) is taken from the `aofappend` /
`aofwrites` differential.
-/
namespace Slock.C08
open Slock.Aof

/-- The offsets the model reads are the ones of the regenerated `AofLock` table (rebuilt from server/aof.go every run). -/
theorem layout_tie :
    (Slock.Gen.aofLock.fields.map (·.name)) = ["CommandType", "AofIndex", "AofOffset", "CommandTime", "Flag", "DbId", "LockId",
      "LockKey", "AofFlag", "StartTime", "ExpriedFlag", "ExpriedTime", "Count", "Rcount"] ∧
    Slock.Gen.aofLock.dec.getD 3 [] = [11, 12, 13, 14, 15, 16, 17, 18] ∧
    Slock.Gen.aofLock.dec.getD 8 [] = [55, 56] ∧ Slock.Gen.aofLock.dec.getD 9 [] = [53, 54] ∧
    Slock.Gen.aofLock.dec.getD 10 [] = [59, 60] ∧ Slock.Gen.aofLock.dec.getD 11 [] = [57, 58] ∧
    Slock.Gen.aofLock.enc.length = 64 := by decide +kernel

/-- Number of complete records in a record file of `cut` bytes. -/
def completeRecords (cut : Nat) : Nat := (cut - 12) / 64

theorem take_cut (pre : List Rec) (x : Rec) (post : List Rec) (res : Nat) (hw : ∀ y ∈ pre, WFBuf y.buf) (hx : WFBuf x.buf)
    (h64 : res ≤ 64) :
    (encodeFile (pre ++ x :: post)).take (12 + 64 * pre.length + res) = headerBytes ++ encodeRecs pre ++ x.buf.take res := by
  unfold encodeFile
  rw [encodeRecs_append, encodeRecs_cons, ← List.append_assoc, take_records_add pre _ res hw,
    List.take_append_of_le_length (by rw [hx.length]; exact h64)]

/-- The record file holds the complete records `pre` and then a tail at which `ReadLock` reports end of file (nothing, or a
torn record); the value file is cut anywhere: the start succeeds with the live records whose values are complete. -/
theorem load_values (cfg : Nat) (now : Int) (pre : List Rec) (tl : Bytes) (dc : Nat) (hw : ∀ x ∈ pre, WFRec x)
    (htl : EofTail tl) :
    load cfg now (headerBytes ++ encodeRecs pre ++ tl) ((encodeData pre).take dc) =
      (live now (pre.take (valuePrefix pre dc)), true) := by
  obtain ⟨h1, h2⟩ := loadFile_values cfg now (zeros 64) pre tl dc hw zeros_oldOK htl
  obtain ⟨e1, e2⟩ := load_eq cfg now (headerBytes ++ encodeRecs pre ++ tl) ((encodeData pre).take dc)
  exact Prod.ext (e1.trans h1) (e2.mpr (by rw [h2]; split <;> simp))

/-- **Boundary cuts, all inputs.** Records `pre ++ post` were written; the record file is cut exactly after `pre`, the value
file is cut at ANY byte `dc` of `pre`'s values. The restart succeeds and hands the engine exactly the longest prefix of `pre`
whose values are complete (minus records whose hold had already expired at `now`), each record with its own bytes and value. -/
theorem C08_prefix_partial (cfg : Nat) (now : Int) (pre post : List Rec) (dc : Nat)
    (hw : ∀ x ∈ pre, WFRec x) :
    load cfg now ((encodeFile (pre ++ post)).take (12 + 64 * pre.length)) ((encodeData pre).take dc) =
      (live now (pre.take (valuePrefix pre dc)), true) := by
  have h := take_records_add pre (encodeRecs post) 0 (fun x hx => (hw x hx).1)
  rw [List.append_assoc, ← encodeRecs_append, Nat.add_zero] at h
  rw [encodeFile, h]
  exact load_values cfg now pre _ dc hw .nil

/-- With the value file complete, a boundary cut recovers ALL complete records: `take (completeRecords cut) recs`. -/
theorem C08_prefix_boundary (cfg : Nat) (now : Int) (pre post : List Rec) (hw : ∀ x ∈ pre, WFRec x) :
    load cfg now ((encodeFile (pre ++ post)).take (12 + 64 * pre.length)) (encodeData pre) =
      (live now ((pre ++ post).take (completeRecords (12 + 64 * pre.length))), true) := by
  have h := C08_prefix_partial cfg now pre post (encodeData pre).length hw
  have hc : completeRecords (12 + 64 * pre.length) = pre.length := by
    unfold completeRecords; rw [Nat.add_sub_cancel_left, Nat.mul_div_cancel_left _ (by decide)]
  rw [List.take_length, valuePrefix_full pre, List.take_length] at h
  rw [h, hc, List.take_left]

/-- Empty record file (crash right after `create`): nothing loaded, no error. -/
theorem C08_empty_file (cfg : Nat) (now : Int) (dat : Bytes) : load cfg now [] dat = ([], true) := by
  unfold load loadFiles loadFilesFrom
  rw [loadFile_empty]

/-- **Header cuts, all inputs.** 1–11 bytes of the header on disk: the file counts as "no records" and the start succeeds
(the append-mode Open then rewrites the header). -/
theorem C08_header_cut (cfg : Nat) (now : Int) (recs : List Rec) (dat : Bytes) (c : Nat) (h0 : 0 < c) (h12 : c < 12) :
    load cfg now ((encodeFile recs).take c) dat = ([], true) := by
  have hl : ((encodeFile recs).take c).length = c :=
    List.length_take_of_le (by rw [encodeFile, List.length_append, headerBytes_length]; omega)
  unfold load loadFiles loadFilesFrom
  rw [loadFile_header_cut cfg now (zeros 64) _ (some dat) (hl.symm ▸ h0) (hl.symm ▸ h12)]

/-- **Torn records, all inputs, every residue, every buffer size.** The record file is cut `res < 64` bytes into record `x`,
after the complete records `pre`; the value file is cut anywhere in `pre`'s values. The start succeeds and hands the engine
exactly the live prefix of `pre` whose values are complete. -/
theorem C08_torn (cfg : Nat) (now : Int) (pre : List Rec) (x : Rec) (post : List Rec) (res dc : Nat)
    (hw : ∀ y ∈ pre, WFRec y) (hx : WFBuf x.buf) (h64 : res < 64) :
    load cfg now ((encodeFile (pre ++ x :: post)).take (12 + 64 * pre.length + res)) ((encodeData pre).take dc) =
      (live now (pre.take (valuePrefix pre dc)), true) := by
  rw [take_cut pre x post res (fun y hy => (hw y hy).1) hx (Nat.le_of_lt h64)]
  exact load_values cfg now pre _ dc hw (.torn x.buf res hx h64)

/-- **`C08_prefix`, full strength: every cut, all inputs.** The record file is cut at ANY byte `c`; the value file holds any
prefix of the values of the complete records. The next start succeeds and the records handed to the engine are exactly the
live prefix of the complete records whose values are complete. -/
theorem C08_prefix (cfg : Nat) (now : Int) (recs : List Rec) (c dc : Nat) (hw : ∀ x ∈ recs, WFRec x) :
    load cfg now ((encodeFile recs).take c) ((encodeData (recs.take (completeRecords c))).take dc) =
      (live now ((recs.take (completeRecords c)).take (valuePrefix (recs.take (completeRecords c)) dc)), true) := by
  have hwb : ∀ x ∈ recs, WFBuf x.buf := fun x hx => (hw x hx).1
  by_cases hc12 : c < 12
  · have hk : completeRecords c = 0 := by unfold completeRecords; rw [Nat.sub_eq_zero_of_le (Nat.le_of_lt hc12)]
    rw [hk, List.take_zero]
    by_cases hc0 : c = 0
    · rw [hc0, List.take_zero, C08_empty_file]; rfl
    · rw [C08_header_cut cfg now recs _ c (Nat.pos_of_ne_zero hc0) hc12]; rfl
  · -- `c = 12 + 64·k + res`: `k` complete records and `res < 64` bytes more
    have hc : 12 + 64 * completeRecords c + (c - 12) % 64 = c := by
      unfold completeRecords; rw [Nat.add_assoc, Nat.div_add_mod, Nat.add_sub_cancel' (Nat.not_lt.mp hc12)]
    generalize completeRecords c = k at hc ⊢
    by_cases hk : k < recs.length
    · obtain ⟨pre, x, post, hrecs, hlen⟩ : ∃ pre x post, recs = pre ++ x :: post ∧ pre.length = k :=
        ⟨recs.take k, recs[k], recs.drop (k + 1), by rw [← List.drop_eq_getElem_cons hk, List.take_append_drop],
          List.length_take_of_le (Nat.le_of_lt hk)⟩
      have htk : recs.take k = pre := by rw [hrecs, ← hlen]; exact List.take_left' rfl
      have t := C08_torn cfg now pre x post ((c - 12) % 64) dc (fun y hy => hw y (by rw [hrecs]; simp [hy]))
        (hwb x (by rw [hrecs]; simp)) (Nat.mod_lt _ (by decide))
      rwa [hlen, hc, ← hrecs, ← htk] at t
    · have hge : recs.length ≤ k := Nat.not_lt.mp hk
      have hcl : (encodeFile recs).length ≤ c := by
        rw [encodeFile_length recs hwb, ← hc]
        exact Nat.le_trans (Nat.add_le_add_left (Nat.mul_le_mul_left 64 hge) 12) (Nat.le_add_right _ _)
      have h := C08_prefix_partial cfg now recs [] dc hw
      rw [List.append_nil, ← encodeFile_length recs hwb, List.take_length] at h
      rwa [List.take_of_length_le hcl, List.take_of_length_le hge]

theorem C08_restart_succeeds (cfg : Nat) (now : Int) (recs : List Rec) (c dc : Nat) (hw : ∀ x ∈ recs, WFRec x) :
    (load cfg now ((encodeFile recs).take c) ((encodeData (recs.take (completeRecords c))).take dc)).2 = true := by
  rw [C08_prefix cfg now recs c dc hw]

/-- **No record is ever reconstructed from partial bytes — every cut, all inputs**: each record handed to the engine is one of
the written records, with its own 64 bytes and its own value. -/
theorem C08_no_reconstruction (cfg : Nat) (now : Int) (recs : List Rec) (c dc : Nat) (hw : ∀ x ∈ recs, WFRec x) :
    ∀ r ∈ (load cfg now ((encodeFile recs).take c) ((encodeData (recs.take (completeRecords c))).take dc)).1, r ∈ recs := by
  rw [C08_prefix cfg now recs c dc hw]
  intro r hr
  simp only [live, List.mem_filter] at hr
  exact List.mem_of_mem_take (List.mem_of_mem_take hr.1)

def mk (fill : UInt8) : Rec := ⟨62 :: 0 :: List.replicate 62 fill, none⟩
def r1 : Rec := mk 0x11
def r2 : Rec := mk 0x44

example : WFRec r1 ∧ WFRec r2 := by
  refine ⟨⟨⟨_, rfl, by decide⟩, ?_⟩, ⟨⟨_, rfl, by decide⟩, ?_⟩⟩
  · show hasData r1.buf = false; decide
  · show hasData r2.buf = false; decide

/-- Two records, the file cut 20 bytes into the second, buffer 4096: exactly `r1` is recovered (the torn bytes are not completed
with what the record buffer held before). -/
theorem C08_torn_tail_clean_example :
    load 4096 0 ((encodeFile [r1, r2]).take (12 + 64 + 20)) [] = (live 0 ([r1, r2].take (completeRecords (12 + 64 + 20))), true) := by
  decide +kernel

/-- 64-byte buffer (every record straddles a refill), cut 53 bytes into the second record: the start succeeds and recovers
exactly `r1` (no "Lock Len error": the rest of a record is read with io.ReadFull). -/
theorem C08_torn_straddle_repaired :
    load 64 0 ((encodeFile [r1, r2]).take (12 + 64 + 53)) [] = ([r1], true) := by
  decide +kernel

theorem C08_header_cut_repaired : load 4096 0 ((encodeFile [r1, r2]).take 7) [] = ([], true) := by decide +kernel

theorem openAppend_aligned (f : Bytes) (h : 12 ≤ f.length) (ha : (f.length - 12) % 64 = 0) : openAppend f = f := by
  unfold openAppend
  have h1 : ¬ f.length = 0 := by omega
  have h2 : ¬ f.length < 12 := by omega
  simp [h1, h2, ha]

/-- Append-mode reopen of a file that is aligned up to `a` and has fewer than 64 bytes more: truncated back to `a`. -/
theorem openAppend_append (a t : Bytes) (n : Nat) (ha : a.length = 12 + 64 * n) (ht : t.length < 64) : openAppend (a ++ t) = a := by
  have h12 : 12 ≤ (a ++ t).length := by rw [List.length_append, ha, Nat.add_assoc]; exact Nat.le_add_right _ _
  have h3 : ((a ++ t).length - 12) % 64 = t.length := by
    rw [List.length_append, ha, Nat.add_assoc, Nat.add_sub_cancel_left, Nat.mul_add_mod, Nat.mod_eq_of_lt ht]
  unfold openAppend
  rw [if_neg (Nat.ne_of_gt (Nat.lt_of_lt_of_le (by decide) h12)), if_neg (Nat.not_lt.mpr h12), h3]
  by_cases hr : t.length = 0
  · rw [if_neg (fun h => h hr), List.eq_nil_of_length_eq_zero hr, List.append_nil]
  · rw [if_pos hr, List.length_append, Nat.add_sub_cancel, List.take_left]

theorem openAppend_cut (pre : List Rec) (x : Rec) (post : List Rec) (res : Nat) (hw : ∀ y ∈ pre, WFBuf y.buf) (hx : WFBuf x.buf)
    (h64 : res < 64) :
    openAppend ((encodeFile (pre ++ x :: post)).take (12 + 64 * pre.length + res)) = encodeFile pre := by
  rw [take_cut pre x post res hw hx (Nat.le_of_lt h64)]
  exact openAppend_append _ _ pre.length (encodeFile_length pre hw) (by rw [List.length_take]; omega)

/-- What the next start reads once `P` is on disk and the writer has appended `more`. -/
theorem load_concat (cfg : Nat) (now : Int) (P more : List Rec) (hP : ∀ y ∈ P, WFRec y) (hm : ∀ y ∈ more, WFRec y) :
    load cfg now (encodeFile P ++ encodeRecs more) (encodeData P ++ encodeData more) = (live now (P ++ more), true) := by
  have h := load_values cfg now (P ++ more) [] (encodeData (P ++ more)).length
    (fun y hy => (List.mem_append.mp hy).elim (hP y) (hm y)) .nil
  rwa [List.take_length, valuePrefix_full, List.take_length, List.append_nil, encodeRecs_append, encodeData_append,
    ← List.append_assoc] at h

/-- **`C08_second_restart`, full strength: all inputs, every cut of the record file at or beyond the header (any residue, any
buffer size), the value file cut ANYWHERE.** The restart over the cut log recovers the prefix `P` = the complete records whose
values are complete, and leaves both files describing exactly `P` (`startupFiles`: a record whose value is missing is cut off
both files; `openAppend`: a torn record is cut off). After the writer has appended `more`, the following restart recovers
`P ++ more`. -/
theorem C08_second_restart (cfg cfg' : Nat) (now : Int) (pre : List Rec) (x : Rec) (post more : List Rec) (res dc : Nat)
    (hw : ∀ y ∈ pre, WFRec y) (hx : WFBuf x.buf) (hm : ∀ y ∈ more, WFRec y) (h64 : res < 64) :
    let sf := startupFiles cfg (zeros 64) ((encodeFile (pre ++ x :: post)).take (12 + 64 * pre.length + res)) (some ((encodeData pre).take dc))
    load cfg' now (openAppend sf.1 ++ encodeRecs more) (sf.2.getD [] ++ encodeData more) =
      (live now (pre.take (valuePrefix pre dc) ++ more), true) := by
  intro sf
  have hwb : ∀ y ∈ pre, WFBuf y.buf := fun y hy => (hw y hy).1
  have hcut := take_cut pre x post res hwb hx (Nat.le_of_lt h64)
  have hsf : sf = (if valuePrefix pre dc = pre.length then (headerBytes ++ encodeRecs pre ++ x.buf.take res, some ((encodeData pre).take dc))
       else (encodeFile (pre.take (valuePrefix pre dc)), some (encodeData (pre.take (valuePrefix pre dc))))) := by
    show startupFiles cfg (zeros 64) _ _ = _
    rw [hcut]
    exact startupFiles_cut cfg (zeros 64) pre (x.buf.take res) dc hw zeros_oldOK (EofTail.torn x.buf res hx h64)
  rw [hsf]
  by_cases hv : valuePrefix pre dc = pre.length
  · -- every value is there: the files are left alone, the reopen cuts the torn record
    have hfit := valuePrefix_fits pre dc
    rw [hv, List.take_length] at hfit
    rw [if_pos hv, ← hcut, openAppend_cut pre x post res hwb hx h64, hv, List.take_length, Option.getD_some,
      List.take_of_length_le hfit]
    exact load_concat cfg' now pre more hw hm
  · -- a value is missing: both files were cut back to `P`, the reopen changes nothing
    have hP : ∀ y ∈ pre.take (valuePrefix pre dc), WFRec y := fun y hy => hw y (List.mem_of_mem_take hy)
    rw [if_neg hv, ← List.append_nil (encodeFile _),
      openAppend_append _ [] _ (encodeFile_length _ (fun y hy => (hP y hy).1)) (by decide), Option.getD_some]
    exact load_concat cfg' now _ more hP hm

/-- Second restart after a cut inside the header: the load leaves the file alone, the append-mode Open rewrites the header, and
the following restart recovers what was appended. -/
theorem C08_second_restart_header (cfg cfg' : Nat) (now : Int) (recs more : List Rec) (c : Nat) (h12 : c < 12)
    (hm : ∀ y ∈ more, WFRec y) :
    let sf := startupFiles cfg (zeros 64) ((encodeFile recs).take c) (some [])
    load cfg' now (openAppend sf.1 ++ encodeRecs more) (sf.2.getD [] ++ encodeData more) = (live now more, true) := by
  intro sf
  have hl : ((encodeFile recs).take c).length = c :=
    List.length_take_of_le (by rw [encodeFile, List.length_append, headerBytes_length]; omega)
  have hsf : sf = ((encodeFile recs).take c, some []) := by
    show startupFiles cfg (zeros 64) _ _ = _
    unfold startupFiles
    by_cases h0 : c = 0
    · rw [h0, List.take_zero, readHeader_empty]
    · rw [readHeader_short _ _ (hl.symm ▸ Nat.pos_of_ne_zero h0) (hl.symm ▸ h12)]
  have hop : openAppend ((encodeFile recs).take c) = encodeFile [] := by
    unfold openAppend
    rw [hl]
    by_cases h0 : c = 0
    · rw [if_pos h0]; rfl
    · rw [if_neg h0, if_pos h12]; rfl
  rw [hsf, hop, Option.getD_some]
  exact load_concat cfg' now [] more (fun _ h => nomatch h) hm

def r3 : Rec := mk 0x55

/-- The torn image of 84 bytes reopened, `r3` appended: the file is cut back to 76 bytes, `r3` lands at a record boundary and the
following restart recovers `[r1, r3]`. -/
theorem C08_second_restart_torn_example :
    let img := (encodeFile [r1, r2]).take (12 + 64 + 20)
    let after := appendAfterRestart 4096 4096 img (some []) [r3]
    after.1.length = 140 ∧ load 4096 0 after.1 after.2 = ([r1, r3], true) := by
  decide +kernel

def v1 : Rec := ⟨62 :: 0 :: List.replicate 54 0x11 ++ [0x20] ++ List.replicate 7 0, some [2, 0, 0, 0, 0xaa, 0xaa]⟩
def v2 : Rec := ⟨62 :: 0 :: List.replicate 54 0x44 ++ [0x20] ++ List.replicate 7 0, some [1, 0, 0, 0, 0xbb]⟩

/-- Crash between the two writes of a flush (`v1`'s record on disk, its value not): the first restart recovers nothing and
cuts `v1`'s record off the file; `v2` appended afterwards is recovered with its own value. -/
theorem C08_second_restart_value_repaired :
    load 4096 0 (encodeFile [v1]) [] = ([], true) ∧
    startupFiles 4096 (zeros 64) (encodeFile [v1]) (some []) = (headerBytes, some []) ∧
    (let after := appendAfterRestart 4096 4096 (encodeFile [v1]) (some []) [v2]
     load 4096 0 after.1 after.2 = ([v2], true)) := by
  decide +kernel

example : WFRec v1 ∧ WFRec v2 := by
  refine ⟨⟨⟨_, rfl, by decide⟩, ?_⟩, ⟨⟨_, rfl, by decide⟩, ?_⟩⟩
  · show hasData v1.buf = true ∧ BlobWF [2, 0, 0, 0, 0xaa, 0xaa]
    exact ⟨by decide, [2, 0, 0, 0], [0xaa, 0xaa], rfl, rfl, by decide⟩
  · show hasData v2.buf = true ∧ BlobWF [1, 0, 0, 0, 0xbb]
    exact ⟨by decide, [1, 0, 0, 0], [0xbb], rfl, rfl, by decide⟩

end Slock.C08
