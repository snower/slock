import Slock.Properties.EngineSimFrameFree
import Slock.Properties.EngineSimTransfer
import Slock.Properties.C03
import Slock.Properties.C05
/-!
# EngineSimReplies — the simulation carries the REPLIES along; reply-level stage-1 theorems at record level

`Linked.step` / `Linked.run` (`EngineSimRun.lean`) relate the record-level model (M-ENGINE stage 2) and stage 1 step by step; the step also says
that the replies are equal. Here the replies are followed along a run:

* `sim_step_replies` — one admissible record-level operation emits, projected to stage 1's reply type (`Engine2.Reply.r`: the reply without
  the value frame), exactly the replies of its stage-1 image on any stage-1 database `Equiv` to `abs s`.
* `trace2` / `runOut2` — the reply history of a record-level run; `trace1` — of a stage-1 run (`= (C03.runOut …).2`, `runOut_trace1`).
* `sim_run_replies` — for an admissible run (`RunOK`, connection-unique RequestIds) the projected record-level reply history IS the reply
  history of the stage-1 run `imgs init ops`, reply by reply, in order.
* transferred: C03 (`C03_at_most_one_transfers`, `C03_routing_transfers`, `C03_exactly_one_transfers`, `C03_conservation_transfers`) and the
  timing theorem of C05 that is stated over the reply history (`C05_answered_by_deadline_transfers`); each also with the syntactic premises
  `FrameFree ops ∧ leaderTicksFrom true ops = true` (`…_syn`).
-/
namespace Slock.SimP
open Slock Slock.Sim
open Slock.Engine (answered queued queuedIn Rid)

/-- the reply history of a stage-1 run -/
def trace1 : Engine.DB → List C01.Op → List Engine.Reply
  | _, [] => []
  | a, o :: ops => replies1 a o ++ trace1 (C01.step a o) ops

/-- the reply history of a record-level run (replies WITH their value frames) -/
def trace2 : Engine2.DB → List Engine2.Op → List Engine2.Reply
  | _, [] => []
  | s, o :: ops => (Engine2.step s o).2 ++ trace2 (Engine2.step s o).1 ops

def ptrace2 (s : Engine2.DB) (ops : List Engine2.Op) : List Engine.Reply := (trace2 s ops).map (·.r)

/-- the record-level run with its reply history, as a fold (the form of `C03.runOut`) -/
def runOut2 (s : Engine2.DB) (ops : List Engine2.Op) : Engine2.DB × List Engine2.Reply :=
  ops.foldl (fun acc o => ((Engine2.step acc.1 o).1, acc.2 ++ (Engine2.step acc.1 o).2)) (s, [])

theorem stepOut_eq (acc : Engine.DB × List Engine.Reply) (o : C01.Op) :
    C03.stepOut acc o = (C01.step acc.1 o, acc.2 ++ replies1 acc.1 o) := by
  cases o <;> simp [C03.stepOut, C01.step, replies1]

theorem foldl_stepOut (ops : List C01.Op) : ∀ acc : Engine.DB × List Engine.Reply,
    ops.foldl C03.stepOut acc = (C01.run acc.1 ops, acc.2 ++ trace1 acc.1 ops) := by
  induction ops with
  | nil => intro acc; simp [C01.run, trace1]
  | cons o os ih =>
    intro acc
    rw [List.foldl_cons, ih, stepOut_eq]
    simp [C01.run, trace1, List.append_assoc]

/-- stage 1's `C03.runOut` is (final state, reply history) -/
theorem runOut_trace1 (a : Engine.DB) (ops : List C01.Op) : C03.runOut a ops = (C01.run a ops, trace1 a ops) := by
  unfold C03.runOut; rw [foldl_stepOut]; simp

theorem foldl_runOut2 (ops : List Engine2.Op) : ∀ acc : Engine2.DB × List Engine2.Reply,
    ops.foldl (fun acc o => ((Engine2.step acc.1 o).1, acc.2 ++ (Engine2.step acc.1 o).2)) acc =
      (Engine2.run acc.1 ops, acc.2 ++ trace2 acc.1 ops) := by
  induction ops with
  | nil => intro acc; simp [Engine2.run, trace2]
  | cons o os ih =>
    intro acc
    rw [List.foldl_cons, ih]
    simp [Engine2.run, trace2, List.append_assoc]

/-- the fold and the recursion agree: `runOut2` is (final state, reply history) -/
theorem runOut2_eq (s : Engine2.DB) (ops : List Engine2.Op) : runOut2 s ops = (Engine2.run s ops, trace2 s ops) := by
  unfold runOut2; rw [foldl_runOut2]; simp

theorem trace2_append (pre post : List Engine2.Op) : ∀ s : Engine2.DB,
    trace2 s (pre ++ post) = trace2 s pre ++ trace2 (Engine2.run s pre) post := by
  induction pre with
  | nil => intro s; simp [trace2, Engine2.run]
  | cons o os ih =>
    intro s
    simp only [List.cons_append, trace2, ih, List.append_assoc]
    rfl

/-- **one step, replies**: under the hypotheses of `sim_step`, the replies the record-level operation emits are — value frames dropped —
the replies of its stage-1 image on `a` (for a role flip: none on either side) -/
theorem sim_step_replies {s : Engine2.DB} (hr : Reachable2 s) {a : Engine.DB} (he : Equiv (Engine2.abs s) a) (hi : Inv1 a) (o : Engine2.Op)
    (ho : StepOK s o) :
    (Engine2.step s o).2.map (·.r) = replies1 a (img s o) :=
  ((Linked.mk hr he hi).step o ho).1

/-- the whole run from any pair of related states: the same reply history -/
theorem sim_run_replies_from (ops : List Engine2.Op) : ∀ (s : Engine2.DB) (a : Engine.DB), Linked s a → RunOK s ops → C04.FreshRun a (imgs s ops) →
    ptrace2 s ops = trace1 a (imgs s ops) :=
  Linked.run_ind (M := fun s a ops => ptrace2 s ops = trace1 a (imgs s ops)) (fun _ _ _ => rfl) (fun s a o os r ho ih => by
    unfold ptrace2 at ih ⊢
    simp only [trace2, imgs, trace1, List.map_append]
    rw [(r.step o ho).1, ih]) ops

/-- **The closing statement, with replies.** For an admissible record-level run from the initial database (`RunOK`; connection-unique
RequestIds) the reply history, value frames dropped, is the reply history of the stage-1 run `imgs init ops` — reply by reply, in order —
and the final states are related as in `sim_run`. -/
theorem sim_run_replies (now aofTime : Nat) (ops : List Engine2.Op) (hok : RunOK (Engine2.DB.init now aofTime) ops)
    (hu : ∀ x, (issued2 ops).count x ≤ 1) :
    ptrace2 (Engine2.DB.init now aofTime) ops = (C03.runOut (Engine.DB.init now) (imgs (Engine2.DB.init now aofTime) ops)).2 ∧
    Equiv (Engine2.abs (Engine2.run (Engine2.DB.init now aofTime) ops))
      (C03.runOut (Engine.DB.init now) (imgs (Engine2.DB.init now aofTime) ops)).1 := by
  rw [runOut_trace1]
  exact ⟨sim_run_replies_from ops _ _ (Linked.init now aofTime) hok (run_view hok hu).fresh, (run_view hok hu).equiv⟩

/-! queued requests: the stage-1 count depends only on the state under every key -/

/-- keys on which `f` vanishes do not count -/
theorem sum_filter (f : Engine.Key → Int) (p : Engine.Key → Bool) (hz : ∀ k, p k = false → f k = 0) (L : List Engine.Key) :
    ((L.filter p).map f).sum = (L.map f).sum := by
  induction L with
  | nil => rfl
  | cons k ks ih =>
    rw [List.filter_cons]
    cases hp : p k
    · rw [if_neg Bool.false_ne_true, ih, List.map_cons, List.sum_cons, hz k hp, Int.zero_add]
    · rw [if_pos rfl, List.map_cons, List.map_cons, List.sum_cons, List.sum_cons, ih]

/-- two key tables with distinct key ids that show the same state under every key id have the same sum of any `f` that vanishes on the
empty key: the keys that count are the same, up to order -/
theorem sum_eq_of_getKey (f : Engine.Key → Int) (hf0 : ∀ n, f (Engine.emptyKey n) = 0) : ∀ (L1 L2 : List Engine.Key),
    (L1.map (·.key)).Nodup → (L2.map (·.key)).Nodup →
    (∀ n, (L1.find? (·.key == n)).getD (Engine.emptyKey n) = (L2.find? (·.key == n)).getD (Engine.emptyKey n)) →
    (L1.map f).sum = (L2.map f).sum := by
  intro L1 L2 h1 h2 h
  have hz : ∀ k, (f k != 0) = false → f k = 0 := fun k hk => by simpa using hk
  have nd : ∀ {L : List Engine.Key}, (L.map (·.key)).Nodup → (L.filter (f · != 0)).Nodup :=
    fun hn => (List.Pairwise.of_map _ (fun _ _ hne e => hne (congrArg _ e)) hn).filter _
  rw [← sum_filter f (f · != 0) hz L1, ← sum_filter f (f · != 0) hz L2]
  have p : (L1.filter (f · != 0)).Perm (L2.filter (f · != 0)) := (List.perm_ext_iff_of_nodup (nd h1) (nd h2)).mpr fun k => by
    simp only [List.mem_filter, bne_iff_ne]
    have ne : ∀ {k}, f k ≠ 0 → k ≠ Engine.emptyKey k.key := fun hn e => hn (e ▸ hf0 _)
    exact ⟨fun ⟨hk, hn⟩ => ⟨mem_of_lookup h1 h hk (ne hn), hn⟩, fun ⟨hk, hn⟩ => ⟨mem_of_lookup h2 (fun n => (h n).symm) hk (ne hn), hn⟩⟩
  exact (p.map f).foldr_eq' (f := (· + ·)) (fun x _ y _ z => Int.add_left_comm y x z) 0

/-- stage 1's count of queued requests with id `x` is the same in `Equiv` databases -/
theorem queued_equiv {a b : Engine.DB} (h : Equiv a b) (ka : Engine.KN a) (kb : Engine.KN b) (x : Rid) :
    queued x a.keys = queued x b.keys :=
  sum_eq_of_getKey (queuedIn x) (fun _ => rfl) a.keys b.keys ka kb h.keys

/-- **queued at record level**: over all key records, the live queued lock records whose (connection, RequestId) is `x` -/
def queued2 (x : Rid) (s : Engine2.DB) : Int := (s.keys.map (fun k => queuedIn x (Engine2.Key.abs k))).sum

theorem queued_abs (x : Rid) (s : Engine2.DB) : queued x (Engine2.abs s).keys = queued2 x s := by
  show (((s.keys.map Engine2.Key.abs).filter (fun k => !k.isEmpty)).map (queuedIn x)).sum = _
  rw [sum_filter _ _ (fun k hk => by rw [isEmpty_eq k (by simpa using hk)]; rfl), List.map_map]
  rfl

/-- what the simulation gives for the transfer: the reply history is stage 1's, the queued count is stage 1's -/
theorem replies_view (now aofTime : Nat) (ops : List Engine2.Op) (hok : RunOK (Engine2.DB.init now aofTime) ops)
    (hid : ∀ x, (issued2 ops).count x ≤ 1) :
    ptrace2 (Engine2.DB.init now aofTime) ops = (C03.runOut (Engine.DB.init now) (imgs (Engine2.DB.init now aofTime) ops)).2 ∧
    (∀ x, queued2 x (Engine2.run (Engine2.DB.init now aofTime) ops) =
      queued x (C03.runOut (Engine.DB.init now) (imgs (Engine2.DB.init now aofTime) ops)).1.keys) ∧
    C03.issued (imgs (Engine2.DB.init now aofTime) ops) = issued2 ops := by
  obtain ⟨ht, he⟩ := sim_run_replies now aofTime ops hok hid
  refine ⟨ht, fun x => ?_, issued_imgs ops _⟩
  rw [← queued_abs]
  exact queued_equiv he (abs_kn ⟨now, aofTime, ops, rfl⟩) (by rw [C05.runOut_fst]; exact C05.reachable_KN now _) x

/-- **C03 conservation at record level.** After every admissible record-level run: (terminal replies carrying id `x` in the reply history)
+ (live queued lock records with id `x`, over all key records) = (requests issued with id `x`). -/
theorem C03_conservation_transfers (now aofTime : Nat) (ops : List Engine2.Op) (hok : RunOK (Engine2.DB.init now aofTime) ops)
    (hid : ∀ x, (issued2 ops).count x ≤ 1) (x : Rid) :
    answered x (ptrace2 (Engine2.DB.init now aofTime) ops) + queued2 x (Engine2.run (Engine2.DB.init now aofTime) ops) =
      (issued2 ops).count x := by
  obtain ⟨ht, hq, hi⟩ := replies_view now aofTime ops hok hid
  rw [ht, hq x, ← hi]
  exact C03.conservation now _ x

/-- **C03 at most one, at record level**: no id gets a second terminal reply. -/
theorem C03_at_most_one_transfers (now aofTime : Nat) (ops : List Engine2.Op) (hok : RunOK (Engine2.DB.init now aofTime) ops)
    (hid : ∀ x, (issued2 ops).count x ≤ 1) (x : Rid) :
    answered x (ptrace2 (Engine2.DB.init now aofTime) ops) ≤ 1 := by
  obtain ⟨ht, _, hi⟩ := replies_view now aofTime ops hok hid
  rw [ht]
  exact C03.C03_at_most_one now _ x (by rw [hi]; exact hid x)

/-- **C03 exactly one at rest, at record level**: a request that was issued and is no longer queued has exactly one terminal reply; while
its lock record is queued it has none. -/
theorem C03_exactly_one_transfers (now aofTime : Nat) (ops : List Engine2.Op) (hok : RunOK (Engine2.DB.init now aofTime) ops)
    (hid : ∀ x, (issued2 ops).count x ≤ 1) (x : Rid) (hx : (issued2 ops).count x = 1) :
    (queued2 x (Engine2.run (Engine2.DB.init now aofTime) ops) = 0 → answered x (ptrace2 (Engine2.DB.init now aofTime) ops) = 1) ∧
    (queued2 x (Engine2.run (Engine2.DB.init now aofTime) ops) = 1 → answered x (ptrace2 (Engine2.DB.init now aofTime) ops) = 0) := by
  obtain ⟨ht, hq, hi⟩ := replies_view now aofTime ops hok hid
  rw [ht, hq x]
  exact C03.C03_exactly_one now _ x (by rw [hi]; exact hx)

/-- **C03 routing at record level**: no terminal reply carries a (connection, RequestId) pair that was not issued. -/
theorem C03_routing_transfers (now aofTime : Nat) (ops : List Engine2.Op) (hok : RunOK (Engine2.DB.init now aofTime) ops)
    (hid : ∀ x, (issued2 ops).count x ≤ 1) (x : Rid) (hn : (issued2 ops).count x = 0) :
    answered x (ptrace2 (Engine2.DB.init now aofTime) ops) = 0 := by
  obtain ⟨ht, _, hi⟩ := replies_view now aofTime ops hok hid
  rw [ht]
  exact C03.C03_routing now _ x (by rw [hi]; exact hn)

/-- **C05 answered by the deadline, at record level.** A request id issued exactly once has, after an admissible record-level run, either
exactly one terminal reply in the reply history, or none — and then a live queued lock record of some key record carries it, with its
deadline `timeoutT` strictly ahead of server time. -/
theorem C05_answered_by_deadline_transfers (now aofTime : Nat) (ops : List Engine2.Op) (hok : RunOK (Engine2.DB.init now aofTime) ops)
    (hid : ∀ x, (issued2 ops).count x ≤ 1) (x : Rid) (hx : (issued2 ops).count x = 1) :
    answered x (ptrace2 (Engine2.DB.init now aofTime) ops) = 1 ∨
      (answered x (ptrace2 (Engine2.DB.init now aofTime) ops) = 0 ∧
        ∃ n, ∃ r ∈ ((Engine2.run (Engine2.DB.init now aofTime) ops).getKey n).waiters,
          (r.conn, r.cmd.req) = x ∧ (Engine2.run (Engine2.DB.init now aofTime) ops).now < r.timeoutT) := by
  have v := run_view hok hid
  rw [(sim_run_replies now aofTime ops hok hid).1]
  rcases C05.C05_answered_by_deadline now _ v.uniq x (by rw [issued_imgs]; exact hx) with h | ⟨h0, w, hw, hwx, hlt⟩
  · exact Or.inl h
  · obtain ⟨k, hk, hwk⟩ := Engine.mem_allW.mp hw
    rw [← Engine.getKey_of_mem v.inv.kn hk, ← v.key] at hwk
    obtain ⟨r, hr, rfl⟩ := List.mem_map.mp hwk
    exact Or.inr ⟨h0, k.key, r, hr, hwx, Nat.lt_of_le_of_lt (Nat.le_of_eq v.equiv.now) hlt⟩

theorem sim_run_replies_syn (now aofTime : Nat) (ops : List Engine2.Op) (hf : FrameFree ops) (hl : leaderTicksFrom true ops = true)
    (hu : ∀ x, (issued2 ops).count x ≤ 1) :
    ptrace2 (Engine2.DB.init now aofTime) ops = (C03.runOut (Engine.DB.init now) (imgs (Engine2.DB.init now aofTime) ops)).2 ∧
    Equiv (Engine2.abs (Engine2.run (Engine2.DB.init now aofTime) ops))
      (C03.runOut (Engine.DB.init now) (imgs (Engine2.DB.init now aofTime) ops)).1 :=
  sim_run_replies now aofTime ops (runOK_syn hf hl) hu

theorem C03_conservation_transfers_syn (now aofTime : Nat) (ops : List Engine2.Op) (hf : FrameFree ops) (hl : leaderTicksFrom true ops = true)
    (hid : ∀ x, (issued2 ops).count x ≤ 1) (x : Rid) :
    answered x (ptrace2 (Engine2.DB.init now aofTime) ops) + queued2 x (Engine2.run (Engine2.DB.init now aofTime) ops) =
      (issued2 ops).count x :=
  C03_conservation_transfers now aofTime ops (runOK_syn hf hl) hid x

theorem C03_at_most_one_transfers_syn (now aofTime : Nat) (ops : List Engine2.Op) (hf : FrameFree ops) (hl : leaderTicksFrom true ops = true)
    (hid : ∀ x, (issued2 ops).count x ≤ 1) (x : Rid) :
    answered x (ptrace2 (Engine2.DB.init now aofTime) ops) ≤ 1 :=
  C03_at_most_one_transfers now aofTime ops (runOK_syn hf hl) hid x

theorem C03_exactly_one_transfers_syn (now aofTime : Nat) (ops : List Engine2.Op) (hf : FrameFree ops) (hl : leaderTicksFrom true ops = true)
    (hid : ∀ x, (issued2 ops).count x ≤ 1) (x : Rid) (hx : (issued2 ops).count x = 1) :
    (queued2 x (Engine2.run (Engine2.DB.init now aofTime) ops) = 0 → answered x (ptrace2 (Engine2.DB.init now aofTime) ops) = 1) ∧
    (queued2 x (Engine2.run (Engine2.DB.init now aofTime) ops) = 1 → answered x (ptrace2 (Engine2.DB.init now aofTime) ops) = 0) :=
  C03_exactly_one_transfers now aofTime ops (runOK_syn hf hl) hid x hx

theorem C03_routing_transfers_syn (now aofTime : Nat) (ops : List Engine2.Op) (hf : FrameFree ops) (hl : leaderTicksFrom true ops = true)
    (hid : ∀ x, (issued2 ops).count x ≤ 1) (x : Rid) (hn : (issued2 ops).count x = 0) :
    answered x (ptrace2 (Engine2.DB.init now aofTime) ops) = 0 :=
  C03_routing_transfers now aofTime ops (runOK_syn hf hl) hid x hn

theorem C05_answered_by_deadline_transfers_syn (now aofTime : Nat) (ops : List Engine2.Op) (hf : FrameFree ops)
    (hl : leaderTicksFrom true ops = true) (hid : ∀ x, (issued2 ops).count x ≤ 1) (x : Rid) (hx : (issued2 ops).count x = 1) :
    answered x (ptrace2 (Engine2.DB.init now aofTime) ops) = 1 ∨
      (answered x (ptrace2 (Engine2.DB.init now aofTime) ops) = 0 ∧
        ∃ n, ∃ r ∈ ((Engine2.run (Engine2.DB.init now aofTime) ops).getKey n).waiters,
          (r.conn, r.cmd.req) = x ∧ (Engine2.run (Engine2.DB.init now aofTime) ops).now < r.timeoutT) :=
  C05_answered_by_deadline_transfers now aofTime ops (runOK_syn hf hl) hid x hx

/-! non-vacuity: a frame-free run — a grant, two queued requests, two ticks (the second fires a TIMEOUT), the release that wakes the
other queued request; then a third queued request that is still waiting at the end -/

def rH : Engine.Cmd := { req := 1, conn := 1, flag := 0, lockId := 1, key := 7, tflag := 0, timeout := 0, eflag := 0, expried := 50, count := 0, rcount := 0 }
def rW : Engine.Cmd := { rH with req := 2, conn := 2, lockId := 2, timeout := 1 }
def rV : Engine.Cmd := { rH with req := 3, conn := 3, lockId := 3, timeout := 30 }
def rU : Engine.Cmd := { rH with req := 4 }
def rX : Engine.Cmd := { rH with req := 5, conn := 2, lockId := 5, timeout := 30 }
def demoR : List Engine2.Op := [.lock rH none, .lock rW none, .lock rV none, .tick, .tick, .unlock rU none, .lock rX none]

example : FrameFree demoR := by decide +kernel
example : leaderTicksFrom true demoR = true := by decide +kernel
example : ∀ x, (issued2 demoR).count x ≤ 1 := List.nodup_iff_count.mp (by decide +kernel)

/-- the projected reply history, as (connection, RequestId, result): grant (0) to 1/1, TIMEOUT (8) to 2/2, the UNLOCK's own reply (0) to
1/4, the grant (0) that the release's wake pass gives 3/3 -/
example : (ptrace2 (Engine2.DB.init 100 0) demoR).map (fun r => (r.conn, r.req, r.result)) = [(1, 1, 0), (2, 2, 8), (1, 4, 0), (3, 3, 0)] := by
  decide +kernel
/-- … and it IS stage 1's reply history of the image run (here computed; in general: `sim_run_replies`) -/
example : ptrace2 (Engine2.DB.init 100 0) demoR = (C03.runOut (Engine.DB.init 100) (imgs (Engine2.DB.init 100 0) demoR)).2 := by
  decide +kernel
/-- the timed-out request: one terminal reply, not queued; the last request: no reply, its lock record queued; an id never issued: nothing -/
example : answered (2, 2) (ptrace2 (Engine2.DB.init 100 0) demoR) = 1 ∧ queued2 (2, 2) (Engine2.run (Engine2.DB.init 100 0) demoR) = 0 := by decide +kernel
example : answered (2, 5) (ptrace2 (Engine2.DB.init 100 0) demoR) = 0 ∧ queued2 (2, 5) (Engine2.run (Engine2.DB.init 100 0) demoR) = 1 := by decide +kernel
example : answered (2, 9) (ptrace2 (Engine2.DB.init 100 0) demoR) = 0 ∧ (issued2 demoR).count (2, 9) = 0 := by decide +kernel
/-- the second disjunct of `C05_answered_by_deadline_transfers` occurs: 2/5 is queued under key 7 with its deadline (133) ahead of 102 -/
example : (((Engine2.run (Engine2.DB.init 100 0) demoR).getKey 7).waiters.map (fun r => (r.conn, r.cmd.req, r.timeoutT))) = [(2, 5, 133)] ∧
    (Engine2.run (Engine2.DB.init 100 0) demoR).now = 102 := by decide +kernel
/-- the transferred theorems apply to this run -/
example : answered (2, 2) (ptrace2 (Engine2.DB.init 100 0) demoR) + queued2 (2, 2) (Engine2.run (Engine2.DB.init 100 0) demoR) = 1 :=
  C03_conservation_transfers_syn 100 0 demoR (by decide +kernel) (by decide +kernel) (List.nodup_iff_count.mp (by decide +kernel)) (2, 2)

end Slock.SimP
