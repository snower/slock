import Slock.Proofs.Engine2Branch
import Slock.Proofs.Engine2Value
/-!
# C15 — key values behave as an atomic register (engine part)

Over M-ENGINE stage 2 (`Slock.Engine2`): the value cell of a key record inside `LockDB.Lock` / `UnLock` / the wake pass, with value
frames going through `Slock.Value.processFrame` (the byte-level model of `ProcessLockData`, theorems in C15Value) under the `Ctx`
each call site has. "The value" of a reply is the `GetLockData()` view of the cell (`Slock.Value.getLockData`).

* `reply_is_before_lock` / `reply_is_before_unlock`: the reply to the request itself (first reply of the operation) carries the
  value the key had BEFORE the operation — in every branch that replies. Two qualifications the code forces:
  (a) where the reply is assembled after the key record may have been reclaimed (rows S0 and T of `Lock`, cancel-wait of `UnLock`:
  `GetLockData()` is read after `RemoveLockManager`), it carries no value when that happened — the key is then gone;
  (b) row P0b of `Lock` (the lock-free concurrent-check probe on a key that is not held) answers TIMEOUT with no data whatever the
  value is: excluded by hypothesis, witness `p0b_reply_carries_no_value`.
* `queued_grant_reply_is_before`: a request granted from the queue (wake pass) is answered with the value from immediately before
  ITS value operation.
* `refused_unchanged_lock` / `refused_unchanged_unlock`: a refusing branch leaves the cell (for UNLOCK: the whole key record) as it
  was — or, for rows S0/T, the empty key record was reclaimed.
* `value_update_is_processFrame`: the one place where the engine changes a value is `W.procData`, and there the new cell IS
  `processFrame ctx cell frame`; `relock_value`, `update_value`, `unlock_value`: what the database shows after an accepted re-lock,
  update (answered LOCKED_ERROR — counted as accepted, see the reading note of C15) and one-level unlock is that cell, up to the
  journalling bit. Hence the refinement theorems of C15Value (`absCell (processFrame …) = specApply …`) apply to the engine.
-/
namespace Slock.C15E
open Slock.Engine2
open Slock.Value (Cell getLockData processFrame)
open Slock.Engine (has)

/-- the reply to a LOCK carries the value from before the operation -/
theorem reply_is_before_lock (db : DB) (c : Cmd) (data : Option Bytes) (hb : classifyLock db c data ≠ .p0b)
    (r : Reply) (rest : List Reply) (h : (opLock db c data).2 = r :: rest) :
    r.data = getLockData (db.getKey c.key).cell ∨ (r.data = none ∧ (opLock db c data).1.hasKey c.key = false) := by
  unfold opLock at h ⊢
  simp only [] at h ⊢
  have := (applyLock_firstReply db c data _ hb).head h
  rwa [applyLock_key] at this

/-- the reply to an UNLOCK carries the value from before the operation -/
theorem reply_is_before_unlock (db : DB) (c : Cmd) (data : Option Bytes)
    (r : Reply) (rest : List Reply) (h : (opUnlock db c data).2 = r :: rest) :
    r.data = getLockData (db.getKey c.key).cell ∨ (r.data = none ∧ (opUnlock db c data).1.hasKey c.key = false) := by
  unfold opUnlock at h ⊢
  simp only [] at h ⊢
  have := (applyUnlock_firstReply db c data _ (classifyUnlock_noManager db c)).head h
  rwa [applyUnlock_key] at this

/-- the grant step of the wake pass (`W.grant`; not the Expried = 0 grant, whose reply is built after `grantNoHold`): its SUCCED carries the
value from immediately before its own value operation -/
theorem queued_grant_reply_is_before (w : W) (rid : Nat) :
    ∃ r, (w.grant rid).out = w.out ++ [r] ∧ r.data = getLockData w.k.cell := grant_out w rid

/-- a refusing LOCK branch leaves the value as it was (or the empty key record is gone) -/
theorem refused_unchanged_lock (db : DB) (c : Cmd) (data : Option Bytes) (hb : (classifyLock db c data).refuses = true) :
    ((opLock db c data).1.getKey c.key).cell = (db.getKey c.key).cell ∨ (opLock db c data).1.hasKey c.key = false :=
  refused_lock_cell db c data _ hb

/-- a refusing UNLOCK branch changes no key record at all -/
theorem refused_unchanged_unlock (db : DB) (c : Cmd) (data : Option Bytes) (hb : (classifyUnlock db c).refuses = true) (n : Nat) :
    (opUnlock db c data).1.getKey n = db.getKey n :=
  refused_unlock_key db c data _ hb n

/-- **the value operation of the engine is `processFrame`** with the call site's context -/
theorem value_update_is_processFrame (w : W) (ct : Slock.Value.CmdType) (c : Cmd) (f : Bytes) (rid : Nat) (cell' : Option Cell)
    (h : processFrame (frameCtx w.k ct c) w.k.cell f = .ok cell') :
    (w.procData ct c (some f) rid).k.cell = cell' := (procData_spec w ct c f rid cell' h).1

/-- after an accepted re-lock carrying frame `f` the database shows `processFrame` of the previous cell (`locked` counts the new level);
no queued request to wake (a wake pass follows the reply: a request it grants applies its own frame) -/
theorem relock_value (db : DB) (c : Cmd) (data : Option Bytes) (h : Nat) (f : Bytes) (cell' : Option Cell)
    (hb : classifyLock db c data = .relock h) (hw : (db.getKey c.key).waited = false) (hf : frameOf c data = some f)
    (hp : processFrame (ctxAt (db.getKey c.key) ((db.getKey c.key).locked + 1) .lock c) (db.getKey c.key).cell f = .ok cell') :
    vstrip ((opLock db c data).1.getKey c.key).cell = vstrip cell' := by
  unfold opLock; rw [hb]; exact Slock.Engine2.relock_value db c data h f cell' hw hf hp

/-- … after an accepted update (no queued request to wake) -/
theorem update_value (db : DB) (c : Cmd) (data : Option Bytes) (h : Nat) (f : Bytes) (cell' : Option Cell)
    (hb : classifyLock db c data = .update h) (hw : (db.getKey c.key).waited = false) (hf : frameOf (lockCmdOf (db.getKey c.key) c (.update h)) data = some f)
    (hp : processFrame (ctxAt (db.getKey c.key) (db.getKey c.key).locked .lock (lockCmdOf (db.getKey c.key) c (.update h)))
      (db.getKey c.key).cell f = .ok cell') :
    vstrip ((opLock db c data).1.getKey c.key).cell = vstrip cell' := by
  unfold opLock; rw [hb]; exact Slock.Engine2.update_value db c data h f cell' hw hf hp

/-- … after an unlock of one level (no queued request to wake) -/
theorem unlock_value (db : DB) (c : Cmd) (data : Option Bytes) (h : Nat) (c' : Cmd) (f : Bytes) (cell' : Option Cell)
    (hb : classifyUnlock db c = .dec h c') (hk : db.hasKey c.key = true) (hw : (db.getKey c.key).waited = false)
    (hf : frameOf c' data = some f)
    (hp : processFrame (ctxAt (db.getKey c.key) ((db.getKey c.key).locked - 1) .unlock c') (db.getKey c.key).cell f = .ok cell') :
    vstrip ((opUnlock db c data).1.getKey c.key).cell = vstrip cell' := by
  unfold opUnlock; rw [hb]; exact dec_value db c data h c' f cell' hk hw hf hp

def setAB : Bytes := [4, 0, 0, 0, 0, 0, 0x61, 0x62]   -- SET "ab"
def l1 : Cmd := { req := 1, conn := 1, flag := 0x20, lockId := 1, key := 7, tflag := 0, timeout := 0, eflag := 0, expried := 5, count := 0, rcount := 2 }
def s1 : DB := run (DB.init 100 0xff) [.lock l1 (some setAB)]

/-- non-vacuity: after LOCK+SET the key holds "ab"; a re-lock with APPEND "c" is answered with "ab" and leaves "abc" -/
example : getLockData (s1.getKey 7).cell = some setAB := by decide
example : (opLock s1 { l1 with req := 2 } (some [3, 0, 0, 0, 3, 0, 0x63])).2.map (·.data) = [some setAB] ∧
    getLockData ((opLock s1 { l1 with req := 2 } (some [3, 0, 0, 0, 3, 0, 0x63])).1.getKey 7).cell = some [5, 0, 0, 0, 0, 0, 0x61, 0x62, 0x63] := by
  decide

/-- row P0b: after the hold is released the key record (and its value) lives on until its wheel entry is swept; a concurrent-check
probe with the wait-when-unlocked flag is then answered TIMEOUT without data although the key has the value "ab" -/
theorem p0b_reply_carries_no_value :
    let s2 := run s1 [.unlock { l1 with req := 2, flag := 0 } none]
    let probe : Cmd := { l1 with req := 3, flag := 8, tflag := 0x200 }
    classifyLock s2 probe none = .p0b ∧ getLockData (s2.getKey 7).cell = some setAB ∧ (opLock s2 probe none).2.map (·.data) = [none] := by
  decide

end Slock.C15E
