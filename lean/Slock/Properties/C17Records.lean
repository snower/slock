import Slock.Proofs.Engine2Drain
/-!
# C17 — everything is reclaimed (lock records, reference counts, KeyCount)

Over M-ENGINE stage 2 (`Slock.Engine2`): lock RECORDS with the code's own `refCount` increments and decrements (uint8 / uint32 wrap included), the
holder queue and the wait queue with their tombstoned entries and lazy popping / compaction, wheel entries that stay in their slot
until swept, key records from `GetOrNewLockManager` to `RemoveLockManager` with the code's own `KeyCount` increments and decrements.

`reachable_refcounts` — in EVERY reachable state, for every key record:
* each un-freed lock record's `refCount` = number of structures that reference it: `currentLock`, entries of the holder queue,
  entries of the wait queue (tombstoned entries count: they are popped lazily), its timeout-wheel entry, its expiry-wheel entry;
* the key record's `refCount` = number of its un-freed lock records;
* nothing dangles: whatever `currentLock` / a queue entry refers to is an un-freed record (a freed record is referenced by none);
* `KeyCount` = number of key records reachable through `GetLockManager`; key ids and record ids are distinct.
The uint8 / uint32 decrements never wrap (each `refCount--` is preceded by the reference it gives up).

`nothing_leaks` — in EVERY reachable state: every un-freed lock record is counted at least once (a record whose count reaches 0
IS freed), every hold has its expiry-wheel entry, `currentLock` points at a hold, and every key record that is still linked has at
least one lock record (the key record IS unlinked, and `KeyCount` decremented, together with its last lock record).

`drain_live` — the reclamation clause at the property's own hypothesis: from any reachable state in which NOTHING IS HELD OR QUEUED
(no lock record is a hold or a waiting request), after the sweeps have passed every second a wheel entry is still scheduled for
(`n` seconds, where every remaining entry is scheduled within the next `n` seconds) there is NO key record left, `KeyCount` is 0 and
no key has a value. Ingredients, each a theorem about every reachable state: `queues_empty_of_no_live` (`run_dbq`: the tombstoned
queue entries do not outlive the live ones — `currentLock = nil` ⇒ holder queue empty; a non-empty wait queue contains a live
request), `nothing_leaks` (a record at count 0 is freed, a key record without records is unlinked; an expiry entry of a record that
is not a hold is a tombstone), `tick_dead` (a sweep over tombstones only drops: nothing is re-armed, nothing fires, no deferral).
`scheduled_in_future` (`run_fut`): in every reachable state every wheel entry is scheduled for a second the sweeper has not passed —
so `drain_live` asks only for an upper bound `n` on how far ahead the remaining entries are scheduled, and `drain_live_total` takes
`n` = `horizon` − `now` (the latest scheduled second) and has no hypothesis but "nothing is held or queued".

`drain_tombstones` — the same without time: nothing held or queued and no wheel entry ⇒ no key record. `drain` — with "all queues
empty" as the hypothesis instead. `drain_partial` — under the hypotheses of `drain`, what the reference counts alone say.
-/
namespace Slock.C17R
open Slock.Engine2

/-- the number of structures that reference lock record `r` of key record `k` -/
def census (k : Key) (r : Rec) : Nat := k.qRefs r.rid + r.wheelRefs

/-- **reference counts are exact in every reachable state** -/
theorem reachable_refcounts (now aofTime : Nat) (ops : List Op) :
    let db := run (DB.init now aofTime) ops
    (db.keys.map (·.key)).Nodup ∧ db.keyCount = db.keys.length ∧
    ∀ k ∈ db.keys,
      (k.recs.map (·.rid)).Nodup ∧ k.refCount = k.recs.length ∧ (∀ r ∈ k.recs, r.refCount = census k r) ∧
      (∀ x, 0 < k.qRefs x → k.hasRec x) := by
  intro db
  have h := run_dbi (DB.init now aofTime) ops (DBI.init now aofTime)
  refine ⟨h.kn, h.kc, fun k hk => ?_⟩
  have hk' := (h.ks k hk).rc
  refine ⟨hk'.nodup, hk'.mgr, fun r hr => ?_, fun x hx => hk'.dang x (by simp only [Int.add_zero]; omega)⟩
  have := hk'.rc r hr
  unfold census; omega

/-- `KeyCount` in STATE is the number of key records `GetLockManager` can reach -/
theorem keycount_exact (now aofTime : Nat) (ops : List Op) :
    let db := run (DB.init now aofTime) ops
    db.keyCount = db.keys.length ∧ ∀ n, db.hasKey n = true ↔ ∃ k ∈ db.keys, k.key = n := by
  intro db
  exact ⟨(run_dbi (DB.init now aofTime) ops (DBI.init now aofTime)).kc, fun n => hasKey_iff db n⟩

/-- a lock record that is a live queued request has no expiry-wheel entry (it has never been granted) -/
theorem waiter_has_no_expiry_entry (now aofTime : Nat) (ops : List Op) :
    ∀ k ∈ (run (DB.init now aofTime) ops).keys, ∀ r ∈ k.recs, r.timeouted = false → r.eSched = none := by
  intro k hk r hr ht
  have := ((run_dbi (DB.init now aofTime) ops (DBI.init now aofTime)).ks k hk).ok r hr ht
  cases he : r.eSched with
  | none => rfl
  | some s => rw [he] at this; simp at this

/-- **Nothing leaks, in every reachable state.** -/
theorem nothing_leaks (now aofTime : Nat) (ops : List Op) :
    ∀ k ∈ (run (DB.init now aofTime) ops).keys,
      k.recs ≠ [] ∧
      (∀ r ∈ k.recs, 1 ≤ r.refCount ∧ (0 < r.depth → r.eSched.isSome = true) ∧ (r.expried = true → r.depth = 0) ∧
        (r.depth = 0 → r.eSched.isSome = true → r.expried = true)) ∧
      (∀ c, k.current = some c → 0 < (k.getR c).depth) := by
  intro k hk
  have h := (run_dbt (DB.init now aofTime) ops (DBT.init now aofTime)).tight k hk
  exact ⟨h.2.1, fun r hr => by have := h.1 r hr (by simp); exact ⟨this.pos, this.hold, this.ended, this.fin⟩, h.2.2⟩

/-- the reclamation clause for any state that satisfies the invariants of the reachable ones -/
theorem drain_core {db : DB} (hd : DBT db)
    (hq : ∀ k ∈ db.keys, k.current = none ∧ k.locks = [] ∧ k.wait = [])
    (hw : ∀ k ∈ db.keys, ∀ r ∈ k.recs, r.tSched = none ∧ r.eSched = none) :
    db.keys = [] ∧ db.keyCount = 0 ∧ ∀ n, (db.getKey n).cell = none ∧ db.hasKey n = false := by
  have hnil : db.keys = [] := by
    cases hks : db.keys with
    | nil => rfl
    | cons k rest =>
      exfalso
      have hk : k ∈ db.keys := by rw [hks]; simp
      have ht := hd.tight k hk
      have hrc := (hd.dbi.ks k hk).rc
      cases hr : k.recs with
      | nil => exact ht.2.1 hr
      | cons r rs =>
        have hm : r ∈ k.recs := by rw [hr]; simp
        have hp := (ht.1 r hm (by simp)).pos
        have he := hrc.rc r hm
        obtain ⟨h1, h2, h3⟩ := hq k hk
        obtain ⟨h4, h5⟩ := hw k hk r hm
        simp [Key.qRefs, Rec.wheelRefs, h1, h2, h3, h4, h5] at he
        omega
  have hkc := hd.dbi.kc
  rw [hnil] at hkc
  refine ⟨hnil, hkc, fun n => ?_⟩
  have hh : db.hasKey n = false := by
    rw [hasKey_eq_false_iff, hnil]; intro k hk; simp at hk
  exact ⟨by rw [getKey_of_not_hasKey _ n hh]; rfl, hh⟩

/-- **Drain.** In a reachable state in which no queue of a key record holds an entry any more and every wheel entry has been swept,
no key record is left, `KeyCount` is 0, and no key has a value. -/
theorem drain (now aofTime : Nat) (ops : List Op)
    (hq : ∀ k ∈ (run (DB.init now aofTime) ops).keys, k.current = none ∧ k.locks = [] ∧ k.wait = [])
    (hw : ∀ k ∈ (run (DB.init now aofTime) ops).keys, ∀ r ∈ k.recs, r.tSched = none ∧ r.eSched = none) :
    (run (DB.init now aofTime) ops).keys = [] ∧ (run (DB.init now aofTime) ops).keyCount = 0 ∧
    ∀ n, ((run (DB.init now aofTime) ops).getKey n).cell = none ∧ (run (DB.init now aofTime) ops).hasKey n = false :=
  drain_core (run_dbt (DB.init now aofTime) ops (DBT.init now aofTime)) hq hw

/-- no tombstone outlives the live entries of its queue: when no lock record of a key is a hold (depth > 0) or a waiting request
(`timeouted = false`) any more, its three queues are EMPTY (the lazily popped tombstones are gone too) -/
theorem queues_empty_of_no_live {db : DB} (hd : DBQ db) (hl : ∀ k ∈ db.keys, ∀ r ∈ k.recs, r.depth = 0 ∧ r.timeouted = true) :
    ∀ k ∈ db.keys, k.current = none ∧ k.locks = [] ∧ k.wait = [] := by
  intro k hk
  have ht := hd.dbt.tight k hk
  have hrc := (hd.dbt.dbi.ks k hk).rc
  have hq := hd.qi k hk
  have hcur : k.current = none := by
    cases hc : k.current with
    | none => rfl
    | some c =>
      exfalso
      have h1 := ht.2.2 c hc
      have hh : k.hasRec c := hrc.dang c (by unfold Key.qRefs; simp only [hc, if_true]; omega)
      have := (hl k hk _ (getR_mem hh)).1
      omega
  refine ⟨hcur, hq.cn hcur, ?_⟩
  cases hw : k.wait with
  | nil => rfl
  | cons e rest =>
    exfalso
    obtain ⟨e', he', hlive⟩ := hq.wl (by rw [hw]; simp)
    have hh : k.hasRec e'.rid := hrc.dang e'.rid (by
      have := qRefs_pos_of_wait_mem k e'.rid (List.mem_map.mpr ⟨e', he', rfl⟩)
      omega)
    have := (hl k hk _ (getR_mem hh)).2
    rw [this] at hlive
    exact absurd hlive (by simp)

/-- **Drain, tombstones included.** In a reachable state in which no lock record is a hold or a waiting request any more and every
wheel entry has been swept, no key record is left, `KeyCount` is 0, and no key has a value. -/
theorem drain_tombstones (now aofTime : Nat) (ops : List Op)
    (hl : ∀ k ∈ (run (DB.init now aofTime) ops).keys, ∀ r ∈ k.recs, r.depth = 0 ∧ r.timeouted = true)
    (hw : ∀ k ∈ (run (DB.init now aofTime) ops).keys, ∀ r ∈ k.recs, r.tSched = none ∧ r.eSched = none) :
    (run (DB.init now aofTime) ops).keys = [] ∧ (run (DB.init now aofTime) ops).keyCount = 0 ∧
    ∀ n, ((run (DB.init now aofTime) ops).getKey n).cell = none ∧ (run (DB.init now aofTime) ops).hasKey n = false := by
  have hd := run_dbq (DB.init now aofTime) ops (DBQ.init now aofTime)
  exact drain_core hd.dbt (queues_empty_of_no_live hd hl) hw

/-- **Every wheel entry of every reachable state is scheduled in the future**: for a second the sweeper has not passed yet
(`now < visit`; between operations the sweeper's next check second is `now + 1`). `AddTimeOut` / `AddExpried` schedule for the
next check second at the earliest, and the sweep of second `c` leaves no entry for `c` behind: each is dropped, re-armed for a later
second, or fired (and what the firing's wake pass arms is again for a later second). -/
theorem scheduled_in_future (now aofTime : Nat) (ops : List Op) :
    ∀ k ∈ (run (DB.init now aofTime) ops).keys, ∀ r ∈ k.recs,
      (∀ s, r.tSched = some s → (run (DB.init now aofTime) ops).now < s.visit) ∧
      (∀ s, r.eSched = some s → (run (DB.init now aofTime) ops).now < s.visit) := by
  intro k hk r hr
  have h := run_fut (DB.init now aofTime) ops (FutDB.init now aofTime)
  refine ⟨fun s hs => ?_, fun s hs => ?_⟩
  · rcases h.t k hk r hr s hs with h1 | ⟨_, h2⟩
    · exact h1
    · simp at h2
  · rcases h.e k hk r hr s hs with h1 | ⟨_, h2⟩
    · exact h1
    · simp at h2

/-- **Drain at the property's own hypothesis.** Take any reachable state in which nothing is held or queued any more (no lock record
is a hold — depth > 0 — or a waiting request — `timeouted = false`), and any `n` such that no wheel entry still present is scheduled
later than `n` seconds ahead. After `n` more seconds of server time (and nothing else) there is no key record, `KeyCount` is 0 and no
key has a value: the tombstoned wheel entries are dropped one by one by the sweeps (every one of them is scheduled for a second still
to come: `scheduled_in_future`), each drop decrements its record's count, a record is freed at 0, and the key record is unlinked with
its last record; the tombstoned queue entries are gone already (`queues_empty_of_no_live`). -/
theorem drain_live (now aofTime : Nat) (ops : List Op) (n : Nat)
    (hl : Dead (run (DB.init now aofTime) ops))
    (hu : ∀ k ∈ (run (DB.init now aofTime) ops).keys, ∀ r ∈ k.recs,
      (∀ s, r.tSched = some s → s.visit ≤ (run (DB.init now aofTime) ops).now + n) ∧
      (∀ s, r.eSched = some s → s.visit ≤ (run (DB.init now aofTime) ops).now + n)) :
    (run (DB.init now aofTime) (ops ++ List.replicate n .tick)).keys = [] ∧
    (run (DB.init now aofTime) (ops ++ List.replicate n .tick)).keyCount = 0 ∧
    ∀ k, ((run (DB.init now aofTime) (ops ++ List.replicate n .tick)).getKey k).cell = none ∧
         (run (DB.init now aofTime) (ops ++ List.replicate n .tick)).hasKey k = false := by
  rw [run_append]
  have hd := run_dbq (DB.init now aofTime) ops (DBQ.init now aofTime)
  obtain ⟨h1, d1, w1⟩ := ticks_dead n _ hd (run_fut _ ops (FutDB.init now aofTime)) fun k hk r hr => ⟨hl k hk r hr, hu k hk r hr⟩
  exact drain_core h1.dbt (queues_empty_of_no_live h1 d1) w1

/-- the latest second any wheel entry of `db` is scheduled for (`db.now` if there is none) -/
def horizon (db : DB) : Nat :=
  (db.keys.flatMap (fun k => k.recs.flatMap (fun r => (r.tSched.toList ++ r.eSched.toList).map (·.visit)))).foldl max db.now

theorem le_foldl_max (l : List Nat) (a : Nat) : a ≤ l.foldl max a ∧ ∀ x ∈ l, x ≤ l.foldl max a := by
  induction l generalizing a with
  | nil => exact ⟨Nat.le_refl _, fun x hx => by simp at hx⟩
  | cons y ys ih =>
    simp only [List.foldl_cons]
    obtain ⟨h1, h2⟩ := ih (max a y)
    refine ⟨Nat.le_trans (Nat.le_max_left a y) h1, fun x hx => ?_⟩
    rcases List.mem_cons.mp hx with h | h
    · rw [h]; exact Nat.le_trans (Nat.le_max_right a y) h1
    · exact h2 x h

theorem visit_le_horizon (db : DB) : ∀ k ∈ db.keys, ∀ r ∈ k.recs,
    (∀ s, r.tSched = some s → s.visit ≤ horizon db) ∧ (∀ s, r.eSched = some s → s.visit ≤ horizon db) := by
  intro k hk r hr
  have key : ∀ s : Sched, s ∈ r.tSched.toList ++ r.eSched.toList → s.visit ≤ horizon db := by
    intro s hs
    apply (le_foldl_max _ db.now).2
    exact List.mem_flatMap.mpr ⟨k, hk, List.mem_flatMap.mpr ⟨r, hr, List.mem_map.mpr ⟨s, hs, rfl⟩⟩⟩
  exact ⟨fun s hs => key s (List.mem_append_left _ (by rw [hs]; simp)), fun s hs => key s (List.mem_append_right _ (by rw [hs]; simp))⟩

/-- **Drain, no hypothesis but "nothing is held or queued".** From any such reachable state, after the server clock has reached the
latest second a wheel entry is still scheduled for, there is no key record, `KeyCount` is 0 and no key has a value. -/
theorem drain_live_total (now aofTime : Nat) (ops : List Op) (hl : Dead (run (DB.init now aofTime) ops)) :
    (run (DB.init now aofTime) (ops ++ List.replicate (horizon (run (DB.init now aofTime) ops) - (run (DB.init now aofTime) ops).now) .tick)).keys = [] ∧
    (run (DB.init now aofTime) (ops ++ List.replicate (horizon (run (DB.init now aofTime) ops) - (run (DB.init now aofTime) ops).now) .tick)).keyCount = 0 ∧
    ∀ k, ((run (DB.init now aofTime) (ops ++ List.replicate (horizon (run (DB.init now aofTime) ops) - (run (DB.init now aofTime) ops).now) .tick)).getKey k).cell = none ∧
      (run (DB.init now aofTime) (ops ++ List.replicate (horizon (run (DB.init now aofTime) ops) - (run (DB.init now aofTime) ops).now) .tick)).hasKey k = false := by
  apply drain_live now aofTime ops _ hl
  intro k hk r hr
  have h := visit_le_horizon (run (DB.init now aofTime) ops) k hk r hr
  have h0 : (run (DB.init now aofTime) ops).now ≤ horizon (run (DB.init now aofTime) ops) := (le_foldl_max _ _).1
  exact ⟨fun s hs => by have := h.1 s hs; omega, fun s hs => by have := h.2 s hs; omega⟩

/-- **Drain, from the reference counts alone.** In a reachable state in which no queue of a key record holds an entry any more and every wheel
entry has been swept, every lock record that is still un-freed has reference count 0 and the key record's own count is exactly the
number of such records (by `drain` there are in fact none). -/
theorem drain_partial (now aofTime : Nat) (ops : List Op)
    (hq : ∀ k ∈ (run (DB.init now aofTime) ops).keys, k.current = none ∧ k.locks = [] ∧ k.wait = [])
    (hw : ∀ k ∈ (run (DB.init now aofTime) ops).keys, ∀ r ∈ k.recs, r.tSched = none ∧ r.eSched = none) :
    ∀ k ∈ (run (DB.init now aofTime) ops).keys, (∀ r ∈ k.recs, r.refCount = 0) ∧ k.refCount = k.recs.length := by
  intro k hk
  obtain ⟨_, _, hall⟩ := reachable_refcounts now aofTime ops
  obtain ⟨_, hm, hrc, _⟩ := hall k hk
  refine ⟨fun r hr => ?_, hm⟩
  rw [hrc r hr]
  obtain ⟨h1, h2, h3⟩ := hq k hk
  obtain ⟨h4, h5⟩ := hw k hk r hr
  simp [census, Key.qRefs, Rec.wheelRefs, h1, h2, h3, h4, h5]

/-! ### Non-vacuity: two holders and a queued request; after the first unlock the queued request is granted; counts are exact -/
def c1 : Cmd := { req := 1, conn := 1, flag := 0, lockId := 1, key := 7, tflag := 0, timeout := 5, eflag := 0, expried := 10, count := 1, rcount := 0 }
def ops1 : List Op := [.lock c1 none, .lock { c1 with req := 2, lockId := 2 } none, .lock { c1 with req := 3, lockId := 3 } none,
  .unlock { c1 with req := 4 } none]
example : ((run (DB.init 100 0xff) ops1).getKey 7).recs.map (fun r => (r.rid, r.refCount)) = [(0, 1), (1, 2), (2, 3)] ∧
    ((run (DB.init 100 0xff) ops1).getKey 7).refCount = 3 ∧ (run (DB.init 100 0xff) ops1).keyCount = 1 := by decide

/-! Non-vacuity of `drain`: lock + unlock leaves the record behind, referenced only by its expiry-wheel entry (count 1); the sweeps
then free it and unlink the key record -/
def opsD : List Op := [.lock { c1 with expried := 2 } none, .unlock { c1 with req := 4 } none]
example : (run (DB.init 100 0xff) opsD).keys.map (fun k => k.recs.map (fun r => (r.refCount, r.eSched.isSome))) = [[(1, true)]] ∧
    (run (DB.init 100 0xff) (opsD ++ [.tick, .tick, .tick, .tick])).keys = [] ∧
    (run (DB.init 100 0xff) (opsD ++ [.tick, .tick, .tick, .tick])).keyCount = 0 := by decide

/-! Non-vacuity of `drain_live`: after lock + unlock nothing is held or queued, the one wheel entry left is scheduled 2 s ahead -/
example : Dead (run (DB.init 100 0xff) opsD) ∧ Within (run (DB.init 100 0xff) opsD) 2 ∧
    horizon (run (DB.init 100 0xff) opsD) - (run (DB.init 100 0xff) opsD).now = 2 :=
  ⟨dead_of_b _ (by decide), within_of_b _ _ (by decide), by decide⟩

end Slock.C17R
