import Slock.Proofs.AofJournal
import Slock.Proofs.KernelsAof
/-!
# C07 (journal part) — what a journal means, and the algebra of replaying it

`recover : List JRec → JState` (Model/Aof.lean) is the SPECIFICATION of a journal: every record is applied, in order, with no
per-record expiry test. The `restart` harness evaluates the property on the real code against it, in two halves:

* journal side — the journal the real server wrote (`AofChannel.Push` → `Aof.PushLock` → writer) must MEAN the journalled holds of
  the database that wrote it: `recover (journal history) = persisted (holds (run history))`, field for field;
* replay side — the holds a fresh server builds from the files must be `recover journal`, minus the holds whose deadline passed
  during the outage, each deadline within one expiry unit + 1 s and never later.

Proved here, for all states and records: what ONE record does to the hold it names (`recover_lock_new`, `recover_relock`,
`recover_update`, `recover_unlock_full`, `recover_unlock_partial`, `recover_unlock_last`), that it touches no other hold
(`recover_frame`), that LOCK followed by full UNLOCK of a fresh id is the identity (`recover_lock_unlock_identity`), and that
replay is compositional (`recover_compositional`).

`reload now : List JRec → RState` (Model/Aof.lean) is the MODEL OF WHAT THE CODE DOES at a restart (LoadAofFile's per-record
expired filter, `Expried := loadRemaining … now` = the regenerated `GetLockCommandExpriedTime`, then the FROM_AOF branches of
`LockDB.Lock` / `UnLock` with the regenerated `doLock` / `CheckLockedEqual`); the real restart snapshot is diffed against it on
every case (`aofreload` lines). Where `reload` and `recover` differ the restart violates the property; the classes below name
the first record of a key that is treated differently, each with a counterexample evaluated by the kernel
(`replay_*_violated`). What DOES hold: histories with one live LOCK record per key are restored exactly
(`reload_one_record_per_key`, all inputs), in particular single-record journals (`reload_single_agrees`).

Not stated and not proved here: the journal side as a refinement over the record-level engine model — at every quiescent point of a
run, `recover` of the `PushLockAof` / `PushUnLockAof` records written so far = the holds of the state that are journalled (`isAof`). It is
checked on the real code by the `restart` monitors (`C07:journal:*`), which report the cases where it fails.
-/
namespace Slock.C07J
open Slock.Aof

theorem recover_lock_new (st : JState) (r : JRec) (hl : r.isLock = true) (hn : st.get r.db r.key r.id = none) :
    (recoverStep st r).get r.db r.key r.id = some (r.terms 1) := by
  rw [recoverStep_get, if_pos rfl, hn, holdStep, if_pos hl]

theorem recover_relock (st : JState) (r : JRec) (h : JHold) (hl : r.isLock = true) (hf : r.flag &&& 0x02 = 0)
    (hh : st.get r.db r.key r.id = some h) :
    (recoverStep st r).get r.db r.key r.id = some (r.terms (h.depth + 1)) := by
  rw [recoverStep_get, if_pos rfl, hh, holdStep, if_pos hl, if_neg (fun h => h hf)]

theorem recover_update (st : JState) (r : JRec) (h : JHold) (hl : r.isLock = true) (hf : r.flag &&& 0x02 ≠ 0)
    (hh : st.get r.db r.key r.id = some h) :
    (recoverStep st r).get r.db r.key r.id = some (r.terms h.depth) := by
  rw [recoverStep_get, if_pos rfl, hh, holdStep, if_pos hl, if_pos hf]

/-- Rcount = 0 means "all levels": this is why a partial unlock must NOT be journalled with Rcount 0. -/
theorem recover_unlock_full (st : JState) (r : JRec) (hl : r.isLock = false) (hr : r.rcount = 0) :
    (recoverStep st r).get r.db r.key r.id = none := by
  rw [recoverStep_get, if_pos rfl]
  cases st.get r.db r.key r.id with
  | none => rw [holdStep, if_neg (by simp [hl])]
  | some h => rw [holdStep, if_neg (by simp [hl]), if_pos (.inl hr)]

/-- Rcount > 0 on a hold of depth ≥ 2: exactly one level less, nothing else changes. -/
theorem recover_unlock_partial (st : JState) (r : JRec) (h : JHold) (hl : r.isLock = false) (hr : r.rcount ≠ 0) (hd : 2 ≤ h.depth)
    (hh : st.get r.db r.key r.id = some h) :
    (recoverStep st r).get r.db r.key r.id = some { h with depth := h.depth - 1 } := by
  rw [recoverStep_get, if_pos rfl, hh, holdStep, if_neg (by simp [hl]), if_neg (by omega)]

theorem recover_unlock_last (st : JState) (r : JRec) (h : JHold) (hl : r.isLock = false) (hd : h.depth ≤ 1)
    (hh : st.get r.db r.key r.id = some h) : (recoverStep st r).get r.db r.key r.id = none := by
  rw [recoverStep_get, if_pos rfl, hh, holdStep, if_neg (by simp [hl]), if_pos (.inr hd)]

/-- A record never touches a hold with another (db, key, LockId). -/
theorem recover_frame (st : JState) (r : JRec) (db key id : Nat) (hne : (r.db, r.key, r.id) ≠ (db, key, id)) :
    (recoverStep st r).get db key id = st.get db key id := by
  rw [recoverStep_get, if_neg hne]

theorem recover_lock_unlock_identity (st : JState) (r u : JRec) (hl : r.isLock = true) (hu : u.isLock = false)
    (hid : u.db = r.db ∧ u.key = r.key ∧ u.id = r.id) (hr : u.rcount = 0) (hd1 : r.data = none) (hd2 : u.data = none)
    (hn : st.get r.db r.key r.id = none)
    (hv : st.holds.any (fun h => h.db == r.db && h.key == r.key) = true ∨ ∀ p ∈ st.values, p.1 ≠ (r.db, r.key)) :
    recoverStep (recoverStep st r) u = st := by
  obtain ⟨h1, h2, h3⟩ := hid
  have hstep : recoverStep st r = { st with holds := st.holds ++ [r.terms 1] } := by
    unfold recoverStep; simp only [hl, if_true, hn, hd1]
  have hget : ({ st with holds := st.holds ++ [r.terms 1] } : JState).get u.db u.key u.id = some (r.terms 1) := by
    rw [h1, h2, h3, ← hstep]; exact recover_lock_new st r hl hn
  have hfilt : (st.holds ++ [r.terms 1]).filter (fun h => !h.is r.db r.key r.id) = st.holds := by
    rw [List.filter_append, List.filter_eq_self.mpr (fun x hx => by simpa using List.find?_eq_none.mp hn x hx)]
    simp [is_terms]
  rw [hstep]
  unfold recoverStep
  simp only [hu, Bool.false_eq_true, if_false, hget, hd2, hr, true_or, if_true]
  unfold JState.removeHold
  simp only [h1, h2, h3, hfilt]
  rcases hv with hv | hv
  · simp [hv]
  · have : st.values.filter (fun p => !decide (p.1 = (r.db, r.key))) = st.values :=
      List.filter_eq_self.mpr (fun p hp => by simpa using hv p hp)
    cases hany : st.holds.any (fun h => h.db == r.db && h.key == r.key)
    · simp only [Bool.false_eq_true, if_false, ne_eq, decide_not, this]
    · simp

theorem recover_compositional (a b : List JRec) : recover (a ++ b) = b.foldl recoverStep (recover a) := by
  unfold recover; rw [List.foldl_append]

def L1 : JRec := ⟨true, 0, 100, 1, 0, 0, 0, 30, 5, 1, 2, none⟩      -- LOCK db 0 key 100 id 1, 30 s left at second 5, Rcount 2
def L2 : JRec := { L1 with aofFlag := 8, stored := 28, ct := 7 }       -- re-lock (second level) at second 7
def U1 : JRec := { L1 with isLock := false, aofFlag := 8, stored := 25, ct := 10, rcount := 1 }   -- one-level unlock

/-- A depth-2 hold, one level released: the journal means "depth 1". -/
theorem partial_unlock_example :
    (recover [L1, L2, U1]).get 0 100 1 = some ⟨0, 100, 1, 1, 1, 2, 0, some 35, 0⟩ := by decide

/-- The same history with the unlock journalled with Rcount 0 (seeded change of `AofChannel.Push`) means "no hold". -/
theorem partial_unlock_as_full_example :
    (recover [L1, L2, { U1 with rcount := 0 }]).get 0 100 1 = none := by decide

/-- Defect of the code on the journal side (`C07:journal:levels-journalled-with-update-flag`): deferred
journalling writes one record per level, all carrying the hold's CURRENT command; when that command is an update (flag 0x02)
the second record means "update", not "one more level": a depth-2 hold is journalled as depth 1. -/
theorem levels_with_update_flag_example :
    (recover [{ L1 with flag := 2 }, { L1 with flag := 2 }]).get 0 100 1 = some ⟨0, 100, 1, 1, 1, 2, 0, some 35, 0⟩ := by decide

theorem reload_uses_generated_conversion (ef e : Nat) (ct now : Int) (he : e < 65536) :
    loadRemaining ef e ct now = Slock.Gen.K.getLockCommandExpriedTime ef e ct now :=
  (loadRemaining_generated ef e ct now he).symm

/-- Single-record journals: the restart builds the hold the journal describes (id, depth, Count, Rcount, unit; deadline =
`engineDeadline` of the remaining lifetime). -/
theorem reload_single_agrees (now : Int) (r : JRec) (hl : r.isLock = true)
    (hs : skippedAt r.eflag r.stored r.ct.toNat now = false) (he : loadRemaining r.eflag r.stored r.ct now > 0) :
    ∃ k h j, reload now [r] = [k] ∧ k.db = r.db ∧ k.key = r.key ∧ k.holds = [h] ∧
      (recover [r]).get r.db r.key r.id = some j ∧
      h.id = j.id ∧ h.depth = j.depth ∧ h.count = j.count ∧ h.rcount = j.rcount ∧ h.eflag &&& 0x4440 = j.eflag ∧
      h.deadline = engineDeadline r.eflag (loadRemaining r.eflag r.stored r.ct now) now := by
  have hf := fun k => applyFrame_frame k r.data
  exact ⟨freshEntry now r, _, r.terms 1, reloadStep_new_key now [] r ⟨hl, hs, he⟩ (fun _ hk => nomatch hk), (hf _).1, (hf _).2.1,
    (hf _).2.2, recover_lock_new JState.empty r hl rfl, rfl, rfl, rfl, rfl, rfl, rfl⟩

/-- One live LOCK record per key, any number of keys and databases: exactly one hold per record, nothing dropped or refused. -/
theorem reload_one_record_per_key (now : Int) (rs : List JRec) (hl : ∀ r ∈ rs, LiveLock now r)
    (hp : rs.Pairwise (fun a b => ¬ (a.db = b.db ∧ a.key = b.key))) :
    reload now rs = rs.map (freshEntry now) := by
  have := Slock.Aof.reload_one_record_per_key now rs [] hl hp (by simp)
  simpa [reload] using this

def Lk (id : Nat) (ct : Int) (flag aofFlag eflag stored count rcount : Nat) (data : Option Bytes := none) : JRec :=
  ⟨true, 0, 100, id, flag, aofFlag, eflag, stored, ct, count, rcount, data⟩
def Uk (id : Nat) (ct : Int) (aofFlag eflag stored rcount : Nat) : JRec :=
  ⟨false, 0, 100, id, 0, aofFlag, eflag, stored, ct, 0, rcount, none⟩

def holdsOf (st : RState) : List (Nat × Nat × Option Int) := st.flatMap (fun k => k.holds.map (fun h => (h.id, h.depth, h.deadline)))

/-- `C07:replay:level-record-expired` — lock for 10 s at 0, re-lock at 8 (depth 2, deadline 19), restart at 13: the first level's
record (own deadline 11) is filtered, the restart has depth 1. -/
theorem replay_level_record_expired_violated :
    let j := [Lk 1 0 0 0 0x100 11 0 2, Lk 1 8 0 8 0x100 11 0 2]
    ((recover j).get 0 100 1).map (fun h => (h.depth, h.deadline)) = some (2, some 19) ∧
    holdsOf (reload 13 j) = [(1, 1, some 20)] ∧
    classifyReplay 13 j = [((0, 100), ReplayClass.levelRecordExpired)] := by decide +kernel

/-- `C07:replay:update-record-expired` — lock for 300 s at 0, update (0x02) to 5 s at 2 (deadline 8), restart at 13: the update
record is filtered, the first record is not: the hold is back with deadline 302. -/
theorem replay_update_record_expired_violated :
    let j := [Lk 1 0 0 0 0x100 301 0 0, Lk 1 2 2 8 0x100 6 0 0]
    ((recover j).get 0 100 1).map (·.deadline) = some (some 8) ∧
    holdsOf (reload 13 j) = [(1, 1, some 302)] ∧
    classifyReplay 13 j = [((0, 100), ReplayClass.updateRecordExpired)] := by decide +kernel

/-- `C07:replay:unlock-record-expired` — unlimited lock, update to 1 minute (deadline 61), unlocked at 1, restart at 72: the UNLOCK
record (60 s left when written) is filtered, the update record (2 minutes stored) is not: the released hold is back. -/
theorem replay_unlock_record_expired_violated :
    let j := [Lk 1 0 0 0 0x4100 100 0 0, Lk 1 0 2 8 0x140 2 0 0, Uk 1 1 0 0x140 1 0]
    (recover j).get 0 100 1 = none ∧
    holdsOf (reload 72 j) = [(1, 1, some 73)] ∧
    classifyReplay 72 j = [((0, 100), ReplayClass.unlockRecordExpired)] := by decide +kernel

/-- `C07:replay:update-within-tolerance` — 3-minute lock at 0, update to 1 minute at 12 (deadline 73), restart at 69: the first
record is replayed with 2 minutes (deadline 190), the update (deadline 131) is within CheckLockedEqual's 60 s of that and is
refused: the hold ends 117 s late. -/
theorem replay_update_within_tolerance_violated :
    let j := [Lk 1 0 0 0 0x140 4 0 0, Lk 1 12 2 8 0x140 2 0 0]
    ((recover j).get 0 100 1).map (·.deadline) = some (some 132) ∧
    holdsOf (reload 69 j) = [(1, 1, some 190)] ∧
    classifyReplay 69 j = [((0, 100), ReplayClass.updateWithinTolerance)] := by decide +kernel

/-- `C07:replay:value-of-ended-hold-lost` — the key's value was set by a 5-second hold that ended during the outage; another hold
keeps the key: the journal means "value s", the restart has no value. -/
theorem replay_value_of_ended_hold_lost_violated :
    let j := [Lk 1 0 0 0 0x4100 100 1 0, Lk 2 0 0 0x2000 0x100 6 1 0 (some [3, 0, 0, 0, 0, 0, 0x73])]
    (recover j).values = [((0, 100), [3, 0, 0, 0, 0, 0, 0x73])] ∧
    (reload 11 j).map (·.value) = [none] ∧
    classifyReplay 11 j = [((0, 100), ReplayClass.valueOfEndedHoldLost)] := by decide +kernel

/-- `C07:replay:not-admitted` — hold 1 (Count 2) is taken, hold 2 (Count 1) is admitted next to it, then hold 1 is re-locked; deferred
journalling writes hold 1's two levels BEFORE hold 2's record. The journal means both holds; at the replay hold 2 meets two
levels and `doLock` refuses it. -/
theorem replay_not_admitted_violated :
    let j := [Lk 1 2 0 0 0 99 2 2, Lk 1 2 0 0 0 99 2 2, Lk 2 2 0 0 0 99 1 0]
    ((recover j).get 0 100 2).isSome = true ∧
    holdsOf (reload 2 j) = [(1, 2, some 102)] ∧
    classifyReplay 2 j = [((0, 100), ReplayClass.notAdmitted)] := by decide +kernel

example : L1.isLock = true ∧ skippedAt L1.eflag L1.stored L1.ct.toNat 6 = false ∧ loadRemaining L1.eflag L1.stored L1.ct 6 > 0 := by decide

example : (∀ r ∈ [L1, { L1 with key := 101 }], LiveLock 6 r) ∧
    [L1, { L1 with key := 101 }].Pairwise (fun a b => ¬ (a.db = b.db ∧ a.key = b.key)) := by
  constructor
  · intro r hr
    simp at hr
    rcases hr with rfl | rfl <;> (unfold LiveLock; decide)
  · simp [L1]

end Slock.C07J
