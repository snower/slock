import Slock.Proofs.Kernels
import Slock.Proofs.EngineNotLate
import Slock.Properties.C01
import Slock.Properties.C04
/-!
# C05 — wait timeouts fire in [T, T+2 s], never early, never after a grant (second / minute units)

Model: M-ENGINE with its two 16-slot timer wheels abstracted to per-record schedules (`Sched`): `wheelAdd` is
`AddTimeOut`/`AddExpried`, `timeoutPass1` the collecting critical section of `checkTimeTimeOut`, `fireTimeout` is `doTimeOut`.
Server time is the virtual clock `db.now`; `opTick` is one second (what `updateCurrentTime` + the sweepers do for it).
Millisecond waits are outside the model (runtime timers) — see DESIGN.md.
-/
namespace Slock.C05
open Slock.Engine Slock.C01

theorem reachable_WInv (now : Nat) (ops : List Op) : WInv (run (DB.init now) ops) := (reachable_steady now ops).winv

/-- **Deadline.** A request queued at server time `now` with timeout `T` gets the deadline `now + T·unit + 1`
(unit = 1 s, or 60 s with the minute flag), in every reachable state. -/
theorem C05_deadline (now : Nat) (ops : List Op) (c : Cmd) :
    let db := run (DB.init now) ops
    (newWaiter db c).timeoutT = db.now + c.timeout * (if has c.tflag TF_MINUTE then 60 else 1) + 1 :=
  newWaiter_deadline _ c (reachable_WInv now ops).1

/-- **Never early.** In every reachable state, the sweep of the current second hands to `doTimeOut` only requests
whose deadline has been reached: `deadline ≤ now`, i.e. at least `T·unit + 1 > T` seconds after queuing. -/
theorem C05_not_early (now : Nat) (ops : List Op) :
    let db := run (DB.init now) ops
    ∀ w ∈ (timeoutPass1 db db.now).2, w.timeoutT ≤ db.now :=
  fun w hw => timeoutPass1_due _ _ (reachable_WInv now ops) rfl w hw

/-- **Zero timeout.** A request with Timeout 0 is never queued: it is answered in the same step. -/
theorem C05_zero (db : DB) (c : Cmd) (h0 : c.timeout = 0) : classifyLock db c ≠ .queue :=
  fun hb => Nat.ne_of_gt (LockFacts.of hb).1 h0

/-- … and when it is the time-out branch, the reply is TIMEOUT to the requester and nothing changes. -/
theorem C05_zero_effect (db : DB) (c : Cmd) (hb : classifyLock db c = .timeout) :
    opLock db c = (db, [mkReply c RESULT_TIMEOUT (db.getKey c.key).locked 0]) := by
  unfold opLock; rw [hb]; rfl

/-- **Effect of firing.** `doTimeOut` answers TIMEOUT under the request's own id on its own connection and removes the
request from the queue: afterwards it can no longer be granted (grants are made only to queued requests,
`Slock.C04.C04_grant_is_head`). A wake pass follows (the request may have been the head of the queue): the TIMEOUT
reply may be followed by grants (SUCCED) to requests queued behind it. -/
theorem C05_fire_effect (db : DB) (key : Nat) (w : Waiter) :
    (∃ more, (fireTimeout db key w).2 =
        mkReply { w.cmd with conn := w.conn } RESULT_TIMEOUT (db.getKey key).locked 0 :: more ∧
        ∀ r ∈ more, r.result = RESULT_SUCCED) ∧
      ∀ x ∈ allW (fireTimeout db key w).1, x ∈ allW db := by
  refine ⟨?_, allW_sub_of_waitAt fun _ _ => fireTimeout_waitAt_sub⟩
  unfold fireTimeout
  simp only []
  exact wake_out_succed _ _ _

/-- **Not late — local step (`_partial`).** When the sweeper visits a request whose deadline is still ahead it re-arms
it for a second in `[now+1, deadline]`; when the deadline has been reached it is handed to `doTimeOut` in the same
pass (`timeoutStep`). The global induction "every queued request is scheduled at `visit ≥ checkTimeoutTime`", which turns
this step lemma into "fires in the sweep of second `deadline`", is `C05_scheduled_ahead` / `C05_not_late` below; the
differential run and the monitor (`C05:late`) check the same on the real code. -/
theorem C05_not_late_step_partial (acc : DB × List Waiter) (w : Waiter) (h : WInv acc.1) :
    (w.timeoutT > acc.1.now →
        (timeoutStep acc w).2 = acc.2 ∧ acc.1.now + 1 ≤ (rearmed acc.1 w).sched.visit ∧
        (rearmed acc.1 w).sched.visit ≤ w.timeoutT ∧ (rearmed acc.1 w).timeoutT = w.timeoutT) ∧
    (w.timeoutT ≤ acc.1.now → (timeoutStep acc w) = (acc.1, acc.2 ++ [w])) := by
  constructor
  · intro hd
    have hr := rearmed_ok acc.1 w h.1 hd
    refine ⟨by unfold timeoutStep; simp [hd], hr.2.2, ?_, hr.2.1⟩
    have := hr.1.1; rw [hr.2.1] at this; exact this
  · intro hd
    unfold timeoutStep
    have : ¬ w.timeoutT > acc.1.now := by omega
    simp [this]

/-! ### Non-vacuity: a queued request with T = 2 is answered TIMEOUT by the third tick, not by the second -/
def H : Cmd := { req := 1, conn := 1, flag := 0, lockId := 1, key := 7, tflag := 0, timeout := 0, eflag := 0, expried := 50, count := 0, rcount := 0 }
def W : Cmd := { H with req := 2, lockId := 2, timeout := 2 }
def s2 : DB := run (DB.init 100) [.lock H, .lock W, .tick, .tick]
example : (opTick s2).2.map (fun r => (r.req, r.result)) = [(2, RESULT_TIMEOUT)] := by decide +kernel
example : (run (DB.init 100) [.lock H, .lock W, .tick] |> opTick).2 = [] := by decide +kernel
example : (timeoutPass1 { s2 with now := 103, tCheck := 104 } 103).2.map (·.cmd.req) = [2] := by decide +kernel


/-! ## Not late — global

In EVERY reachable state of an operation sequence whose request ids are pairwise distinct (the property's own premise
"RequestId is connection-level unique"), every queued request is scheduled for a second that is still ahead and not
after its deadline. Hence no queued request has a deadline `≤ now`: a request whose deadline second has been swept is no
longer queued, i.e. it has been answered. -/

open Slock.C03 in
theorem runOut_fst (db : DB) (ops : List Op) : (runOut db ops).1 = run db ops := by
  unfold runOut run
  have gen : ∀ (ops : List Op) (acc : DB × List Reply), (ops.foldl stepOut acc).1 = ops.foldl step acc.1 := by
    intro ops
    induction ops with
    | nil => intro acc; rfl
    | cons o os ih =>
      intro acc
      simp only [List.foldl_cons]
      rw [ih]
      have e : (stepOut acc o).1 = step acc.1 o := by cases o <;> simp only [stepOut, step]
      rw [e]
  exact gen ops (db, [])

theorem reachable_KN (now : Nat) (ops : List Op) : KN (run (DB.init now) ops) := (reachable_steady now ops).cnt.kn

open Slock.C03 in
/-- queued ids are pairwise distinct when the issued ids are -/
theorem reachable_QU (now : Nat) (ops : List Op) (hu : ∀ x, (issued ops).count x ≤ 1) : QU (run (DB.init now) ops) :=
  (run_induct (fun d rest => Steady d ∧ Once d rest) (fun d o _ h => ⟨steady_step d o h.1, h.2.step h.1.cnt.kn⟩) ops _
    ⟨Steady.init now, Once.init now ops hu⟩).2.qu

/-- Along every run from ANY steady state in which no LOCK reuses the id of a request that is still queued (`C04.FreshRun`):
the requests queued under a key keep distinct ids, and every queued request stays scheduled for a second still ahead. -/
theorem ahead_of_fresh (ops : List Op) (d : DB) (hs : Steady d) (hu : WU d) (hl : WLB d) (hf : C04.FreshRun d ops) :
    Steady (run d ops) ∧ WU (run d ops) ∧ WLB (run d ops) :=
  (run_induct (fun d rest => (Steady d ∧ WU d ∧ WLB d) ∧ C04.FreshRun d rest)
    (fun d o _ ⟨⟨hs, hu, hl⟩, hf⟩ => ⟨⟨steady_step d o hs, match o, hf.1 with
      | .lock c, hc => ⟨opLock_wu d c hc.freshK hu, opLock_WLB d c hs.winv.1 hl⟩
      | .unlock c, _ => ⟨opUnlock_wu d c hu, opUnlock_WLB d c hs.winv.1 hl⟩
      | .tick, _ => ⟨opTick_wu d hu, opTick_WLB d hs.cnt.kn hu hs.kw hl⟩
      | .setLeader _, _ => ⟨hu.of_keys_eq rfl, fun n w hx => hl n w (hx.of_keys_eq rfl)⟩⟩, hf.2⟩) ops d ⟨⟨hs, hu, hl⟩, hf⟩).1

open Slock.C03 in
/-- every queued request sits under its own key and is scheduled for a second still ahead, in every reachable state of a sequence with
pairwise distinct request ids (only "scheduled ahead" needs that premise: `KW` is the field `kw` of `reachable_steady`) -/
theorem reachable_ahead (now : Nat) (ops : List Op) (hu : ∀ x, (issued ops).count x ≤ 1) :
    KW (run (DB.init now) ops) ∧ WLB (run (DB.init now) ops) :=
  have h := ahead_of_fresh ops _ (Steady.init now) (WU.init now) (fun _ _ ⟨_, hk, _⟩ => nomatch hk) (C04.freshRun_of_unique now ops hu)
  ⟨h.1.kw, h.2.2⟩

/-- the two invariants of the timeout wheel, read together: every queued request is scheduled for a second `visit` with
`now + 1 ≤ visit ≤ deadline` -/
theorem scheduled_ahead {d : DB} (hw : WInv d) (hl : WLB d) :
    d.tCheck = d.now + 1 ∧ ∀ w ∈ allW d, d.now + 1 ≤ w.sched.visit ∧ w.sched.visit ≤ w.timeoutT :=
  ⟨hw.1, fun w hm => have ⟨n, hn⟩ := waitAt_of_allW hm; ⟨hl n w hn, (hw.2 w hm).1⟩⟩

open Slock.C03 in
/-- **Scheduled ahead, not after the deadline.** For every start time and every operation sequence with pairwise
distinct request ids, in the reached state: the timeout check time is `now + 1`, and every queued request is scheduled
for a second `visit` with `now + 1 ≤ visit ≤ deadline`. -/
theorem C05_scheduled_ahead (now0 : Nat) (ops : List Op) (hu : ∀ x, (issued ops).count x ≤ 1) :
    let db := run (DB.init now0) ops
    db.tCheck = db.now + 1 ∧ ∀ w ∈ allW db, db.now + 1 ≤ w.sched.visit ∧ w.sched.visit ≤ w.timeoutT := by
  exact scheduled_ahead (reachable_WInv now0 ops) (reachable_ahead now0 ops hu).2

open Slock.C03 in
/-- **Not late.** No queued request has a deadline `≤ now`: once the sweep of the deadline second
`t0 + T·unit + 1` (`C05_deadline`) has run, the request is no longer queued — it has been answered (TIMEOUT, a grant,
or a cancel) by the end of that tick, i.e. within [T, T+2] seconds of being queued. -/
theorem C05_not_late (now0 : Nat) (ops : List Op) (hu : ∀ x, (issued ops).count x ≤ 1) :
    let db := run (DB.init now0) ops
    ∀ w ∈ allW db, db.now < w.timeoutT := by
  show ∀ w ∈ allW (run (DB.init now0) ops), (run (DB.init now0) ops).now < w.timeoutT
  intro w hm
  have := (C05_scheduled_ahead now0 ops hu).2 w hm
  exact Nat.lt_of_lt_of_le this.1 this.2

theorem exists_waiter_of_queued_pos (x : Rid) (ks : List Key) (h : 0 < queued x ks) :
    ∃ k ∈ ks, ∃ w ∈ k.waiters, w.rid = x := by
  induction ks with
  | nil => simp [queued] at h
  | cons k ks ih =>
    rw [queued_cons] at h
    by_cases hk : 0 < queuedIn x k
    · unfold queuedIn at hk
      have : 0 < (k.waiters.map Waiter.rid).count x := by omega
      obtain ⟨w, hw, e⟩ := List.mem_map.mp (List.count_pos_iff.mp this)
      exact ⟨k, by simp, w, hw, e⟩
    · have := queuedIn_nonneg x k
      obtain ⟨k', hk', hw⟩ := ih (by omega)
      exact ⟨k', List.mem_cons_of_mem _ hk', hw⟩

open Slock.C03 in
/-- **Answered by the deadline.** A request id issued exactly once has, in the reached state, either exactly one
terminal reply, or none and it is still queued with its deadline strictly ahead of server time. -/
theorem C05_answered_by_deadline (now0 : Nat) (ops : List Op) (hu : ∀ x, (issued ops).count x ≤ 1)
    (x : Rid) (hx : (issued ops).count x = 1) :
    answered x (runOut (DB.init now0) ops).2 = 1 ∨
      (answered x (runOut (DB.init now0) ops).2 = 0 ∧
        ∃ w ∈ allW (run (DB.init now0) ops), w.rid = x ∧ (run (DB.init now0) ops).now < w.timeoutT) := by
  have hc := conservation now0 ops x
  have hq := queued_nonneg x (runOut (DB.init now0) ops).1.keys
  have ha := answered_nonneg x (runOut (DB.init now0) ops).2
  by_cases h0 : queued x (runOut (DB.init now0) ops).1.keys = 0
  · left; omega
  · right
    refine ⟨by omega, ?_⟩
    have e := runOut_fst (DB.init now0) ops
    rw [e] at h0 hq
    obtain ⟨k, hk, w, hw, e⟩ := exists_waiter_of_queued_pos x (run (DB.init now0) ops).keys (by omega)
    have hm : w ∈ allW (run (DB.init now0) ops) := mem_allW.mpr ⟨k, hk, hw⟩
    exact ⟨w, hm, e, C05_not_late now0 ops hu w hm⟩

/-! ### Non-vacuity of the global statement: the hypothesis holds for a sequence with a queued request, a timeout and a
re-armed long wait; the request with T = 2 is queued up to the tick of its deadline second and gone after it -/
def W9 : Cmd := { H with req := 3, lockId := 3, timeout := 30 }
def opsNL : List Op := [.lock H, .lock W, .lock W9, .tick, .tick]
example : ∀ x, (Slock.C03.issued opsNL).count x ≤ 1 := List.nodup_iff_count.mp (by decide)
example : ((allW (run (DB.init 100) opsNL)).map (fun w => (w.cmd.req, w.timeoutT, w.sched.visit))) = [(2, 103, 103), (3, 131, 105)] := by decide +kernel
example : (run (DB.init 100) opsNL).now = 102 := by decide +kernel
example : ((allW (run (DB.init 100) (opsNL ++ [.tick]))).map (fun w => (w.cmd.req, w.timeoutT, w.sched.visit))) = [(3, 131, 105)] := by decide +kernel

end Slock.C05
