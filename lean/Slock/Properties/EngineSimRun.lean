import Slock.Properties.EngineSim
import Slock.Properties.EngineSimTick
import Slock.Proofs.EngineSimCongr
import Slock.Proofs.EngineSimWU
import Slock.Proofs.EngineQuiet
import Slock.Proofs.EngineSimTickSQOps
import Slock.Properties.C04
/-!
# EngineSimRun — the closing statement of the stage-2 → stage-1 simulation

For every sequence of LOCK / UNLOCK / role-flip operations AND CLOCK TICKS of the record-level model in which no command carries a value
frame, no key record ever has a value cell, every tick happens on the leader (`Properties/EngineSimTick.lean`: off-leader the record-level
expiry sweep defers, stage 1 has no such rule) and RequestIds are connection-unique (the premise of C03 / C05), there is a sequence of
stage-1 operations of the same length whose stage-1 run ends in a state `Equiv` to `abs` of the record-level state (`sim_run`). Stage-1
theorems about reachable states then hold of `abs` of such record-level states: `C01_mutex_transfers`.

The relation kept along the two runs is `Linked s a` (`Linked.step`: one operation; `Linked.run_ind`: induction along an admissible run and its
image `imgs`). `View s now ops1` is what the transfer theorems of the following files start from: `s` is linked to the state stage 1's run
`ops1` from `DB.init now` ends in; `run_view` gives it for the state an admissible run ends in, with `ops1 = imgs init ops`.

The UNLOCK commands of the stage-1 sequence carry the `mgr` flag "does the key record exist" (stage 1 has no key records; the flag
selects between its STATE_ERROR and UNLOCK_ERROR replies off-leader).
-/
namespace Slock.SimP
open Slock Slock.Sim
open Slock.Engine (has)

/-- the premises on one operation, in the state it is applied to -/
def StepOK (s : Engine2.DB) : Engine2.Op → Prop
  | .lock c none => (s.getKey c.key).cell = none
  | .unlock _ none => True
  | .setLeader _ => True
  | .tick => s.leader = true
  | _ => False

/-- `StepOK` of every operation of a sequence, each in the state it is applied to -/
def RunOK : Engine2.DB → List Engine2.Op → Prop
  | _, [] => True
  | s, o :: ops => StepOK s o ∧ RunOK (Engine2.step s o).1 ops

/-- the stage-1 operation a record-level operation is, in the state it is applied to -/
def img (s : Engine2.DB) : Engine2.Op → C01.Op
  | .lock c _ => .lock c
  | .unlock c _ => .unlock { c with mgr := s.hasKey c.key }
  | .tick => .tick
  | .setLeader b => .setLeader b

theorem abs_init (now aofTime : Nat) : Equiv (Engine2.abs (Engine2.DB.init now aofTime)) (Engine.DB.init now) :=
  ⟨rfl, rfl, rfl, rfl, rfl, rfl, fun _ => rfl⟩

theorem reachable2_step {s : Engine2.DB} (h : Reachable2 s) (o : Engine2.Op) : Reachable2 (Engine2.step s o).1 := by
  obtain ⟨now, a, ops, e⟩ := h
  refine ⟨now, a, ops ++ [o], ?_⟩
  rw [e]
  unfold Engine2.run
  rw [List.foldl_append]
  rfl

/-- the replies of one stage-1 operation -/
def replies1 (a : Engine.DB) : C01.Op → List Engine.Reply
  | .lock c => (Engine.opLock a c).2
  | .unlock c => (Engine.opUnlock a c).2
  | .tick => (Engine.opTick a).2
  | .setLeader _ => []

/-- **The simulation relation**: `s` is a reachable record-level state; the stage-1 database `a` shows, in every scalar field and under every
key id, what `abs s` shows, and has stage 1's invariants. `Inv1` (`Properties/EngineSimTick.lean`) is what the simulation carries along the
stage-1 run; each of its fields (`inv`, `quiet`, `wu`, `kn`, `sq`, `kw`, `hn`, `qinv`) is thereby a stage-1 fact already at hand for `s`:
through `Linked.key` it speaks of `Key.abs (s.getKey n)`, and no theorem about stage-1 runs is needed. -/
structure Linked (s : Engine2.DB) (a : Engine.DB) : Prop where
  reach : Reachable2 s
  equiv : Equiv (Engine2.abs s) a
  inv : Inv1 a

theorem Linked.init (now aofTime : Nat) : Linked (Engine2.DB.init now aofTime) (Engine.DB.init now) :=
  ⟨⟨now, aofTime, [], rfl⟩, abs_init now aofTime, Inv1.init now⟩

section
variable {s : Engine2.DB} {a : Engine.DB} (r : Linked s a)
include r

theorem Linked.key (n : Nat) : Engine2.Key.abs (s.getKey n) = a.getKey n :=
  (abs_is_key_local r.reach n).symm.trans (r.equiv.keys n)

theorem Linked.ki (n : Nat) : Engine.KeyInv (Engine2.Key.abs (s.getKey n)) := r.key n ▸ Engine.getKey_inv r.inv.inv n

theorem Linked.quiet (n : Nat) : Engine.Quiet (Engine2.Key.abs (s.getKey n)) := r.key n ▸ Engine.getKey_quiet r.inv.quiet n

theorem step_view_lock (c : Engine.Cmd) (hcell : (s.getKey c.key).cell = none) :
    Equiv (Engine2.abs (Engine2.step s (.lock c none)).1) (Engine.opLock (Engine2.abs s) c).1 ∧
    (Engine2.step s (.lock c none)).2.map (·.r) = (Engine.opLock (Engine2.abs s) c).2 :=
  sim_lock r.reach c hcell (r.ki c.key) (r.quiet c.key).flag.mp

/-- the stage-1 command carries the bit "does the key record exist" -/
theorem step_view_unlock (c : Engine.Cmd) :
    Equiv (Engine2.abs (Engine2.step s (.unlock c none)).1) (Engine.opUnlock (Engine2.abs s) { c with mgr := s.hasKey c.key }).1 ∧
    (Engine2.step s (.unlock c none)).2.map (·.r) = (Engine.opUnlock (Engine2.abs s) { c with mgr := s.hasKey c.key }).2 :=
  sim_unlock r.reach c (r.ki c.key) (r.quiet c.key).flag.mp (r.key c.key ▸ Engine.getKey_wu r.inv.wu c.key)

/-- the replies agree whatever the request; that stage 1's invariants hold again needs a LOCK's request to be fresh -/
theorem Linked.step (o : Engine2.Op) (ho : StepOK s o) :
    (Engine2.step s o).2.map (·.r) = replies1 a (img s o) ∧
    ((match img s o with | .lock c => Engine.Fresh a c | _ => True) → Linked (Engine2.step s o).1 (C01.step a (img s o))) := by
  have hr := reachable2_step r.reach o
  have hi := r.inv
  cases o with
  | lock c d =>
    cases d with
    | some _ => exact ho.elim
    | none =>
      obtain ⟨e1, r1⟩ := step_view_lock r c ho
      obtain ⟨e2, r2⟩ := opLock_congr r.equiv c
      refine ⟨r1.trans r2, fun hf => ⟨hr, e1.trans e2, ?_⟩⟩
      have hf' : Engine.Fresh a c := hf
      exact ⟨Engine.opLock_inv a c hi.inv, Engine.opLock_quiet a c hi.quiet,
        Engine.opLock_wu a c (fun w hw => hf' w (Engine.mem_getKey_waiters hw)) hi.wu,
        Engine.opLock_cinv_kn a c hi.kn, SimTick.opLock_sq a c hi.kn hi.sq, Engine.opLock_KW a c hi.kw, Engine.opLock_HN a c hi.kw hi.hn,
        Engine.opLock_qinv a c hf' hi.qinv⟩
  | unlock c d =>
    cases d with
    | some _ => exact ho.elim
    | none =>
      obtain ⟨e1, r1⟩ := step_view_unlock r c
      obtain ⟨e2, r2⟩ := opUnlock_congr r.equiv { c with mgr := s.hasKey c.key }
      exact ⟨r1.trans r2, fun _ => ⟨hr, e1.trans e2, Engine.opUnlock_inv a _ hi.inv, Engine.opUnlock_quiet a _ hi.quiet, Engine.opUnlock_wu a _ hi.wu,
        Engine.opUnlock_kn a _ hi.kn, SimTick.opUnlock_sq a _ hi.kn hi.sq, Engine.opUnlock_KW a _ hi.kw, Engine.opUnlock_HN a _ hi.kw hi.hn,
        Engine.opUnlock_qinv a _ hi.qinv⟩⟩
  | tick =>
    obtain ⟨e1, r1, i1⟩ := sim_tick r.reach ho r.equiv hi
    exact ⟨r1, fun _ => ⟨hr, e1, i1⟩⟩
  | setLeader b =>
    exact ⟨rfl, fun _ => ⟨hr, setLeader_congr r.equiv b, hi.inv.of_keys_eq rfl, hi.quiet.of_keys_eq rfl, hi.wu.of_keys_eq rfl, hi.kn.of_keys_eq rfl,
      hi.sq.of_keys_eq rfl (Nat.le_refl _), hi.kw.of_sub (fun _ _ hx => hx.of_keys_eq rfl),
      ⟨hi.hn.ec, hi.hn.hu.of_keys_seq rfl (Nat.le_refl _), fun n x hx => hi.hn.ok n x (hx.of_keys_eq rfl), fun n x hx => hi.hn.lb n x (hx.of_keys_eq rfl)⟩,
      ⟨hi.qinv.1.of_sub (fun _ hx => hx), hi.qinv.2.of_keys_eq rfl⟩⟩⟩

end

/-- **one step**: the record-level operation on `s` and its stage-1 image on any `a` that is `Equiv` to `abs s` -/
theorem sim_step {s : Engine2.DB} (hr : Reachable2 s) {a : Engine.DB} (he : Equiv (Engine2.abs s) a) (hi : Inv1 a) (o : Engine2.Op) (ho : StepOK s o)
    (hf : match img s o with | .lock c => Engine.Fresh a c | _ => True) :
    Equiv (Engine2.abs (Engine2.step s o).1) (C01.step a (img s o)) ∧ Inv1 (C01.step a (img s o)) :=
  have r := ((Linked.mk hr he hi).step o ho).2 hf
  ⟨r.equiv, r.inv⟩

/-- the stage-1 sequence of a record-level run -/
def imgs : Engine2.DB → List Engine2.Op → List C01.Op
  | _, [] => []
  | s, o :: ops => img s o :: imgs (Engine2.step s o).1 ops

theorem imgs_length (s : Engine2.DB) (ops : List Engine2.Op) : (imgs s ops).length = ops.length := by
  induction ops generalizing s with
  | nil => rfl
  | cons o os ih => simp only [imgs, List.length_cons]; rw [ih]

theorem Linked.run_ind {M : Engine2.DB → Engine.DB → List Engine2.Op → Prop} (nil : ∀ s a, Linked s a → M s a [])
    (cons : ∀ s a o os, Linked s a → StepOK s o → M (Engine2.step s o).1 (C01.step a (img s o)) os → M s a (o :: os)) :
    ∀ (ops : List Engine2.Op) (s : Engine2.DB) (a : Engine.DB), Linked s a → RunOK s ops → C04.FreshRun a (imgs s ops) → M s a ops
  | [], s, a, r, _, _ => nil s a r
  | o :: os, s, a, r, hok, hfr => cons s a o os r hok.1 (run_ind nil cons os _ _ ((r.step o hok.1).2 hfr.1) hok.2 hfr.2)

theorem Linked.run {s : Engine2.DB} {a : Engine.DB} (r : Linked s a) {ops : List Engine2.Op} (hok : RunOK s ops) (hfr : C04.FreshRun a (imgs s ops)) :
    Linked (Engine2.run s ops) (C01.run a (imgs s ops)) :=
  Linked.run_ind (M := fun s a ops => Linked (Engine2.run s ops) (C01.run a (imgs s ops))) (fun _ _ r => r) (fun _ _ _ _ _ _ ih => ih) ops s a r hok hfr

/-- the (connection, RequestId) pairs a sequence issues -/
def issued2 : List Engine2.Op → List (Nat × Nat)
  | [] => []
  | .lock c _ :: ops => (c.conn, c.req) :: issued2 ops
  | .unlock c _ :: ops => (c.conn, c.req) :: issued2 ops
  | _ :: ops => issued2 ops

theorem issued_imgs (ops : List Engine2.Op) : ∀ s, C03.issued (imgs s ops) = issued2 ops := by
  induction ops with
  | nil => intro _; rfl
  | cons o os ih =>
    intro s
    cases o with
    | lock _ _ | unlock _ _ | tick | setLeader _ => simp only [imgs, img, C03.issued, issued2]; rw [ih]

/-- **The view.** Stage 1 sees the record-level state `s` as the state its run `ops1` from `DB.init now` ends in: the two are
`Linked`, and `ops1` issues every (connection, RequestId) pair at most once — so whatever stage 1 proves of reachable states, with or without
that premise, it proves of this one. `uniq` is the only field of its own: `v.key`, `v.equiv`, `v.inv`, `v.reach` are `Linked`'s, through `v.toLinked`. -/
structure View (s : Engine2.DB) (now : Nat) (ops1 : List C01.Op) : Prop extends Linked s (C01.run (Engine.DB.init now) ops1) where
  uniq : ∀ x, (C03.issued ops1).count x ≤ 1

theorem View.fresh {s : Engine2.DB} {now : Nat} {ops1 : List C01.Op} (v : View s now ops1) : C04.FreshRun (Engine.DB.init now) ops1 :=
  C04.freshRun_of_unique now _ v.uniq

/-- **The run view**: the state an admissible record-level run with connection-unique RequestIds ends in is seen by stage 1 as the state
its image run ends in. -/
theorem run_view {now aofTime : Nat} {ops : List Engine2.Op} (hok : RunOK (Engine2.DB.init now aofTime) ops)
    (hid : ∀ x, (issued2 ops).count x ≤ 1) :
    View (Engine2.run (Engine2.DB.init now aofTime) ops) now (imgs (Engine2.DB.init now aofTime) ops) :=
  have hu := issued_imgs ops _ ▸ hid
  ⟨(Linked.init now aofTime).run hok (C04.freshRun_of_unique now _ hu), hu⟩

/-- **The closing statement** (runs WITH clock ticks): operations without value frames on key records without value cells, ticks on the leader
(`RunOK`), connection-unique RequestIds (`hu`, the premise of C03 / C05). -/
theorem sim_run (now aofTime : Nat) (ops : List Engine2.Op) (hok : RunOK (Engine2.DB.init now aofTime) ops)
    (hu : ∀ x, (issued2 ops).count x ≤ 1) :
    ∃ ops1 : List C01.Op, ops1.length = ops.length ∧
      Equiv (Engine2.abs (Engine2.run (Engine2.DB.init now aofTime) ops)) (C01.run (Engine.DB.init now) ops1) :=
  ⟨_, imgs_length _ ops, (run_view hok hu).equiv⟩

theorem mem_imgs (ops : List Engine2.Op) : ∀ (s : Engine2.DB) (cmd : Engine.Cmd), C01.Op.lock cmd ∈ imgs s ops → ∃ d, Engine2.Op.lock cmd d ∈ ops := by
  induction ops with
  | nil => intro s cmd h; simp [imgs] at h
  | cons o os ih =>
    intro s cmd h
    simp only [imgs, List.mem_cons] at h
    rcases h with h | h
    · cases o with
      | lock c d =>
        simp only [img] at h
        injection h with h
        exact ⟨d, by rw [h]; simp⟩
      | unlock _ _ | tick | setLeader _ => simp [img] at h
    · obtain ⟨d, hd⟩ := ih _ cmd h
      exact ⟨d, List.mem_cons_of_mem _ hd⟩

/-- **A stage-1 theorem about reachable states, transferred to the record-level model** (C01, mutual exclusion): in a run of LOCK /
UNLOCK / role flips / clock ticks on the leader (premises `RunOK`) in which every LOCK for key `k` carries `Count = 0`, the key record of `k` never has two live
holder records — `currentLock` plus the live entries of the holder queue are at most one. -/
theorem C01_mutex_transfers (now aofTime : Nat) (ops : List Engine2.Op) (hok : RunOK (Engine2.DB.init now aofTime) ops)
    (hid : ∀ x, (issued2 ops).count x ≤ 1) (k : Nat)
    (hu : ∀ c d, Engine2.Op.lock c d ∈ ops → c.key = k → c.count = 0) :
    ((Engine2.run (Engine2.DB.init now aofTime) ops).getKey k).holders.length ≤ 1 := by
  have h1 := C01.C01_mutex now (imgs (Engine2.DB.init now aofTime) ops) k fun cmd hm => (mem_imgs ops _ cmd hm).elim (hu cmd)
  rwa [← (run_view hok hid).key k, Engine2.Key.abs, List.length_map] at h1

/-! ### the premises are satisfiable: a direct grant, a request that has to wait, the release that wakes it -/

def cH : Engine.Cmd := { req := 1, conn := 1, flag := 0, lockId := 1, key := 7, tflag := 0, timeout := 0, eflag := 0, expried := 50, count := 0, rcount := 0 }
def cW : Engine.Cmd := { cH with req := 2, lockId := 2, timeout := 5 }
def cU : Engine.Cmd := { cH with req := 3 }
def demo : List Engine2.Op := [.lock cH none, .lock cW none, .unlock cU none]

example : RunOK (Engine2.DB.init 100 0) demo := by
  refine ⟨?_, ?_, trivial, trivial⟩
  · show ((Engine2.DB.init 100 0).getKey cH.key).cell = none
    decide
  · show ((Engine2.step (Engine2.DB.init 100 0) (.lock cH none)).1.getKey cW.key).cell = none
    decide

example : ∀ x ∈ issued2 demo, (issued2 demo).count x ≤ 1 := by decide

/-- after the release the queued request holds the lock -/
example : ((Engine2.run (Engine2.DB.init 100 0) demo).getKey 7).holders.length = 1 := by decide

/-! ### … and with clock ticks: a request that times out, a hold that expires (both sweeps fire; every tick on the leader) -/

def demoT : List Engine2.Op := [.lock tH none, .lock tW none, .tick, .tick, .tick]

example : RunOK (Engine2.DB.init 100 0) demoT := by
  refine ⟨?_, ?_, ?_, ?_, ?_, trivial⟩
  · show ((Engine2.DB.init 100 0).getKey tH.key).cell = none
    decide
  · show ((Engine2.run (Engine2.DB.init 100 0) [.lock tH none]).getKey tW.key).cell = none
    decide
  · show (Engine2.run (Engine2.DB.init 100 0) [.lock tH none, .lock tW none]).leader = true
    decide
  · show (Engine2.run (Engine2.DB.init 100 0) [.lock tH none, .lock tW none, .tick]).leader = true
    decide
  · show (Engine2.run (Engine2.DB.init 100 0) [.lock tH none, .lock tW none, .tick, .tick]).leader = true
    decide

example : ∀ x ∈ issued2 demoT, (issued2 demoT).count x ≤ 1 := by decide

/-- the hypotheses of `sim_tick` are jointly satisfiable at a state whose next tick fires a timeout: reachable, on the leader, with a
stage-1 database `Equiv` to `abs` that satisfies `Inv1` (obtained from the simulation of the run so far) -/
example : ∃ a : Engine.DB, Reachable2 (Engine2.run (Engine2.DB.init 100 0) [.lock tH none, .lock tW none, .tick]) ∧
    (Engine2.run (Engine2.DB.init 100 0) [.lock tH none, .lock tW none, .tick]).leader = true ∧
    Equiv (Engine2.abs (Engine2.run (Engine2.DB.init 100 0) [.lock tH none, .lock tW none, .tick])) a ∧ Inv1 a := by
  have hok : RunOK (Engine2.DB.init 100 0) [.lock tH none, .lock tW none, .tick] := by
    refine ⟨?_, ?_, ?_, trivial⟩
    · show ((Engine2.DB.init 100 0).getKey tH.key).cell = none
      decide
    · show ((Engine2.run (Engine2.DB.init 100 0) [.lock tH none]).getKey tW.key).cell = none
      decide
    · show (Engine2.run (Engine2.DB.init 100 0) [.lock tH none, .lock tW none]).leader = true
      decide
  have v := run_view hok (List.nodup_iff_count.mp (by decide))
  exact ⟨_, v.reach, by decide, v.equiv, v.inv⟩

/-- the second tick answers the queued request with TIMEOUT (8), the third ends the hold with EXPRIED (9); afterwards nothing is held -/
example : (Engine2.step (Engine2.run (Engine2.DB.init 100 0) [.lock tH none, .lock tW none, .tick]) .tick).2.map (·.r.result) = [8] := by decide
example : (Engine2.step (Engine2.run (Engine2.DB.init 100 0) [.lock tH none, .lock tW none, .tick, .tick]) .tick).2.map (·.r.result) = [9] := by decide
example : ((Engine2.run (Engine2.DB.init 100 0) demoT).getKey 7).holders.length = 0 := by decide

end Slock.SimP
