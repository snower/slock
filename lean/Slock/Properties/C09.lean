import Slock.Proofs.ReplRun
import Slock.Proofs.ReplConv
/-!
# C09 — followers apply the leader's log exactly and converge

Part 1: the replication ring buffer (`ReplicationBufferQueue`), model `Slock.Repl` (lean/Slock/Model/Repl.lean), for ALL
operation sequences of any length (induction over the list in `run_inv`).

`Guarded s ops` is the one side condition: `RemovePoll` only undoes an earlier `AddPoll` (the server pairs them;
at the handshake level this is proved, see `C09_sync_inv`). `AddPoll` on a cursor whose item has meanwhile been recycled
into the free list needs no condition: the model mirrors the tree after `fix: AddPoll re-validates the cursor` — AddPoll starts walking only
from an item that still carries the cursor's `seq` and is not marked as recycled (`addStart`);
`C09_stale_addpoll_repaired` is such a sequence.
`numAdds ops < M32`: fewer than 2^32-1 `AddPoll` calls (uint32 `pollCount` does not reach the recycled mark).
-/
namespace Slock.C09
open Slock.Repl

/-- Every state reached from a new queue by a guarded operation sequence satisfies the queue invariant (linked items =
the newest records, in order, `seq` = position, right content; recycled items marked) and every cursor's pointer is to
the item at its position or to an item that has left the buffer, and never dangles. -/
theorem reachable_inv (b m : Nat) (ops : List Op) (hg : Guarded (Sys.init b m) ops) (hA : numAdds ops < M32) :
    SysInv (numAdds ops) (run (Sys.init b m) ops) (pushedOf ops) := by
  have := run_inv ops (sysInv_init b m) hg (by omega)
  simpa using this

/-- NO GAP. After any operation sequence (`Guarded`: RemovePoll only after AddPoll), a successful `Pop` of any cursor returns
exactly the record pushed at position `c'.seq`, and that position is the successor of the cursor's previous position
`c.seq` (the position of the last record it obtained by Pop / Head / Search) — or any buffered position if the cursor
had none (`seqNone`). Hence the records a cursor pops between two repositionings are a contiguous run of the pushed
sequence: no skip, no duplicate, no reorder. -/
theorem C09_no_gap (b m : Nat) (ops : List Op) (hg : Guarded (Sys.init b m) ops) (hA : numAdds ops < M32)
    (n : Nat) (c c' : Cursor) (hc : getC (run (Sys.init b m) ops).cs n = some c)
    (hp : pop (run (Sys.init b m) ops).q c = (.ok, c')) :
    c'.seq < (pushedOf ops).length ∧ (pushedOf ops)[c'.seq]? = some (c'.bufId, c'.bufOrd, c'.dlen) ∧
      (c.seq = seqNone ∨ c'.seq = c.seq + 1) := by
  have h := reachable_inv b m ops hg hA
  obtain ⟨t, g⟩ := pop_ok h.q hA (h.cur n c hc).1 (congrArg Prod.fst hp)
  rw [show (pop _ c).2 = c' from congrArg Prod.snd hp] at t g
  exact ⟨h.q.seq ▸ t.lt, t.record, g⟩

/-- AddPoll on a stale cursor: Head positions cursor 0 at the very first record (seq 0);
five pushes recycle that record's item and two more into the free list; then AddPoll (which the server performs only after the
client's "started" message). -/
def staleOps : List Op :=
  [.push 1 0 0, .cursor 0, .head 0, .push 2 1 200, .push 3 2 0, .push 4 3 0, .push 5 4 200, .push 6 5 0, .add 0]

/-- the sequence is (trivially) guarded, the free list keeps its marks, and the
overtaken cursor gets "out of buf" — on this and on every later Pop. -/
theorem C09_stale_addpoll_repaired :
    Guarded (Sys.init 256 256) staleOps ∧
    (∀ it ∈ (run (Sys.init 256 256) staleOps).q.free, it.pollCount = M32) ∧
    (step (run (Sys.init 256 256) staleOps) (.pop 0)).2 =
      .res .oob { cur := some 0, bufId := 1, bufOrd := 0, dlen := 0, seq := 0, writed := false } ∧
    (step (run (Sys.init 256 256) (staleOps ++ [.pop 0, .pop 0])) (.pop 0)).2 =
      .res .oob { cur := some 0, bufId := 1, bufOrd := 0, dlen := 0, seq := 0, writed := false } := by decide

/-- OUT OF BUF. After any operation sequence (`Guarded`: RemovePoll only after AddPoll) a cursor that has a position and whose successor record has left the buffer
(`c.seq + 1 < tailSeq`) gets the error "out of buf" from `Pop` and stays where it is — never an item, never EOF. -/
theorem C09_out_of_buf (b m : Nat) (ops : List Op) (hg : Guarded (Sys.init b m) ops) (hA : numAdds ops < M32)
    (n : Nat) (c : Cursor) (hc : getC (run (Sys.init b m) ops).cs n = some c)
    (hn : c.seq ≠ seqNone) (hov : c.seq + 1 < tailSeq (run (Sys.init b m) ops).q) :
    pop (run (Sys.init b m) ops).q c = (.oob, c) := by
  have h := reachable_inv b m ops hg hA
  exact pop_overtaken h.q hn hov (fun sid hs => locate_isSome ((h.cur n c hc).2 sid hs))

/-- SEARCH. After any guarded operation sequence `Search id` succeeds iff a record with that aof id is still buffered;
it then positions the cursor at the OLDEST buffered record with that id (position, content); otherwise it reports
not-found (EOF if the buffer is empty) and leaves the cursor alone. -/
theorem C09_search (b m : Nat) (ops : List Op) (hg : Guarded (Sys.init b m) ops) (hA : numAdds ops < M32)
    (id : Nat) (c : Cursor) :
    let q := (run (Sys.init b m) ops).q
    let hist := pushedOf ops
    (∀ c', search q id c = (.ok, c') →
        tailSeq q ≤ c'.seq ∧ c'.seq < hist.length ∧ hist[c'.seq]? = some (id, c'.bufOrd, c'.dlen) ∧ c'.bufId = id ∧
        (∀ p r, tailSeq q ≤ p → p < c'.seq → hist[p]? = some r → r.1 ≠ id)) ∧
    ((∃ p r, tailSeq q ≤ p ∧ hist[p]? = some r ∧ r.1 = id) → (search q id c).1 = .ok) ∧
    ((∀ p r, tailSeq q ≤ p → hist[p]? = some r → r.1 ≠ id) →
        ((search q id c).1 = .nf ∨ (search q id c).1 = .eof) ∧ (search q id c).2 = c) := by
  have h := reachable_inv b m ops hg hA
  refine ⟨fun c' hp => ?_, search_hit h.q, search_miss h.q⟩
  obtain ⟨t, e, g⟩ := search_ok h.q (congrArg Prod.fst hp)
  rw [show (search _ id c).2 = c' from congrArg Prod.snd hp] at t e g
  exact ⟨t.ge, h.q.seq ▸ t.lt, e ▸ t.record, e, g⟩

/-- the buffered records are exactly the newest ones: positions `tailSeq q … seq-1` -/
theorem C09_buffer_is_suffix (b m : Nat) (ops : List Op) (hg : Guarded (Sys.init b m) ops) (hA : numAdds ops < M32) :
    LiveOk (tailSeq (run (Sys.init b m) ops).q) (run (Sys.init b m) ops).q.live (pushedOf ops) :=
  (reachable_inv b m ops hg hA).q.liveOk

/-! Satisfiability of the hypotheses: a guarded sequence with growth, recycling, two cursors, an overtaken cursor. -/

def demoOps : List Op :=
  [.cursor 0, .add 0, .cursor 1, .add 1, .push 1 0 0, .push 2 1 0, .pop 0, .ack 0, .pop 1, .push 3 2 10, .push 4 3 0, .pop 0,
   .ack 0, .pop 0, .push 5 4 0, .push 6 5 0, .push 7 6 0, .rm 1, .search 0 4]

example : Guarded (Sys.init 128 256) demoOps ∧ numAdds demoOps < M32 := by decide
/-- cursor 1 (last obtained #0) is overtaken at the end and gets the error; cursor 0 continues with #4 -/
example : (step (run (Sys.init 128 256) demoOps) (.pop 1)).2 = .res .oob
    { cur := some 0, bufId := 1, bufOrd := 0, dlen := 0, seq := 0, writed := false } := by decide
example : (step (run (Sys.init 128 256) demoOps) (.pop 0)).2 = .res .ok
    { cur := some 0, bufId := 5, bufOrd := 4, dlen := 0, seq := 4, writed := false } := by decide

/-!
## Part 2: the SYNC handshake (model `Slock.Repl.Sync`)

Events: `append` (leader publishes a record), `connect f` (handshake, decided as `handleInitSync` does from the reported id:
resume / transfer from scratch / not-found-then-scratch), `start f` (the client's "started" message: AddPoll, file phase or
stream begins), `deliver f` (one file record, the end-of-files marker, or one `SendProcess` iteration), `cut f` (connection
lost at a message boundary, both processes live on), `restartSame f` / `restartEmpty f` (follower process restarted on the
same / an empty data dir).

`SInv` (lean/Slock/Proofs/ReplConv.lean) is the invariant: the queue invariant `Inv`; record k has id k; and for EVERY
follower: its applied log is `1 … m`, m ≤ n (= the first m records of the leader's log — during a transfer from scratch m is
the number of file records received so far), its channel's cursor is consistent with the buffer, and per phase: `off` ⇒ the
id it will report is m; `wait` ⇒ the cursor is where `Search` / `Head` put it; `files H pos` ⇒ m = pos < H; `stream` ⇒ the
cursor's item is record m (written) or m+1 (in hand) — or the cursor has no position and m = 0. It is proved preserved by
every event kind (`append_step`, `connect_step`, `start_step`, `deliverFiles_step`, `deliverStream_step`, `cut_step`,
`restartSame_step`, `restartEmpty_step`) and hence, by induction over the list, after every guarded sequence of ANY length.

`SInv` also says, for every follower in EVERY phase: the id it would report (`curId`) is the id of the last record it has
applied (the tree after `fix: InitSync …`: the client does not store the leader's answer H as its own
position before a record has arrived), so `cut` needs no guard.

Guards (`EvOk`, decidable; `SGuarded` = every event satisfies its guard in the state it is applied to):
* `deliver` (stream): `FreshGuard` — a cursor without a position (handshake answered on an empty buffer) takes its first
  record while record 1 is still buffered (`C09_resync_fails_empty_buffer` shows it is needed);
* `append`: fewer than 2^64-1 records; and `numStarts < 2^32-1` (uint32 pollCount).
`start` and `cut` need none: `C09_stale_start_repaired` and `C09_early_cut_repaired` are runs with a stale `start` and an early `cut`.
ASSUMED AWAY (not a guard, a modelling decision): `LoadAofFile`'s per-record filter — the file phase transfers every record
with id < H, i.e. no record's own deadline passes during the run (finding `expired-record`, process level).
That RemovePoll only undoes an AddPoll is proved here (pollCount = number of registered channels), not assumed.
-/

theorem C09_sync_inv (b m : Nat) (evs : List Ev) (hg : SGuarded (Sync.init b m) evs) (hA : numStarts evs < M32) :
    ∃ hist, SInv (numStarts evs) (srun (Sync.init b m) evs) hist := by
  have := srun_inv evs (sinv_init b m) hg (by omega)
  simpa using this

/-- RESYNC: after any guarded pattern of appends, connects, starts, deliveries, cuts and restarts, every follower's applied
log is a prefix of the leader's log (the first m records, nothing skipped, duplicated or reordered) — also right after it
was reset for a transfer from scratch and while that transfer is in progress. -/
theorem C09_resync (b m : Nat) (evs : List Ev) (hg : SGuarded (Sync.init b m) evs) (hA : numStarts evs < M32) (f : Nat) :
    let s := srun (Sync.init b m) evs
    (getF s.fols f).log = s.log.take (getF s.fols f).log.length ∧ (getF s.fols f).log.length ≤ s.log.length := by
  obtain ⟨hist, h⟩ := C09_sync_inv b m evs hg hA
  exact sinv_prefix h f

/-- CONVERGE: in any state reached by a guarded event sequence in which follower f is connected, its file phase is finished
(phase `stream`) and everything published has been delivered (one more `deliver f` finds nothing: the item in hand is
written and `Pop` = EOF), the follower's applied log IS the leader's log. -/
theorem C09_converge (b m : Nat) (evs : List Ev) (hg : SGuarded (Sync.init b m) evs) (hA : numStarts evs < M32) (f : Nat)
    (hc : (getF (srun (Sync.init b m) evs).fols f).conn = .stream)
    (hi : (sstep (srun (Sync.init b m) evs) (.deliver f)).2 = .idle) :
    (getF (srun (Sync.init b m) evs).fols f).log = (srun (Sync.init b m) evs).log := by
  obtain ⟨hist, h⟩ := C09_sync_inv b m evs hg hA
  exact sinv_converge h f hc hi

/-! An early `cut`, a stale `start`, and the run that shows `FreshGuard` is needed. -/

def earlyCut : List Ev :=
  [.append 0, .append 0, .connect 1, .start 1, .cut 1, .connect 1, .start 1, .append 0, .deliver 1, .deliver 1, .deliver 1,
   .deliver 1, .deliver 1]

/-- The connection is cut between "started" of a transfer from scratch and its first record (tree after `fix: InitSync …`):
the follower reports nothing, is transferred
from scratch again and ends with the leader's log. -/
theorem C09_early_cut_repaired :
    SGuarded (Sync.init 256 256) earlyCut ∧
    (sstep (srun (Sync.init 256 256) (earlyCut.take 5)) (.connect 1)).2 = .full 2 ∧
    (srun (Sync.init 256 256) earlyCut).log = [1, 2, 3] ∧
    (getF (srun (Sync.init 256 256) earlyCut).fols 1).log = [1, 2, 3] ∧
    (sstep (srun (Sync.init 256 256) earlyCut) (.deliver 1)).2 = .idle := by decide

def staleStart : List Ev :=
  [.append 0, .connect 1, .append 200, .append 0, .append 0, .append 200, .append 0, .start 1,
   .deliver 1, .deliver 1, .deliver 1]

/-- `Head` positions the channel's cursor on record 1 (seq 0); before "started" arrives five pushes recycle that item
(tree after `fix: AddPoll …`): the channel gets "out of buf" after record 1 and
closes; the follower (log `[1]`, id 1) reconnects and is resynchronised. -/
theorem C09_stale_start_repaired :
    SGuarded (Sync.init 256 256) staleStart ∧
    (getF (srun (Sync.init 256 256) staleStart).fols 1).log = [1] ∧
    (getF (srun (Sync.init 256 256) staleStart).fols 1).conn = .off ∧
    (sstep (srun (Sync.init 256 256) staleStart) (.connect 1)).2 = .retryFull 6 := by decide

def emptyBuffer : List Ev := [.connect 1, .start 1, .append 0, .append 0, .append 0, .deliver 1, .deliver 1, .deliver 1]

/-- `FreshGuard` is needed. Handshake on an empty buffer: the cursor keeps no position, its first `Pop` takes the oldest
buffered record without the continuity check; with a 64-byte buffer records 1 and 2 are gone by then. -/
theorem C09_resync_fails_empty_buffer :
    (srun (Sync.init 64 64) emptyBuffer).log = [1, 2, 3] ∧
    (getF (srun (Sync.init 64 64) emptyBuffer).fols 1).log = [3] ∧
    (sstep (srun (Sync.init 64 64) emptyBuffer) (.deliver 1)).2 = .idle ∧
    ¬ SGuarded (Sync.init 64 64) emptyBuffer ∧
    SGuarded (Sync.init 64 64) (emptyBuffer.take 6) ∧ ¬ EvOk (srun (Sync.init 64 64) (emptyBuffer.take 6)) (.deliver 1) := by decide

/-! The guards are satisfiable: a guarded run through every event kind and every handshake answer. -/

/-- transfer from scratch with a file phase, stream, cut, resume by id, restart on the same dir (resume), restart on an empty
dir (scratch again), a second follower that falls out of the buffer (not-found → scratch) -/
def tour : List Ev :=
  [.append 0, .append 5, .connect 1, .start 1, .deliver 1, .deliver 1, .append 0, .deliver 1, .deliver 1, .deliver 1, .cut 1,
   .append 0, .append 0, .connect 1, .start 1, .deliver 1, .deliver 1, .deliver 1, .deliver 1, .restartSame 1, .append 0,
   .connect 1, .start 1, .deliver 1, .deliver 1, .restartEmpty 1, .connect 1, .start 1, .deliver 1, .deliver 1, .deliver 1,
   .deliver 1, .deliver 1, .deliver 1, .deliver 1, .deliver 1, .connect 2, .start 2, .deliver 2, .cut 2]

set_option maxRecDepth 20000 in
example : SGuarded (Sync.init 256 256) tour ∧ numStarts tour < M32 := by decide
set_option maxRecDepth 20000 in
example : (getF (srun (Sync.init 256 256) tour).fols 1).conn = .stream ∧
    (sstep (srun (Sync.init 256 256) tour) (.deliver 1)).2 = .idle ∧
    (getF (srun (Sync.init 256 256) tour).fols 1).log = [1, 2, 3, 4, 5, 6] := by decide
-- every answer of the handshake occurs under the guards
set_option maxRecDepth 20000 in
example : (sstep (srun (Sync.init 256 256) (tour.take 2)) (.connect 1)).2 = .full 2 ∧
    (sstep (srun (Sync.init 256 256) (tour.take 13)) (.connect 1)).2 = .resume 3 ∧
    (sstep (srun (Sync.init 128 128) [.append 0, .connect 1, .start 1, .deliver 1, .deliver 1, .cut 1, .append 0, .append 0, .append 0])
      (.connect 1)).2 = .retryFull 4 ∧
    SGuarded (Sync.init 128 128) [.append 0, .connect 1, .start 1, .deliver 1, .deliver 1, .cut 1, .append 0, .append 0, .append 0, .connect 1] := by decide
-- a guarded `cut` in the file phase (after the first file record) and a guarded `deliver` of a cursor without position
example : SGuarded (Sync.init 256 256) [.append 0, .append 0, .append 0, .connect 1, .start 1, .deliver 1, .cut 1, .connect 1] ∧
    SGuarded (Sync.init 256 256) [.connect 1, .start 1, .append 0, .deliver 1, .deliver 1, .deliver 1] := by decide

/-! The sender's 4 KB batch buffer (`SendProcess`) keeps the order.

`deliver` above hands the follower one record per step; the real `SendProcess` copies small records into a 4096-byte buffer and
writes records larger than the buffer directly to the socket. `Batch` / `sendRec` (Model/Repl.lean) model exactly that block. -/

/-- BATCH ORDER: for every sequence of records (any sizes, with or without data), what reaches the socket — after the flush that
`Pop` = EOF triggers — is the records in the order they were popped; with the code's rule "flush first if the record does not
fit" (`windex + 64 + len(data) > 4096`). Together with `C09_no_gap` (pop order = push order): the byte stream delivered
to the follower is the leader's records in log order. -/
theorem C09_batch_order (rs : List (Nat × Nat)) : (sendAll codeRule Batch.empty rs).flush.wire = rs.map (·.1) := by
  have h := (sendAll_code Batch.empty rs (by decide)).1
  have e : (sendAll codeRule Batch.empty rs).flush.wire = (sendAll codeRule Batch.empty rs).all := by simp [Batch.flush, Batch.all]
  rw [e, h]; simp [Batch.all, Batch.empty]

/-- the buffer index never exceeds 4032 between records, so a 64-byte header always fits -/
theorem C09_batch_bound (rs : List (Nat × Nat)) : (sendAll codeRule Batch.empty rs).windex ≤ 4032 :=
  (sendAll_code Batch.empty rs (by decide)).2

/-- the rule is needed: if a record larger than the buffer is exempted from the flush (`… && len(data) <= 4032`, seeded change
C09c), it is written before the small records still waiting in the buffer: SET small, SET small, SET 6000 bytes reaches the
follower as 3, 1, 2. -/
def exemptLargeRule (windex d : Nat) : Bool := decide (windex + 64 + d > 4096 ∧ d ≤ 4032)

theorem C09_batch_order_needs_flush :
    (sendAll exemptLargeRule Batch.empty [(1, 13), (2, 13), (3, 6006)]).flush.wire = [3, 1, 2] := by decide

example : (sendAll codeRule Batch.empty [(1, 13), (2, 13), (3, 6006), (4, 0), (5, 3878)]).flush.wire = [1, 2, 3, 4, 5] := by decide

/-! Per-step statements: one handshake answer, one `SendProcess` iteration. -/

/-- resume: a follower whose log is `1 … m` and which reports `m` is positioned by `Search` exactly after record m -/
theorem C09_resume_partial {A q hist} {f : Fol} {c' : Cursor} (h : Inv A q hist) (hh : HistOk hist) (hq : q.seq < seqNone)
    (hpre : Prefix1 f.log) (hid : f.curId = f.log.length) (hp : search q f.curId newCursor = (.ok, c')) :
    StreamOk q { f with conn := .stream, cur := c' } := by
  obtain ⟨t, hpos, hlen⟩ := search_resume h hh hq (congrArg Prod.fst hp)
  rw [show (search q f.curId newCursor).2 = c' from congrArg Prod.snd hp] at t hpos hlen
  exact ⟨hpos, t.cur, t.has, hpre, Or.inl ⟨t.writed, hlen.trans hid⟩⟩

/-- from scratch with a non-empty buffer: `Head` answered H and the file phase delivered `1 … H-1`; the stream starts with H -/
theorem C09_full_partial {A q hist} {f : Fol} {c' : Cursor} (h : Inv A q hist) (hh : HistOk hist) (hq : q.seq < seqNone)
    (hp : head q newCursor = (.ok, c')) (hpre : Prefix1 f.log) (hlen : f.log.length + 1 = c'.bufId) :
    StreamOk q { f with conn := .stream, cur := c' } := by
  obtain ⟨t, _⟩ := head_ok h (congrArg Prod.fst hp)
  rw [show (head q newCursor).2 = c' from congrArg Prod.snd hp] at t
  have hb := t.bufId hh
  exact ⟨t.pos hq, t.cur, t.has, hpre, Or.inr ⟨t.writed, by show c'.seq = f.log.length; omega, hb⟩⟩

/-- one `SendProcess` iteration applies exactly record m+1 or nothing; on "out of buf" the channel closes, log and id untouched -/
theorem C09_resync_partial {A q hist} {f : Fol} (h : Inv A q hist) (hA : A < M32) (hh : HistOk hist) (hq : q.seq < seqNone)
    (hs : StreamOk q f) :
    ((streamStep q f).2.1.conn = .off ∧ (streamStep q f).2.1.log = f.log ∧ (streamStep q f).2.1.curId = f.curId) ∨
    (StreamOk (streamStep q f).1 (streamStep q f).2.1 ∧ Inv A (streamStep q f).1 hist ∧
      (streamStep q f).2.1.conn = f.conn ∧
      ((streamStep q f).2.1.log = f.log ∨ (streamStep q f).2.1.log = f.log ++ [f.log.length + 1])) := by
  rcases streamStep_spec h hA hh hq hs with e | k
  · rw [e]; exact Or.inl ⟨rfl, rfl, rfl⟩
  · exact Or.inr ⟨k.ok, k.inv, k.conn, k.log.imp And.left And.left⟩

theorem C09_push_keeps_stream {A q hist} {f : Fol} (h : Inv A q hist) (hs : StreamOk q f) (id ord dlen : Nat) :
    StreamOk (push q id ord dlen) f :=
  ⟨hs.pos, push_curOk h hs.cur id ord dlen, push_curHas id ord dlen hs.has, hs.pre, hs.at_⟩

theorem C09_converge_partial {A q hist} {f : Fol} (h : Inv A q hist) (hs : StreamOk q f)
    (hi : (streamStep q f).2.2 = .idle) : f.log = List.range' 1 q.seq := by
  rw [← hs.idle_len h hi]; exact hs.pre

end Slock.C09
