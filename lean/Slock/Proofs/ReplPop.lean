import Slock.Proofs.ReplInv
/-!
What `Pop`, `Head`, `Search` and the acknowledgement return in a state satisfying the invariants. The results are read off the
branches of each operation's definition (`fun_cases`: case k is the k-th leaf of the body).
-/
namespace Slock.Repl

theorem locate_cases {q : Q} {sid it nxt} (h : locate q sid = some (it, nxt)) :
    (∃ pre, q.live = pre ++ it :: nxt) ∨ ((∀ x ∈ q.live, x.sid ≠ sid) ∧ ∃ pre, q.free = pre ++ it :: nxt) := by
  cases hr : after q.live sid with
  | some r =>
    unfold locate at h
    rw [hr] at h
    cases h
    exact Or.inl ((after_some hr).imp fun _ => And.left)
  | none =>
    rw [locate_of_not_live hr] at h
    exact Or.inr ⟨after_none hr, (after_some h).imp fun _ => And.left⟩

theorem locate_isSome {q : Q} {sid} (h : Has q sid) : (locate q sid).isSome := by
  cases hl : locate q sid with
  | some _ => rfl
  | none =>
    have h1 : after q.live sid = none := by
      unfold locate at hl
      split at hl
      · cases hl
      · assumption
    rw [locate_of_not_live h1] at hl
    obtain ⟨it, hm, hs⟩ := h
    rcases List.mem_append.mp hm with hm | hm
    · exact absurd hs (after_none h1 it hm)
    · exact absurd hs (after_none hl it hm)

theorem located_unmarked_live {A q hist sid it nxt} (h : Inv A q hist) (hl : locate q sid = some (it, nxt))
    (hm : it.pollCount ≠ M32) : ∃ pre, q.live = pre ++ it :: nxt := by
  rcases locate_cases hl with h1 | ⟨_, pre, h2⟩
  · exact h1
  · exact absurd (h.freeMarked it (by rw [h2]; simp)) hm

theorem located_marked_notlive {A q hist sid it nxt} (h : Inv A q hist) (hA : A < M32) (hl : locate q sid = some (it, nxt))
    (hm : it.pollCount = M32) : ∀ x ∈ q.live, x.sid ≠ sid := by
  rcases locate_cases hl with ⟨pre, h1⟩ | ⟨h2, _⟩
  · have := h.livePc it (by rw [h1]; simp)
    omega
  · exact h2

theorem takeCur_fields (c : Cursor) (it : Item) (w : Bool) :
    (takeCur c it w).seq = it.seq ∧ ((takeCur c it w).bufId, (takeCur c it w).bufOrd, (takeCur c it w).dlen) = content it ∧
      (takeCur c it w).writed = w ∧ (takeCur c it w).cur = some it.sid := ⟨rfl, rfl, rfl, rfl⟩

/-- What a cursor knows that has just taken a linked item (`Pop`, `Head`: `w = false`; `Search`: `w = true`): it stands at a
buffered position, holds the record pushed at that position, and both cursor invariants hold. -/
structure Took (q : Q) (hist : List (Nat × Nat × Nat)) (c' : Cursor) (w : Bool) : Prop where
  ge : tailSeq q ≤ c'.seq
  lt : c'.seq < q.seq
  record : hist[c'.seq]? = some (c'.bufId, c'.bufOrd, c'.dlen)
  cur : CurOk q c'
  has : CurHas q c'
  writed : c'.writed = w

theorem took {A q hist} (h : Inv A q hist) (c : Cursor) {it : Item} (hm : it ∈ q.live) (w : Bool) :
    Took q hist (takeCur c it w) w := by
  have hl := h.liveOk.mem hm
  refine ⟨hl.1, h.seq ▸ hl.2.1, hl.2.2, fun _ => ⟨h.seq ▸ hl.2.1, it.sid, rfl, fun x hx hs => ?_⟩, fun sid hs => ?_, rfl⟩
  · rw [h.liveOk.seq_inj hx hm hs]
  · cases hs
    exact ⟨it, List.mem_append_left _ hm, rfl⟩

theorem Took.pos {q hist c w} (t : Took q hist c w) (hq : q.seq < seqNone) : c.seq ≠ seqNone :=
  Nat.ne_of_lt (Nat.lt_trans t.lt hq)

def PopGood (q : Q) (hist : List (Nat × Nat × Nat)) (c c' : Cursor) : Prop :=
  Took q hist c' false ∧ (c.seq = seqNone ∨ c'.seq = c.seq + 1)

theorem popTail_ok {A q hist c} (h : Inv A q hist) (hc : CurOk q c)
    (hno : c.seq = seqNone ∨ ∃ sid, c.cur = some sid ∧ ∀ it ∈ q.live, it.sid ≠ sid)
    (hr : (popTail q c).1 = .ok) : PopGood q hist c (popTail q c).2 := by
  revert hr
  -- the leaves of `popTail`: 1 nothing buffered (EOF), 2 the oldest record is not the cursor's successor (out of buf), 3 it is taken
  fun_cases popTail q c <;> intro hr
  case case3 t rest hl hcond =>
    refine ⟨took h c (hl ▸ List.mem_cons_self ..) false, ?_⟩
    by_cases hn : c.seq = seqNone
    · exact Or.inl hn
    · refine Or.inr (Decidable.byContradiction fun h1 => ?_)
      -- the oldest buffered record is record 0, so the record at the cursor's position is buffered: its item is the
      -- cursor's, which `hno` says is not linked
      have h0 : t.seq = 0 := Decidable.byContradiction fun h0 => hcond ⟨h1, h0, hn⟩
      rcases hno with hno | ⟨sid, hs1, hs2⟩
      · exact hn hno
      · obtain ⟨c1, sid', c2, c3⟩ := hc hn
        cases hs1.symm.trans c2
        have hlo := h.liveOk
        have hts : tailSeq q = 0 := by rw [hl] at hlo; exact hlo.1.symm.trans h0
        obtain ⟨x, hx, hxs⟩ := hlo.exists_seq (by omega) (h.seq ▸ c1)
        exact hs2 x hx (c3 x hx hxs)
  all_goals cases hr

/-- NO GAP, one step: a successful `Pop` yields the record that follows the cursor's position in the pushed sequence
(any buffered record if the cursor has no position yet), and it is that record's content. -/
theorem pop_ok {A q hist c} (h : Inv A q hist) (hA : A < M32) (hc : CurOk q c) (hr : (pop q c).1 = .ok) :
    PopGood q hist c (pop q c).2 := by
  revert hr
  -- the leaves of `pop`: 1 no item, 3 item marked as recycled (both: `popTail`), 2 dangling pointer; item `it` unmarked:
  -- 4 another `seq` (out of buf), 5 no successor (EOF), 6 the successor is taken
  fun_cases pop q c <;> intro hr
  case case1 hcur =>
    refine popTail_ok h hc (.inl (Decidable.byContradiction fun hn => ?_)) hr
    obtain ⟨_, sid, c2, _⟩ := hc hn
    cases hcur.symm.trans c2
  case case3 sid hcur it nxt hloc hm => exact popTail_ok h hc (.inr ⟨sid, hcur, located_marked_notlive h hA hloc hm⟩) hr
  case case6 sid hcur it hm hs n rest hloc =>
    obtain ⟨pre, hl⟩ := located_unmarked_live h hloc hm
    have hlo := h.liveOk
    rw [hl] at hlo
    have := hlo.split.2.2.1
    have := Decidable.of_not_not hs
    exact ⟨took h c (by rw [hl]; simp) false, Or.inr (by show n.seq = c.seq + 1; omega)⟩
  all_goals cases hr

theorem popTail_fail {q c} (hp : (popTail q c).1 ≠ .ok) : (popTail q c).2 = c := by
  revert hp
  fun_cases popTail q c <;> intro hp
  case case3 => exact absurd rfl hp
  all_goals rfl

theorem pop_fail {q c} (hp : (pop q c).1 ≠ .ok) : (pop q c).2 = c := by
  revert hp
  fun_cases pop q c <;> intro hp
  case case1 => exact popTail_fail hp
  case case3 => exact popTail_fail hp
  case case6 => exact absurd rfl hp
  all_goals rfl

theorem pop_overtaken {A q hist c} (h : Inv A q hist) (hn : c.seq ≠ seqNone)
    (hov : c.seq + 1 < tailSeq q) (hloc : ∀ sid, c.cur = some sid → (locate q sid).isSome) :
    pop q c = (.oob, c) := by
  have hlo := h.liveOk
  have htail : popTail q c = (.oob, c) := by
    fun_cases popTail q c
    case case1 hl =>
      have := hlo.len
      rw [hl, h.hist_nil hl] at this
      simp at this
      omega
    case case2 => rfl
    case case3 t rest hl hcond =>
      rw [hl] at hlo
      have := hlo.1
      exact absurd ⟨by omega, by omega, hn⟩ hcond
  -- the cursor's item is linked and carries the cursor's `seq`: impossible, the cursor has been overtaken
  have linked : ∀ {sid it nxt}, locate q sid = some (it, nxt) → ¬it.pollCount = M32 → ¬it.seq ≠ c.seq → False := by
    intro sid it nxt hl hm hs
    obtain ⟨pre, hpl⟩ := located_unmarked_live h hl hm
    have := (hlo.mem (it := it) (by rw [hpl]; simp)).1
    have := Decidable.of_not_not hs
    omega
  fun_cases pop q c
  case case1 => exact htail
  case case2 sid hcur hl =>
    have := hloc sid hcur
    rw [hl] at this
    cases this
  case case3 => exact htail
  case case4 => rfl
  case case5 hm hs hl => exact (linked hl hm hs).elim
  case case6 hm hs _ _ hl => exact (linked hl hm hs).elim

theorem pop_eof {A q hist c} (h : Inv A q hist) (hr : (pop q c).1 = .eof) : q.seq = 0 ∨ c.seq + 1 = q.seq := by
  have tail : (popTail q c).1 = .eof → q.seq = 0 := by
    fun_cases popTail q c <;> intro hr
    case case1 hl => rw [h.seq, h.hist_nil hl]; rfl
    all_goals cases hr
  revert hr
  fun_cases pop q c <;> intro hr
  case case1 => exact .inl (tail hr)
  case case3 => exact .inl (tail hr)
  case case5 sid hcur it hm hs hl =>
    obtain ⟨pre, hpl⟩ := located_unmarked_live h hl hm
    have hlo := h.liveOk
    rw [hpl] at hlo
    exact Or.inr (by rw [h.seq, ← Decidable.of_not_not hs]; exact hlo.split.2.2)
  all_goals cases hr

theorem pop_fresh {A q hist} (h : Inv A q hist) :
    (pop q newCursor).1 = .eof ∨ (pop q newCursor).1 = .ok ∧ (pop q newCursor).2.seq = tailSeq q := by
  show (popTail q newCursor).1 = .eof ∨ (popTail q newCursor).1 = .ok ∧ (popTail q newCursor).2.seq = tailSeq q
  fun_cases popTail q newCursor
  case case1 => exact .inl rfl
  case case2 hcond => exact absurd rfl hcond.2.2
  case case3 t rest hl _ =>
    have hlo := h.liveOk
    rw [hl] at hlo
    exact .inr ⟨rfl, hlo.1⟩

theorem head_ok {A q hist c} (h : Inv A q hist) (hr : (head q c).1 = .ok) :
    Took q hist (head q c).2 false ∧ (head q c).2.seq + 1 = q.seq := by
  revert hr
  fun_cases head q c <;> intro hr
  case case1 => cases hr
  case case2 it hit =>
    obtain ⟨pre, hl⟩ := List.getLast?_eq_some_iff.mp hit
    have hlo := h.liveOk
    rw [hl] at hlo
    exact ⟨took h c (by rw [hl]; simp) false, h.seq ▸ hlo.split.2.2⟩

theorem head_fail {q c} (hp : (head q c).1 ≠ .ok) : (head q c).2 = c ∧ q.live = [] := by
  revert hp
  fun_cases head q c <;> intro hp
  case case1 hl => exact ⟨rfl, List.getLast?_eq_none_iff.mp hl⟩
  case case2 => exact absurd rfl hp

/-- a successful `Search` stands on the OLDEST buffered record with the id it was asked for -/
theorem search_ok {A q hist id c} (h : Inv A q hist) (hr : (search q id c).1 = .ok) :
    Took q hist (search q id c).2 true ∧ (search q id c).2.bufId = id ∧
      ∀ p r, tailSeq q ≤ p → p < (search q id c).2.seq → hist[p]? = some r → r.1 ≠ id := by
  revert hr
  fun_cases search q id c <;> intro hr
  case case3 it hf =>
    obtain ⟨hpid, as, bs, hsplit, hfirst⟩ := List.find?_eq_some_iff_append.mp hf
    have hlo := h.liveOk
    refine ⟨took h c (by rw [hsplit]; simp) true, (by simpa using hpid : it.id = id), fun p r h1 (h2 : p < it.seq) hr => ?_⟩
    obtain ⟨x, hx, hxs⟩ := hlo.exists_seq h1 (Nat.lt_trans h2 (hlo.mem (it := it) (by rw [hsplit]; simp)).2.1)
    have hxc := (hlo.mem hx).2.2
    rw [hxs, hr] at hxc
    cases hxc
    -- `x` precedes `it` in the list, because its seq is smaller
    rw [hsplit] at hx hlo
    rcases List.mem_append.mp hx with hx | hx
    · simpa [content] using hfirst x hx
    · rcases List.mem_cons.mp hx with rfl | hx
      · omega
      · have := (hlo.split.2.2.mem hx).1
        omega
  all_goals cases hr

theorem search_miss {A q hist id c} (h : Inv A q hist)
    (hno : ∀ p r, tailSeq q ≤ p → hist[p]? = some r → r.1 ≠ id) :
    ((search q id c).1 = .nf ∨ (search q id c).1 = .eof) ∧ (search q id c).2 = c := by
  fun_cases search q id c
  case case1 => exact ⟨.inr rfl, rfl⟩
  case case2 => exact ⟨.inl rfl, rfl⟩
  case case3 it hf =>
    have hmm := h.liveOk.mem (List.mem_of_find?_eq_some hf)
    exact absurd (by simpa [content] using List.find?_some hf) (hno it.seq (content it) hmm.1 hmm.2.2)

theorem search_hit {A q hist id c} (h : Inv A q hist)
    (hyes : ∃ p r, tailSeq q ≤ p ∧ hist[p]? = some r ∧ r.1 = id) : (search q id c).1 = .ok := by
  obtain ⟨p, r, h1, h2, h3⟩ := hyes
  have hlt : p < hist.length := (List.getElem?_eq_some_iff.mp h2).1
  obtain ⟨x, hx, hxs⟩ := h.liveOk.exists_seq h1 hlt
  have hxc := (h.liveOk.mem hx).2.2
  rw [hxs, h2] at hxc
  cases hxc
  fun_cases search q id c
  case case1 hl => rw [hl] at hx; cases hx
  case case2 hf => exact absurd h3 (by simpa [content] using List.find?_eq_none.mp hf x hx)
  case case3 => rfl

theorem search_fail {q id c} (hp : (search q id c).1 ≠ .ok) : (search q id c).2 = c := by
  revert hp
  fun_cases search q id c <;> intro hp
  case case3 => exact absurd rfl hp
  all_goals rfl

theorem ack_spec {q c q' c' b} (ha : ack q c = some (q', c', b)) :
    Pointwise SamePc q.live q'.live ∧ Pointwise SamePc q.free q'.free ∧ q'.seq = q.seq ∧ q'.pollCount = q.pollCount ∧
      c' = { c with writed := true } := by
  have hr : ∀ a : Item, SamePc a a := fun a => ⟨same_refl a, rfl⟩
  have hf : ∀ a : Item, SamePc a (incPollIndex a) := fun a => ⟨same_incPollIndex a, rfl⟩
  unfold ack at ha
  split at ha
  · rename_i hw
    cases ha
    exact ⟨Pointwise.refl hr _, Pointwise.refl hr _, rfl, rfl, by cases c; cases hw; rfl⟩
  · split at ha
    · cases ha
    · cases ha
      split
      · exact ⟨bumpOne_pointwise _ hr hf ‹_›, Pointwise.refl hr _, rfl, rfl, rfl⟩
      · split
        · exact ⟨Pointwise.refl hr _, bumpOne_pointwise _ hr hf ‹_›, rfl, rfl, rfl⟩
        · exact ⟨Pointwise.refl hr _, Pointwise.refl hr _, rfl, rfl, rfl⟩

theorem ack_inv {A q hist c q' c' b} (h : Inv A q hist) (ha : ack q c = some (q', c', b)) : Inv A q' hist := by
  obtain ⟨a1, a2, a3, a4, _⟩ := ack_spec ha
  exact h.of_samePc a1 a2 a3 (a4 ▸ h.pc)

theorem ack_qsame {q c q' c' b} (ha : ack q c = some (q', c', b)) : QSame q q' := by
  obtain ⟨a1, a2, a3, _⟩ := ack_spec ha
  exact QSame.of_samePc a1 a2 a3

end Slock.Repl
