import Slock.Proofs.Engine2SimUnlock
/-! Simulation stage 2 → stage 1: `RemoveLock` (depth := 0, pop tombstoned heads of the holder queue, promote the next live entry to
`currentLock`) is stage 1's `removeHolder`; the release branch of UNLOCK. -/
namespace Slock.Sim
open Slock Slock.Engine2
open Slock.Engine (has)

/-- the live entries of the holder queue, in order, as stage 1 sees them: unchanged by popping tombstoned heads (the popped live head,
if `take`, put back in front) -/
theorem locksSkip_live (take : Bool) (l : List Nat) (k : Key) (hl : k.locks = l) :
    (((if take then (locksSkip take l k).2.toList else []) ++ (locksSkip take l k).1.locks).filter (fun x => (locksSkip take l k).1.liveHolder x)).map
        (holdOf (locksSkip take l k).1) = (l.filter (fun x => k.liveHolder x)).map (holdOf k) ∧
    (locksSkip take l k).1.current = k.current := by
  obtain ⟨_, e2, e3⟩ := locksSkip_eq take l k hl
  refine ⟨?_, (locksSkip_queues take l k).2⟩
  rw [e2, funext fun x => (e3 x).1, filter_dropWhile (fun a h => by simpa using h)]
  exact List.map_congr_left fun y hy => congrArg Rec.toHold ((e3 y).2 (List.mem_filter.mp hy).2)

/-- **`RemoveLock` is stage 1's `removeHolder`** (given that the live holds are pairwise distinct) -/
theorem holders_removeLock (k : Key) (h : Nat) (hm : h ∈ k.current.toList ++ k.locks) (hl : k.liveHolder h = true) (hh : k.hasRec h)
    (cl : CurLive k) (hnd : (Key.abs k).holders.Nodup) :
    (Key.abs (k.removeLock h)).holders = Engine.removeHolder (Key.abs k).holders (holdOf k h) := by
  have hf : ∀ r : Rec, ({ r with depth := 0 } : Rec).rid = r.rid := fun _ => rfl
  have hlive1 : ∀ y, (k.modRec h (fun r => { r with depth := 0 })).liveHolder y = (k.liveHolder y && (y != h)) := by
    intro y
    by_cases e : y = h
    · subst e
      unfold Key.liveHolder
      rw [getR_modRec_same _ _ _ hh hf]
      simp
    · unfold Key.liveHolder
      rw [getR_modRec_other _ _ _ _ e hf]
      simp [e]
  have hhold1 : ∀ y, y ≠ h → holdOf (k.modRec h (fun r => { r with depth := 0 })) y = holdOf k y := by
    intro y e
    unfold holdOf
    rw [getR_modRec_other _ _ _ _ e hf]
  rw [abs_holders] at hnd
  have hrhs : Engine.removeHolder (Key.abs k).holders (holdOf k h) =
      ((k.current.toList ++ k.locks).filter (fun y => (k.modRec h (fun r => { r with depth := 0 })).liveHolder y)).map
        (holdOf (k.modRec h (fun r => { r with depth := 0 }))) := by
    rw [abs_holders, removeHolder_map _ (holdOf k) h (List.mem_filter.mpr ⟨hm, hl⟩) hnd, List.filter_filter]
    have : (k.current.toList ++ k.locks).filter (fun a => (a != h) && k.liveHolder a) =
        (k.current.toList ++ k.locks).filter (fun y => (k.modRec h (fun r => { r with depth := 0 })).liveHolder y) := by
      apply List.filter_congr; intro y _; rw [hlive1, Bool.and_comm]
    rw [this]
    apply List.map_congr_left
    intro y hy
    have := (List.mem_filter.mp hy).2
    rw [hlive1] at this
    simp only [Bool.and_eq_true, bne_iff_ne, ne_eq] at this
    exact (hhold1 y this.2).symm
  rw [hrhs, abs_holders]
  generalize hk1 : k.modRec h (fun r => { r with depth := 0 }) = k1 at hlive1 hhold1
  have hk1c : k1.current = k.current := by rw [← hk1]; rfl
  have hk1l : k1.locks = k.locks := by rw [← hk1]; rfl
  unfold Key.removeLock
  simp only []
  rw [hk1, ← hk1c, ← hk1l]
  split
  · rename_i hcur
    have hcur' : k1.current = some h := by simpa using hcur
    have hlv2 : ∀ y, ({ k1.unrefOnly h with current := none } : Key).liveHolder y = k1.liveHolder y := by
      intro y
      unfold Key.liveHolder Key.unrefOnly
      show decide (((k1.modRec h _).getR y).depth > 0) = _
      rw [getR_modRec_proj (·.depth) k1 h y _ (by intro _; rfl)]
    have hho2 : ∀ y, holdOf ({ k1.unrefOnly h with current := none } : Key) y = holdOf k1 y := by
      intro y
      unfold holdOf Key.unrefOnly
      show ((k1.modRec h _).getR y).toHold = _
      exact getR_modRec_proj (·.toHold) k1 h y _ (by intro _; rfl)
    have hlocks2 : ({ k1.unrefOnly h with current := none } : Key).locks = k1.locks := rfl
    generalize ({ k1.unrefOnly h with current := none } : Key) = k2 at hlv2 hho2 hlocks2
    obtain ⟨i1, _⟩ := locksSkip_live true k2.locks k2 rfl
    simp only [if_true] at i1
    have e0 : (k1.unrefOnly h).locks = k2.locks := hlocks2.symm
    rw [e0]
    show ((((locksSkip true k2.locks k2).2).toList ++ (locksSkip true k2.locks k2).1.locks).filter
      (fun x => (locksSkip true k2.locks k2).1.liveHolder x)).map (holdOf (locksSkip true k2.locks k2).1) = _
    rw [i1, hcur', hlocks2]
    have hdeadh : k1.liveHolder h = false := by rw [hlive1]; simp
    have e1 : (((some h).toList ++ k1.locks).filter (fun y => k1.liveHolder y)) = k1.locks.filter (fun y => k1.liveHolder y) := by
      simp only [Option.toList_some, List.singleton_append, List.filter, hdeadh]
    rw [e1]
    have : k1.locks.filter (fun y => k2.liveHolder y) = k1.locks.filter (fun y => k1.liveHolder y) := by
      apply List.filter_congr; intro y _; rw [hlv2]
    rw [this]
    apply List.map_congr_left
    intro y _
    exact hho2 y
  · rename_i hcur
    obtain ⟨i1, i2⟩ := locksSkip_live false k1.locks k1 rfl
    simp only [Bool.false_eq_true, if_false, List.nil_append] at i1
    rw [i2, List.filter_append, List.map_append, i1, List.filter_append, List.map_append]
    congr 1
    -- `currentLock` (not `h`) is live and untouched
    cases hc : k1.current with
    | none => rfl
    | some c =>
      have hne : c ≠ h := by
        intro e
        apply hcur
        rw [hc, e]; simp
      have hlc : k1.liveHolder c = true := by
        rw [hlive1]
        have := cl c (hk1c ▸ hc)
        unfold Key.liveHolder
        simp [hne, this]
      have hg := ((locksSkip_eq false k1.locks k1 rfl).2.2 c).2 hlc
      have hlc' : (locksSkip false k1.locks k1).1.liveHolder c = true := by unfold Key.liveHolder at hlc ⊢; rw [hg]; exact hlc
      have e1 : (some c).toList.filter (fun y => (locksSkip false k1.locks k1).1.liveHolder y) = [c] := by
        simp only [Option.toList_some, List.filter, hlc']
      have e2 : (some c).toList.filter (fun y => k1.liveHolder y) = [c] := by
        simp only [Option.toList_some, List.filter, hlc]
      rw [e1, e2]
      show [((locksSkip false k1.locks k1).1.getR c).toHold] = [(k1.getR c).toHold]
      rw [hg]

theorem removeLock_others (k : Key) (rid : Nat) : PKeepX πA (· = rid) (k.removeLock rid) k := by
  unfold Key.removeLock
  simp only []
  have h1 : PKeepX πA (· = rid) (k.modRec rid fun r => { r with depth := 0 }) k := PKeepX.modRec k rid _ (fun _ => rfl) rfl
  split
  · have h2 : PKeepX πA (· = rid) ({ (k.modRec rid fun r => { r with depth := 0 }).unrefOnly rid with current := none } : Key) k :=
      PKeepX.trans (b := (k.modRec rid fun r => { r with depth := 0 }).unrefOnly rid) (PKeepX.of_eq rfl)
        ((PKeepX.of_pk (PKeep.unrefOnly ins_πA _ rid)).trans h1)
    exact PKeepX.trans (b := (Slock.Engine2.locksSkip true
      ({ (k.modRec rid fun r => { r with depth := 0 }).unrefOnly rid with current := none } : Key).locks
      { (k.modRec rid fun r => { r with depth := 0 }).unrefOnly rid with current := none }).1) (PKeepX.of_eq rfl)
      ((PKeepX.of_pk (PKeep.locksSkip ins_πA true _ _)).trans h2)
  · exact (PKeepX.of_pk (PKeep.locksSkip ins_πA false _ _)).trans h1

theorem abs_removeLock (k : Key) (h : Nat) (hm : h ∈ k.current.toList ++ k.locks) (hl : k.liveHolder h = true) (hh : k.hasRec h)
    (cl : CurLive k) (hnd : (Key.abs k).holders.Nodup)
    (sep : ∀ e ∈ k.wait, k.deadWaiter e.rid = false → e.rid ∉ k.current.toList ++ k.locks)
    (hrec : ∀ y ∈ k.wait.map (·.rid), (k.removeLock h).hasRec y) :
    Key.abs (k.removeLock h) = { Key.abs k with holders := Engine.removeHolder (Key.abs k).holders (holdOf k h) } := by
  have px := removeLock_others k h
  have pt : PKeep (·.timeouted) (k.removeLock h) k := PKeep.removeLock ins_timeouted (fun _ _ => rfl) k h
  refine abs_ext ?_ ?_ (holders_removeLock k h hm hl hh cl hnd) ?_ (removeLock_waited k h)
  · show (k.removeLock h).key = k.key
    unfold Key.removeLock; simp only []
    split
    · exact locksSkip_key _ _ _
    · exact locksSkip_key _ _ _
  · show (k.removeLock h).locked = k.locked
    exact removeLock_locked k h
  · refine abs_waiters_eq (removeLock_wait k h) (fun y hy => ⟨pt.val y (hrec y hy), fun hlive => ?_⟩)
    obtain ⟨x, hx, hxe⟩ := List.mem_map.mp hy
    have hne : y ≠ h := fun e => sep x hx (by rw [hxe]; exact hlive) (by rw [hxe, e]; exact hm)
    exact congrArg (fun t => t.2.1) (px.val y hne (hrec y hy))

theorem removeHolder_replaceHolder (l : List Engine.Hold) (H H' : Engine.Hold) (hm : H ∈ l) (hnd : (l.map (·.hid)).Nodup)
    (e : H'.hid = H.hid) : Engine.removeHolder (Engine.replaceHolder l H H') H' = Engine.removeHolder l H := by
  induction l with
  | nil => simp at hm
  | cons x xs ih =>
    simp only [List.map_cons, List.nodup_cons] at hnd
    unfold Engine.replaceHolder
    by_cases hx : x = H
    · rw [if_pos hx]; unfold Engine.removeHolder; rw [if_pos rfl, if_pos hx]
    · have hm' : H ∈ xs := by rcases List.mem_cons.mp hm with h | h; exact absurd h.symm hx; exact h
      have hx' : x ≠ H' := fun e' => hnd.1 (List.mem_map.mpr ⟨H, hm', by rw [e', e]⟩)
      rw [if_neg hx]; unfold Engine.removeHolder; rw [if_neg hx', if_neg hx, ih hm' hnd.2]

theorem relMid_edit (w : W) (c' : Engine.Cmd) (data : Option Bytes) (h : Nat) :
    Edit h (fun r => ({ r with expried := true } : Rec).dropE) (· - (w.k.getR h).depth) 0 w (relMid w c' data h) :=
  (((((Edit.refl w).modR (fun r => { r with expried := true }) (fun _ => rfl) (fun _ => rfl)).modK
    (fun k => { k with locked := k.locked - (w.k.getR h).depth }) (· - (w.k.getR h).depth) rfl rfl rfl rfl rfl rfl).procData .unlock c'
      (frameOf c' data) h).dropLongE).journalUnlock h _ false 0

/-- **`RemoveLock` of a live hold `h`**, after a chain in edit normal form that left its depth and identity alone (`expried := true`,
`locked`, journal, its long-table entry): stage 1's `removeHolder`; `h` is still in transit -/
theorem Live.removeLock {w w4 : W} {k1 : Engine.Key} {h n : Nat} {f : Rec → Rec} {g : Nat → Nat} (l : Live none w k1) (e : Edit h f g n w w4)
    (k4 : Wk True w4 (some h)) (i4 : WI w4) (hm : h ∈ w.k.current.toList ++ w.k.locks) (hd : 0 < (w.k.getR h).depth)
    (hdep : ∀ r, (f r).depth = r.depth) (ht : ∀ r, (f r).timeouted = r.timeouted) (hhid : ∀ r, (f r).hid = r.hid) :
    Live (some h) (w4.modK (·.removeLock h)) { k1 with holders := Engine.removeHolder k1.holders (holdOf w.k h), locked := g k1.locked } := by
  obtain rfl := l.abs
  have hh := hasRec_of_holder l.wk.lv h hm
  -- the view before `RemoveLock`: the hold is still there, edited
  have hnd := l.wi.hidNodup
  obtain ⟨habs4, hl4⟩ := e.abs l.wk.lv l.wi hm hd (by rw [hdep]; exact hd) ht
  have hhold4 : holdOf w4.k h = (f (w.k.getR h)).toHold := e.getR hh Rec.toHold (fun _ => rfl)
  have hhid' : (f (w.k.getR h)).toHold.hid = (holdOf w.k h).hid := hhid _
  obtain ⟨q1, q2, q3⟩ := queues_eq e.q
  have hm4 : h ∈ w4.k.current.toList ++ w4.k.locks := by rw [q1, q2]; exact hm
  have k5 := k4.removeLock
  have hrec5 : ∀ y ∈ w4.k.wait.map (·.rid), (w4.k.removeLock h).hasRec y := fun y hy => by
    obtain ⟨x, hx, hxy⟩ := List.mem_map.mp hy
    exact hxy ▸ wait_hasRec k5.lv x (by show x ∈ (w4.k.removeLock h).wait; rw [removeLock_wait]; exact hx)
  refine ⟨k5, (l.cn.of_cl q1 q2).removeLock h, WI.modK _ (KI.removeLock i4 h), ?_⟩
  show Key.abs (w4.k.removeLock h) = _
  rw [abs_removeLock w4.k h hm4 hl4 ((e.hasRec h).mpr hh) (k4.cur trivial)
    (by rw [habs4]; exact nodup_of_map _ _ ((Engine.replaceHolder_hids hhid').symm ▸ hnd)) i4.wq.sep hrec5, habs4, hhold4]
  show ({ keyRep _ _ _ _ with holders := Engine.removeHolder (Engine.replaceHolder _ _ _) _ } : Engine.Key) = _
  rw [removeHolder_replaceHolder _ _ _ (mem_abs_holders hm hd) hnd hhid']
  rfl

/-- **the hold `h` ends** (`RemoveLock`, the record freed if nothing refers to it any more): stage 1's `removeHolder` -/
theorem relPre_rel {w : W} {a : Engine.DB} {k1 : Engine.Key} {out1 : List Engine.Reply} (r : Rel w a k1 out1) (hg : w.gone = false)
    (h : Nat) (hm : h ∈ w.k.current.toList ++ w.k.locks) (hd : 0 < (w.k.getR h).depth)
    (ki : Engine.KeyInv k1) (hfl : k1.waited = true → k1.waiters ≠ []) (c' : Engine.Cmd) (data : Option Bytes) :
    Rel (relPre w c' data h) a (keyRel k1 (holdOf w.k h)) out1 := by
  have l := r.live hg
  obtain rfl := l.abs
  have hh := hasRec_of_holder l.wk.lv h hm
  have e := relMid_edit w c' data h
  have k6 := ((l.node data hg).relPre hg c' h hh (fun _ => hd)).1.wk
  have l5 : Live (some h) ((relMid w c' data h).modK (·.removeLock h)) (keyRel (Key.abs w.k) (holdOf w.k h)) :=
    l.removeLock e (((l.node data hg).relMid c' h hh).1.wk (e.gone.trans hg))
      (l.wi.edit e (by unfold Rec.dropE; split <;> exact id) (by unfold Rec.dropE; split <;> first | exact id | exact fun _ _ h => nomatch h)
        (by unfold Rec.dropE; split <;> exact fun hd => ⟨hd, rfl⟩) (by unfold Rec.dropE; split <;> exact id))
      hm hd (fun r => by unfold Rec.dropE; split <;> rfl) (fun r => by unfold Rec.dropE; split <;> rfl) (fun r => by unfold Rec.dropE; split <;> rfl)
  have sc5 : SC w ((relMid w c' data h).modK (·.removeLock h)) := e.sc.trans (SC.modK _ _)
  unfold relPre at k6 ⊢
  generalize ((relHead w c' data h).k.getR h).eLong = lg at k6 ⊢
  generalize (relMid w c' data h).modK (·.removeLock h) = w5 at *
  have hg5 := sc5.gone.trans hg
  cases hc : (lg && (w5.k.getR h).refCount == 0) with
  | false =>
    rw [hc] at k6
    show Rel w5 _ _ _
    exact Rel.of_live hg5 (sc5.scal r.sc) (by rw [sc5.out]; exact r.out) ⟨k6 hg5, l5.cn, l5.wi, l5.abs⟩
  | true =>
    have hz : (w5.k.getR h).refCount = 0 := by simp only [Bool.and_eq_true, beq_iff_eq] at hc; exact hc.2
    show Rel (w5.modK (·.free h)).removeIfZero _ _ _
    exact (Rel.of_live (w := w5.modK (·.free h)) hg5 (sc5.scal r.sc) (by show w5.out.map (·.r) = _; rw [sc5.out]; exact r.out)
      (l5.free (l5.wk.lv.unreferenced h hz))).removeIfZero (Engine.release_inv ki (mem_abs_holders hm hd)) hfl

/-- **UNLOCK releasing a hold** (`RemoveLock`, the record freed if nothing refers to it any more, the key record reclaimed if that
was its last record), then the wake pass -/
theorem sim_unlock_release (s : DB) (hq : DBQ s) (c : Engine.Cmd) (data : Option Bytes) (h : Nat) (c' : Engine.Cmd)
    (hcls : classifyUnlock s c = .release h c')
    (hk : KI s.seq (s.getKey c.key)) (hki : Engine.KeyInv (Key.abs (s.getKey c.key)))
    (hfl : (Key.abs (s.getKey c.key)).waited = true → (Key.abs (s.getKey c.key)).waiters ≠ [])
    (m m' : Bool) :
    Agrees (applyUnlock s c data (.release h c')) (Engine.applyUnlock (Engine2.abs s) { c with mgr := m } (.release (holdOf (s.getKey c.key) h) { c' with mgr := m' })) := by
  have hm : h ∈ (s.openKey c.key).k.current.toList ++ (s.openKey c.key).k.locks := classifyUnlock_holder s c h (by rw [hcls]; rfl)
  have hd : 0 < ((s.openKey c.key).k.getR h).depth := classifyUnlock_release_depth s c c' h hcls (cur_getKey hq.dbt.tight c.key)
  have hh := hasRec_of_holder (Good.openKey hq.dbt.dbi hq.dbt.tight c.key).lv h hm
  have r7 := ((relPre_rel (rel_openKey s hq c.key hk) (openKey_live s c.key h hh) h hm hd hki hfl c' data).ctr
    (ctrRel ((s.openKey c.key).k.getR h).depth)).reply c' Engine.RESULT_SUCCED 0 (s.openKey c.key).lockData
  rw [applyUnlock_release_eq, mkReply_mgr]
  exact (abs_getKey s hq.dbt.dbi.kn c.key).symm ▸ r7.wake_end (sim_unlock_finish s hq c data _ hcls) (Engine.release_inv hki (mem_abs_holders hm hd))
    (applyUnlock_release s c data h c') rfl (getKey_key _ _)

end Slock.Sim
