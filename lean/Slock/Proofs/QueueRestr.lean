import Slock.Proofs.QueueMaint
/-! `Restructuring` of the segmented deque: the in-place compaction loop refines "drop the holes". -/
namespace Slock.Queue

/-- loop invariant of the compaction: `g0` / `L0` = flat view / node table when the loop started (cursors rewound),
`r` = global position of the next cell to read -/
structure RInv (g0 : Arr) (L0 : List (Option Arr)) (N B : Nat) (q : Q) (r : Nat) : Prop where
  inv : QInv q
  hn : q.hni = 0
  hq : q.hqi = 0
  shp : shape q.queues = shape L0
  ni : q.nodeIndex = N
  wr : off L0 q.tni + q.tqi ≤ r
  ab : (F q.queues).take (off L0 q.tni + q.tqi) = (g0.take r).filter Option.isSome
  rest : (F q.queues).drop r = g0.drop r
  bq : q.baseQueueSize = B

theorem restrRange_spec (g0 : Arr) (L0 : List (Option Arr)) (N B j len : Nat) (hj : j ≤ N)
    (hlen : (shape L0)[j]? = some (some len)) :
    ∀ n k q, RInv g0 L0 N B q (off L0 j + k) → k + n ≤ len → (j < N ∨ k + n < len) →
      ∃ q', restrRange j k n q = .ok q' ∧ RInv g0 L0 N B q' (off L0 j + k + n) := by
  intro n
  induction n with
  | zero => intro k q hr _ _; exact ⟨q, rfl, hr⟩
  | succ n ih =>
    intro k q hr hk hroom
    obtain ⟨hinv, hn, hq, shp, ni, wr, ab, rest, bq⟩ := hr
    obtain ⟨a, ha, hal⟩ := shape_some (shp ▸ hlen : (shape q.queues)[j]? = some (some len))
    have hk' : k + 1 + n ≤ len := by rw [Nat.add_right_comm]; exact hk
    have hroom' : j < N ∨ k + 1 + n < len := hroom.imp_right fun h => by rw [Nat.add_right_comm]; exact h
    have hkl : k < a.length := hal ▸ Nat.lt_of_lt_of_le (Nat.lt_add_of_pos_right (Nat.succ_pos n)) hk
    have offe : ∀ i, off q.queues i = off L0 i := off_shape shp
    have hcell := F_get_cell q.queues j k a ha hkl
    rw [offe] at hcell
    have hg0 : g0[off L0 j + k]? = some a[k] := by
      have := congrArg List.head? rest
      rw [List.head?_drop, List.head?_drop] at this
      exact this ▸ hcell
    have hrest : (F q.queues).drop (off L0 j + (k + 1)) = g0.drop (off L0 j + (k + 1)) := by
      have := congrArg (List.drop 1) rest
      rwa [List.drop_drop, List.drop_drop] at this
    have hfil : (g0.take (off L0 j + (k + 1))).filter Option.isSome =
        (g0.take (off L0 j + k)).filter Option.isSome ++ [a[k]].filter Option.isSome := by
      show (g0.take (off L0 j + k + 1)).filter Option.isSome = _
      rw [List.take_add_one, hg0]; simp
    unfold restrRange
    simp only [slot, ha, Res.ok_bind, List.getElem?_eq_getElem hkl]
    rw [show off L0 j + k + (n + 1) = off L0 j + (k + 1) + n from Nat.add_right_comm _ n 1]
    cases hc : a[k] with
    | none =>
      rw [hc] at hfil
      exact ih (k + 1) q ⟨hinv, hn, hq, shp, ni, Nat.le_succ_of_le wr, by rw [ab]; simpa using hfil.symm, hrest, bq⟩
        hk' hroom'
    | some x =>
      rw [hc] at hfil
      simp only []
      have hs1 := shape_set_cell q.queues j k a none ha
      have hF1 := F_set_cell q.queues j k a none ha hkl
      rw [offe] at hF1
      -- room: the push does not allocate
      obtain ⟨at_, hat, hatl, st⟩ := hinv.tailNode
      obtain ⟨aj, haj, _, _, _, sj⟩ := hinv.node (ni ▸ hj)
      have eaj : aj = a := Option.some.inj (Option.some.inj (haj.symm.trans ha))
      rw [offe, offe] at st sj
      rw [eaj, hal] at sj
      have tlt := hinv.tlt
      have tle := hinv.tle
      have room : q.tqi + 1 < q.tqs ∨ q.tni + 1 ≤ q.nodeIndex := by
        by_cases c : q.tqi + 1 < q.tqs
        · exact Or.inl c
        · right
          by_cases ct : q.tni ≤ j
          · by_cases ce : q.tni = j
            · have : q.tqs = len := by
                rw [ce, ha] at hat
                rw [← hatl, ← Option.some.inj (Option.some.inj hat), hal]
              rw [ce] at wr
              rcases hroom with h1 | h1 <;> omega
            · omega
          · have : off L0 (j + 1) ≤ off L0 q.tni := off_mono _ (by omega)
            omega
      obtain ⟨q2, p1, p2, p3, p4, p5, p6, p7, p8, p10⟩ := push_frame (hinv.setQueues hs1) (some x) room
      simp only [] at p3 p4 p5 p6 p7 p8 p10
      have shp2 : shape q2.queues = shape L0 := by rw [p3, hs1, shp]
      rw [off_shape shp2, off_shape (hs1.trans shp)] at p8
      rw [off_shape (hs1.trans shp), hF1] at p4
      obtain ⟨_, pp2, pp3⟩ := hinv.pos
      have hlenF : off L0 q.tni + q.tqi < (F q.queues).length := offe q.tni ▸ Nat.lt_of_lt_of_le pp2 pp3
      simp only [p1, Res.ok_bind]
      refine ih (k + 1) q2 ⟨p2, p5 ▸ hn, p6 ▸ hq, shp2, p7 ▸ ni, p8 ▸ Nat.succ_le_succ wr, ?_, ?_, p10 ▸ bq⟩ hk' hroom'
      · rw [p8, p4, List.take_add_one, List.take_set_of_le (Nat.le_refl _), List.take_set_of_le wr, ab,
          List.getElem?_set_self (by rw [List.length_set]; exact hlenF)]
        simpa using hfil.symm
      · rw [p4, List.drop_set_of_lt (show _ < off L0 j + (k + 1) from Nat.lt_succ_of_le wr),
          List.drop_set_of_lt (show off L0 j + k < off L0 j + (k + 1) from Nat.lt_succ_self _)]
        exact hrest

theorem restrNodes_spec (g0 : Arr) (L0 : List (Option Arr)) (N B : Nat) :
    ∀ n j q, RInv g0 L0 N B q (off L0 j) → j + n ≤ N →
      ∃ q', restrNodes j n q = .ok q' ∧ RInv g0 L0 N B q' (off L0 (j + n)) := by
  intro n
  induction n with
  | zero => intro j q hr _; exact ⟨q, rfl, hr⟩
  | succ n ih =>
    intro j q hr hjn
    -- the recorded size of node j is its length, the same as in `L0`
    obtain ⟨a, ha, hsz, _, _, sj⟩ := hr.inv.node (j := j) (by rw [hr.ni]; omega)
    have hlen : (shape L0)[j]? = some (some a.length) := by rw [← hr.shp]; simp [shape, ha]
    rw [off_shape hr.shp, off_shape hr.shp] at sj
    obtain ⟨q1, e1, r1⟩ := restrRange_spec g0 L0 N B j a.length (by omega) hlen a.length 0 q hr (Nat.le_of_eq (Nat.zero_add _))
      (Or.inl (by omega))
    rw [Nat.add_zero, ← sj] at r1
    obtain ⟨q2, e3, r2⟩ := ih (j + 1) q1 r1 (by omega)
    refine ⟨q2, ?_, by rw [show j + (n + 1) = j + 1 + n by omega]; exact r2⟩
    simp only [restrNodes, size, hsz, Res.ok_bind, e1, e3]

theorem QInv.setQueueSize {q : Q} (h : QInv q) (qs : Int) (h1 : 0 < qs) (h2 : qs < 1073741824) :
    QInv { q with queueSize := qs } :=
  .of (h.toTInv.congr rfl rfl rfl rfl rfl) h.headCur h.tailCur h.hle h.tle h.ord h1 h2

theorem restrFree_spec : ∀ fuel T q, QInv { q with nodeIndex := T } →
    ∃ q' T', restrFree fuel T q = .ok (q', T') ∧ QInv { q' with nodeIndex := T' } ∧ T' ≤ T ∧
      abs q' = abs q ∧ q'.nodeIndex = q.nodeIndex ∧ q'.hni = q.hni ∧ q'.hqi = q.hqi ∧
      q'.baseQueueSize = q.baseQueueSize := by
  intro fuel
  induction fuel with
  | zero =>
    intro T q h
    exact ⟨q, T, rfl, h, Nat.le_refl _, rfl, rfl, rfl, rfl, rfl⟩
  | succ fuel ih =>
    intro T q h
    unfold restrFree
    by_cases c : T > q.tni + 1
    · have hq : T < q.queues.length := by rw [h.lenQ']; exact h.niLt
      have hs : T < q.sizes.length := by rw [h.lenS]; exact h.niLt
      have hle : q.hni ≤ q.tni := h.hle
      have hd : detach q T = q := by
        apply detach_eq_self
        · rw [show q.headQueue = .node q.hni from h.hq]; intro e; injection e with e; omega
        · rw [show q.tailQueue = .node q.tni from h.tq]; intro e; injection e; omega
      obtain ⟨n, _, hq'⟩ := h.freeLast (show q.tni < T by omega)
      have ha' := (h.set_behind (i := T) (show q.tni < T by omega) none).1
      simp only [c, if_true, freeNode_eq q T hq hs, hd, Res.ok_bind]
      obtain ⟨q', T', f1, f2, f3, f4, f5, f6, f7, f9⟩ := ih (T - 1)
        { q with queues := q.queues.set T none, sizes := q.sizes.set T 0 } (hq'.setQueueSize q.queueSize h.qsPos h.qsLt)
      exact ⟨q', T', f1, f2, by omega, f4.trans ha', f5, f6, f7, f9⟩
    · simp only [c, if_false]
      exact ⟨q, T, rfl, h, Nat.le_refl _, rfl, rfl, rfl, rfl, rfl⟩

def NoSpare (q : Q) : Prop := q.nodeIndex = q.tni

instance (q : Q) : Decidable (NoSpare q) := by unfold NoSpare; exact inferInstance

theorem QInv_ni_self {q : Q} {T : Nat} (h : QInv q) (e : q.nodeIndex = T) : QInv { q with nodeIndex := T } := by
  subst e; exact h

theorem filter_clean_prefix (g : Arr) (H T : Nat) (hHT : H ≤ T) (hc : ∀ e ∈ g.take H, e = none) :
    (g.take T).filter Option.isSome = ((g.take T).drop H).filter Option.isSome := by
  conv => lhs; rw [← take_append_window hHT]
  rw [List.filter_append, List.filter_eq_nil_iff.mpr fun a ha => by rw [hc a ha]; simp, List.nil_append]

/-- the two compaction loops shared by `Restructuring` and the db.go copies: after rewinding the cursors, every
non-nil cell from the origin to the old tail cursor is re-pushed in order -/
theorem restr_loops {q : Q} (h : QInv q) (hc : HeadClean q) :
    ∃ q0 q1 q2, rewind q = .ok q0 ∧ restrNodes 0 q.tni q0 = .ok q1 ∧ restrRange q.tni 0 q.tqi q1 = .ok q2 ∧
      QInv q2 ∧ q2.hni = 0 ∧ q2.hqi = 0 ∧ q2.nodeIndex = q.nodeIndex ∧ q2.baseQueueSize = q.baseQueueSize ∧
      abs q2 = (abs q).filter Option.isSome := by
  obtain ⟨a0, ha0, hsz0, hq0⟩ := h.toTInv.rewound q.queueSize h.qsPos h.qsLt q.rellac
  obtain ⟨p1, p2, p3⟩ := h.pos
  have r0 : RInv (F q.queues) q.queues q.nodeIndex q.baseQueueSize
      { q with hni := 0, hqi := 0, headQueue := .node 0, tailQueue := .node 0, tni := 0, tqi := 0,
               hqs := a0.length, tqs := a0.length }
      (off q.queues 0) := by
    refine ⟨hq0, rfl, rfl, rfl, rfl, ?_, ?_, ?_, rfl⟩ <;> simp [off_zero]
  obtain ⟨q1, e1, r1⟩ := restrNodes_spec (F q.queues) q.queues q.nodeIndex q.baseQueueSize q.tni 0 _ r0
    (by have := h.tle; omega)
  obtain ⟨at_, hat, hatl, _⟩ := h.tailNode
  have hlenT : (shape q.queues)[q.tni]? = some (some q.tqs) := by simp [shape, hat, hatl]
  rw [Nat.zero_add] at r1
  obtain ⟨q2, e2, r2⟩ := restrRange_spec (F q.queues) q.queues q.nodeIndex q.baseQueueSize q.tni q.tqs h.tle hlenT q.tqi 0 q1
    r1 (by have := h.tlt; omega) (Or.inr (by have := h.tlt; omega))
  rw [Nat.add_zero] at r2
  refine ⟨_, q1, q2, ?_, e1, e2, r2.inv, r2.hn, r2.hq, r2.ni, r2.bq, ?_⟩
  · simp only [rewind, mkRef, ha0, size, hsz0, Res.ok_bind, Res.pure_eq]
  · unfold abs absL
    rw [r2.hn, r2.hq, off_zero, List.drop_zero, off_shape r2.shp, r2.ab]
    exact filter_clean_prefix _ _ _ p1 hc

theorem restructuring_refines {q : Q} (h : QInv q) (hc : HeadClean q) (hns : NoSpare q) :
    ∃ q', restructuring q = .ok q' ∧ QInv q' ∧ abs q' = (abs q).filter Option.isSome ∧ HeadClean q' := by
  unfold NoSpare at hns
  obtain ⟨q0, q1, q2, e0, e1, e2, hq2, hn2, hqi2, ni2, _, ab2⟩ := restr_loops h hc
  obtain ⟨q3, T', e3, hq3, hT', ab3, ni3, hn3, hq3', _⟩ := restrFree_spec q.tni q.tni q2
    (QInv_ni_self hq2 (by rw [ni2]; exact hns))
  obtain ⟨s, _, sz, spos, slt, _⟩ := hq3.node (j := T') (Nat.le_refl _)
  have hni3 : q3.nodeIndex = q.tni := by rw [ni3, ni2]; exact hns
  have hd : ¬ q3.nodeIndex < q.tni - T' := by omega
  have hsub : q3.nodeIndex - (q.tni - T') = T' := by omega
  refine ⟨{ q3 with nodeIndex := T', queueSize := (s.length : Int), rellac := 0 }, ?_,
    .of (hq3.toTInv.congr rfl rfl rfl rfl rfl) hq3.headCur hq3.tailCur hq3.hle hq3.tle hq3.ord
      (by show (0 : Int) < s.length; omega) (by show (s.length : Int) < 1073741824; omega), ?_, ?_⟩
  · simp only [restructuring, e0, e1, e2, e3, Res.ok_bind, hd, if_false, hsub, size, sz, Res.pure_eq]
  · exact ab3.trans ab2
  · exact HeadClean_origin (hn3.trans hn2) (hq3'.trans hqi2)

end Slock.Queue
