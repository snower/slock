import Slock.Proofs.ConnRun
/-! The ghost field `Conn.reg` is exactly the list of will registrations the server accepted for that connection
(the `will c tok _` events it answered `ok`), in order. -/
namespace Slock.Conn

def regDelta (s : Server) (e : Event) (c : Nat) : List Nat :=
  match e with
  | .will c' tok _ _ => if c' = c ∧ (step s e).2 = .ok then [tok] else []
  | _ => []

/-- the will registrations of connection `c` the server accepted during `evs` (starting in `s`), in order -/
def registered : Server → List Event → Nat → List Nat
  | _, [], _ => []
  | s, e :: es, c => regDelta s e c ++ registered (step s e).1 es c

def regOpt (l : List Conn) (c : Nat) : List Nat := ((l[c]?).map (·.reg)).getD []

theorem regOpt_set {l : List Conn} {j : Nat} {x : Conn} (hx : l[j]? = some x) (x' : Conn) (h : x'.reg = x.reg) (c : Nat) :
    regOpt (l.set j x') c = regOpt l c := by
  unfold regOpt
  by_cases e : c = j
  · subst e; rw [get_set_self hx, hx]; simp [h]
  · rw [get_set_ne e]

theorem regOpt_append (l : List Conn) (n : Conn) (hn : n.reg = []) (c : Nat) : regOpt (l ++ [n]) c = regOpt l c := by
  unfold regOpt
  cases h : (l ++ [n])[c]? with
  | none =>
    have : l[c]? = none := by
      rw [List.getElem?_eq_none_iff] at h ⊢
      simp at h; omega
    rw [this]
  | some y =>
    rcases get_append_cases l n c y h with h' | ⟨rfl, rfl⟩
    · rw [h']
    · rw [List.getElem?_eq_none (Nat.le_refl _)]; simp [hn]

theorem Prim.reg {t u : Server} (p : Prim t u) (c : Nat) : regOpt u.conns c = regOpt t.conns c := by
  cases p with
  | owner ow => rfl
  | minor hx a h n => exact regOpt_set hx _ (by rfl) c
  | init hx ho hk cid => exact regOpt_set hx _ (by rfl) c
  | adopt hx ht hnz hl hop => exact regOpt_set hx _ (by rfl) c
  | «open» k o => exact regOpt_append _ _ rfl c
  | @close j x hx ho =>
    obtain ⟨i, e⟩ := closedRec_eq x (drainK (closeState t j x) j x).2
    rw [doClose_eq]
    show regOpt ((t.conns.map (unadopt j)).set j _) c = _
    rw [e, regOpt_set (get_unadopt_of hx) _ (by rw [unadopt_eq]; rfl)]
    unfold regOpt
    rw [List.getElem?_map]
    cases t.conns[c]? with
    | none => rfl
    | some y => simp only [Option.map, unadopt_eq]

theorem regOpt_step (s : Server) (e : Event) (c : Nat) :
    regOpt (step s e).1.conns c = regOpt s.conns c ++ regDelta s e c := by
  by_cases hw : ∃ k tok imm sf, e = .will k tok imm sf
  · obtain ⟨k, tok, imm, sf, rfl⟩ := hw
    unfold regDelta
    cases hd : s.dead with
    | some f =>
      have h1 : step s (.will k tok imm sf) = (s, .ignored) := by unfold step; rw [hd]
      rw [h1]; simp
    | none =>
      have h1 : step s (.will k tok imm sf) = stepWill s k tok imm sf := by unfold step; rw [hd]
      rw [h1]
      rcases stepWill_cases s k tok imm sf with e | ⟨x, hx, _, e⟩ <;> rw [e]
      · simp
      · simp only [and_true]
        show regOpt (s.conns.set k _) c = _
        unfold regOpt
        by_cases e : k = c
        · subst e
          rw [get_set_self hx, hx]; simp
        · rw [get_set_ne (fun h => e h.symm)]; simp [e]
  · have : regDelta s e c = [] := by
      unfold regDelta
      split
      · exact absurd ⟨_, _, _, _, rfl⟩ hw
      · rfl
    rw [this, List.append_nil]
    exact (step_steps s e fun k tok imm sf he => hw ⟨k, tok, imm, sf, he⟩).ind
      (P := fun t => regOpt t.conns c = regOpt s.conns c) (fun _ _ p h => (p.reg c).trans h) rfl

theorem regOpt_fold (evs : List Event) : ∀ (s : Server) (c : Nat),
    regOpt (evs.foldl (fun s e => (step s e).1) s).conns c = regOpt s.conns c ++ registered s evs c := by
  induction evs with
  | nil => intro s c; simp [registered]
  | cons e es ih =>
    intro s c
    simp only [List.foldl_cons, registered]
    rw [ih, regOpt_step, List.append_assoc]

theorem reg_eq_registered (evs : List Event) (c : Nat) (x : Conn) (hx : (run evs).conns[c]? = some x) :
    x.reg = registered {} evs c := by
  have := regOpt_fold evs {} c
  unfold regOpt at this
  have h0 : (({} : Server).conns[c]?) = none := by simp
  rw [h0] at this
  unfold run at hx
  rw [hx] at this
  simpa using this

end Slock.Conn
