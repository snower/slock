import Slock.Proofs.ValueOps
/-! Crash-freedom of M-VALUE over ARBITRARY request bytes: the invariant `CellSane` (every stored cell has its 6 header
    bytes and a property header that fits) is established by the parser's refusal rule and preserved by every operation,
    and under it no operation panics. -/
namespace Slock.Value

def CmdSane (c : Cmd) : Prop := ∃ hdr v, Shape c.data c.flag hdr v ∧ cmdOff c = .ok (6 + hdr.length)

def CellSane : Option Cell → Prop
  | none => True
  | some x => ∃ fl hdr v, Shape x.data fl hdr v

theorem parseFrame_sane (d ex : Bytes) (c : Cmd) (h : parseFrame d ex = some c) :
    c.data = d ∧ c.extra = ex ∧ CmdSane c := by
  rcases d with _ | ⟨a, _ | ⟨b, _ | ⟨c3, _ | ⟨e, _ | ⟨b4, _ | ⟨b5, t⟩⟩⟩⟩⟩⟩ <;> try cases h
  -- the frame has its six header bytes; what remains is whether the property header fits
  have key : ∀ hdr v, t = hdr ++ v → HdrOK b5 hdr →
      some (Cmd.mk (a :: b :: c3 :: e :: b4 :: b5 :: t) ex (b4.toNat / 64) (b4.toNat % 64) b5) = some c →
      c.data = a :: b :: c3 :: e :: b4 :: b5 :: t ∧ c.extra = ex ∧ CmdSane c := by
    intro hdr v ht hok hc
    cases hc
    have s : Shape (a :: b :: c3 :: e :: b4 :: b5 :: t) b5 hdr v := ⟨⟨a, b, c3, e, b4, by rw [ht]⟩, hok⟩
    exact ⟨rfl, rfl, hdr, v, s, Shape.cmdOff (c := ⟨_, ex, _, _, b5⟩) s⟩
  unfold parseFrame at h
  simp only [List.getElem?_cons_succ, List.getElem?_cons_zero] at h
  by_cases hp : hasFlag b5 fPROP = true
  · rw [if_pos hp] at h
    rcases t with _ | ⟨a', _ | ⟨b', rest⟩⟩ <;> try cases h
    simp only [List.getElem?_cons_succ, List.getElem?_cons_zero, List.length_cons] at h
    by_cases hfit : a'.toNat + 256 * b'.toNat + 8 > rest.length + 1 + 1 + 1 + 1 + 1 + 1 + 1 + 1
    · rw [if_pos hfit] at h; cases h
    · rw [if_neg hfit] at h
      exact key (a' :: b' :: rest.take (a'.toNat + 256 * b'.toNat)) (rest.drop (a'.toNat + 256 * b'.toNat))
        (by rw [List.cons_append, List.cons_append, List.take_append_drop])
        (Or.inl ⟨hp, a', b', _, rfl, by rw [List.length_take]; omega⟩) h
  · rw [if_neg hp] at h
    exact key [] t rfl (Or.inr ⟨Bool.eq_false_iff.mpr hp, rfl⟩) h

def Good (r : M (Option Cell)) : Prop := ∃ cur', r = .ok cur' ∧ CellSane cur'

theorem good_ok (cur : Option Cell) (h : CellSane cur) : Good (.ok cur) := ⟨cur, rfl, h⟩

theorem good_cell {x4 : Bytes} {b4 fl : UInt8} {hdr v ex : Bytes} {ct : Nat} {aof : Bool} (h4 : x4.length = 4)
    (hok : HdrOK fl hdr) : Good (.ok (some ⟨x4 ++ b4 :: fl :: (hdr ++ v), ex, ct, aof⟩)) :=
  ⟨_, rfl, fl, hdr, v, shape_of x4 b4 fl hdr v _ h4 rfl hok⟩

theorem unsetCell_sane (aof : Bool) : CellSane (some (unsetCell aof)) :=
  ⟨0, [], [], unsetCell_shape aof⟩

theorem opSet_good (cx : Ctx) (cur : Option Cell) (c : Cmd) (hc : CmdSane c) (hcur : CellSane cur) :
    Good (.ok (opSet cx cur c)) := by
  obtain ⟨hdr, v, s, _⟩ := hc
  have hnew : Good (.ok (some ⟨c.data, c.extra, SET, cx.fromAof⟩)) := ⟨_, rfl, _, hdr, v, s⟩
  cases cur with
  | none => simpa only [opSet, Bool.and_false, Bool.false_eq_true, if_false] using hnew
  | some k =>
    simp only [opSet]
    split
    · exact good_ok _ hcur
    · exact hnew

theorem opUnset_good (cx : Ctx) (cur : Option Cell) (hcur : CellSane cur) : Good (.ok (opUnset cx cur)) := by
  unfold opUnset
  cases cur with
  | none => exact good_ok _ trivial
  | some k =>
    dsimp only
    split
    · exact good_ok _ hcur
    · exact good_ok _ (unsetCell_sane _)

theorem opExecute_good (cx : Ctx) (cur : Option Cell) (c : Cmd) (hc : CmdSane c) (hcur : CellSane cur) :
    Good (opExecute cx cur c) := by
  obtain ⟨hdr, v, s, _⟩ := hc
  rw [opExecute_eq cx cur s]; exact good_ok _ hcur

theorem opIncr_good (cx : Ctx) (cur : Option Cell) (c : Cmd) (hc : CmdSane c) (hcur : CellSane cur) :
    Good (opIncr cx cur c) := by
  obtain ⟨hdr, v, s, _⟩ := hc
  by_cases h8 : v.length = 8
  · rw [opIncr_eight cx cur s h8]
    exact good_cell s.take4_length (hdrOK_flag _ _ _ (flag_or_num_prop _) s.ok)
  · cases hp : cellHasProps cur with
    | false =>
      rw [opIncr_plain cx s h8 hp]
      exact good_cell (x4 := [10, 0, 0, 0]) (hdr := []) rfl (Or.inr ⟨by decide, rfl⟩)
    | true =>
      match cur, hcur, hp with
      | some x, ⟨fl', hdr', v', s'⟩, hp =>
        have hh : hdr' ≠ [] := fun hh => by simp [cellHasProps, s'.cellOff, hh] at hp
        rw [opIncr_props cx s h8 s' hh]
        exact good_cell (le32_length _) (hdrOK_flag _ _ _ (flag_or_num_prop _) s'.ok)

theorem opAppend_good (cx : Ctx) (cur : Option Cell) (c : Cmd) (hc : CmdSane c) (hcur : CellSane cur) :
    Good (opAppend cx cur c) := by
  obtain ⟨hdr, v, s, _⟩ := hc
  cases hl : live cur with
  | false => rw [opAppend_fresh cx s hl]; exact good_cell s.take4_length s.ok
  | true =>
    match cur, hcur, hl with
    | some x, ⟨fl', hdr', v', s'⟩, hl => rw [opAppend_data cx s s' hl]; exact good_cell (le32_length _) s'.ok

theorem opShift_good (cx : Ctx) (cur : Option Cell) (c : Cmd) (hc : CmdSane c) (hcur : CellSane cur) :
    Good (opShift cx cur c) := by
  obtain ⟨hdr, v, s, _⟩ := hc
  cases hl : (live cur && decide (0 < readLE (v.take 4))) with
  | false => rw [opShift_same cx s hl]; exact good_ok _ hcur
  | true =>
    match cur, hcur, hl with
    | some x, ⟨fl', hdr', v', s'⟩, hl =>
      have ⟨hd, hn⟩ := Bool.and_eq_true_iff.mp hl
      rw [opShift_data cx s s' hd (of_decide_eq_true hn)]; exact good_cell (le32_length _) s'.ok

theorem opPush_good (cx : Ctx) (cur : Option Cell) (c : Cmd) (hc : CmdSane c) (hcur : CellSane cur) :
    Good (opPush cx cur c) := by
  obtain ⟨hdr, v, s, _⟩ := hc
  cases hl : liveArr cur with
  | false => rw [opPush_fresh cx s hl]; exact good_cell (le32_length _) (hdrOK_flag _ _ _ (flag_push_prop _) s.ok)
  | true =>
    match cur, hcur, hl with
    | some x, ⟨fl', hdr', v', s'⟩, hl =>
      rw [opPush_array cx s s' hl]; exact good_cell (le32_length _) (hdrOK_flag _ _ _ (flag_push_prop _) s'.ok)

theorem opPop_good (cx : Ctx) (cur : Option Cell) (c : Cmd) (hc : CmdSane c) (hcur : CellSane cur) :
    Good (opPop cx cur c) := by
  obtain ⟨hdr, v, s, _⟩ := hc
  cases hl : (liveArr cur && decide (0 < readLE (v.take 4))) with
  | false => rw [opPop_same cx s hl]; exact good_ok _ hcur
  | true =>
    match cur, hcur, hl with
    | some x, ⟨fl', hdr', v', s'⟩, hl =>
      have ⟨hd, hn⟩ := Bool.and_eq_true_iff.mp hl
      rw [opPop_array cx s s' hd (of_decide_eq_true hn)]; exact good_cell (le32_length _) s'.ok

theorem good_ite {c : Prop} [Decidable c] {a b : M (Option Cell)} (ha : Good a) (hb : Good b) :
    Good (if c then a else b) := by
  split <;> assumption

theorem procOp_good (cx : Ctx) (cur : Option Cell) (c : Cmd) (hc : CmdSane c) (hcur : CellSane cur) :
    Good (procOp cx cur c) :=
  good_ite (opSet_good cx cur c hc hcur) <| good_ite (opUnset_good cx cur hcur) <|
    good_ite (opIncr_good cx cur c hc hcur) <| good_ite (opAppend_good cx cur c hc hcur) <|
    good_ite (opShift_good cx cur c hc hcur) <| good_ite (opExecute_good cx cur c hc hcur) <|
    good_ite (opPush_good cx cur c hc hcur) <| good_ite (opPop_good cx cur c hc hcur) (good_ok _ hcur)

theorem pipeFinish_sane (pre cur : Option Cell) (h : CellSane cur) : CellSane (pipeFinish pre cur) := by
  unfold pipeFinish
  cases cur with
  | none => trivial
  | some k =>
    simp only
    split <;> (split <;> exact h)

theorem pipeLoop_good (rec : Option Cell → Cmd → M (Option Cell)) (L : Nat)
    (hrec : ∀ cur c, CmdSane c → c.data.length ≤ L → CellSane cur → Good (rec cur c))
    (pre : Option Cell) (extra : Bytes) (hpre : CellSane pre) :
    ∀ (fuel : Nat) (rem : Bytes) (cur : Option Cell), rem.length ≤ L → CellSane cur →
      Good (pipeLoop rec pre extra fuel rem cur) := by
  intro fuel
  induction fuel with
  | zero => intro rem cur _ hc; exact good_ok _ hc
  | succ n ih =>
    intro rem cur hL hc
    unfold pipeLoop
    by_cases h4 : rem.length < 4
    · rw [if_pos h4]; exact good_ok _ hc
    rw [if_neg h4]
    dsimp only
    by_cases hov : 4 + readLE (rem.take 4) > rem.length
    · rw [if_pos hov]; exact good_ok _ hc
    rw [if_neg hov]
    cases hparse : parseFrame (rem.take (4 + readLE (rem.take 4))) (rem.drop (4 + readLE (rem.take 4)) ++ extra) with
    | none => exact good_ok _ hc
    | some c =>
      obtain ⟨hdata, _, hsane⟩ := parseFrame_sane _ _ c hparse
      have hcl : c.data.length ≤ L := by rw [hdata, List.length_take]; omega
      have hc1 : CellSane (if c.ctype ≠ EXECUTE then pre else cur) := by split <;> assumption
      obtain ⟨cur2, h2, hs2⟩ := hrec _ c hsane hcl hc1
      simp only [bind, Except.bind, h2]
      exact ih _ _ (by rw [List.length_drop]; omega) hs2

theorem proc_good : ∀ (fuel : Nat) (cx : Ctx) (cur : Option Cell) (c : Cmd),
    c.data.length < fuel → CmdSane c → CellSane cur → Good (proc fuel cx cur c) := by
  intro fuel
  induction fuel with
  | zero => intro cx cur c h; omega
  | succ n ih =>
    intro cx cur c hlen hsane hcur
    unfold proc
    refine good_ite (good_ok _ hcur) (good_ite ?_ (procOp_good cx cur c hsane hcur))
    obtain ⟨hdr, v, s, hoff⟩ := hsane
    have hl := s.length
    simp only [hoff, bind, Except.bind]
    rw [if_neg (by omega)]
    obtain ⟨cur', h1, hs1⟩ := pipeLoop_good (proc n cx) (c.data.drop (6 + hdr.length)).length
      (fun cur0 c0 hs0 hl0 hc0 => ih cx cur0 c0 (by rw [List.length_drop] at hl0; omega) hs0 hc0) cur c.extra hcur _ _ cur
      (Nat.le_refl _) hcur
    rw [h1]
    exact good_ok _ (pipeFinish_sane _ _ hs1)

theorem processFrame_good (cx : Ctx) (cur : Option Cell) (frame : Bytes) (hcur : CellSane cur) :
    Good (processFrame cx cur frame) := by
  unfold processFrame
  split
  · exact good_ok _ hcur
  · rename_i c hparse
    obtain ⟨hdata, _, hsane⟩ := parseFrame_sane _ _ c hparse
    exact proc_good _ cx cur c (by rw [hdata]; omega) hsane hcur

theorem runAll_good (cx : Ctx) : ∀ (frames : List Bytes) (cur : Option Cell), CellSane cur → Good (runAll cx cur frames) := by
  intro frames
  induction frames with
  | nil => intro cur h; exact good_ok _ h
  | cons f fs ih =>
    intro cur h
    obtain ⟨cur', h1, hs1⟩ := processFrame_good cx cur f h
    simp only [runAll, bind, Except.bind, h1]
    exact ih cur' hs1

theorem good_no_panic (r : M (Option Cell)) (h : Good r) : isPanic r = false := by
  obtain ⟨c, hc, _⟩ := h; rw [hc]; rfl

theorem cellWF_sane (cur : Option Cell) (h : CellWF cur) : CellSane cur := by
  cases h with
  | none => trivial
  | unset aof => exact unsetCell_sane aof
  | data g ex ct aof h0 hgw ha hct => exact ⟨g.flag, propHdr g.props, g.payload, encode_shape g hgw⟩

/-- the value a run ends with (`none` = it panicked) -/
def okVal : M (Option Cell) → Option Val
  | .ok c => some (absCell c)
  | .error _ => none

def okCellAll (p : Cell → Bool) : M (Option Cell) → Bool
  | .ok (some c) => p c
  | _ => false

def cx0 : Ctx := ⟨1, false, .lock, false, false, false⟩

end Slock.Value
