import Slock.Proofs.Engine2NzW
/-! Stage-2 engine: `currentLock` always points at a live hold (depth > 0). -/
namespace Slock.Engine2

def CurLive (k : Key) : Prop := ∀ c, k.current = some c → 0 < (k.getR c).depth

/-- `currentLock` unchanged, no record appears, surviving records keep their depth -/
structure DepthKeep (k' k : Key) : Prop where
  cur : k'.current = k.current
  pk : PKeep (·.depth) k' k

namespace DepthKeep
theorem depth {k' k : Key} (d : DepthKeep k' k) : ∀ y, k'.hasRec y → (k'.getR y).depth = (k.getR y).depth := d.pk.val
theorem refl (k : Key) : DepthKeep k k := ⟨rfl, .refl k⟩
theorem trans {a b c : Key} (h1 : DepthKeep a b) (h2 : DepthKeep b c) : DepthKeep a c := ⟨h1.cur.trans h2.cur, h1.pk.trans h2.pk⟩
theorem of_eq {k' k : Key} (h1 : k'.recs = k.recs) (h2 : k'.current = k.current) : DepthKeep k' k := ⟨h2, .of_eq h1⟩
theorem of_up {k' k : Key} (u : RecsUp k' k) (hc : k'.current = k.current) : DepthKeep k' k :=
  ⟨hc, fun y h => (hasRec_of_ids u.ids y).mp h, fun y _ => u.depth y⟩
theorem modRec (k : Key) (rid : Nat) (f : Rec → Rec) (hf : ∀ r, (f r).rid = r.rid := by intro _; rfl) (hd : ∀ r, (f r).depth = r.depth := by intro _; rfl) :
    DepthKeep (k.modRec rid f) k := ⟨rfl, .modRec k rid f hf hd⟩
theorem free (k : Key) (rid : Nat) : DepthKeep (k.free rid) k := ⟨(free_queues k rid).2.2.1, .free k rid⟩
theorem locksPush (k : Key) (rid : Nat) : DepthKeep (k.locksPush rid) k := ⟨(hclosed_current _).locksPush rfl rid, .locksPush ins_depth k rid⟩
theorem locksSkip (take : Bool) (l : List Nat) (k : Key) : DepthKeep (Slock.Engine2.locksSkip take l k).1 k :=
  ⟨(hclosed_current _).locksSkip take l rfl, .locksSkip ins_depth take l k⟩
theorem getWaitLock (k : Key) : DepthKeep k.getWaitLock.1 k := ⟨(wclosed_current _).getWaitLock rfl, .getWaitLock ins_depth k⟩
theorem settleWait (k : Key) : DepthKeep k.settleWait k := ⟨(wclosed_current _).settleWait (fun _ _ h => h) rfl, .settleWait ins_depth k⟩
theorem addWaitLock (k : Key) (rid : Nat) : DepthKeep (k.addWaitLock rid) k :=
  ⟨(wclosed_current _).addWaitLock (fun _ _ h => h) (fun _ _ h => h) rfl rid, .addWaitLock ins_depth k rid⟩
end DepthKeep

theorem CurLive.of_keep {k k' : Key} (h : CurLive k) (d : DepthKeep k' k) (hh : ∀ c, k'.current = some c → k'.hasRec c) : CurLive k' := by
  intro c hc
  rw [d.depth c (hh c hc)]
  exact h c (by rw [← d.cur]; exact hc)

theorem CurLive.addLock {k : Key} (h : CurLive k) (rid : Nat) (f : Rec → Rec) (hf : ∀ r, (f r).rid = r.rid) (hd : ∀ r, (f r).depth = 1)
    (hh : k.hasRec rid) (hcur : ∀ c, (k.addLock rid f).current = some c → (k.addLock rid f).hasRec c) : CurLive (k.addLock rid f) := by
  have g1 : (k.modRec rid f).getR rid = f (k.getR rid) := getR_modRec_same _ _ _ hh hf
  unfold Key.addLock at hcur ⊢
  split
  · intro c hc
    simp only [Option.some.injEq] at hc
    subst hc
    show 0 < ((k.modRec rid f).getR rid).depth
    rw [g1, hd]; exact Nat.one_pos
  · rename_i c0 hc0
    split at hcur
    · rename_i hn; rw [hc0] at hn; exact absurd hn (by simp)
    · intro c hc
      have dk := DepthKeep.locksPush (k.modRec rid f) rid
      have hc' : (k.modRec rid f).current = some c := by rw [← dk.cur]; exact hc
      rw [dk.depth c (hcur c hc)]
      by_cases e : c = rid
      · subst e; rw [g1, hd]; exact Nat.one_pos
      · rw [getR_modRec_other _ _ _ _ e hf]; exact h c hc'

theorem locksSkip_take_live (l : List Nat) (k : Key) (x : Nat) (h : (locksSkip true l k).2 = some x) (hl : k.locks = l) :
    (locksSkip true l k).1.liveHolder x = true := by
  obtain ⟨e1, _, e3⟩ := locksSkip_eq true l k hl
  have hn := List.head?_dropWhile_not (fun x => !k.liveHolder x) l
  rw [← e1, h] at hn
  rw [(e3 x).1]; simpa using hn

theorem CurLive.removeLock {k : Key} (h : CurLive k) (rid : Nat)
    (hcur : ∀ c, (k.removeLock rid).current = some c → (k.removeLock rid).hasRec c) : CurLive (k.removeLock rid) := by
  unfold Key.removeLock at hcur ⊢
  simp only [] at hcur ⊢
  split
  · split at hcur
    · intro c hc
      simp only [] at hc
      have := locksSkip_take_live _ _ c hc rfl
      unfold Key.liveHolder at this
      exact of_decide_eq_true this
    · rename_i h1 h2; exact absurd h1 h2
  · rename_i hne
    split at hcur
    · rename_i h1; exact absurd h1 hne
    · intro c hc
      have dk := DepthKeep.locksSkip false (k.modRec rid fun r => { r with depth := 0 }).locks (k.modRec rid fun r => { r with depth := 0 })
      have hc' : k.current = some c := by
        have := dk.cur; rw [this] at hc; exact hc
      rw [dk.depth c (hcur c hc)]
      have hcr : c ≠ rid := by
        intro e; subst e
        apply hne
        show ((k.modRec c fun r => { r with depth := 0 }).current == some c) = true
        simp [Key.modRec, hc']
      rw [getR_modRec_other _ _ _ _ hcr]
      exact h c hc'

theorem CurLive.addRec {k : Key} (h : CurLive k) (r : Rec) (hh : ∀ c, k.current = some c → k.hasRec c) : CurLive (k.addRec r) := by
  intro c hc
  have hc' : k.current = some c := hc
  have : (k.addRec r).getR c = k.getR c := by
    obtain ⟨x, hx⟩ := hasRec_find k c (hh c hc')
    unfold Key.getR Key.addRec
    simp only []
    rw [List.find?_append, hx]; rfl
  rw [this]; exact h c hc'

def DK (w' w : W) : Prop := DepthKeep w'.k w.k

theorem DK.refl (w : W) : DK w w := DepthKeep.refl _
theorem DK.trans {a b c : W} (h1 : DK a b) (h2 : DK b c) : DK a c := DepthKeep.trans h1 h2
theorem DK.of_k {w w' : W} (h : w'.k = w.k) : DK w' w := by unfold DK; rw [h]; exact DepthKeep.refl _

theorem Chain.dk {data : Option Bytes} {q : Bool} {w0 w : W} (h : Chain data true q w0 w) : DK w w0 := DepthKeep.of_up h.up (queues_eq h.queues).1

theorem dk_when (w : W) (b : Bool) (f : W → W) (h : DK (f w) w) : DK (w.when b f) w := by
  cases b
  · exact DK.refl _
  · exact h
theorem dk_modR (w : W) (rid : Nat) (f : Rec → Rec) (hf : ∀ r, (f r).rid = r.rid := by intro _; rfl) (hd : ∀ r, (f r).depth = r.depth := by intro _; rfl) : DK (w.modR rid f) w :=
  DepthKeep.modRec w.k rid f hf hd
theorem dk_addTimeOut (w : W) (rid : Nat) : DK (w.addTimeOut rid) w := DepthKeep.modRec w.k rid _ (fun _ => rfl) (fun _ => rfl)
theorem dk_schedExpried (w : W) (rid : Nat) : DK (w.schedExpried rid) w := DepthKeep.modRec w.k rid _ (fun _ => rfl) (fun _ => rfl)
theorem dk_addExpried (w : W) (rid : Nat) : DK (w.addExpried rid) w := (book_addExpried w rid).dk.trans (dk_schedExpried _ _)
theorem dk_ref (w : W) (rid : Nat) : DK (w.ref rid) w := DepthKeep.modRec w.k rid _ (fun _ => rfl) (fun _ => rfl)
theorem dk_removeLongT (w : W) (rid : Nat) : DK (w.removeLongT rid) w := ⟨rfl, pk_removeLongT ins_depth w rid (fun _ _ => rfl)⟩
theorem dk_removeLongE (w : W) (rid : Nat) : DK (w.removeLongE rid) w := ⟨rfl, pk_removeLongE ins_depth w rid (fun _ _ => rfl)⟩
theorem dk_dropLongT (w : W) (rid : Nat) : DK (w.dropLongT rid) w := dk_when _ _ _ (dk_removeLongT _ _)
theorem dk_modK (w : W) (f : Key → Key) (h : DepthKeep (f w.k) w.k) : DK (w.modK f) w := h

theorem dk_removeIfZero (w : W) : DK w.removeIfZero w := by
  unfold W.removeIfZero
  split
  · exact DepthKeep.of_eq rfl rfl
  · exact DK.refl _

theorem dk_freeCheck (w : W) (rid : Nat) : DK (w.freeCheck rid) w := by
  unfold W.freeCheck
  exact (dk_removeIfZero _).trans (dk_modK w _ (DepthKeep.free _ _))

theorem dk_unrefCheck (w : W) (rid : Nat) : DK (w.unrefCheck rid) w := by
  unfold W.unrefCheck
  simp only []
  exact (dk_when _ _ _ (dk_freeCheck _ _)).trans (dk_modK w _ (DepthKeep.modRec _ rid _))

theorem hasRec_current {w : W} (l : Lv w zero) : ∀ c, w.k.current = some c → w.k.hasRec c :=
  fun c hc => hasRec_of_holder l c (by simp [hc])

theorem CurLive.of_dk {w w' : W} (h : CurLive w.k) (d : DK w' w) (l : Lv w' zero) : CurLive w'.k := h.of_keep d (hasRec_current l)

end Slock.Engine2
