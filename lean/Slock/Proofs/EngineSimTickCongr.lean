import Slock.Proofs.EngineSimCongr
import Slock.Proofs.EngineSimTickSQOps
import Slock.Proofs.EngineSimTickClock
/-! Stage 1 (M-ENGINE): the steps of the two timer sweeps respect `Sim.Equiv` (same scalar fields, same state under every key) — they read
the database through `getKey` and write it through `setKey`; the entry lists they work on are `Equiv`-invariant under `SQ` (distinct
sequence numbers) and distinct key ids; so one second of server time (`opTick_congr`, over `S3`). -/
namespace Slock.SimTick
open Slock Slock.Engine Slock.Sim

theorem rearmWaiter_congr {a b : DB} (h : Equiv a b) (w : Waiter) : Equiv (rearmWaiter a w) (rearmWaiter b w) := by
  rw [rearmWaiter_eq, rearmWaiter_eq, h.keys, h.tCheck, h.seq]
  exact h.store (seqUp_se h.se) rfl rfl _

theorem rearmHold_congr {a b : DB} (h : Equiv a b) (x : Hold) : Equiv (rearmHold a x) (rearmHold b x) := by
  rw [rearmHold_eq, rearmHold_eq, h.keys, h.eCheck, h.seq]
  exact h.store (seqUp_se h.se) rfl rfl _

theorem fireTimeout_congr {a b : DB} (h : Equiv a b) (key : Nat) (w : Waiter) :
    Equiv (fireTimeout a key w).1 (fireTimeout b key w).1 ∧ (fireTimeout a key w).2 = (fireTimeout b key w).2 := by
  rw [fireTimeout_eq, fireTimeout_eq, h.keys]
  exact wake_store h (toDb_se h.se) rfl rfl _ _

theorem fireExpire_congr {a b : DB} (h : Equiv a b) (key : Nat) (x : Hold) :
    Equiv (fireExpire a key x).1 (fireExpire b key x).1 ∧ (fireExpire a key x).2 = (fireExpire b key x).2 := by
  rw [fireExpire_eq, fireExpire_eq, h.keys]
  exact wake_store h (exDb_se h.se _) rfl rfl _ _

def AccEq {β : Type} (x y : DB × β) : Prop := Equiv x.1 y.1 ∧ x.2 = y.2

theorem foldl_congr {α β : Type} (f : DB × β → α → DB × β) (hf : ∀ x y a, AccEq x y → AccEq (f x a) (f y a)) (l : List α) (x y : DB × β)
    (h : AccEq x y) : AccEq (l.foldl f x) (l.foldl f y) := by
  induction l generalizing x y with
  | nil => exact h
  | cons a as ih => simp only [List.foldl_cons]; exact ih _ _ (hf x y a h)

section
variable {α : Type} (W : Wheel α) (hfi : ∀ {a b : DB} (n : Nat) (x : α), Equiv a b → AccEq (W.fire a n x) (W.fire b n x))
include hfi

theorem _root_.Slock.Engine.Wheel.step2_congr {x y : DB × List Reply} (h : AccEq x y) (v : α) : AccEq (W.step2 x v) (W.step2 y v) := by
  unfold Wheel.step2
  rw [h.1.keys, h.2]
  cases (W.recs (y.1.getKey (W.key v))).find? (W.same v) with
  | none => exact h
  | some v' => exact ⟨(hfi _ v' h.1).1, by show y.2 ++ _ = y.2 ++ _; rw [(hfi _ v' h.1).2]⟩

theorem _root_.Slock.Engine.Wheel.sweep_congr {a b : DB} (c : Nat) (h : Equiv a b) (hs : W.slot a c = W.slot b c) (hl : W.long a c = W.long b c)
    (hre : ∀ {a b : DB} (x : α), Equiv a b → Equiv (W.rearm a x) (W.rearm b x)) : AccEq (W.sweep a c) (W.sweep b c) := by
  unfold Wheel.sweep Wheel.pass1
  simp only []
  rw [hs, hl]
  have p1 := foldl_congr W.step1 (fun x y v hxy => by
    unfold Wheel.step1
    rw [hxy.1.now, hxy.2]
    split
    · exact ⟨hre v hxy.1, rfl⟩
    · exact ⟨hxy.1, rfl⟩) (W.slot b c) (a, []) (b, []) ⟨h, rfl⟩
  rw [p1.2]
  exact foldl_congr W.step2 (fun x y v hxy => W.step2_congr hfi hxy v) _ _ _ ⟨p1.1, rfl⟩

end

theorem fireExpireStep_congr {x y : DB × List Reply} (h : AccEq x y) (w : Hold) : AccEq (fireExpireStep x w) (fireExpireStep y w) := by
  rw [fireExpireStep_eq_wheel, fireExpireStep_eq_wheel]
  exact holdWheel.step2_congr (fun n x he => fireExpire_congr he n x) h w

theorem sweepTimeout_congr {a b : DB} (h : Equiv a b) (ka : KN a) (kb : KN b) (sa : SQ a) (c : Nat) :
    Equiv (sweepTimeout a c).1 (sweepTimeout b c).1 ∧ (sweepTimeout a c).2 = (sweepTimeout b c).2 := by
  rw [sweepTimeout_eq_wheel, sweepTimeout_eq_wheel]
  exact waitWheel.sweep_congr (fun n x he => fireTimeout_congr he n x) c h (sortedW_congr ka kb sa h.keys h.seq _) (sortedW_congr ka kb sa h.keys h.seq _)
    fun x he => rearmWaiter_congr he x

theorem sweepExpire_congr {a b : DB} (h : Equiv a b) (ka : KN a) (kb : KN b) (sa : SQ a) (c : Nat) :
    Equiv (sweepExpire a c).1 (sweepExpire b c).1 ∧ (sweepExpire a c).2 = (sweepExpire b c).2 := by
  rw [sweepExpire_eq_wheel, sweepExpire_eq_wheel]
  exact holdWheel.sweep_congr (fun n x he => fireExpire_congr he n x) c h (sortedH_congr ka kb sa h.keys h.seq _) (sortedH_congr ka kb sa h.keys h.seq _)
    fun x he => rearmHold_congr he x

theorem opTick_congr {a b : DB} (h : Equiv a b) (sa : S3 a) (sb : S3 b) :
    Equiv (opTick a).1 (opTick b).1 ∧ (opTick a).2 = (opTick b).2 := by
  rw [opTick_eq, opTick_eq, midTick_eq, midTick_eq, ← h.now]
  dsimp only
  obtain ⟨t1, t2⟩ := sweepTimeout_congr (equiv_clockT h) sa.clockT.kn sb.clockT.kn sa.clockT.sq (a.now + 1)
  have sa2 := (sweepTimeout_s3 _ (a.now + 1) sa.clockT).clockE (a.now + 1)
  have sb2 := (sweepTimeout_s3 _ (a.now + 1) sb.clockT).clockE (a.now + 1)
  obtain ⟨u1, u2⟩ := sweepExpire_congr (equiv_clockE t1 (a.now + 1)) sa2.kn sb2.kn sa2.sq (a.now + 1)
  exact ⟨u1, by rw [t2, u2]⟩

end Slock.SimTick
