import Slock.Proofs.Engine2SimRel
import Slock.Proofs.Engine2SimBodies
import Slock.Proofs.Engine2SimEnds
/-! Simulation stage 2 → stage 1. A branch enters the judgment `Rel` at `rel_enter` (LOCK) or `rel_openKey` (UNLOCK) and leaves it at
`Rel.stop` or `Rel.wake_end`; then LOCK's branches that make a lock record: the two grants, and the refusals. -/
namespace Slock.Sim
open Slock Slock.Engine2
open Slock.Engine (has)

theorem abs_newLock (w : W) (l : Lv w zero) (c : Engine.Cmd) (d : Option Bytes) : Key.abs (w.newLock c d).1.k = Key.abs w.k :=
  abs_eq_x (X := (· = w.db.nextRid)) rfl rfl rfl rfl (PKeepX.addRec w.k _ rfl) (nextRid_not_queued l)
    (hasRec_of_queues (l.newLock zero_nonneg c d).1 rfl)

theorem rel_enter (s : DB) (hq : DBQ s) (n : Nat) (hk : KI s.seq (s.getKey n)) :
    Rel (s.enter n) (Engine2.abs s) (Key.abs (s.getKey n)) [] :=
  Rel.of_live (enter_gone s n) (scal_enter s n) (by rw [enter_out]; rfl)
    ⟨Wk.enter hq.dbt.dbi (fun _ => hq.dbt.tight) n, by rw [enter_k]; exact (qi_getKey hq.qi n).cn,
     by unfold WI; rw [enter_k, (enter_fields s n).2.2.2.2.1]; exact hk, by rw [enter_k]⟩

theorem rel_openKey (s : DB) (hq : DBQ s) (n : Nat) (hk : KI s.seq (s.getKey n)) :
    Rel (s.openKey n) (Engine2.abs s) (Key.abs (s.getKey n)) [] :=
  ⟨scal_openKey s n, rfl, rfl, rfl,
   fun _ => ⟨Wk.openKey hq.dbt.dbi (fun _ => hq.dbt.tight) n, (qi_getKey hq.qi n).cn, hk, rfl⟩,
   fun hg => by
    have hk : s.hasKey n = false := by simpa [DB.openKey] using hg
    rw [getKey_of_not_hasKey s n hk]; exact abs_isEmpty_newKey n⟩

/-- the end of a branch that does not run the wake pass: the key record is stored back as it stands -/
theorem Rel.stop {s : DB} {key : Nat} {w0 w : W} {a1 : Engine.DB} {k1 : Engine.Key} {out1 : List Engine.Reply} (r : Rel w a1 k1 out1)
    (C : Commits s key w0) (hw : w0 = w) (hkeys : a1.keys = (Engine2.abs s).keys) (hk : k1.key = key) :
    Agrees w0 (a1.setKey k1, out1) := by
  subst hw
  exact ⟨C _ _ hkeys hk r.sc r.loc, r.out⟩

/-- the end of a branch that runs the wake pass first -/
theorem Rel.wake_end {s : DB} {key : Nat} {w0 w : W} {a1 : Engine.DB} {k1 : Engine.Key} {out1 : List Engine.Reply} (r : Rel w a1 k1 out1)
    (C : Commits s key w0) (ki : Engine.KeyInv k1) (hw : w0 = w.wake) (hkeys : a1.keys = (Engine2.abs s).keys) (hk : k1.key = key) :
    Agrees w0 (wakeStore a1 k1 out1) := by
  subst hw
  obtain ⟨r1, r2, r3⟩ := r.wake ki
  exact ⟨C _ _ ((Engine.wake_keys _ _ _).trans hkeys) ((Engine.wake_key _ _ _).trans hk) r1 r2, r3⟩

/-- `AddLock` … reply: stage 1's `grantHold` -/
theorem lockGrant_rel {w : W} {a : Engine.DB} {k1 : Engine.Key} {out1 : List Engine.Reply} (r : Rel w a k1 out1) (hg : w.gone = false)
    (c : Engine.Cmd) (data : Option Bytes) :
    Rel (lockGrant w c data) (dbG a) (keyG k1 (Engine.grantedHold a c)) (out1 ++ [Engine.mkReply c Engine.RESULT_SUCCED (k1.locked + 1) 1]) := by
  unfold lockGrant
  have l := r.live hg
  obtain rfl := l.abs
  have le := l.wk.lv
  obtain ⟨ln, hn, _, _, _, hr⟩ := le.newLock zero_nonneg c data
  have g := newRec_grantable w c data hn hr
  have kg := ((l.wk.newLock c data).grant g).1
  have hnot : w.db.nextRid ∉ (w.newLock c data).1.k.current.toList ++ (w.newLock c data).1.k.locks :=
    fun hm => nextRid_not_queued le _ (List.mem_append_left _ hm) rfl
  obtain ⟨_, _, w3⟩ := grant_wait_t (w.newLock c data).1 w.db.nextRid
  obtain ⟨s1, s2, s3⟩ := grant_sim ln (l.cn.of_cl rfl rfl) (r.sc.newLock c data) w.db.nextRid g hnot (by rw [hr]; rfl)
  rw [hr] at s2 s3
  exact Rel.of_live ((gone_grant _ _).trans hg) s1 (s3.trans (by rw [← r.out]; rfl))
    ⟨kg, fun h => absurd h w3, (l.wi.newLock le c data).grant _ g hnot, s2.trans (by rw [abs_newLock w le]; rfl)⟩

/-- **LOCK, direct grant with a hold**, at the level of `applyLock`, for any state with `DBQ` and `KI` of the key (`SimP.sim_lock_grant`: this
and `sim_lock_grantNoHold` for a reachable state, at the level of `opLock`) -/
theorem sim_lock_grant (s : DB) (hq : DBQ s) (c : Engine.Cmd) (data : Option Bytes) (hcls : classifyLock s c data = .grant)
    (hk : KI s.seq (s.getKey c.key)) (hki : Engine.KeyInv (Key.abs (s.getKey c.key))) :
    Agrees (applyLock s c data .grant) (Engine.applyLock (Engine2.abs s) c .grant) := by
  have r1 := lockGrant_rel (rel_enter s hq c.key hk) (enter_gone s c.key) c data
  have happ := applyLock_grant s c data
  rw [enter_k] at happ
  rw [applyLock_grant_eq, abs_getKey s hq.dbt.dbi.kn c.key, show (Key.abs (s.getKey c.key)).waited = (s.getKey c.key).waited from rfl]
  cases hwd : (s.getKey c.key).waited with
  | false => rw [hwd] at happ; rw [if_neg Bool.false_ne_true]; exact r1.stop (sim_lock_finish s hq c data _ hcls) happ rfl (getKey_key _ _)
  | true => rw [hwd] at happ; rw [if_pos rfl]; exact r1.wake_end (sim_lock_finish s hq c data _ hcls) (Engine.grantHold_inv _ _ _ hki) happ rfl (getKey_key _ _)

/-- the new lock record is in no queue: stage 1 sees nothing of it; it is the record in transit -/
theorem Live.newLock {w : W} {k1 : Engine.Key} (l : Live none w k1) (c : Engine.Cmd) (d : Option Bytes) :
    Live (some w.db.nextRid) (w.newLock c d).1 k1 :=
  ⟨l.wk.newLock c d, l.cn, l.wi.newLock l.wk.lv c d, (abs_newLock w l.wk.lv c d).trans l.abs⟩

theorem lockFree_rel {w : W} {a : Engine.DB} {k1 : Engine.Key} {out1 : List Engine.Reply} (r : Rel w a k1 out1) (hg : w.gone = false)
    (c : Engine.Cmd) (data : Option Bytes) : Rel (lockFree w c data) a k1 out1 := by
  unfold lockFree
  have l := r.live hg
  obtain ⟨_, _, _, hq0, _, _⟩ := l.wk.lv.newLock zero_nonneg c data
  have eg := (Edit.refl (h := w.db.nextRid) (w.newLock c data).1).grantNoHold w.db.nextRid
  exact Rel.of_live (eg.gone.trans hg) (eg.sc.scal (r.sc.newLock c data)) (eg.out ▸ r.out)
    (((l.newLock c data).book eg.locked (book_grantNoHold _ _)).free ((qRefs_of_queues eg.q _).trans hq0))

theorem sim_lock_grantNoHold (s : DB) (hq : DBQ s) (c : Engine.Cmd) (data : Option Bytes) (hcls : classifyLock s c data = .grantNoHold)
    (hk : KI s.seq (s.getKey c.key)) (hki : Engine.KeyInv (Key.abs (s.getKey c.key)))
    (hfl : (Key.abs (s.getKey c.key)).waited = true → (Key.abs (s.getKey c.key)).waiters ≠ []) :
    Agrees (applyLock s c data .grantNoHold) (Engine.applyLock (Engine2.abs s) c .grantNoHold) := by
  have r3 := ((((lockFree_rel (rel_enter s hq c.key hk) (enter_gone s c.key) c data).removeIfZero hki hfl).ctr ctrL).reply c
    Engine.RESULT_SUCCED 0 (s.enter c.key).lockData)
  have happ := applyLock_grantNoHold s c data
  rw [enter_k] at happ
  rw [applyLock_grantNoHold_eq, abs_getKey s hq.dbt.dbi.kn c.key, show (Key.abs (s.getKey c.key)).waited = (s.getKey c.key).waited from rfl]
  cases hwd : (s.getKey c.key).waited with
  | false => rw [hwd] at happ; rw [if_neg Bool.false_ne_true]; exact r3.stop (sim_lock_finish s hq c data _ hcls) happ rfl (getKey_key _ _)
  | true => rw [hwd] at happ; rw [if_pos rfl]; exact r3.wake_end (sim_lock_finish s hq c data _ hcls) hki happ rfl (getKey_key _ _)

theorem Rel.newLock_free {w : W} {a : Engine.DB} {k1 : Engine.Key} {out1 : List Engine.Reply} (r : Rel w a k1 out1) (hg : w.gone = false)
    (c : Engine.Cmd) (d : Option Bytes) : Rel ((w.newLock c d).1.modK (·.free w.db.nextRid)) a k1 out1 :=
  have l := r.live hg
  Rel.of_live hg (r.sc.newLock c d) r.out (((l.newLock c d).free (l.wk.lv.newLock zero_nonneg c d).2.2.2.1))

/-- the records that were there are still there -/
theorem newFree_recs {w : W} (l : Lv w zero) (c : Engine.Cmd) (d : Option Bytes)
    (h : ((w.newLock c d).1.modK (·.free w.db.nextRid)).k.recs = []) : w.k.recs = [] := by
  cases hr : w.k.recs with
  | nil => rfl
  | cons r rs =>
    exfalso
    have hmem : r ∈ w.k.recs := by rw [hr]; simp
    have hfr := l.side.fresh r hmem
    have : r ∈ ((w.newLock c d).1.k.free w.db.nextRid).recs := by
      unfold Key.free
      split
      · exact List.mem_filter.mpr ⟨List.mem_append_left _ hmem, by simp; omega⟩
      · exact List.mem_append_left _ hmem
    rw [show ((w.newLock c d).1.k.free w.db.nextRid).recs = [] from h] at this; simp at this

/-- the refusals of LOCK: stage 1 stores its key back as it was -/
def quietL : Engine2.LockBranch → Bool
  | .p0a | .p0b | .stateError | .show _ | .updateEqual _ | .relockNoHold _ | .relockRefused _ | .unlockedWaitRefused | .timeout => true
  | _ => false

/-- **LOCK, the refusals**, for any state with `DBQ` and `KI` of the key (`SimP.sim_lock_quiet`: for a reachable state) -/
theorem sim_lock_quiet (s : DB) (hq : DBQ s) (c : Engine.Cmd)
    (hcell : (s.getKey c.key).cell = none)
    (hp : has c.tflag Engine.TF_PRIORITY = true →
      Engine.checkWaitPriority (Engine2.Key.abs (s.getKey c.key)) c = Engine2.checkWaitPriority (s.getKey c.key) c)
    (hk : KI s.seq (s.getKey c.key)) (hb : quietL (Engine2.classifyLock s c none) = true) :
    Equiv (Engine2.abs (Engine2.opLock s c none).1) (Engine.opLock (Engine2.abs s) c).1 ∧
    (Engine2.opLock s c none).2.map (·.r) = (Engine.opLock (Engine2.abs s) c).2 := by
  have hkabs := abs_getKey s hq.dbt.dbi.kn c.key
  unfold Engine.opLock
  rw [classify_lock_refines s hq c hcell hp]
  unfold opLock
  simp only []
  have re := rel_enter s hq c.key hk
  have ro := rel_openKey s hq c.key hk
  -- the key record is reclaimed only if it was made for this request
  have hem : (s.enter c.key).k.recs = [] → (Key.abs (s.getKey c.key)).isEmpty = true :=
    fun h => abs_empty_of_gone s hq c.key (by rw [← enter_k]; exact h)
  generalize hcls : classifyLock s c none = b at hb ⊢
  have fin : ∀ {w : W} {out1 : List Engine.Reply}, Rel w (Engine2.abs s) (Key.abs (s.getKey c.key)) out1 → applyLock s c none b = w →
      Engine.applyLock (Engine2.abs s) c (absLB (s.getKey c.key) b) = (Engine2.abs s, out1) →
      Agrees (applyLock s c none b) (Engine.applyLock (Engine2.abs s) c (absLB (s.getKey c.key) b)) := by
    intro w out1 r hw e1
    obtain ⟨h1, h2⟩ := r.stop (sim_lock_finish s hq c none _ hcls) hw rfl (getKey_key _ _)
    rw [e1]
    exact ⟨h1.trans (by rw [← hkabs]; exact Equiv.setKey_self _ c.key), h2⟩
  cases b with
  | p0a => exact fin (ro.reply c Engine.RESULT_TIMEOUT 0 _) rfl (by simp only [Engine.applyLock, absLB, hkabs]; rfl)
  | p0b => exact fin (ro.setOut [{ r := Engine.mkReply c Engine.RESULT_TIMEOUT 0 0, data := none }]) rfl rfl
  | stateError =>
    exact fin ((re.removeIfZero_of (fun _ => hem)).reply c Engine.RESULT_STATE_ERROR 0 _) rfl (by simp only [Engine.applyLock, absLB, hkabs]; rfl)
  | «show» cur => exact fin (re.reply _ Engine.RESULT_UNOWN_ERROR _ _) rfl (by simp only [Engine.applyLock, absLB, hkabs, enter_k]; rfl)
  | updateEqual h => exact fin (re.reply _ Engine.RESULT_LOCKED_ERROR _ _) rfl (by simp only [Engine.applyLock, absLB, hkabs, enter_k]; rfl)
  | relockNoHold h => exact fin (re.reply c Engine.RESULT_SUCCED _ _) rfl (by simp only [Engine.applyLock, absLB, hkabs, enter_k]; rfl)
  | relockRefused h => exact fin (re.reply c Engine.RESULT_LOCKED_ERROR _ _) rfl (by simp only [Engine.applyLock, absLB, hkabs, enter_k]; rfl)
  | unlockedWaitRefused => exact fin (re.reply c Engine.RESULT_UNOWN_ERROR 0 _) rfl (by simp only [Engine.applyLock, absLB, hkabs]; rfl)
  | timeout =>
    exact fin (((re.newLock_free (enter_gone s c.key) c none).removeIfZero_of
        (fun _ h => hem (newFree_recs (Lv.enter hq.dbt.dbi c.key) c none h))).reply c Engine.RESULT_TIMEOUT 0 _) rfl
      (by simp only [Engine.applyLock, absLB, hkabs]; rfl)
  | _ => simp [quietL] at hb

end Slock.Sim
