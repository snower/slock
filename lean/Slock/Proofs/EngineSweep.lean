import Slock.Proofs.Engine
/-!
The two timer sweeps as ONE sweep over an interface of scheduled records: `Wheel α` lists what a sweep needs to know of its
records, and `sweepTimeout` and `sweepExpire` are the two instances of the sweep written once. So induction over a sweep,
"never early" and "not late" are proved once. In "not late" the generic proof does the work-list bookkeeping and `Wheel.Laws`
says what each side supplies: that a record is found under the key it names, and that a re-armed or fired record is gone,
or scheduled ahead, afterwards. Last, one second of server time as two sweeps between moves of the clock.
-/
namespace Slock.Engine

structure Wheel (α : Type) where
  recs : Key → List α          -- the records of a key that are on this wheel
  sched : α → Sched
  dl : α → Nat                  -- deadline
  key : α → Nat                 -- the key id the record names
  same : α → α → Bool           -- how the firing pass finds a collected record again
  rearm : DB → α → DB
  fire : DB → Nat → α → DB × List Reply

namespace Wheel
variable {α : Type}

def all (W : Wheel α) (db : DB) : List α := db.keys.flatMap W.recs

def slot (W : Wheel α) (db : DB) (c : Nat) : List α :=
  sortBySeq (fun a => (W.sched a).seq) ((W.all db).filter (fun a => (W.sched a).visit == c && !(W.sched a).long))

def long (W : Wheel α) (db : DB) (c : Nat) : List α :=
  sortBySeq (fun a => (W.sched a).seq) ((W.all db).filter (fun a => (W.sched a).visit == c && (W.sched a).long))

/-- the collecting critical section: visit one slot entry -/
def step1 (W : Wheel α) (acc : DB × List α) (a : α) : DB × List α :=
  if W.dl a > acc.1.now then (W.rearm acc.1 a, acc.2) else (acc.1, acc.2 ++ [a])

/-- pass 1: re-arm what is not due; returns the records to fire (due slot entries, then the long-table entries of `c`) -/
def pass1 (W : Wheel α) (db : DB) (c : Nat) : DB × List α :=
  let r := (W.slot db c).foldl W.step1 (db, [])
  (r.1, r.2 ++ W.long db c)

/-- fire one collected record, if it is still there -/
def step2 (W : Wheel α) (acc : DB × List Reply) (a : α) : DB × List Reply :=
  match (W.recs (acc.1.getKey (W.key a))).find? (W.same a) with
  | some a' => ((W.fire acc.1 (W.key a) a').1, acc.2 ++ (W.fire acc.1 (W.key a) a').2)
  | none => acc

def sweep (W : Wheel α) (db : DB) (c : Nat) : DB × List Reply :=
  let p := W.pass1 db c
  p.2.foldl W.step2 (p.1, [])

/-- record `a` is on the wheel, under key id `n` -/
def At (W : Wheel α) (d : DB) (n : Nat) (a : α) : Prop := ∃ k ∈ d.keys, k.key = n ∧ a ∈ W.recs k

end Wheel

def waitWheel : Wheel Waiter :=
  ⟨(·.waiters), (·.sched), (·.timeoutT), (·.cmd.key), fun w x => x.cmd.req == w.cmd.req && x.conn == w.conn, rearmWaiter, fireTimeout⟩

def holdWheel : Wheel Hold :=
  ⟨(·.holders), (·.sched), (·.expT), (·.cmd.key), fun h x => x.hid == h.hid, rearmHold, fireExpire⟩

/- The model's `match` on an `Option Waiter` / `Option Hold` and the generic `match` on an `Option α` are compiled to
different auxiliary matchers, which `rfl` does not identify while the scrutinee is stuck: the firing step is bridged by a case
split, the sweep then by rewriting with it. -/
theorem fireTimeoutStep_eq_wheel (acc : DB × List Reply) (w : Waiter) : fireTimeoutStep acc w = waitWheel.step2 acc w := by
  unfold fireTimeoutStep Wheel.step2
  split <;> rename_i h <;> simp only [waitWheel, h]
theorem fireExpireStep_eq_wheel (acc : DB × List Reply) (x : Hold) : fireExpireStep acc x = holdWheel.step2 acc x := by
  unfold fireExpireStep Wheel.step2
  split <;> rename_i h <;> simp only [holdWheel, h]
theorem sweepTimeout_eq_wheel (db : DB) (c : Nat) : sweepTimeout db c = waitWheel.sweep db c := by
  unfold sweepTimeout Wheel.sweep
  rw [show fireTimeoutStep = waitWheel.step2 from funext fun a => funext (fireTimeoutStep_eq_wheel a)]; rfl
theorem sweepExpire_eq_wheel (db : DB) (c : Nat) : sweepExpire db c = holdWheel.sweep db c := by
  unfold sweepExpire Wheel.sweep
  rw [show fireExpireStep = holdWheel.step2 from funext fun a => funext (fireExpireStep_eq_wheel a)]; rfl
namespace Wheel
variable {α : Type} {W : Wheel α}

theorem At.all {d : DB} {n : Nat} {a : α} (h : W.At d n a) : a ∈ W.all d := by
  obtain ⟨k, hk, _, ha⟩ := h
  exact List.mem_flatMap.mpr ⟨k, hk, ha⟩

theorem mem_slot {db : DB} {c : Nat} {a : α} :
    a ∈ W.slot db c ↔ a ∈ W.all db ∧ (W.sched a).visit = c ∧ (W.sched a).long = false := by
  unfold Wheel.slot
  rw [mem_sortBySeq_iff, List.mem_filter]
  simp

theorem mem_long {db : DB} {c : Nat} {a : α} :
    a ∈ W.long db c ↔ a ∈ W.all db ∧ (W.sched a).visit = c ∧ (W.sched a).long = true := by
  unfold Wheel.long
  rw [mem_sortBySeq_iff, List.mem_filter]
  simp

/-- Induction over a sweep. What is re-armed is a copy collected when the sweep began: `hre` is given `a ∈ W.all db`, not that
`a` is still on the wheel of `d`. What is fired has just been looked up, so `hfi` is given it under its key in `d`. -/
theorem sweep_induct {P : DB → List Reply → Prop} (db : DB) (c : Nat) (o0 : List Reply)
    (hre : ∀ d out a, a ∈ W.all db → W.dl a > d.now → P d out → P (W.rearm d a) out)
    (hfi : ∀ d out key a, a ∈ W.recs (d.getKey key) → P d out → P (W.fire d key a).1 (out ++ (W.fire d key a).2))
    (h : P db o0) : P (W.sweep db c).1 (o0 ++ (W.sweep db c).2) := by
  unfold Wheel.sweep Wheel.pass1
  refine foldl_induct (fun acc : DB × List Reply => P acc.1 (o0 ++ acc.2)) _ _ (fun acc a _ ha => ?_) _ ?_
  · unfold Wheel.step2
    split
    · rename_i a' hf
      dsimp only; rw [← List.append_assoc]
      exact hfi _ _ _ a' (List.mem_of_find?_eq_some hf) ha
    · exact ha
  · rw [List.append_nil]
    refine foldl_induct (fun acc : DB × List α => P acc.1 o0) _ _ (fun acc a hm ha => ?_) _ h
    unfold Wheel.step1
    split
    · rename_i hd; exact hre _ _ a (mem_slot.mp hm).1 hd ha
    · exact ha

/-- what pass 1 hands to the firing pass: only records whose deadline has been reached -/
theorem pass1_due (db : DB) (c : Nat) (hlong : ∀ a ∈ W.all db, (W.sched a).long = true → (W.sched a).visit = W.dl a)
    (hnow : ∀ d a, (W.rearm d a).now = d.now) (hc : c = db.now) : ∀ a ∈ (W.pass1 db c).2, W.dl a ≤ db.now := by
  unfold Wheel.pass1
  intro a ha
  rcases List.mem_append.mp ha with ha | ha
  · -- a slot entry is collected only when its deadline is not ahead; visits leave the time alone
    refine (foldl_induct (fun acc : DB × List α => acc.1.now = db.now ∧ ∀ x ∈ acc.2, W.dl x ≤ db.now)
      W.step1 _ (fun acc b _ hb => ?_) (db, []) ⟨rfl, fun _ h => nomatch h⟩).2 a ha
    unfold Wheel.step1
    split
    · exact ⟨(hnow _ _).trans hb.1, hb.2⟩
    · refine ⟨hb.1, fun x hx => ?_⟩
      rcases List.mem_append.mp hx with hx | hx
      · exact hb.2 x hx
      · rw [List.mem_singleton.mp hx]; omega
  · -- long-table entries of second c are keyed by their deadline
    obtain ⟨hall, hv, hl⟩ := mem_long.mp ha
    have := hlong a hall hl
    omega

/-- every record on the wheel is already scheduled past `c`, or is still to be processed (listed in `P`) -/
def Good (W : Wheel α) (c : Nat) (d : DB) (P : List α) : Prop := ∀ n a, W.At d n a → c + 1 ≤ (W.sched a).visit ∨ a ∈ P

/-- the step `d ⟶ d'` has dealt with `a`: what is on the wheel now was on it before and is not `a`, or is scheduled past `c` -/
def Done (W : Wheel α) (c : Nat) (d d' : DB) (a : α) : Prop :=
  ∀ n x, W.At d' n x → (W.At d n x ∧ x ≠ a) ∨ c + 1 ≤ (W.sched x).visit

/-- what the sweep of second `c` that began in `db0` needs of its wheel; `M` = what is kept all through the sweep -/
structure Laws (W : Wheel α) (M : DB → Prop) (c : Nat) (db0 : DB) : Prop where
  /-- a record is found under the key it names -/
  home : ∀ d n a, M d → W.At d n a → a ∈ W.recs (d.getKey (W.key a))
  same_self : ∀ a, W.same a a = true
  rearm : ∀ d a, a ∈ W.all db0 → M d → W.dl a > d.now → M (W.rearm d a) ∧ W.Done c d (W.rearm d a) a
  /-- `a` was collected, `a'` is what the lookup found for it -/
  fire : ∀ d a a', M d → a' ∈ W.recs (d.getKey (W.key a)) → W.same a a' = true →
    M (W.fire d (W.key a) a').1 ∧ W.Done c d (W.fire d (W.key a) a').1 a

theorem Good.done {c : Nat} {d d' : DB} {a : α} {P P' : List α} (hg : W.Good c d P) (hd : W.Done c d d' a)
    (hP : ∀ x ∈ P, x ≠ a → x ∈ P') : W.Good c d' P' := by
  intro n x hx
  rcases hd n x hx with ⟨h1, hne⟩ | h1
  · exact (hg n x h1).imp_right fun h2 => hP x h2 hne
  · exact Or.inl h1

theorem step1_good {M : DB → Prop} {c : Nat} {db0 : DB} (law : W.Laws M c db0) (L : List α) (a : α) (rest : List α)
    (acc : DB × List α) (h1 : M acc.1) (h2 : W.Good c acc.1 ((a :: rest) ++ acc.2 ++ L) ∧ ∀ x ∈ a :: rest, x ∈ W.all db0) :
    M (W.step1 acc a).1 ∧ W.Good c (W.step1 acc a).1 (rest ++ (W.step1 acc a).2 ++ L) ∧ ∀ x ∈ rest, x ∈ W.all db0 := by
  have hr : ∀ x ∈ rest, x ∈ W.all db0 := fun x hx => h2.2 x (List.mem_cons_of_mem _ hx)
  unfold Wheel.step1
  split
  · rename_i hd
    obtain ⟨hm, hdone⟩ := law.rearm acc.1 a (h2.2 a (List.mem_cons_self ..)) h1 hd
    exact ⟨hm, h2.1.done hdone fun _ hx hne => mem_worklist_skip hx hne, hr⟩
  · exact ⟨h1, fun n x hx => (h2.1 n x hx).imp_right mem_worklist_move, hr⟩

theorem step2_good {M : DB → Prop} {c : Nat} {db0 : DB} (law : W.Laws M c db0) (a : α) (rest : List α) (acc : DB × List Reply)
    (h1 : M acc.1) (h2 : W.Good c acc.1 (a :: rest)) :
    M (W.step2 acc a).1 ∧ W.Good c (W.step2 acc a).1 rest := by
  unfold Wheel.step2
  split
  · rename_i a' hf
    obtain ⟨hm, hdone⟩ := law.fire acc.1 a a' h1 (List.mem_of_find?_eq_some hf) (List.find?_some hf)
    exact ⟨hm, h2.done hdone fun _ hx hne => (List.mem_cons.mp hx).resolve_left hne⟩
  · rename_i hf
    -- nothing found: then `a` is not on the wheel, for it would have been found under its key
    refine ⟨h1, fun n x hx => (h2 n x hx).imp_right fun h3 => (List.mem_cons.mp h3).resolve_left fun e => ?_⟩
    rw [e] at hx
    exact List.find?_eq_none.mp hf a (law.home acc.1 n a h1 hx) (law.same_self a)

theorem sweep_good {M : DB → Prop} {c : Nat} {db : DB} (law : W.Laws M c db) (h : M db)
    (hlb : ∀ n a, W.At db n a → c ≤ (W.sched a).visit) :
    M (W.sweep db c).1 ∧ ∀ n a, W.At (W.sweep db c).1 n a → c + 1 ≤ (W.sched a).visit := by
  unfold Wheel.sweep Wheel.pass1
  simp only []
  -- to start with, what is scheduled for `c` itself is in the slot list or in the long table of `c`
  have g0 : W.Good c db (W.slot db c ++ ([] : List α) ++ W.long db c) := by
    intro n a ha
    have h1 := hlb n a ha
    by_cases hv : (W.sched a).visit = c
    · right
      simp only [List.append_nil, List.mem_append]
      cases hl : (W.sched a).long with
      | false => exact Or.inl (mem_slot.mpr ⟨ha.all, hv, hl⟩)
      | true => exact Or.inr (mem_long.mpr ⟨ha.all, hv, hl⟩)
    · left; omega
  have p1 := foldl_worklist W.step1 (fun acc => M acc.1)
    (fun acc P => W.Good c acc.1 (P ++ acc.2 ++ W.long db c) ∧ ∀ x ∈ P, x ∈ W.all db)
    (fun acc a rest => step1_good law _ a rest acc) (W.slot db c) (db, []) h ⟨g0, fun _ hx => (mem_slot.mp hx).1⟩
  have p2 := foldl_worklist W.step2 (fun acc => M acc.1) (fun acc P => W.Good c acc.1 P)
    (fun acc a rest => step2_good law a rest acc) _ (((W.slot db c).foldl W.step1 (db, [])).1, []) p1.1 p1.2.1
  exact ⟨p2.1, fun n a ha => (p2.2 n a ha).resolve_right List.not_mem_nil⟩

end Wheel

theorem sweepTimeout_induct {P : DB → List Reply → Prop} (db : DB) (c : Nat) (o0 : List Reply)
    (hre : ∀ d out w, w ∈ allW db → w.timeoutT > d.now → P d out → P (rearmWaiter d w) out)
    (hfi : ∀ d out key w, w ∈ (d.getKey key).waiters → P d out → P (fireTimeout d key w).1 (out ++ (fireTimeout d key w).2))
    (h : P db o0) : P (sweepTimeout db c).1 (o0 ++ (sweepTimeout db c).2) := by
  rw [sweepTimeout_eq_wheel]
  exact Wheel.sweep_induct (W := waitWheel) db c o0 hre hfi h

theorem sweepExpire_induct {P : DB → List Reply → Prop} (db : DB) (c : Nat) (o0 : List Reply)
    (hre : ∀ d out h, h.expT > d.now → P d out → P (rearmHold d h) out)
    (hfi : ∀ d out key h, h ∈ (d.getKey key).holders → P d out → P (fireExpire d key h).1 (out ++ (fireExpire d key h).2))
    (h : P db o0) : P (sweepExpire db c).1 (o0 ++ (sweepExpire db c).2) := by
  rw [sweepExpire_eq_wheel]
  exact Wheel.sweep_induct (W := holdWheel) db c o0 (fun d out x _ => hre d out x) hfi h


def tick0 (db : DB) : DB := { db with now := db.now + 1, tCheck := db.now + 1 + 1 }

def midTick (db : DB) : DB := { (sweepTimeout (tick0 db) (db.now + 1)).1 with eCheck := db.now + 1 + 1 }

theorem opTick_eq (db : DB) : opTick db =
    ((sweepExpire (midTick db) (db.now + 1)).1,
      (sweepTimeout (tick0 db) (db.now + 1)).2 ++ (sweepExpire (midTick db) (db.now + 1)).2) := rfl

theorem opTick_fst (db : DB) : (opTick db).1 = (sweepExpire (midTick db) (db.now + 1)).1 := by
  simp only [opTick_eq]

end Slock.Engine
