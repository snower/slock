import Slock.Proofs.EngineSimTickEntries
import Slock.Proofs.EngineSimTickPend
/-! Clock-tick simulation (`sim_tick`): stage 1's sorted list of due requests (holds) IS the record-level list of due wheel entries,
restricted to the live ones and mapped to their stage-1 views. -/
namespace Slock.SimTick
open Slock Slock.Sim Slock.Engine2
open Slock.Engine (sortBySeq)

theorem nodup_map_sub {α β : Type} (f : α → β) (A B : List α) (hA : (A.map f).Nodup) (hB : B.Nodup) (hsub : ∀ b ∈ B, b ∈ A) : (B.map f).Nodup :=
  nodup_map_on f B hB (fun a ha b hb e => nodup_map_inj f A hA (hsub a ha) (hsub b hb) e)

/-- Both lists are sorted by pairwise distinct sequence numbers, so having the same elements is enough. -/
theorem corr {α : Type} (sel : Rec → Option Engine.Sched) (live : DB → Ent → Bool) (view : DB → Ent → α) (sq : α → Engine.Sched)
    (s : DB) (hd : DBI s) (all : List α) (p : Engine.Sched → Bool) (hnd : (all.map (fun x => (sq x).seq)).Nodup)
    (hview : ∀ e sc, live s e = true → (s.getKey e.key).hasRec e.rid → sel ((s.getKey e.key).getR e.rid) = some sc →
      sq (view s e) = sc ∧ view s e ∈ all)
    (hinj : ∀ e e', live s e = true → live s e' = true → (s.getKey e.key).hasRec e.rid → (s.getKey e'.key).hasRec e'.rid →
      view s e = view s e' → e.key = e'.key ∧ e.rid = e'.rid)
    (hsurj : ∀ w ∈ all, ∃ n y sc, (s.getKey n).hasRec y ∧ sel ((s.getKey n).getR y) = some sc ∧ live s ⟨n, y, sc.seq⟩ = true ∧
      view s ⟨n, y, sc.seq⟩ = w) :
    sortBySeq (fun x => (sq x).seq) (all.filter (fun x => p (sq x))) = ((sortBySeq (·.seq) (rawE sel s p)).filter (live s)).map (view s) := by
  rw [filter_sortBySeq]
  have hfact : ∀ e ∈ (rawE sel s p).filter (live s), ∃ sc, sel ((s.getKey e.key).getR e.rid) = some sc ∧ p sc = true ∧ e.seq = sc.seq ∧
      sq (view s e) = sc ∧ view s e ∈ all ∧ (s.getKey e.key).hasRec e.rid ∧ live s e = true := by
    intro e hem
    obtain ⟨hm, hl⟩ := List.mem_filter.mp hem
    obtain ⟨sc, hh, hs, hp, hq⟩ := (mem_rawE hd p e).mp hm
    obtain ⟨f1, f2⟩ := hview e sc hl hh hs
    exact ⟨sc, hs, hp, hq, f1, f2, hh, hl⟩
  rw [map_sortBySeq_on (·.seq) (fun x => (sq x).seq) (view s) _ (fun e hem => by
    obtain ⟨sc, _, _, hq, hv, _⟩ := hfact e hem
    show (sq (view s e)).seq = e.seq
    rw [hv, hq])]
  have hsubB : ∀ w ∈ ((rawE sel s p).filter (live s)).map (view s), w ∈ all.filter (fun x => p (sq x)) := by
    intro w hw
    obtain ⟨e, hem, ew⟩ := List.mem_map.mp hw
    obtain ⟨sc, _, hp, _, hv, hmem, _⟩ := hfact e hem
    rw [List.mem_filter, ← ew, hv]; exact ⟨hmem, hp⟩
  apply sortBySeq_ext
  · exact nodup_filter_map _ _ _ hnd
  · refine nodup_map_sub _ _ _ (nodup_filter_map _ _ _ hnd) ?_ hsubB
    refine nodup_map_on (view s) _ ((List.filter_sublist).nodup (nodup_of_map eid _ (rawE_nodup hd p))) ?_
    intro e hem e' hem' ev
    obtain ⟨sc, hs, _, hq, _, _, hh, hl⟩ := hfact e hem
    obtain ⟨sc', hs', _, hq', _, _, hh', hl'⟩ := hfact e' hem'
    obtain ⟨hkey, hrid⟩ := hinj e e' hl hl' hh hh' ev
    cases e; cases e'
    simp only [] at hkey hrid hq hq' hs hs'
    subst hkey; subst hrid
    rw [hs] at hs'
    injection hs' with hs'
    rw [hq, hq', hs']
  · intro w
    refine ⟨fun hw => ?_, hsubB w⟩
    obtain ⟨hwa, hp⟩ := List.mem_filter.mp hw
    obtain ⟨n, y, sc, hh, hs, hlive, ev⟩ := hsurj w hwa
    obtain ⟨hv, _⟩ := hview ⟨n, y, sc.seq⟩ sc hlive hh hs
    refine List.mem_map.mpr ⟨⟨n, y, sc.seq⟩, List.mem_filter.mpr ⟨(mem_rawE hd p _).mpr ⟨sc, hh, hs, ?_, rfl⟩, hlive⟩, ev⟩
    rw [← hv, ev]; exact hp

theorem viewT_sched (s : DB) (e : Ent) {sc : Engine.Sched} (hs : ((s.getKey e.key).getR e.rid).tSched = some sc) :
    (viewT s e).sched = sc := by
  unfold viewT waiterOf Rec.toWaiter
  simp only [hs, Option.getD_some]

theorem corrT (s : DB) (sy : WF s) (a : Engine.DB) (he : Equiv (Engine2.abs s) a) (i1 : I1 a) (p : Engine.Sched → Bool) :
    sortBySeq (·.sched.seq) ((Engine.allWaiters a).filter (fun w => p w.sched)) =
      ((tEntries s p).filter (liveT s)).map (viewT s) := by
  have hd := sy.dbq.dbt.dbi
  have hkabs : ∀ n, a.getKey n = Key.abs (s.getKey n) := fun n => (he.keys n).symm.trans (abs_getKey s hd.kn n)
  have hk1 : ∀ n, K1 (s.getKey n) := fun n => k1_of_equiv sy he i1 n
  refine corr (·.tSched) liveT viewT (·.sched) s hd _ p (allWaiters_nodup i1.s3.kn i1.s3.sq) ?_ ?_ ?_
  · intro e sc hl hh hs
    refine ⟨viewT_sched s e hs, (mem_allWaiters i1.s3.kn _).mpr ⟨e.key, ?_⟩⟩
    rw [hkabs]; exact liveT_mem sy.dbkt hl
  · intro e e' hl hl' hh hh' ev
    have kt := sy.dbkt.getKey e.key
    have hkey : e.key = e'.key := by
      have h1 := (hk1 e.key).kw _ (liveT_mem sy.dbkt hl)
      have h2 := (hk1 e'.key).kw _ (liveT_mem sy.dbkt hl')
      rw [getKey_key] at h1 h2
      rw [← h1, ← h2]; exact congrArg (·.cmd.key) ev
    refine ⟨hkey, live_rid_unique kt (hk1 e.key).wu hh ((liveT_iff s e).mp hl) (by rw [hkey]; exact hh')
      (by rw [hkey]; exact (liveT_iff s e').mp hl') ?_⟩
    have : waiterOf (s.getKey e.key) e'.rid = viewT s e' := by unfold viewT; rw [hkey]
    rw [this, ← ev]; rfl
  · intro w hw
    obtain ⟨n, hn⟩ := (mem_allWaiters i1.s3.kn w).mp hw
    rw [hkabs, abs_waiters] at hn
    obtain ⟨y, hy, ew⟩ := List.mem_map.mp hn
    have hl : ((s.getKey n).getR y).timeouted = false := by
      have := (List.mem_filter.mp hy).2
      unfold Key.deadWaiter at this
      simpa using this
    have hh := hasRec_of_liveWaiter (k := s.getKey n) hl
    obtain ⟨sc, hs, _⟩ := (sy.dbkt.getKey n).ws y hh hl
    exact ⟨n, y, sc, hh, hs, (liveT_iff s _).mpr hl, ew⟩

theorem viewE_sched (s : DB) (e : Ent) {sc : Engine.Sched} (hs : ((s.getKey e.key).getR e.rid).eSched = some sc) : (viewE s e).sched = sc := by
  unfold viewE holdOf Rec.toHold
  simp only [hs, Option.getD_some]

theorem corrE (s : DB) (sy : WF s) (a : Engine.DB) (he : Equiv (Engine2.abs s) a) (i1 : I1 a) (p : Engine.Sched → Bool) :
    sortBySeq (·.sched.seq) ((Engine.allHolds a).filter (fun x => p x.sched)) =
      ((eEntries s p).filter (liveE s)).map (viewE s) := by
  have hd := sy.dbq.dbt.dbi
  have hkabs : ∀ n, a.getKey n = Key.abs (s.getKey n) := fun n => (he.keys n).symm.trans (abs_getKey s hd.kn n)
  have hk1 : ∀ n, K1 (s.getKey n) := fun n => k1_of_equiv sy he i1 n
  refine corr (·.eSched) liveE viewE (·.sched) s hd _ p (allHolds_nodup i1.s3.kn i1.s3.sq) ?_ ?_ ?_
  · intro e sc hl _ hs
    refine ⟨viewE_sched s e hs, (mem_allHolds i1.s3.kn _).mpr ⟨e.key, ?_⟩⟩
    rw [hkabs]; exact (liveE_facts sy hl).2.2
  · intro e e' hl hl' hh hh' ev
    obtain ⟨_, hdp, hmem⟩ := liveE_facts sy hl
    obtain ⟨_, hdp', hmem'⟩ := liveE_facts sy hl'
    have hkey : e.key = e'.key := by
      have h1 := (hk1 e.key).kh _ hmem
      have h2 := (hk1 e'.key).kh _ hmem'
      rw [getKey_key] at h1 h2
      rw [← h1, ← h2, ev]
    refine ⟨hkey, ?_⟩
    have hh'' : (s.getKey e.key).hasRec e'.rid := by rw [hkey]; exact hh'
    have hdp'' : 0 < ((s.getKey e.key).getR e'.rid).depth := by rw [hkey]; exact hdp'
    refine (sy.dbk.getKey e.key).hinj e.rid e'.rid hh hh'' hdp hdp'' ?_
    have h1 : (viewE s e).hid = ((s.getKey e.key).getR e.rid).hid := rfl
    have h2 : (viewE s e').hid = ((s.getKey e.key).getR e'.rid).hid := by unfold viewE; rw [hkey]; rfl
    rw [← h1, ← h2, ev]
  · intro w hw
    obtain ⟨n, hn⟩ := (mem_allHolds i1.s3.kn w).mp hw
    rw [hkabs, abs_holders] at hn
    obtain ⟨y, hy, ew⟩ := List.mem_map.mp hn
    have hlv : (s.getKey n).liveHolder y = true := (List.mem_filter.mp hy).2
    have hdp : 0 < ((s.getKey n).getR y).depth := by unfold Key.liveHolder at hlv; simpa using hlv
    have hh := hasRec_of_depth hdp
    have hlive : liveE s ⟨n, y, 0⟩ = true := liveE_of_depth sy hh hdp
    obtain ⟨sc, hs⟩ := Option.isSome_iff_exists.mp (hasE_spec _ y (liveE_spec hlive).1).2
    exact ⟨n, y, sc, hh, hs, hlive, ew⟩

end Slock.SimTick
