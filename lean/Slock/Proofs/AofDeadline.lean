import Slock.Model.Aof
/-!
Arithmetic of the two deadline ↔ remaining-lifetime conversions (`Aof.GetAofLockExpriedTime` when a record is written,
`Aof.GetLockCommandExpriedTime` + the expired-record filter of `LoadAofFile` when it is loaded), per expiry unit.
`d` = the hold's deadline, `c` = the second it was journalled (`c < d`: the sweeper journals live holds), `n ≥ c` = reload.

A record `(c, rem)` DESCRIBES a deadline `d₀`: `c + rem` (seconds), `c + 60·rem` (minutes). The writer chooses `rem` so that
`d₀` is `d` rounded up to the unit (`sec_write`, `min_write`); the loader, for any `rem`, skips the record from `d₀` on and
before that restores a deadline within one unit of `d₀` (`sec_reload`, `min_reload`). Everything else is a corollary.
-/
namespace Slock.Aof

def IsSeconds (ef : Nat) : Prop :=
  ef &&& EXPRIED_FLAG_UNLIMITED_EXPRIED_TIME = 0 ∧ ef &&& EXPRIED_FLAG_MILLISECOND_TIME = 0 ∧ ef &&& EXPRIED_FLAG_MINUTE_TIME = 0
def IsMinutes (ef : Nat) : Prop :=
  ef &&& EXPRIED_FLAG_UNLIMITED_EXPRIED_TIME = 0 ∧ ef &&& EXPRIED_FLAG_MILLISECOND_TIME = 0 ∧ ef &&& EXPRIED_FLAG_MINUTE_TIME ≠ 0
def IsMillis (ef : Nat) : Prop :=
  ef &&& EXPRIED_FLAG_UNLIMITED_EXPRIED_TIME = 0 ∧ ef &&& EXPRIED_FLAG_MILLISECOND_TIME ≠ 0

theorem toI64_small (x : Nat) (h : x < 2 ^ 63) : toI64 x = x := by
  unfold toI64
  have : x % 2 ^ 64 = x := Nat.mod_eq_of_lt (by omega)
  simp [this, h]

/-- The command time plus an offset, as the filter computes it (`uint64` sum read as `int64`), for times far from 2^63. -/
theorem toI64_add (c : Int) (k : Nat) (hc : 0 ≤ c) (hb : c + k < 2 ^ 62) : toI64 (c.toNat + k) = c + k := by
  rw [toI64_small _ (by omega)]; omega

theorem u16_of_lt {x : Int} (h0 : 0 ≤ x) (h : x < 65536) : u16 x = x.toNat := by
  unfold u16; rw [Int.emod_eq_of_lt h0 h]

theorem ite_sub (a b : Nat) : (if a > b then a - b else 0) = a - b := by
  split <;> omega

theorem pushCommandTime_live (c d : Int) (h : c < d) : pushCommandTime c (some d) = c := by
  simp [pushCommandTime, h]

theorem sec_deadline (ef e : Nat) (s : Int) (h : IsSeconds ef) : engineDeadline ef e s = some (s + e + 1) := by
  obtain ⟨hU, hMs, hMin⟩ := h
  simp [engineDeadline, hU, hMs, hMin]

/-- The stored value is the remaining lifetime, saturating at 0xffff (a 65535-second hold journalled in the second of its grant
has 65536 s left): the record describes the deadline `c + rem = min d (c + 65535)`. -/
theorem sec_write (ef e : Nat) (d c : Int) (h : IsSeconds ef) (h0 : 0 < d) (hc : c < d) :
    0 < writeRemaining ef e (some d) c ∧ writeRemaining ef e (some d) c ≤ 65535 ∧
      c + (writeRemaining ef e (some d) c : Int) ≤ d ∧
      (d ≤ c + 65535 → c + (writeRemaining ef e (some d) c : Int) = d) ∧
      (c + 65535 < d → writeRemaining ef e (some d) c = 65535) := by
  obtain ⟨hU, hMs, hMin⟩ := h
  have hs : d - c > 0 := Int.sub_pos_of_lt hc
  simp only [writeRemaining, hU, hMs, hMin, Option.getD_some, ne_eq, not_true_eq_false, if_false, h0, hs, if_true]
  split
  · omega
  · rw [u16_of_lt (by omega) (by omega)]; omega

theorem sec_skip (ef rem : Nat) (c n : Int) (h : IsSeconds ef) (hc : 0 ≤ c) (hb : c + rem < 2 ^ 62) :
    skippedAt ef rem c.toNat n = decide (0 < rem ∧ c + rem ≤ n) := by
  obtain ⟨hU, hMs, hMin⟩ := h
  simp [skippedAt, hU, hMs, hMin, toI64_add c rem hc hb]

theorem sec_load (ef rem : Nat) (c n : Int) (h : IsSeconds ef) (hcn : c ≤ n) (hel : n - c < 65536) :
    n + (loadRemaining ef rem c n : Int) = max n (c + rem) := by
  obtain ⟨hU, hMs, hMin⟩ := h
  have h0 : n - c ≥ 0 := Int.sub_nonneg_of_le hcn
  simp only [loadRemaining, hU, hMs, hMin, ne_eq, not_true_eq_false, if_false, h0, if_true, ite_sub, u16_of_lt h0 hel]
  obtain ⟨k, hk⟩ := Int.eq_ofNat_of_zero_le h0
  rw [hk, Int.toNat_natCast, Int.sub_eq_iff_eq_add'.mp hk]
  by_cases hle : rem ≤ k
  · -- in particular `Expried = 0` is replayed as 0
    rw [Int.max_eq_left (Int.add_le_add_left (Int.ofNat_le.mpr hle) c)]
    split <;> omega
  · have hkr := Nat.le_of_not_le hle
    rw [if_pos (Nat.lt_of_le_of_lt (Nat.zero_le k) (Nat.not_le.mp hle)), Int.ofNat_sub hkr,
      Int.max_eq_right (Int.add_le_add_left (Int.ofNat_le.mpr hkr) c)]
    omega

theorem sec_reload {ef rem : Nat} {c n d₀ : Int} (h : IsSeconds ef) (hc : 0 ≤ c) (hcn : c ≤ n) (hn : n < 2 ^ 61)
    (hpos : 0 < rem) (hrem : rem ≤ 65535) (hd : c + rem = d₀) :
    (n < d₀ → skippedAt ef rem c.toNat n = false ∧ 0 < loadRemaining ef rem c n ∧
      engineDeadline ef (loadRemaining ef rem c n) n = some (d₀ + 1)) ∧
    (d₀ ≤ n → skippedAt ef rem c.toNat n = true) := by
  rw [sec_skip ef rem c n h hc (by omega), sec_deadline ef _ n h]
  subst hd
  refine ⟨fun hnd => ?_, fun hnd => decide_eq_true ⟨hpos, hnd⟩⟩
  have hl := sec_load ef rem c n h hcn (by omega)
  rw [Int.max_eq_right (Int.le_of_lt hnd)] at hl
  exact ⟨decide_eq_false (fun h => Int.not_le.mpr hnd h.2), by omega, congrArg (some <| · + 1) hl⟩

theorem min_deadline (ef e : Nat) (s : Int) (h : IsMinutes ef) : engineDeadline ef e s = some (s + (e : Int) * 60 + 1) := by
  obtain ⟨hU, hMs, hMin⟩ := h
  simp [engineDeadline, hU, hMs, hMin]

/-- Whole minutes as both conversions count them: rounded UP, and at least one. (The loader's test is written here; the
writer's `secs ≥ 60 ∧ secs % 60 = 0` is its negation.) -/
def minutesUp (x : Int) : Int := if x < 60 ∨ x % 60 ≠ 0 then x / 60 + 1 else x / 60

theorem minutesUp_spec (x : Int) (h : 0 ≤ x) :
    1 ≤ minutesUp x ∧ x ≤ 60 * minutesUp x ∧ 60 * minutesUp x ≤ x + 60 ∧ (0 < x → 60 * minutesUp x ≤ x + 59) := by
  unfold minutesUp; split <;> omega

/-- saturation is reached by one input: a 65535-minute hold journalled in the second of its grant has 65536 minutes left -/
theorem min_write (ef e : Nat) (d c : Int) (h : IsMinutes ef) (hc : c < d) (hov : d - c < 60 * 65536) :
    writeRemaining ef e (some d) c = min 65535 (minutesUp (d - c)).toNat := by
  obtain ⟨hU, hMs, hMin⟩ := h
  have hs : d - c > 0 := Int.sub_pos_of_lt hc
  obtain ⟨q, hq⟩ := Int.eq_ofNat_of_zero_le (Int.ediv_nonneg (Int.le_of_lt hs) (by decide : (0 : Int) ≤ 60))
  have hq1 : q < 65536 := by have := Int.ediv_lt_of_lt_mul (by decide) hov; omega
  simp only [writeRemaining, minutesUp, hU, hMs, hMin, Option.getD_some, ne_eq, not_true_eq_false, not_false_eq_true, if_false,
    if_true, hs, hq, u16_of_lt (Int.natCast_nonneg q) (Int.ofNat_lt.mpr hq1), Int.toNat_natCast]
  by_cases hup : d - c < 60 ∨ ¬ (d - c) % 60 = 0
  · rw [if_neg (fun hex => hup.elim (Int.not_lt.mpr hex.1) (fun h => h hex.2)), if_pos hup, Int.toNat_natCast_add_one]
    by_cases hsat : (q : Int) ≥ 65535
    · rw [if_pos hsat, Nat.min_eq_left (Nat.le_succ_of_le (Int.ofNat_le.mp hsat))]
    · have hq2 : q + 1 ≤ 65535 := Int.ofNat_lt.mp (Int.not_le.mp hsat)
      rw [if_neg hsat, Nat.min_eq_right hq2, Nat.mod_eq_of_lt (Nat.lt_succ_of_le hq2)]
  · rw [if_pos ⟨Int.not_lt.mp (fun h => hup (.inl h)), Decidable.not_not.mp (fun h => hup (.inr h))⟩, if_neg hup,
      Int.toNat_natCast, Nat.min_eq_right (Nat.le_of_lt_succ hq1)]

theorem min_write_sat (ef e : Nat) (d c : Int) (h : IsMinutes ef) (hlo : 60 * 65535 < d - c) (hhi : d - c < 60 * 65536) :
    writeRemaining ef e (some d) c = 65535 := by
  have := minutesUp_spec (d - c) (by omega)
  rw [min_write ef e d c h (by omega) hhi]; omega

theorem min_write_bounds (ef e : Nat) (d c : Int) (h : IsMinutes ef) (hc : c < d) (hov : d - c ≤ 60 * 65535) :
    writeRemaining ef e (some d) c ≤ 65535 ∧ d ≤ c + (writeRemaining ef e (some d) c : Int) * 60 ∧
      c + (writeRemaining ef e (some d) c : Int) * 60 ≤ d + 59 := by
  have := minutesUp_spec (d - c) (by omega)
  rw [min_write ef e d c h hc (by omega)]; omega

theorem min_skip (ef rem : Nat) (c n : Int) (h : IsMinutes ef) (hc : 0 ≤ c) (hb : c + rem * 60 < 2 ^ 62) :
    skippedAt ef rem c.toNat n = decide (c + (rem : Int) * 60 ≤ n) := by
  obtain ⟨_, hMs, hMin⟩ := h
  have := toI64_add c (rem * 60) hc (by omega)
  simp [skippedAt, hMs, hMin, this]

theorem min_load (ef rem : Nat) (c n : Int) (h : IsMinutes ef) (hcn : c ≤ n) (hel : n - c < 60 * 65535) :
    loadRemaining ef rem c n = rem - (minutesUp (n - c)).toNat := by
  obtain ⟨hU, hMs, hMin⟩ := h
  have h0 : n - c ≥ 0 := Int.sub_nonneg_of_le hcn
  have hL := minutesUp_spec (n - c) h0
  simp only [loadRemaining, hU, hMs, hMin, ne_eq, not_true_eq_false, not_false_eq_true, if_false, if_true, h0, ite_sub]
  exact congrArg (rem - ·) (u16_of_lt (by omega) (by omega))

/-- with `d₀ = c + 60·rem`: what the engine restores, `n + 60·re + 1`, lies in `[d₀ − 59, d₀ + 1]` — the upper bound when the
record is replayed with a hold at all (`0 < re`) -/
theorem min_reload {ef rem : Nat} {c n : Int} (h : IsMinutes ef) (hcn : c ≤ n) (hrem : rem ≤ 65535)
    (hns : n < c + (rem : Int) * 60) :
    c + (rem : Int) * 60 ≤ n + (loadRemaining ef rem c n : Int) * 60 + 60 ∧
      (0 < loadRemaining ef rem c n → n + (loadRemaining ef rem c n : Int) * 60 ≤ c + (rem : Int) * 60) := by
  rw [min_load ef rem c n h hcn (by omega)]
  have hL := minutesUp_spec (n - c) (Int.sub_nonneg_of_le hcn)
  generalize minutesUp (n - c) = L at hL
  omega

theorem ms_deadline (ef e : Nat) (s : Int) (h : IsMillis ef) : engineDeadline ef e s = some (s + (e / 1000 : Nat) + 1) := by
  obtain ⟨hU, hMs⟩ := h
  simp [engineDeadline, hU, hMs]

theorem ms_write (ef e : Nat) (d : Option Int) (c : Int) (h : IsMillis ef) : writeRemaining ef e d c = e := by
  obtain ⟨hU, hMs⟩ := h
  simp [writeRemaining, hU, hMs]

theorem ms_load (ef e : Nat) (c n : Int) (h : IsMillis ef) : loadRemaining ef e c n = e := by
  obtain ⟨hU, hMs⟩ := h
  simp [loadRemaining, hU, hMs]

theorem ms_skip (ef e : Nat) (c n : Int) (h : IsMillis ef) (hc : 0 ≤ c) (hb : c + e < 2 ^ 62) :
    skippedAt ef e c.toNat n = decide (c + (e / 1000 : Nat) ≤ n) := by
  obtain ⟨hU, hMs⟩ := h
  have := toI64_add c (e / 1000) hc (by omega)
  simp [skippedAt, hMs, this]

end Slock.Aof
