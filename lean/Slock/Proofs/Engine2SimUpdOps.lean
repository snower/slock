import Slock.Proofs.Engine2SimUnlock
/-! Simulation stage 2 → stage 1: LOCK, the update of a hold and the re-lock (each ending in the wake pass). -/
namespace Slock.Sim
open Slock Slock.Engine2
open Slock.Engine (has)

theorem updTail_edit {h : Nat} {f : Rec → Rec} {g : Nat → Nat} {n : Nat} {w0 w : W} (e : Edit h f g n w0 w) (c' : Engine.Cmd) (b : Bool) :
    Edit h (fun r => updRec w.db (soleAt w h) c' (f r)) g (n + if updMoves w.db (soleAt w h) c' (w.k.getR h) then 1 else 0) w0 (updTail w h c' b) :=
  (e.updateLocked c').when b (fun e' => e'.journalLock h AOF_UPDATED)

/-- **hold `h` gets the terms `c'`** (`UpdateLockedLock`, long-table move, journal): stage 1's `updateHold` and `replaceHolder`. `w1` is
`w` after a prefix `f` that edits nothing but depth and reference count of the record of `h` (update: nothing; re-lock: depth + 1). -/
theorem updLocked_rel {w w1 : W} {a : Engine.DB} {k1 : Engine.Key} {out1 : List Engine.Reply} (r : Rel w a k1 out1) (hg : w.gone = false)
    {h : Nat} {f : Rec → Rec} {g : Nat → Nat} (e : Edit h f g 0 w w1) (hm : h ∈ w.k.current.toList ++ w.k.locks)
    (hd0 : 0 < (w.k.getR h).depth) (hd1 : 0 < (f (w.k.getR h)).depth) (ht : ∀ r, (f r).timeouted = r.timeouted)
    (hE : ∀ r, (f r).eSched = r.eSched ∧ (f r).eChecked = r.eChecked) (i1 : WI w1)
    (c' : Engine.Cmd) (data : Option Bytes) (b : Bool)
    (wk' : (updLocked w1 c' data h b).gone = false → Wk True (updLocked w1 c' data h b) none) :
    Rel (updLocked w1 c' data h b) (Engine.updateHold a (f (w.k.getR h)).toHold c').1
      (keyRep k1 (holdOf w.k h) (Engine.updateHold a (f (w.k.getR h)).toHold c').2 (g k1.locked)) out1 ∧
    ((updLocked w1 c' data h b).k.getR h).depth = (f (w.k.getR h)).depth := by
  have l := r.live hg
  have hh := hasRec_of_holder l.wk.lv h hm
  obtain ⟨sc, hsc⟩ := Option.isSome_iff_exists.mp ((l.good.nz.nz _ (getR_mem hh) (by simp)).hold hd0)
  have e1 := e.procData .lock c' (frameOf c' data) h
  have e2 := updTail_edit e1 c' b
  have hs1 := e1.sc.scal r.sc
  have i2 := i1.quiet (Quiet.procData w1 .lock c' (frameOf c' data) h)
  unfold updLocked at wk' ⊢
  generalize w1.procData .lock c' (frameOf c' data) h = w2 at *
  -- stage 1's step, on the record as the prefix left it
  have hu := updRec_sim w2.db a hs1.now hs1.eCheck hs1.seq (soleAt w2 h) c' (f (w.k.getR h)) sc (by rw [(hE _).1]; exact hsc)
    (by rw [(hE _).2]; exact l.wi.ck h hh sc hsc)
  rw [updMoves_vis w2.db (soleAt w2 h) c' (e1.self hh), Nat.zero_add] at e2
  have hdep : (updRec w2.db (soleAt w2 h) c' (f (w.k.getR h))).depth = (f (w.k.getR h)).depth :=
    (congrArg (fun p => p.2.depth) hu).symm.trans (Engine.updateHold_depth a _ c')
  rw [hu]
  exact ⟨r.edit hg e2 (e2.scal r.sc) hm hd0 (by rw [hdep]; exact hd1) (fun r => (updRec_timeouted _ _ _ _).trans (ht r))
    (wk' (e2.gone.trans hg))
    ((i2.updateLocked h c').quiet (Quiet.when _ b _ (Quiet.journalLock _ h AOF_UPDATED))), (e2.getR hh (·.depth) (fun _ => rfl)).trans hdep⟩

/-- **LOCK with the update flag on a held LockId, different terms**: `UpdateLockedLock`, journal, reply, then the wake pass -/
theorem sim_lock_update (s : DB) (hq : DBQ s) (c : Engine.Cmd) (data : Option Bytes) (h : Nat)
    (hcls : classifyLock s c data = .update h)
    (hk : KI s.seq (s.getKey c.key)) (hki : Engine.KeyInv (Key.abs (s.getKey c.key))) :
    Agrees (applyLock s c data (.update h)) (Engine.applyLock (Engine2.abs s) c (.update (holdOf (s.getKey c.key) h))) := by
  have hdbi := hq.dbt.dbi
  have ht := hq.dbt.tight
  have hm : h ∈ (s.enter c.key).k.current.toList ++ (s.enter c.key).k.locks := by rw [enter_k]; exact classifyLock_holder s c data h (by rw [hcls]; rfl)
  have hd0 : 0 < ((s.getKey c.key).getR h).depth := classifyLock_update_depth s c data h hcls (cur_getKey ht c.key)
  have hC : lockCmdOf (s.enter c.key).k c (.update h) = { c with lockId := (holdOf (s.getKey c.key) h).cmd.lockId } := by
    unfold lockCmdOf; rw [enter_k]; rfl
  have happ := applyLock_update s c data h
  rw [applyLock_update_eq, abs_getKey s hdbi.kn c.key]
  rw [hC] at happ
  generalize ({ c with lockId := (holdOf (s.getKey c.key) h).cmd.lockId } : Engine.Cmd) = c' at happ ⊢
  have hmem := mem_abs_holders (k := s.getKey c.key) (by rw [← enter_k]; exact hm) hd0
  have re := rel_enter s hq c.key hk
  have eg := enter_gone s c.key
  have hd : 0 < ((s.enter c.key).k.getR h).depth := by rw [enter_k]; exact hd0
  obtain ⟨r3, hd3⟩ := updLocked_rel re eg (Edit.refl (h := h) _) hm hd hd (fun _ => rfl) (fun _ => ⟨rfl, rfl⟩) (re.live eg).wi c' data _
    (((re.live eg).node data eg).updLocked eg c' h ⟨hm, fun _ => hd⟩ _).1.wk
  rw [enter_k] at r3 hd3
  have r4 := r3.reply c' Engine.RESULT_LOCKED_ERROR ((updLocked (s.enter c.key) c' data h (!has c'.flag Slock.Engine.F_FROM_AOF)).k.getR h).depth (s.enter c.key).lockData
  have e := r4.wake_end (sim_lock_finish s hq c data _ hcls) (Engine.replace_inv hki (Engine.updateHold_depth _ _ _)) happ (Engine.updateHold_db_keys _ _ _) (getKey_key _ _)
  rw [hd3] at e
  exact e

theorem relockPre_edit (w : W) (h : Nat) : Edit h (fun r => { r with depth := r.depth + 1 }) (· + 1) 0 w (relockPre w h) :=
  ((Edit.refl w).modR (fun r => { r with depth := r.depth + 1 }) (fun _ => rfl) (fun _ => rfl)).modK incLocked (· + 1) rfl rfl rfl rfl rfl rfl

/-- **LOCK again on a held LockId (re-entrant)**: depth + 1, `UpdateLockedLock`, journal, counters, reply, then the wake pass -/
theorem sim_lock_relock (s : DB) (hq : DBQ s) (c : Engine.Cmd) (data : Option Bytes) (h : Nat)
    (hcls : classifyLock s c data = .relock h)
    (hk : KI s.seq (s.getKey c.key)) (hki : Engine.KeyInv (Key.abs (s.getKey c.key))) :
    Agrees (applyLock s c data (.relock h)) (Engine.applyLock (Engine2.abs s) c (.relock (holdOf (s.getKey c.key) h))) := by
  have hdbi := hq.dbt.dbi
  have hm : h ∈ (s.enter c.key).k.current.toList ++ (s.enter c.key).k.locks := by rw [enter_k]; exact classifyLock_holder s c data h (by rw [hcls]; rfl)
  have hd0 : 0 < ((s.getKey c.key).getR h).depth := classifyLock_relock s c data h hcls
  have hmem := mem_abs_holders (k := s.getKey c.key) (by rw [← enter_k]; exact hm) hd0
  have re := rel_enter s hq c.key hk
  have eg := enter_gone s c.key
  have hd : 0 < ((s.enter c.key).k.getR h).depth := by rw [enter_k]; exact hd0
  obtain ⟨r3, hd3⟩ := updLocked_rel re eg (relockPre_edit (s.enter c.key) h) hm hd (Nat.succ_pos _) (fun _ => rfl) (fun _ => ⟨rfl, rfl⟩)
    ((re.live eg).wi.edit (relockPre_edit _ h) id id (fun _ => ⟨hd, rfl⟩) id) c data true (((re.live eg).node data eg).relock eg c h hm hd).1.wk
  rw [enter_k] at r3 hd3
  have r4 := (r3.ctr ctrG).reply c Engine.RESULT_SUCCED (((updLocked (relockPre (s.enter c.key) h) c data h true).ctr ctrG).k.getR h).depth
    (s.enter c.key).lockData
  have e := r4.wake_end (sim_lock_finish s hq c data _ hcls) (Engine.relock_inv hki hmem (Engine.updateHold_depth (Engine2.abs s)
    { holdOf (s.getKey c.key) h with depth := (holdOf (s.getKey c.key) h).depth + 1 } c)) (applyLock_relock s c data h)
    (Engine.updateHold_db_keys _ _ _) (getKey_key _ _)
  rw [ctr_k, hd3] at e
  rw [applyLock_relock_eq, abs_getKey s hdbi.kn c.key, Engine.updateHold_depth]
  exact e

end Slock.Sim
