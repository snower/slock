import Slock.Model.TextHandlers
/-! Soundness of `Read.check` (C13 text part: handler argument indexing). -/
namespace Slock.TextH

theorem minLen_le (fs : List Fact) (len i : Nat) (h : ∀ f ∈ fs, f.holds len i) : minLen fs ≤ len := by
  induction fs with
  | nil => simp [minLen]
  | cons f fs ih =>
    have ht := ih (fun g hg => h g (by simp [hg]))
    cases f with
    | lenGe n =>
      have hn : n ≤ len := h (.lenGe n) (by simp)
      simp only [minLen]
      omega
    | _ => simpa [minLen] using ht

theorem minLen'_le (fs : List Fact) (len i : Nat) (h : ∀ f ∈ fs, f.holds len i) : minLen' fs ≤ len := by
  have hm := minLen_le fs len i h
  unfold minLen'
  simp only
  by_cases hc : fs.contains (.lenNe (minLen fs)) = true
  · simp only [hc, if_true]
    have hmem : Fact.lenNe (minLen fs) ∈ fs := by simpa using hc
    have hne : len ≠ minLen fs := h _ hmem
    omega
  · simp only [hc]
    exact hm

theorem check_sound (r : Read) (hc : r.check = true) : r.safe := by
  intro len i hf
  unfold Read.check at hc
  by_cases ha0 : r.a = 0
  · simp only [ha0, if_true, decide_eq_true_eq] at hc
    have := minLen'_le r.facts len i hf
    rw [ha0]; omega
  · simp only [ha0, if_false] at hc
    by_cases ha1 : r.a = 1
    · simp only [ha1, if_true, Bool.or_eq_true, Bool.and_eq_true, decide_eq_true_eq, List.any_eq_true] at hc
      rw [ha1]
      rcases hc with ⟨hb, hmem⟩ | ⟨f, hmem, hk⟩
      · have hmem' : Fact.iLtLen ∈ r.facts := by simpa using hmem
        have : i < len := hf _ hmem'
        omega
      · cases f with
        | iPlusLt k =>
          have : i + k < len := hf _ hmem
          simp only [decide_eq_true_eq] at hk
          omega
        | _ => simp at hk
    · simp only [ha1, if_false, List.any_eq_true] at hc
      obtain ⟨f, hmem, hk⟩ := hc
      cases f with
      | iLtDiv c d =>
        simp only [Bool.and_eq_true, decide_eq_true_eq, List.any_eq_true] at hk
        obtain ⟨⟨hd, hpos, hb⟩, g, hg, hgk⟩ := hk
        have hi : i < (len - c) / d := hf _ hmem
        cases g with
        | lenGe n =>
          simp only [decide_eq_true_eq] at hgk
          have hn : n ≤ len := hf _ hg
          have h1 : (i + 1) * d ≤ len - c := (Nat.le_div_iff_mul_le hpos).mp hi
          rw [← hd]
          have h2 : (i + 1) * d = d * i + d := by rw [Nat.add_mul, Nat.mul_comm]; simp
          omega
        | _ => simp at hgk
      | _ => simp at hk

theorem all_safe (rs : List Read) (h : rs.all Read.check = true) : ∀ r ∈ rs, r.safe := by
  intro r hr
  exact check_sound r (List.all_eq_true.mp h r hr)

theorem dbs_check_sound (size : Nat) (r : DbsRead) (hc : r.check size = true) : r.safe size := by
  intro idx hp
  unfold DbsRead.check at hc
  cases hk : r.kind with
  | u8 =>
    simp only [hk, decide_eq_true_eq] at hc
    rw [hk] at hp
    simp only [DbsKind.premise] at hp
    omega
  | range => rw [hk] at hp; exact hp
  | guarded =>
    rw [hk] at hp
    simp only [DbsKind.premise] at hp
    omega
  | _ => simp [hk] at hc

theorem dbs_all_safe (size : Nat) (rs : List DbsRead) (h : rs.all (DbsRead.check size) = true) : ∀ r ∈ rs, r.safe size := by
  intro r hr
  exact dbs_check_sound size r (List.all_eq_true.mp h r hr)

end Slock.TextH
