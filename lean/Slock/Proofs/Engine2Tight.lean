import Slock.Proofs.Engine2Cur
/-! Stage-2 engine: "nothing leaks". `Good`: counts exact and no record at count 0; `SettledG` (G as in `LvG`): a key record that is
still linked has a lock record; `KeyTight` is what holds of a key record between operations. -/
namespace Slock.Engine2
open Slock.Engine (has)

structure Good (w : W) : Prop where
  lv : Lv w zero
  nz : Nz w none

def GoodG (w : W) : Prop := w.gone = false → Good w
/-- a key record that is still linked has at least one lock record -/
def SettledG (w : W) : Prop := w.gone = false → w.k.recs ≠ []

theorem recs_ne_of_hasRec {k : Key} {x : Nat} (h : k.hasRec x) : k.recs ≠ [] := by
  obtain ⟨r, hr, _⟩ := h
  intro e; rw [e] at hr; simp at hr

theorem settled_removeIfZero {w : W} {ex : Nat → Int} (h : w.gone = false → RCx w.k ex) : SettledG w.removeIfZero := by
  intro hg
  rcases removeIfZero_cases w with e | ⟨hg', _⟩
  · rw [e] at hg ⊢
    have hrc := h hg
    have hnz : w.k.refCount ≠ 0 := by
      intro hz
      have : w.removeIfZero.gone = true := by unfold W.removeIfZero; simp [hg, hz]
      rw [e, hg] at this; exact absurd this (by simp)
    intro hn
    have := hrc.mgr
    rw [hn] at this; simp at this; exact hnz this
  · rw [hg'] at hg; exact absurd hg (by simp)

theorem Nz.modR_at {w : W} {x : Option Nat} (h : Nz w x) (rid : Nat) (f : Rec → Rec) (hf : ∀ r, (f r).rid = r.rid)
    (hc : w.k.hasRec rid → RecFine (w.k.getR rid) → RecFine (f (w.k.getR rid))) : Nz (w.modR rid f) x := by
  refine ⟨h.nd.modRec rid f hf, ?_⟩
  intro r hr hx
  obtain ⟨r0, hr0, ⟨er, rfl⟩ | ⟨_, rfl⟩⟩ := mem_modRec (k := w.k) hr
  · have hg : w.k.getR rid = r0 := by rw [← er]; exact mem_eq_getR h.nd.nd hr0
    rw [hf] at hx
    have := hc ⟨r0, hr0, er⟩ (by rw [hg]; exact h.nz r0 hr0 hx)
    rw [hg] at this; exact this
  · exact h.nz r hr0 hx

/-- `AddExpried(rid)` of a hold (an expiry entry that is not a tombstone belongs to a record with depth > 0) -/
theorem Nz.addExpried_hold {w : W} {x : Option Nat} (h : Nz w x) (rid : Nat) (hd : w.k.hasRec rid → 0 < (w.k.getR rid).depth) :
    Nz (w.addExpried rid) x := by
  have h1 : Nz (w.schedExpried rid) x := by
    have := h.modR_at rid (Rec.armE (Slock.Engine.wheelAdd w.db.eCheck w.db.seq (w.k.getR rid).expT (w.k.getR rid).eChecked)) (fun _ => rfl)
      (fun hh hf => ⟨hf.pos, fun _ => rfl, fun hx => by simp [Rec.armE] at hx, fun hz => by
        have := hd hh
        simp only [Rec.armE] at hz; omega⟩)
    exact ⟨this.nd, this.nz⟩
  exact h1.of_up (book_addExpried w rid).up

theorem SettledG.reply {w : W} (h : SettledG w) (c : Cmd) (a b : Nat) (d : Option Bytes) : SettledG (w.reply c a b d) := h
theorem SettledG.ctr {w : W} (h : SettledG w) (f : Counters → Counters) : SettledG (w.ctr f) := h

def KeyTight (k : Key) : Prop := NZx k none ∧ k.recs ≠ [] ∧ CurLive k

theorem curLive_newKey (n : Nat) : CurLive (newKey n) := by intro c hc; simp [newKey] at hc

theorem cur_getKey {db : DB} (ht : ∀ k ∈ db.keys, KeyTight k) (n : Nat) : CurLive (db.getKey n) :=
  all_getKey (fun k hk => (ht k hk).2.2) n (curLive_newKey n)

theorem cur_enter {db : DB} (ht : ∀ k ∈ db.keys, KeyTight k) (n : Nat) : CurLive (db.enter n).k := by rw [enter_k]; exact cur_getKey ht n
theorem cur_openKey {db : DB} (ht : ∀ k ∈ db.keys, KeyTight k) (n : Nat) : CurLive (db.openKey n).k := cur_getKey ht n

theorem nz_getKey {db : DB} (ht : ∀ k ∈ db.keys, KeyTight k) (n : Nat) : NZx (db.getKey n) none :=
  all_getKey (fun k hk => (ht k hk).1) n (fun r hr => by simp [newKey] at hr)

theorem Good.enter {db : DB} (hdb : DBI db) (ht : ∀ k ∈ db.keys, KeyTight k) (n : Nat) : Good (db.enter n) :=
  have l := Lv.enter hdb n
  ⟨l, ⟨l.rc.nodup⟩, by rw [enter_k]; exact nz_getKey ht n⟩

theorem Good.openKey {db : DB} (hdb : DBI db) (ht : ∀ k ∈ db.keys, KeyTight k) (n : Nat) : Good (db.openKey n) :=
  have l := Lv.openKey hdb n
  ⟨l, ⟨l.rc.nodup⟩, nz_getKey ht n⟩

theorem settled_openKey {db : DB} (ht : ∀ k ∈ db.keys, KeyTight k) (n : Nat) : SettledG (db.openKey n) := by
  intro hg
  have hh : db.hasKey n = true := by simpa [DB.openKey] using hg
  exact (ht _ (getKey_mem db n hh)).2.1

theorem settled_enter_of_hasKey {db : DB} (ht : ∀ k ∈ db.keys, KeyTight k) (n : Nat) (hh : db.hasKey n = true) : SettledG (db.enter n) := by
  intro _; rw [enter_k]; exact (ht _ (getKey_mem db n hh)).2.1

end Slock.Engine2
