import Slock.Proofs.AckBalance
/-! M-ACK: the counting invariant `InvK` — a fresh ack-pending hold (`fp`) is referenced by at most one LOCK journal record or table entry,
and its counter plus the positive reports noted in that entry is the required number — through the wake pass, `DoAckLock`, LOCK, UNLOCK,
the sweeps, the registration of a lock and the reports (these need `InvQ`: a pending lock is not in the expiry wheel). Journal delivery
and demotion, which need `InvQ` as well, are in AckRun. -/
namespace Slock.Ack

/-- a live hold still in its first ack phase: granted, not yet in the expiry wheel, counter ≠ 0xff -/
def Rec.fp (r : Rec) : Bool := decide (r.depth > 0) && r.expried && r.pending
def cnt (e : Ent) : Nat := e.oks.length
def jcL (js : List JRec) (h : Nat) : Nat := (js.filter (fun j => j.isLock && j.hid == some h)).length
def tcL (t : List Ent) (h : Nat) : Nat := (t.filter (fun e => e.hid == h)).length
def jc (db : DB) (h : Nat) : Nat := jcL db.journal h
def tc (db : DB) (h : Nat) : Nat := tcL db.tab h

def KR (r : Rec) : Prop := r.ack ≤ NOACK ∧ (r.depth > 0 → r.expried = true → r.pending = true)

structure InvK (db : DB) : Prop where
  cfg : reqAcks db.cfg < NOACK
  recs : ∀ r ∈ db.recs, KR r
  k2 : ∀ h, (db.getR h).fp = true → jc db h + tc db h ≤ 1
  k1 : ∀ e ∈ db.tab, (db.getR e.hid).fp = true → (db.getR e.hid).ack + cnt e = reqAcks db.cfg
  kj : ∀ h, jc db h > 0 → (db.getR h).depth = 0 ∨ (db.getR h).pending = true

theorem jc_of_env {db db' : DB} (e : db'.env = db.env) (h : Nat) : jc db' h = jc db h := by unfold jc; rw [journal_of_env e]
theorem tc_of_conf {db db' : DB} (e : db'.env.toConf = db.env.toConf) (h : Nat) : tc db' h = tc db h := by unfold tc; rw [tab_of_conf e]

theorem InvK.jz {db : DB} (hk : InvK db) {h : Nat} (hd : (db.getR h).depth > 0) (hp : (db.getR h).pending = false) : jc db h = 0 := by
  cases e : jc db h with
  | zero => rfl
  | succ n =>
    rcases hk.kj h (by omega) with h1 | h1
    · omega
    · rw [hp] at h1; exact absurd h1 (by decide)

theorem KR_dead (h : Nat) : KR (deadRec h) := by unfold KR deadRec NOACK; simp
theorem fp_false_of_depth {r : Rec} (h : r.depth = 0) : r.fp = false := by unfold Rec.fp; simp [h]
theorem fp_false_of_expried {r : Rec} (h : r.expried = false) : r.fp = false := by unfold Rec.fp; simp [h]
theorem notfp_of_notpending {r : Rec} (h : r.pending = false) : r.fp = false := by unfold Rec.fp; simp [h]

theorem KR.idle {r : Rec} (h1 : r.depth = 0) (h2 : r.ack = NOACK) : KR r := ⟨by rw [h2]; exact Nat.le_refl _, by omega⟩
theorem KR.wheel {r : Rec} (h1 : r.ack ≤ NOACK) (h2 : r.expried = false) : KR r := ⟨h1, by rw [h2]; intro _ h; cases h⟩
theorem KR.pend {r : Rec} (h : r.ack < NOACK) : KR r := ⟨by omega, fun _ _ => (pending_iff r).mpr (by omega)⟩

theorem KR.ack_le {r : Rec} (h : KR r) : r.ack ≤ NOACK := h.1
theorem KR.pending_of_fresh {r : Rec} (h : KR r) (hd : r.depth > 0) (he : r.expried = true) : r.pending = true := h.2 hd he

theorem fp_iff (r : Rec) : r.fp = true ↔ r.depth > 0 ∧ r.expried = true ∧ r.pending = true := by unfold Rec.fp; simp [and_assoc]

theorem fp_congr {r r' : Rec} (hd : r'.depth > 0 ↔ r.depth > 0) (he : r'.expried = r.expried) (hp : r'.pending = r.pending) : r'.fp = r.fp := by
  unfold Rec.fp; rw [he, hp, show decide (r'.depth > 0) = decide (r.depth > 0) from by simp [hd]]

theorem jcL_append (a b : List JRec) (h : Nat) : jcL (a ++ b) h = jcL a h + jcL b h := by unfold jcL; simp [List.filter_append]
theorem tcL_append (a b : List Ent) (h : Nat) : tcL (a ++ b) h = tcL a h + tcL b h := by unfold tcL; simp [List.filter_append]
theorem jcL_sublist {a b : List JRec} (s : a.Sublist b) (h : Nat) : jcL a h ≤ jcL b h := by
  unfold jcL; exact (List.Sublist.filter _ s).length_le
theorem tcL_sublist {a b : List Ent} (s : a.Sublist b) (h : Nat) : tcL a h ≤ tcL b h := by
  unfold tcL; exact (List.Sublist.filter _ s).length_le

theorem jcL_zero_iff (js : List JRec) (h : Nat) : jcL js h = 0 ↔ ∀ j ∈ js, j.isLock = true → j.hid ≠ some h := by
  unfold jcL
  rw [List.length_eq_zero_iff, List.filter_eq_nil_iff]
  constructor
  · intro hh j hj hl he; have := hh j hj; simp [hl, he] at this
  · intro hh j hj; have := hh j hj; simp; intro hl; simpa using this hl

theorem tcL_zero_iff (t : List Ent) (h : Nat) : tcL t h = 0 ↔ ∀ e ∈ t, e.hid ≠ h := by
  unfold tcL
  rw [List.length_eq_zero_iff, List.filter_eq_nil_iff]
  constructor
  · intro hh e he; have := hh e he; simpa using this
  · intro hh e he; have := hh e he; simpa using this

theorem jc_pos_of_mem {db : DB} {j : JRec} {h : Nat} (hm : j ∈ db.journal) (hl : j.isLock = true) (hh : j.hid = some h) : jc db h > 0 :=
  Nat.pos_of_ne_zero fun e => (jcL_zero_iff _ _).mp e j hm hl hh

theorem tc_pos_of_mem {db : DB} {e : Ent} (hm : e ∈ db.tab) : tc db e.hid > 0 :=
  Nat.pos_of_ne_zero fun h => (tcL_zero_iff _ _).mp h e hm rfl

theorem jcL_single (j : JRec) (h : Nat) : jcL [j] h = if (j.isLock && j.hid == some h) = true then 1 else 0 := by
  unfold jcL; simp only [List.filter]; split <;> simp_all

theorem jcL_eraseP (js : List JRec) (k h : Nat) :
    jcL (js.eraseP (·.key == k)) h + (match js.find? (·.key == k) with | some j => if (j.isLock && j.hid == some h) = true then 1 else 0 | none => 0) = jcL js h := by
  induction js with
  | nil => simp [jcL]
  | cons x xs ih =>
    by_cases e : (x.key == k) = true
    · simp only [List.eraseP_cons, e, List.find?, cond_true]
      rw [show x :: xs = [x] ++ xs from rfl, jcL_append, jcL_single]; omega
    · have e' : (x.key == k) = false := by simpa using e
      simp only [List.eraseP_cons, e', List.find?, cond_false]
      rw [show x :: List.eraseP (fun x => x.key == k) xs = [x] ++ List.eraseP (fun x => x.key == k) xs from rfl, show x :: xs = [x] ++ xs from rfl,
        jcL_append, jcL_append]
      omega

theorem ite_le_one (c : Prop) [Decidable c] : (if c then 1 else 0 : Nat) ≤ 1 := by split <;> omega

theorem pushJ_jc (db : DB) (r0 : Rec) (b : Bool) (h : Nat) :
    jc (db.pushJ r0 b).1 h ≤ jc db h + 1 ∧ (b = false ∨ r0.cmd.ack = false ∨ r0.hid ≠ h → jc (db.pushJ r0 b).1 h = jc db h) := by
  unfold DB.pushJ
  split
  · exact ⟨Nat.le_add_right _ _, fun _ => rfl⟩
  · split
    · exact ⟨Nat.le_add_right _ _, fun _ => rfl⟩
    · show jcL (db.journal ++ [_]) h ≤ _ ∧ (_ → jcL (db.journal ++ [_]) h = _)
      rw [jcL_append, jcL_single]
      unfold jc
      constructor
      · exact Nat.add_le_add_left (ite_le_one _) _
      · intro hh
        rw [if_neg, Nat.add_zero]
        intro hc
        simp only [Bool.and_eq_true, beq_iff_eq] at hc
        rcases hh with e | e | e
        · rw [e] at hc; cases hc.1
        · rw [e] at hc; simp at hc
        · have := hc.2; split at this <;> simp at this; exact e this

theorem InvA.unref {db : DB} (ha : InvA db) {h : Nat} (hq : (db.getR h).queued = true ∨ h ≥ db.nextHid) : jc db h = 0 ∧ tc db h = 0 := by
  constructor
  · unfold jc; rw [jcL_zero_iff]
    intro j hj hl he
    have := ha.jrn j hj hl h he
    rcases hq with hq | hq
    · rw [hq] at this; exact absurd this.2 (by decide)
    · omega
  · exact (tcL_zero_iff _ _).mpr (hq.elim ha.unref_of_queued fun hq e he e1 => by have := ha.tab_lt he; omega)

/-- following one record: `r` is the record with identity `hid`; everything the invariant asks holds of every OTHER record -/
structure AtK (db : DB) (hid : Nat) (r : Rec) : Prop where
  cfg : reqAcks db.cfg < NOACK
  nd : (db.recs.map (·.hid)).Nodup
  fnd : findR db.recs hid = some r
  orec : ∀ r' ∈ db.recs, r'.hid ≠ hid → KR r'
  ok2 : ∀ h, h ≠ hid → (db.getR h).fp = true → jc db h + tc db h ≤ 1
  ok1 : ∀ e ∈ db.tab, e.hid ≠ hid → (db.getR e.hid).fp = true → (db.getR e.hid).ack + cnt e = reqAcks db.cfg
  oj : ∀ h, h ≠ hid → jc db h > 0 → (db.getR h).depth = 0 ∨ (db.getR h).pending = true

theorem AtK.start {db : DB} (hn : (db.recs.map (·.hid)).Nodup) (hk : InvK db) {hid : Nat} {r : Rec} (e : findR db.recs hid = some r) : AtK db hid r :=
  ⟨hk.cfg, hn, e, fun r' hr' _ => hk.recs r' hr', fun h _ => hk.k2 h, fun e he _ => hk.k1 e he, fun h _ => hk.kj h⟩

theorem AtK.finish {db : DB} {hid : Nat} {r : Rec} (h : AtK db hid r) (hr : KR r) (h2 : r.fp = true → jc db hid + tc db hid ≤ 1)
    (h1 : ∀ e ∈ db.tab, e.hid = hid → r.fp = true → r.ack + cnt e = reqAcks db.cfg)
    (hj : jc db hid > 0 → r.depth = 0 ∨ r.pending = true) : InvK db := by
  have hg := getR_of_find h.fnd
  refine ⟨h.cfg, ?_, ?_, ?_, ?_⟩
  · exact forall_of_found h.nd h.fnd hr h.orec
  · intro a ha
    by_cases e : a = hid
    · subst e; rw [hg] at ha; exact h2 ha
    · exact h.ok2 a e ha
  · intro e he hf
    by_cases e1 : e.hid = hid
    · rw [e1, hg] at hf ⊢; exact h1 e he e1 hf
    · exact h.ok1 e he e1 hf
  · intro a ha
    by_cases e : a = hid
    · subst e; rw [hg]; exact hj ha
    · exact h.oj a e ha

theorem AtK.finishN {db : DB} {hid : Nat} {r : Rec} (h : AtK db hid r) (hr : KR r) (hf : r.fp = false)
    (hj : jc db hid > 0 → r.depth = 0 ∨ r.pending = true) : InvK db :=
  h.finish hr (by intro hh; rw [hf] at hh; exact absurd hh (by decide)) (by intro _ _ _ hh; rw [hf] at hh; exact absurd hh (by decide)) hj

theorem AtK.finishD {db : DB} {hid : Nat} {r : Rec} (h : AtK db hid r) (hr : KR r) (hd : r.depth = 0) : InvK db :=
  h.finishN hr (fp_false_of_depth hd) (fun _ => Or.inl hd)

theorem AtK.sub {db db' : DB} {hid : Nat} {r : Rec} (h : AtK db hid r) (e1 : db'.recs = db.recs)
    (e2 : ∀ x ∈ db'.tab, x.hid ≠ hid → x ∈ db.tab) (e2' : ∀ a, a ≠ hid → tc db' a ≤ tc db a) (e3 : ∀ a, a ≠ hid → jc db' a ≤ jc db a)
    (e4 : db'.cfg = db.cfg) : AtK db' hid r := by
  have hg : ∀ a, db'.getR a = db.getR a := getR_frame e1
  refine ⟨by rw [e4]; exact h.cfg, by rw [e1]; exact h.nd, by rw [e1]; exact h.fnd, by rw [e1]; exact h.orec, ?_, ?_, ?_⟩
  · intro a ha hfp; rw [hg] at hfp
    have := h.ok2 a ha hfp; have := e2' a ha; have := e3 a ha
    omega
  · rw [e4]; intro x hx hne hfp; rw [hg] at hfp ⊢; exact h.ok1 x (e2 x hx hne) hne hfp
  · intro a ha hj; rw [hg]; exact h.oj a ha (by have := e3 a ha; omega)

theorem AtK.tracker (hid : Nat) : Tracker hid (AtK · hid ·) where
  modR {db r} f h hf := by
    have hg : ∀ a, a ≠ hid → (db.modR hid f).getR a = db.getR a := fun a ha => getR_modR_ne db hid f hf a ha
    refine ⟨h.cfg, ?_, ?_, ?_, ?_, ?_, ?_⟩
    · rw [modR_recs, map_hid_modRecs hid f hf]; exact h.nd
    · exact (found_tracker hid).modR f h.fnd hf
    · intro r' hr' hne
      rcases mem_modRecs hr' with hm | ⟨r0, hr0, e⟩
      · exact h.orec r' hm hne
      · rw [e, hf] at hne; exact absurd (findR_some_mem hr0).2 hne
    · intro a ha hfp; rw [hg a ha] at hfp; exact h.ok2 a ha hfp
    · intro e he hne hfp; rw [hg _ hne] at hfp ⊢; exact h.ok1 e he hne hfp
    · intro a ha hj; rw [hg a ha]; exact h.oj a ha hj
  frame h e1 e2 :=
    h.sub e1 (by rw [tab_of_env e2]; exact fun _ hx _ => hx) (fun a _ => by rw [tc_of_conf (congrArg (·.toConf) e2)]; exact Nat.le_refl _)
      (fun a _ => by rw [jc_of_env e2]; exact Nat.le_refl _) (cfg_of_env e2)
  toEnd {db r} a h := by
    refine ⟨h.cfg, nodup_toEnd h.nd a, ?_, ?_, ?_, ?_, ?_⟩
    · exact (found_tracker hid).toEnd a h.fnd
    · intro r' hr'; exact h.orec r' (mem_toEnd.mp hr')
    · intro b hb hfp; rw [getR_toEnd] at hfp; exact h.ok2 b hb hfp
    · intro e he hne hfp; rw [getR_toEnd] at hfp ⊢; exact h.ok1 e he hne hfp
    · intro b hb hj; rw [getR_toEnd]; exact h.oj b hb hj
  pushJ {db r} r0 b h hr0 := by
    have hg : ∀ a, (db.pushJ r0 b).1.getR a = db.getR a := getR_frame (pushJ_recs db r0 b)
    have e2 : ∀ a, a ≠ hid → jc (db.pushJ r0 b).1 a = jc db a := fun a ha => (pushJ_jc db r0 b a).2 (Or.inr (Or.inr (by rw [hr0]; exact fun e => ha e.symm)))
    have e1 : ∀ a, tc (db.pushJ r0 b).1 a = tc db a := tc_of_conf (pushJ_conf db r0 b)
    refine ⟨by rw [pushJ_cfg]; exact h.cfg, by rw [pushJ_recs]; exact h.nd, by rw [pushJ_recs]; exact h.fnd, by rw [pushJ_recs]; exact h.orec, ?_, ?_, ?_⟩
    · intro a ha hfp; rw [hg] at hfp; rw [e1, e2 a ha]; exact h.ok2 a ha hfp
    · rw [pushJ_tab, pushJ_cfg]; intro e he hne hfp; rw [hg] at hfp ⊢; exact h.ok1 e he hne hfp
    · intro a ha hj; rw [hg]; rw [e2 a ha] at hj; exact h.oj a ha hj

theorem AtK.rollback {db : DB} {hid : Nat} {r : Rec} (h : AtK db hid r) :
    ∃ r', AtK (db.rollback hid) hid r' ∧ r'.depth = 0 ∧ r'.ack = NOACK :=
  let ⟨_, _, h'⟩ := (AtK.tracker hid).rollback h
  ⟨_, h', rfl, rfl⟩

theorem InvK.rollback {db : DB} (ha : InvA db) (hk : InvK db) (hid : Nat) {r : Rec} (e : findR db.recs hid = some r) : InvK (db.rollback hid) :=
  let ⟨_, _, h'⟩ := (AtK.tracker hid).rollback (AtK.start ha.nodup hk e)
  h'.finishD (KR.idle rfl rfl) rfl

theorem InvK.sub {db db' : DB} (hk : InvK db) (e1 : db'.recs = db.recs) (e2 : db'.tab.Sublist db.tab) (e3 : db'.journal.Sublist db.journal)
    (e4 : db'.cfg = db.cfg) : InvK db' := by
  have hg : ∀ a, db'.getR a = db.getR a := getR_frame e1
  have h1 : ∀ a, jc db' a ≤ jc db a := jcL_sublist e3
  refine ⟨by rw [e4]; exact hk.cfg, by rw [e1]; exact hk.recs, ?_, ?_, ?_⟩
  · intro a hfp; rw [hg] at hfp
    have := hk.k2 a hfp; have := h1 a; have : tc db' a ≤ tc db a := tcL_sublist e2 a
    omega
  · rw [e4]; intro x hx hfp; rw [hg] at hfp ⊢; exact hk.k1 x (e2.subset hx) hfp
  · intro a hj; rw [hg]; exact hk.kj a (by have := h1 a; omega)

theorem InvK.env {db db' : DB} (hk : InvK db) (e1 : db'.recs = db.recs) (e2 : db'.env = db.env) : InvK db' :=
  hk.sub e1 (by rw [tab_of_env e2]; exact List.Sublist.refl _) (by rw [journal_of_env e2]; exact List.Sublist.refl _) (cfg_of_env e2)

theorem InvK.modKey {db : DB} (hk : InvK db) (k : Nat) (f : Key → Key) : InvK (db.modKey k f) := hk.env (by simp) (by simp)
theorem InvK.dropEnt {db : DB} (hk : InvK db) (id : Nat) : InvK (db.dropEnt id) := hk.sub rfl List.filter_sublist (List.Sublist.refl _) rfl
theorem InvK.popJ {db : DB} (hk : InvK db) (k : Nat) : InvK (popJ db k) := hk.sub rfl (List.Sublist.refl _) List.eraseP_sublist rfl

theorem InvK.getR {db : DB} (hk : InvK db) (a : Nat) : KR (db.getR a) := by
  rw [getR_eq]
  cases e : findR db.recs a with
  | some r => exact hk.recs r (findR_some_mem e).1
  | none => exact KR_dead a

/-- The followed record went from `db` to `d` keeping what the invariant looks at — "is a hold", the wheel flag, the counter — and nothing
new points at it: the invariant of `db` carries over. -/
theorem AtK.keep {db d : DB} {hid : Nat} {r' : Rec} (h : AtK d hid r') (hk : InvK db)
    (hd : r'.depth > 0 ↔ (db.getR hid).depth > 0) (he : r'.expried = (db.getR hid).expried) (ha : r'.ack = (db.getR hid).ack)
    (hj : jc d hid = jc db hid) (ht : d.tab = db.tab) (hc : d.cfg = db.cfg) : InvK d := by
  have hp : r'.pending = (db.getR hid).pending := by unfold Rec.pending; rw [ha]
  have hfp := fp_congr hd he hp
  have hkr := hk.getR hid
  refine h.finish ⟨by rw [ha]; exact hkr.ack_le, ?_⟩ ?_ ?_ ?_
  · intro h1 h2; rw [hp]; exact hkr.pending_of_fresh (hd.mp h1) (by rw [← he]; exact h2)
  · intro hh; rw [hfp] at hh; unfold tc; rw [hj, ht]; exact hk.k2 hid hh
  · rw [ht, hc]; intro x hx hxe hh; rw [hfp] at hh
    have := hk.k1 x hx (by rw [hxe]; exact hh)
    rw [hxe] at this; rw [ha]; exact this
  · intro hh; rw [hj] at hh
    rcases hk.kj hid hh with h1 | h1
    · exact Or.inl (by have := hd.mp; omega)
    · exact Or.inr (hp.trans h1)

theorem InvK.modR_keep {db : DB} (ha : InvA db) (hk : InvK db) (hid : Nat) (f : Rec → Rec) (hf : ∀ r, (f r).hid = r.hid)
    (hfr : ((f (db.getR hid)).depth > 0 ↔ (db.getR hid).depth > 0) ∧ (f (db.getR hid)).expried = (db.getR hid).expried ∧ (f (db.getR hid)).ack = (db.getR hid).ack) :
    InvK (db.modR hid f) := by
  cases e : findR db.recs hid with
  | none => exact hk.env (by rw [modR_recs, modRecs_of_none f e]) rfl
  | some r =>
    rw [getR_of_find e] at hfr
    have := getR_of_find e
    exact ((AtK.tracker hid).modR f (AtK.start ha.nodup hk e) hf).keep hk (by rw [this]; exact hfr.1) (by rw [this]; exact hfr.2.1)
      (by rw [this]; exact hfr.2.2) rfl rfl rfl

theorem InvK.rearm {d : DB} (ha : InvA d) (hk : InvK d) (hid : Nat) {f : Rec → Rec} (n : Nat) (hf : Rearm f) : InvK { d.modR hid f with seq := n } := by
  have hc := fun r => hf.irrel r
  obtain ⟨_, _, _, _, e⟩ := hf (d.getR hid)
  exact (hk.modR_keep ha hid f (fun r => (hc r).1) (by rw [e]; exact ⟨Iff.rfl, rfl, rfl⟩)).env rfl rfl

/-- `hj`: no LOCK journal record points at the record being granted (a queued request or a record just made) -/
theorem InvK.grant {db : DB} (ha : InvA db) (hk : InvK db) (hid : Nat) {r : Rec} (e : findR db.recs hid = some r) (hle : r.ack ≤ NOACK)
    (hj : jc db hid = 0) : InvK (db.grant hid).1 := by
  obtain ⟨u, t, s, h'⟩ := (AtK.tracker hid).grant (AtK.start ha.nodup hk e)
  refine h'.finishN (KR.wheel ?_ rfl) (fp_false_of_expried rfl) (by intro hh; rw [jc_of_env (grant_env db hid), hj] at hh; omega)
  show (if r.cmd.ack = true then 0 else r.ack) ≤ NOACK
  split
  · decide
  · exact hle

/-- a record just entered its ack phase: pending with counter 0, pointed at by at most the LOCK record just pushed -/
theorem AtK.finishP {db d : DB} {hid : Nat} {r : Rec} (h : AtK d hid r) (hack : r.ack = 0) (hu : jc db hid = 0 ∧ tc db hid = 0)
    (hj : jc d hid ≤ jc db hid + 1) (ht : d.tab = db.tab) : InvK d := by
  have hp : r.pending = true := (pending_iff r).mpr (by rw [hack]; decide)
  refine h.finish (KR.pend (by rw [hack]; decide)) ?_ ?_ (fun _ => Or.inr hp)
  · intro _; unfold tc; rw [ht]; have := hu.1; have : tcL db.tab hid = 0 := hu.2; omega
  · rw [ht]; intro x hx hxe _; exact absurd hxe ((tcL_zero_iff db.tab hid).mp hu.2 x hx)

theorem pushLock_jc (db : DB) (hid : Nat) : jc (db.pushLock hid).1 hid ≤ jc db hid + 1 := by
  have := (pushJ_jc db (db.getR hid) true hid).1
  unfold DB.pushLock
  simp only []
  split
  · rw [jc_of_env (modR_env _ _ _)]; exact this
  · exact this

theorem ackWake_jc (db : DB) (hid : Nat) (f : Counters → Counters) : jc (ackWake db hid f) hid ≤ jc db hid + 1 := by
  have := pushLock_jc (db.ackHold hid) hid
  rw [jc_of_env (ackHold_env db hid)] at this
  exact this

theorem InvK.applyWake {db : DB} (ha : InvA db) (hk : InvK db) (k : Nat) : InvK (applyWake db k (classifyWake db k)).1 := by
  fun_cases classifyWake db k <;> dsimp only [Slock.Ack.applyWake] <;> try exact hk
  case case3 w hw _ _ _ =>  -- ackFail
    obtain ⟨u, h1⟩ := (AtK.tracker w.hid).ackHold (AtK.start ha.nodup hk (ha.waiter hw).1)
    obtain ⟨u', a, h3⟩ := (AtK.tracker w.hid).failed ((AtK.tracker w.hid).ctrMod h1 _)
    exact h3.finishD (KR.idle rfl rfl) rfl
  case case4 w hw _ hya _ =>  -- ackGrant
    obtain ⟨hf, _, hq, _⟩ := ha.waiter hw
    obtain ⟨u, a, h2⟩ := (AtK.tracker w.hid).ackWake (AtK.start ha.nodup hk hf) (fun x => { x with waitCount := x.waitCount - 1 })
    exact h2.finishP (if_pos hya) (ha.unref (Or.inl (by rw [getR_of_find hf]; exact hq))) (ackWake_jc ..) (tab_of_conf (ackWake_conf ..))
  case case5 w hw _ _ =>  -- grant
    obtain ⟨hf, _, hq, _⟩ := ha.waiter hw
    exact InvK.grant (ha.ctrMod _) (hk.env rfl rfl) w.hid hf (hk.recs w (findR_some_mem hf).1).ack_le (ha.unref (Or.inl (by rw [getR_of_find hf]; exact hq))).1

theorem InvK.wake {db : DB} (ha : InvA db) (hk : InvK db) (k : Nat) (out : List Reply) : InvK (db.wake k out).1 :=
  (wake_ind k (fun d _ => InvA d ∧ InvK d) (fun _ _ h _ => ⟨h.1.applyWake k, InvK.applyWake h.1 h.2 k⟩)
    (fun _ _ h => ⟨h.1.modKey _ _, h.2.modKey _ _⟩) db out ⟨ha, hk⟩).2

theorem AtK.applyAck {d : DB} {hid : Nat} {r : Rec} (h : AtK d hid r) {b : AckBranch}
    (hb : (b = .update ∧ r.depth = 0) ∨ (b = .succeed ∧ jc d hid = 0)) : InvK (applyAck d hid b).1 := by
  have h0 := (AtK.tracker hid).modR (fun r => { r with timeouted := true }) h (fun _ => rfl)
  unfold Slock.Ack.applyAck
  rcases hb with ⟨rfl, hd⟩ | ⟨rfl, hj⟩
  · exact ((AtK.tracker hid).modR (fun r => { r with ack := NOACK, undo := none }) h0 (fun _ => rfl)).finishD (KR.idle hd rfl) hd
  · obtain ⟨t, s, h2⟩ := (AtK.tracker hid).addExpried
      ((AtK.tracker hid).modR (fun r => { r with ack := NOACK, undo := none, expT := r.startT + r.cmd.expried + 1 }) h0 (fun _ => rfl))
    exact h2.finishN (KR.wheel (Nat.le_refl _) rfl) (fp_false_of_expried rfl) (by
      intro hh
      have : jc ((d.modR hid (fun r => { r with timeouted := true })).modR hid
          (fun r => { r with ack := NOACK, undo := none, expT := r.startT + r.cmd.expried + 1 }) |>.addExpried hid) hid = jc d hid := rfl
      rw [this, hj] at hh; omega)

/-- `he`: a pending hold is not in the expiry wheel yet (`QR`); `hj0`: the success exit is reached from the table entry, the journal no longer
holds the lock's LOCK record -/
theorem InvK.ackDone {db : DB} (ha : InvA db) (hk : InvK db) (hid : Nat) (ok : Bool)
    (he : (db.getR hid).pending = true → (db.getR hid).depth > 0 → (db.getR hid).expried = true)
    (hj0 : ok = true → jc db hid = 0) : InvK (ackDone db hid ok).1 := by
  have hs := fun hp : (db.getR hid).pending = true => AtK.start ha.nodup hk (present_of_pending hp)
  unfold Slock.Ack.ackDone
  cases e : classifyAck db hid ok <;> have hf := AckFacts.of e
  · unfold Slock.Ack.applyAck
    exact hk.modR_keep ha hid _ (fun _ => rfl) ⟨Iff.rfl, rfl, rfl⟩
  · refine (hs hf.1).applyAck (Or.inl ⟨rfl, ?_⟩)
    rcases hf.2 with h | h
    · exact Nat.eq_zero_of_not_pos fun hd => by rw [he hf.1 hd] at h; cases h
    · exact h
  · exact (hs hf.1).applyAck (Or.inr ⟨rfl, hj0 hf.2.2.2⟩)
  · obtain ⟨u, a, h2⟩ := (AtK.tracker hid).failed (hs hf.1)
    unfold Slock.Ack.applyAck
    exact InvK.wake (ha.failed hid) (h2.finishD (KR.idle rfl rfl) rfl) _ _

theorem InvK.newRec {db : DB} (ha : InvA db) (hk : InvK db) (c : Cmd) : InvK (db.newRec c).1 := by
  obtain ⟨r0, e0, e1, e2, e3, e4, _⟩ := newRec_recs db c
  have hg : ∀ a, a ≠ db.nextHid → (db.newRec c).1.getR a = db.getR a := fun a ha => newRec_getR db c a ha
  have hnew : ((db.newRec c).1.getR db.nextHid).fp = false := by
    show ((db.newRec c).1.getR (db.newRec c).2).fp = false; rw [getR_of_find (newRec_findR ha.hidLt c)]; rfl
  refine ⟨hk.cfg, ?_, ?_, ?_, ?_⟩
  · intro r hr; rw [e0] at hr
    rcases List.mem_append.mp hr with hr | hr
    · exact hk.recs r hr
    · simp at hr; subst hr; exact KR.idle e2 e4
  · intro a hfp
    by_cases e : a = db.nextHid
    · rw [e, hnew] at hfp; exact absurd hfp (by decide)
    · rw [hg a e] at hfp; exact hk.k2 a hfp
  · intro x hx hfp
    have hlt := ha.tab_lt hx
    rw [hg _ (by omega)] at hfp ⊢; exact hk.k1 x hx hfp
  · intro a hj
    have hj' : jc db a > 0 := hj
    by_cases e : a = db.nextHid
    · have := (ha.unref (h := a) (Or.inr (by omega))).1; omega
    · rw [hg a e]; exact hk.kj a hj'

/-- the re-entrant re-lock pushes at most a record without lock pointer -/
theorem relockHold_jc (db : DB) (c : Cmd) (hid h : Nat) : jc (db.relockHold c hid) h = jc db h := by
  have fin : ∀ d : DB, jc d h = jc db h →
      jc (if ((d.updateHold hid c).getR hid).isAof = true then ((d.updateHold hid c).pushJ ((d.updateHold hid c).getR hid).noAckFlag true).1
        else d.updateHold hid c) h = jc db h := by
    intro d hd
    have := (jc_of_env (updateHold_env d hid c) h).trans hd
    split
    · rw [(pushJ_jc _ _ true h).2 (Or.inr (Or.inl (noAck_ack _)))]; exact this
    · exact this
  unfold DB.relockHold
  simp only []
  refine (jc_of_env (ctrMod_env _ _) h).trans ?_
  split
  · exact fin _ (jc_of_env (by simp) h)
  · exact fin _ (jc_of_env (by simp) h)

theorem InvK.opLock {db : DB} (ha : InvA db) (hk : InvK db) (c : Cmd) : InvK (opLock db c).1 := by
  have f0 := newRec_findR ha.hidLt c
  have hu : jc (db.newRec c).1 (db.newRec c).2 = 0 ∧ tc (db.newRec c).1 (db.newRec c).2 = 0 := ha.unref (h := db.nextHid) (Or.inr (Nat.le_refl _))
  have hs := AtK.start (ha.newRec c).nodup (InvK.newRec ha hk c) f0
  unfold Slock.Ack.opLock
  cases e : classifyLock db c with
  | stateError | ackWaiting | relockRefused | timeout => exact hk
  | relock h =>
    obtain ⟨r, hr, rfl, hnp, _⟩ := LockFacts.of e
    have hm := findHolder_mem hr
    have hkr := hk.recs r hm.1
    have hgr := ha.getR_of_mem hm.1
    obtain ⟨e', t, s, h1, he'⟩ := (AtK.tracker r.hid).relockHold (AtK.start ha.nodup hk (findR_of_mem ha.nodup hm.1)) c
    have hne : r.expried = false := by
      cases e : r.expried with
      | false => rfl
      | true => have := hkr.pending_of_fresh hm.2 e; rw [hnp] at this; cases this
    have he'' : e' = false := by rcases he' with h | h; exact h; rw [h]; exact hne
    subst he''
    unfold applyLock
    exact InvK.wake (ha.relockHold c r.hid (ha.holder hm)) (h1.finishN (KR.wheel hkr.ack_le rfl) (fp_false_of_expried rfl) (by
      intro hh; rw [relockHold_jc, hk.jz (by rw [hgr]; exact hm.2) (by rw [hgr]; exact hnp)] at hh; omega)) _ _
  | grant =>
    have h1 : InvK ((db.newRec c).1.grant (db.newRec c).2).1 := InvK.grant (ha.newRec c) (InvK.newRec ha hk c) _ f0 (Nat.le_refl _) hu.1
    unfold applyLock
    simp only []
    split
    · exact InvK.wake ((ha.newRec c).grant _ (ha.newRec_unref c)) h1 _ _
    · exact h1
  | ackGrant =>
    obtain ⟨u, h1⟩ := (AtK.tracker _).ackHold hs
    obtain ⟨t, s, h2⟩ := (AtK.tracker _).addTimeOut h1
    obtain ⟨a, h3⟩ := (AtK.tracker _).pushLock h2
    have hk3 : InvK ((((db.newRec c).1.ackHold (db.newRec c).2).addTimeOut (db.newRec c).2).pushLock (db.newRec c).2).1 := by
      refine h3.finishP (by show (if c.ack = true then 0 else NOACK) = 0; rw [(LockFacts.of e).2]; rfl) hu ?_ ?_
      · have := pushLock_jc (((db.newRec c).1.ackHold (db.newRec c).2).addTimeOut (db.newRec c).2) (db.newRec c).2
        rw [jc_of_env (show (((db.newRec c).1.ackHold (db.newRec c).2).addTimeOut (db.newRec c).2).env = (db.newRec c).1.env from by simp)] at this
        exact this
      · exact (tab_of_conf (pushLock_conf ..)).trans (tab_of_env (show (((db.newRec c).1.ackHold (db.newRec c).2).addTimeOut (db.newRec c).2).env = (db.newRec c).1.env from by simp))
    unfold applyLock
    simp only []
    split
    · exact hk3
    · exact InvK.ackDone (ha.ackGranted c) hk3 _ _ (by intro _ _; rw [getR_of_find h3.fnd]; rfl) (by intro hh; cases hh)
  | queue =>
    obtain ⟨t, s, h2⟩ := (AtK.tracker _).addTimeOut ((AtK.tracker _).modR (fun r => { r with queued := true }) hs (fun _ => rfl))
    unfold applyLock
    exact ((AtK.tracker _).ctrMod ((AtK.tracker _).modKey h2 c.key (fun k => { k with waited := true }))
      (fun x => { x with waitCount := x.waitCount + 1 })).finishD (KR.idle rfl rfl) rfl

theorem journalUnlock_jc (db : DB) (hid : Nat) (keep : Bool) (h : Nat) : jc (db.journalUnlock hid keep) h = jc db h := by
  have := (pushJ_jc db (db.getR hid) false h).2 (Or.inl rfl)
  unfold DB.journalUnlock
  split
  · simp only []; split
    · rw [jc_of_env (modR_env _ _ _)]; exact this
    · exact this
  · rfl

theorem lowered_jc (db : DB) (hid k : Nat) (f : Counters → Counters) (h : Nat) : jc (lowered db hid k f) h = jc db h :=
  (jc_of_env (ctrMod_env _ f) h).trans ((journalUnlock_jc _ hid true h).trans (jc_of_env (modKey_env _ k _) h))

theorem InvK.opUnlock {db : DB} (ha : InvA db) (hk : InvK db) (c : Cmd) : InvK (opUnlock db c).1 := by
  unfold Slock.Ack.opUnlock
  cases e : classifyUnlock db c with
  | stateError | notLocked | unown | ackWaiting => unfold applyUnlock DB.bumpErr; dsimp only; exact hk.env rfl rfl
  | dec h =>
    obtain ⟨r, u, rfl, _, hd⟩ := UnlockFacts.of e
    have hgr := ha.getR_of_mem u.mem.1
    obtain ⟨a, h2⟩ := (AtK.tracker r.hid).lowered (AtK.start ha.nodup hk (findR_of_mem ha.nodup u.mem.1)) c.key
      (fun x => { x with unLockCount := x.unLockCount + 1, lockedCount := x.lockedCount - 1 })
    unfold applyUnlock
    refine InvK.wake (ha.lowered r.hid _ _) (h2.keep hk ?_ (by rw [hgr]) (by rw [hgr]) (lowered_jc ..) (tab_of_conf (lowered_conf ..))
      (cfg_of_conf (lowered_conf ..))) _ _
    rw [hgr]; show r.depth - 1 > 0 ↔ r.depth > 0; omega
  | release h =>
    obtain ⟨r, u, rfl, _⟩ := UnlockFacts.of e
    obtain ⟨a, h3⟩ := (AtK.tracker r.hid).released (AtK.start ha.nodup hk (findR_of_mem ha.nodup u.mem.1)) _ _ _
    unfold applyUnlock
    exact InvK.wake (ha.released r.hid _ _ _) (h3.finishD (KR.idle rfl rfl) rfl) _ _

theorem InvK.fireTimeout {db : DB} (ha : InvA db) (hk : InvK db) (hid : Nat) (hnt : (db.getR hid).timeouted = false) : InvK (fireTimeout db hid).1 := by
  have hpr := present_of_timeouted hnt
  have hs := AtK.start ha.nodup hk hpr
  unfold Slock.Ack.fireTimeout
  simp only []
  split
  · obtain ⟨u, a, h2⟩ := (AtK.tracker hid).failed hs
    exact InvK.wake ((ha.failed hid).ctrMod _) (((AtK.tracker hid).ctrMod h2 _).finishD (KR.idle rfl rfl) rfl) _ _
  · rename_i hd
    have hd0 : (db.getR hid).depth = 0 := by omega
    exact InvK.wake (ha.dropWaiter hid) (((AtK.tracker hid).dropWaiter hs).finishD ⟨(hk.recs _ (findR_some_mem hpr).1).ack_le, fun h => by have : (db.getR hid).depth > 0 := h; omega⟩ hd0) _ _

theorem InvK.fireExpire {db : DB} (ha : InvA db) (hk : InvK db) (hid : Nat) (hne : (db.getR hid).expried = false) : InvK (fireExpire db hid).1 := by
  have hpr := present_of_expried hne
  have hs := AtK.start ha.nodup hk hpr
  unfold Slock.Ack.fireExpire
  simp only []
  split
  · obtain ⟨t, s, h2⟩ := (AtK.tracker hid).addExpried ((AtK.tracker hid).modR (fun r => { r with expT := db.now + 30 }) hs (fun _ => rfl))
    exact h2.finishN (KR.wheel (hk.recs _ (findR_some_mem hpr).1).ack_le rfl) (fp_false_of_expried rfl) (fun hj => hk.kj hid hj)
  · obtain ⟨a, h3⟩ := (AtK.tracker hid).released hs _ _ _
    exact InvK.wake (ha.released hid _ _ _) (h3.finishD (KR.idle rfl rfl) rfl) _ _

theorem InvK.sweepTimeout {db : DB} (ha : InvA db) (hk : InvK db) (c : Nat) : InvK (sweepTimeout db c).1 :=
  (sweepTimeout_ind (fun d _ => InvA d ∧ InvK d) (fun _ _ _ _ n h hf => ⟨h.1.rearm _ n hf, h.2.rearm h.1 _ n hf⟩)
    (fun _ _ hid h hnt => ⟨h.1.fireTimeout hid, InvK.fireTimeout h.1 h.2 hid hnt⟩) db c [] ⟨ha, hk⟩).2

theorem InvK.sweepExpire {db : DB} (ha : InvA db) (hk : InvK db) (c : Nat) : InvK (sweepExpire db c).1 :=
  (sweepExpire_ind (fun d _ => InvA d ∧ InvK d) (fun _ _ _ _ n h hf => ⟨h.1.rearm _ n hf, h.2.rearm h.1 _ n hf⟩)
    (fun _ _ hid h hne => ⟨h.1.fireExpire hid, InvK.fireExpire h.1 h.2 hid hne⟩) db c [] ⟨ha, hk⟩).2

theorem InvK.opTick {db : DB} (ha : InvA db) (hk : InvK db) : InvK (opTick db).1 :=
  (opTick_ind (fun d _ => InvA d ∧ InvK d) (fun _ _ _ _ _ h => ⟨h.1.env rfl rfl, h.2.env rfl rfl⟩)
    (fun _ _ _ _ n h hf => ⟨h.1.rearm _ n hf, h.2.rearm h.1 _ n hf⟩)
    (fun _ _ hid h hnt => ⟨h.1.fireTimeout hid, InvK.fireTimeout h.1 h.2 hid hnt⟩)
    (fun _ _ hid h hne => ⟨h.1.fireExpire hid, InvK.fireExpire h.1 h.2 hid hne⟩) db [] ⟨ha, hk⟩).2

/-- the LOCK record being delivered to a leader belongs to a lock that is dead or still waiting for it (`InvK.kj`): the guard of the balance -/
theorem InvK.pushGuard {db : DB} (hk : InvK db) {j : JRec} {hid : Nat} (hm : j ∈ db.journal) (hl : j.isLock = true) (hh : j.hid = some hid) :
    (db.getR hid).depth > 0 → (db.getR hid).pending = true := by
  intro hd
  rcases hk.kj hid (jc_pos_of_mem hm hl hh) with h | h
  · omega
  · exact h

theorem tcL_single_ne {e : Ent} {a : Nat} (h : e.hid ≠ a) : tcL [e] a = 0 := (tcL_zero_iff _ _).mpr (by intro x hx; simp at hx; subst hx; exact h)

/-- `hc`: nothing has been noted in the new entry yet. `h0`: if it is a fresh pending hold, the LOCK record just delivered was the only thing
pointing at it. -/
theorem InvK.arm {d : DB} (ha : InvA d) (hk : InvK d) {hid : Nat} {r : Rec} (hf : findR d.recs hid = some r) (e : Ent) (he : e.hid = hid)
    (hc : e.oks = []) (h0 : r.fp = true → jc d hid = 0 ∧ tc d hid = 0) :
    InvK { d.modR hid (fun r => { r with ack := reqAcks d.cfg }) with tab := d.tab ++ [e] } := by
  have hkr := hk.recs r (findR_some_mem hf).1
  have h2 := ((AtK.tracker hid).modR (fun r => { r with ack := reqAcks d.cfg }) (AtK.start ha.nodup hk hf) (fun _ => rfl)).sub
    (db' := { d.modR hid (fun r => { r with ack := reqAcks d.cfg }) with tab := d.tab ++ [e] }) rfl
    (fun x hx hne => (List.mem_append.mp hx).elim id (fun hx => by simp at hx; subst hx; exact absurd he hne))
    (fun a hne => by show tcL (d.tab ++ [e]) a ≤ tcL d.tab a; rw [tcL_append, tcL_single_ne (by rw [he]; exact fun h => hne h.symm)]; exact Nat.le_refl _)
    (fun _ _ => Nat.le_refl _) rfl
  have hz : ({ r with ack := reqAcks d.cfg } : Rec).fp = true → jc d hid = 0 ∧ tc d hid = 0 := fun hh => h0 (by
    have ⟨hd, he, _⟩ := (fp_iff _).mp hh
    exact (fp_iff r).mpr ⟨hd, he, hkr.pending_of_fresh hd he⟩)
  refine h2.finish (KR.pend hk.cfg) ?_ ?_ (fun _ => Or.inr ((pending_iff _).mpr (by have := hk.cfg; show reqAcks d.cfg ≠ NOACK; omega)))
  · intro hh
    show jcL d.journal hid + tcL (d.tab ++ [e]) hid ≤ 1
    rw [tcL_append]
    have : tcL [e] hid ≤ 1 := by unfold tcL; simp only [List.filter]; split <;> simp
    have := hz hh; unfold jc tc at this; omega
  · intro x hx hxe hh
    rcases List.mem_append.mp hx with hx | hx
    · exact absurd hxe ((tcL_zero_iff _ _).mp (hz hh).2 x hx)
    · simp at hx; subst hx; show reqAcks d.cfg + x.oks.length = reqAcks d.cfg; rw [hc]; rfl

theorem noteOk_split {id : Nat} {who : Option Nat} {l : List Ent} {e : Ent} (h : l.find? (·.id == id) = some e) :
    ∃ l1 l2 e', l = l1 ++ e :: l2 ∧ noteOk id who l = l1 ++ e' :: l2 ∧ e'.hid = e.hid ∧ e'.id = e.id ∧ e'.oks = e.oks ++ [who] := by
  induction l with
  | nil => simp at h
  | cons x xs ih =>
    unfold noteOk
    by_cases ex : (x.id == id) = true
    · simp only [List.find?, ex] at h
      have : x = e := by simpa using h
      subst this
      rw [if_pos ex]
      exact ⟨[], xs, _, rfl, rfl, rfl, rfl, rfl⟩
    · have ex' : (x.id == id) = false := by simpa using ex
      simp only [List.find?, ex'] at h
      rw [ex']; simp only [Bool.false_eq_true, if_false]
      obtain ⟨l1, l2, e', a1, a2, a3⟩ := ih h
      exact ⟨x :: l1, l2, e', by rw [a1]; rfl, by rw [a2]; rfl, a3⟩

theorem InvK.opReport {db : DB} (ha : InvA db) (hk : InvK db) (hq : InvQ db) (id : Nat) (who : Option Nat) (ok : Bool) : InvK (opReport db id who ok).1 := by
  have key : ∀ e, db.findId id = some e → (db.getR e.hid).pending = true →
      e ∈ db.tab ∧ decU8 (db.getR e.hid).ack + 1 = (db.getR e.hid).ack ∧ (db.getR e.hid).ack < NOACK ∧ (db.getR e.hid).expried = true ∧
      AtK (db.modR e.hid (fun r => { r with ack := decU8 r.ack })) e.hid { db.getR e.hid with ack := decU8 (db.getR e.hid).ack } := by
    intro e he hp
    have hem : e ∈ db.tab := List.mem_of_find?_eq_some he
    have := (hk.getR e.hid).ack_le
    have := (pending_iff _).mp hp
    exact ⟨hem, decU8_succ (ha.tab_ack ⟨e, hem, rfl⟩ hp), by omega, (hq.getR e.hid).expried_of_pending hp,
      (AtK.tracker e.hid).modR (fun r => { r with ack := decU8 r.ack }) (AtK.start ha.nodup hk (present_of_pending hp)) (fun _ => rfl)⟩
  refine opReport_ind (fun d _ => InvK d) id who ok hk ?_ ?_ ?_
  · intro e _ _
    exact InvK.ackDone (ha.dropEnt id) (hk.dropEnt id) _ _ (fun hp _ => ((hq.frame rfl rfl : InvQ (db.dropEnt id)).getR e.hid).expried_of_pending hp)
      (by intro hh; cases hh)
  · intro e he _ hp hpos
    obtain ⟨hem, hdec, hlt, _, hs⟩ := key e he hp
    obtain ⟨l1, l2, e', a1, a2, a3, a4, a5⟩ := noteOk_split (who := who) he
    have hpend' : ({ db.getR e.hid with ack := decU8 (db.getR e.hid).ack } : Rec).pending = true := (pending_iff _).mpr (by show decU8 _ ≠ NOACK; omega)
    have hfp' : ({ db.getR e.hid with ack := decU8 (db.getR e.hid).ack } : Rec).fp = (db.getR e.hid).fp := fp_congr Iff.rfl rfl (hpend'.trans hp.symm)
    have htc : ∀ a, tcL (noteOk id who db.tab) a = tcL db.tab a := by
      intro a; rw [a2, a1, tcL_append, tcL_append, show e' :: l2 = [e'] ++ l2 from rfl, show e :: l2 = [e] ++ l2 from rfl, tcL_append, tcL_append]
      unfold tcL; simp only [List.filter, a3]; split <;> rfl
    have h2 := hs.sub (db' := { db.modR e.hid (fun r => { r with ack := decU8 r.ack }) with tab := noteOk id who db.tab }) rfl
      (fun x hx hne => by
        have hx' : x ∈ l1 ++ e' :: l2 := a2 ▸ hx
        show x ∈ db.tab
        rw [a1]
        rcases List.mem_append.mp hx' with h | h
        · exact List.mem_append_left _ h
        · rcases List.mem_cons.mp h with h | h
          · rw [h, a3] at hne; exact absurd rfl hne
          · exact List.mem_append_right _ (List.mem_cons_of_mem _ h))
      (fun a _ => by show tcL (noteOk id who db.tab) a ≤ tcL db.tab a; rw [htc]; exact Nat.le_refl _) (fun _ _ => Nat.le_refl _) rfl
    refine h2.finish (KR.pend (by show decU8 _ < NOACK; omega)) ?_ ?_ (fun _ => Or.inr hpend')
    · intro hf; rw [hfp'] at hf
      show jcL db.journal e.hid + tcL (noteOk id who db.tab) e.hid ≤ 1
      rw [htc]; exact hk.k2 e.hid hf
    · intro x hx hxe hf
      rw [hfp'] at hf
      have h2' := hk.k2 e.hid hf
      have h1' := hk.k1 e hem hf
      have hx' : x ∈ l1 ++ e' :: l2 := a2 ▸ hx
      -- by k2 the only entry of this record is `e` itself
      have htc0 : tcL l1 e.hid = 0 ∧ tcL l2 e.hid = 0 := by
        unfold tc at h2'; rw [a1, tcL_append, show e :: l2 = [e] ++ l2 from rfl, tcL_append] at h2'
        have : tcL [e] e.hid = 1 := by unfold tcL; simp [List.filter]
        omega
      have : x = e' := by
        rcases List.mem_append.mp hx' with h | h
        · exact absurd hxe ((tcL_zero_iff _ _).mp htc0.1 x h)
        · rcases List.mem_cons.mp h with h | h
          · exact h
          · exact absurd hxe ((tcL_zero_iff _ _).mp htc0.2 x h)
      subst this
      show decU8 (db.getR e.hid).ack + x.oks.length = reqAcks db.cfg
      unfold cnt at h1'
      rw [a5]; simp; omega
  · intro e he hok hp hz
    obtain ⟨hem, hdec, _, hexq, hs⟩ := key e he hp
    have h3 := hs.sub (db' := (db.modR e.hid (fun r => { r with ack := decU8 r.ack })).dropEnt id) rfl
      (fun x hx _ => (List.mem_filter.mp hx).1) (fun a _ => tcL_sublist List.filter_sublist a) (fun _ _ => Nat.le_refl _) rfl
    unfold Slock.Ack.ackDone
    cases e2 : classifyAck ((db.modR e.hid (fun r => { r with ack := decU8 r.ack })).dropEnt id) e.hid true <;> have hf := AckFacts.of e2 <;>
      simp only [AckFacts, getR_of_find h3.fnd] at hf
    · have : (decU8 (db.getR e.hid).ack != NOACK) = false := hf
      rw [hz] at this; cases this
    · exact h3.applyAck (Or.inl ⟨rfl, hf.2.resolve_left (by rw [show _ = true from hexq]; exact fun h => by cases h)⟩)
    · refine h3.applyAck (Or.inr ⟨rfl, ?_⟩)
      have := hk.k2 e.hid ((fp_iff _).mpr ⟨Nat.pos_of_ne_zero hf.2.2.1, hexq, hp⟩); have := tc_pos_of_mem hem
      show jc db e.hid = 0; omega
    · cases hf.2.2.2

theorem InvK.init (cfg : Cfg) (now : Nat) (hc : reqAcks cfg < NOACK) : InvK (DB.init cfg now) := by
  refine ⟨hc, ?_, ?_, ?_, ?_⟩
  rotate_left 3
  · intro h hj; simp [jc, jcL, DB.init] at hj
  · intro r hr; simp [DB.init] at hr
  · intro h hf
    have : (DB.init cfg now).getR h = deadRec h := rfl
    rw [this] at hf; cases hf
  · intro e he; simp [DB.init] at he

end Slock.Ack
