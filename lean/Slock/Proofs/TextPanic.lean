import Slock.Model.TextCmd
/-! M-TEXT: no converter input reaches a Go index panic (C13 text part). -/
namespace Slock.Text

theorem idx_none_iff (l : List Bytes) (i : Nat) : idx l i = none ↔ l.length ≤ i := by
  unfold idx; simp

theorem idx_lt {l : List Bytes} {i : Nat} (h : i < l.length) : idx l i = some l[i] :=
  List.getElem?_eq_getElem h

/-- A branch of a converter cannot be the outcome `x` when neither arm is: the `if`-chains over keywords below are
walked arm by arm with this, in the order of the model. -/
theorem ite_ne {α} {c : Prop} [Decidable c] {a b x : α} (ha : a ≠ x) (hb : b ≠ x) : (if c then a else b) ≠ x := by
  split <;> assumption

/-- `ConvertArgs2Flag` never indexes out of range (the guard `i+1 >= len(args)` precedes `args[i+1]`) -/
theorem argsFlag_no_panic (fuel : Nat) (tail : List Bytes) (i : Nat) (h : Hdr) :
    argsFlag fuel tail i h ≠ .panic := by
  induction fuel generalizing i h with
  | zero => simp [argsFlag]
  | succ n ih =>
    have valued (cls : String) (f : Int → Hdr) :
        (if i + 1 ≥ tail.length then FlagOut.err "Args_Count"
         else match idx tail (i + 1) with
          | none => .panic
          | some v => match atoi v with
            | none => .err cls
            | some x => argsFlag n tail (i + 2) (f x)) ≠ .panic := by
      by_cases hg : i + 1 ≥ tail.length
      · rw [if_pos hg]; simp
      · rw [if_neg hg, idx_lt (by omega)]
        dsimp only
        cases atoi tail[i + 1] with
        | none => nofun
        | some x => exact ih _ _
    rw [argsFlag]
    cases idx tail i with
    | none => simp
    | some kw =>
      simp only []
      exact ite_ne (valued _ _) <| ite_ne (valued _ _) <| ite_ne (valued _ _) <| ite_ne (valued _ _) <|
        ite_ne (ih _ _) <| ite_ne (ih _ _) <| ite_ne (ih _ _) <| ite_ne (ih _ _) (ih _ _)

/-- `ConvertTextLockAndUnLockCommand` never indexes out of range: the even-length guard makes every `args[i+1]`
valid and `args[i+2:]` is at worst empty; by induction on the recursion depth (EXECUTE nests the converter). -/
theorem lock_no_panic_aux (ctx : Ctx) (f : Nat) :
    (∀ (name : Bytes) (rest : List Bytes) (c : LockCmd) (hasId : Bool), rest.length < f → rest.length % 2 = 0 →
        lockLoop f ctx name rest c hasId ≠ .panic) ∧
    (∀ (args : List Bytes), args.length < f → lockConv f ctx args ≠ .panic) := by
  induction f with
  | zero => exact ⟨fun _ _ _ _ h => by omega, fun _ h => by omega⟩
  | succ n ih =>
    obtain ⟨ihL, ihC⟩ := ih
    constructor
    · intro name rest c hasId hlen hpar
      match rest, hlen, hpar with
      | [], _, _ =>
        rw [lockLoop]
        exact ite_ne (by simp) <| ite_ne (by simp) (by simp)
      | [_], _, hp => simp at hp
      | kw :: v :: rest', hl, hp =>
        have next (c' : LockCmd) (b : Bool) : lockLoop n ctx name rest' c' b ≠ .panic :=
          ihL _ _ _ _ (by simp at hl; omega) (by simp at hp; omega)
        have num (cls : String) (k : Int → Conv) (hk : ∀ x, k x ≠ .panic) :
            (match atoi v with | none => Conv.err cls | some x => k x) ≠ .panic := by
          cases atoi v with
          | none => nofun
          | some x => exact hk x
        have exec (k : LockCmd → Conv) (hk : ∀ s, k s ≠ .panic) :
            (match lockConv n ctx rest' with | .ok sub => k sub | r => r) ≠ .panic := by
          have hsub := ihC rest' (by simp at hl; omega)
          cases hs : lockConv n ctx rest' with
          | ok sub => exact hk sub
          | err e => simp
          | panic => exact absurd hs hsub
        rw [lockLoop]
        simp only []
        exact ite_ne (next _ _) <| ite_ne (num _ _ fun _ => next _ _) <| ite_ne (num _ _ fun _ => next _ _) <|
          ite_ne (num _ _ fun _ => next _ _) <| ite_ne (num _ _ fun _ => next _ _) <|
          ite_ne (num _ _ fun _ => next _ _) <| ite_ne (num _ _ fun _ => ite_ne (next _ _) (next _ _)) <|
          ite_ne (next _ _) <| ite_ne (next _ _) <| ite_ne (num _ _ fun _ => next _ _) <| ite_ne (next _ _) <|
          ite_ne (num _ _ fun _ => next _ _) <| ite_ne (exec _ fun _ => next _ _) <| ite_ne (next _ _) <|
          ite_ne (num _ _ fun _ => next _ _) (next _ _)
    · intro args hlen
      rw [lockConv]
      by_cases hbad : args.length < 2 ∨ args.length % 2 ≠ 0
      · rw [if_pos hbad]; simp
      · rw [if_neg hbad, idx_lt (by omega), idx_lt (by omega)]
        exact ihL _ _ _ _ (by simp; omega) (by simp; omega)

theorem convertLock_no_panic (ctx : Ctx) (args : List Bytes) : convertLock ctx args ≠ .panic :=
  (lock_no_panic_aux ctx (args.length + 1)).2 args (by omega)

end Slock.Text
