import Slock.Proofs.EngineSimTickSort
import Slock.Proofs.Engine2SimBase
/-! Clock-tick simulation (`sim_tick`): the record-level list of due wheel entries at the start of a sweep (`tEntries` / `eEntries`: all
records with a matching wheel entry, tombstoned ones included) is the sort by sequence number of the unsorted list `rawE` in the order of
the key table and the record lists: membership, no entry twice, the slot list and the long-table list of one sweep disjoint. -/
namespace Slock.SimTick
open Slock Slock.Sim Slock.Engine2
open Slock.Engine (sortBySeq)

def eid (e : Ent) : Nat × Nat := (e.key, e.rid)

def entOf (sel : Rec → Option Engine.Sched) (p : Engine.Sched → Bool) (key : Nat) (r : Rec) : Option Ent :=
  match sel r with
  | some sc => if p sc then some ⟨key, r.rid, sc.seq⟩ else none
  | none => none

def rawE (sel : Rec → Option Engine.Sched) (s : DB) (p : Engine.Sched → Bool) : List Ent :=
  s.keys.flatMap (fun k => k.recs.filterMap (entOf sel p k.key))

theorem entOf_some {sel : Rec → Option Engine.Sched} {p : Engine.Sched → Bool} {key : Nat} {r : Rec} {e : Ent} (h : entOf sel p key r = some e) :
    ∃ sc, sel r = some sc ∧ p sc = true ∧ e = ⟨key, r.rid, sc.seq⟩ := by
  unfold entOf at h
  cases hs : sel r with
  | none => simp [hs] at h
  | some sc =>
    simp only [hs] at h
    split at h
    · rename_i hp; injection h with h; exact ⟨sc, rfl, hp, h.symm⟩
    · simp at h

theorem tEntries_eq (s : DB) (p : Engine.Sched → Bool) : tEntries s p = sortBySeq (·.seq) (rawE (·.tSched) s p) := rfl
theorem eEntries_eq (s : DB) (p : Engine.Sched → Bool) : eEntries s p = sortBySeq (·.seq) (rawE (·.eSched) s p) := rfl

theorem getKey2_of_mem {s : DB} (hn : (s.keys.map (·.key)).Nodup) {k : Key} (hm : k ∈ s.keys) : s.getKey k.key = k := by
  unfold DB.getKey DB.findKey
  rw [find_unique (·.key) _ k.key (fun x => by simp) s.keys k hm hn rfl]; rfl

theorem mem_rawE {sel : Rec → Option Engine.Sched} {s : DB} (hd : DBI s) (p : Engine.Sched → Bool) (e : Ent) :
    e ∈ rawE sel s p ↔ ∃ sc, (s.getKey e.key).hasRec e.rid ∧ sel ((s.getKey e.key).getR e.rid) = some sc ∧ p sc = true ∧ e.seq = sc.seq := by
  unfold rawE
  rw [List.mem_flatMap]
  constructor
  · rintro ⟨k, hk, he⟩
    rw [List.mem_filterMap] at he
    obtain ⟨r, hr, hf⟩ := he
    have hgk := getKey2_of_mem hd.kn hk
    have hnd := (hd.ks k hk).rc.nodup
    obtain ⟨sc, hs, hp, he⟩ := entOf_some hf
    subst he
    simp only []
    rw [hgk, mem_eq_getR hnd hr]
    exact ⟨sc, ⟨r, hr, rfl⟩, hs, hp, rfl⟩
  · rintro ⟨sc, hh, hs, hp, hq⟩
    have hk : s.hasKey e.key = true := by
      cases hk : s.hasKey e.key with
      | true => rfl
      | false =>
        rw [getKey_of_not_hasKey s e.key hk] at hh
        obtain ⟨r, hr, _⟩ := hh
        simp [newKey] at hr
    refine ⟨s.getKey e.key, getKey_mem s e.key hk, ?_⟩
    rw [List.mem_filterMap]
    refine ⟨(s.getKey e.key).getR e.rid, getR_mem hh, ?_⟩
    unfold entOf
    simp only [hs, hp, if_true, getKey_key, getR_rid]
    cases e
    simp only [] at hq
    rw [hq]

theorem rawE_nodup {sel : Rec → Option Engine.Sched} {s : DB} (hd : DBI s) (p : Engine.Sched → Bool) : ((rawE sel s p).map eid).Nodup := by
  unfold rawE
  rw [List.Nodup, List.pairwise_map, List.pairwise_flatMap]
  refine ⟨?_, ?_⟩
  · intro k hk
    have hnd := (hd.ks k hk).rc.nodup
    have : ∀ (l : List Rec), (l.map (·.rid)).Nodup → (l.filterMap (entOf sel p k.key)).Pairwise (fun a b => eid a ≠ eid b) := by
      intro l
      induction l with
      | nil => intro _; simp
      | cons r rs ih =>
        intro hn
        simp only [List.map_cons, List.nodup_cons] at hn
        cases hfr : entOf sel p k.key r with
        | none => rw [List.filterMap_cons_none hfr]; exact ih hn.2
        | some b =>
          rw [List.filterMap_cons_some hfr, List.pairwise_cons]
          refine ⟨?_, ih hn.2⟩
          obtain ⟨sc, _, _, hb⟩ := entOf_some hfr
          intro e' he' heq
          rw [List.mem_filterMap] at he'
          obtain ⟨r', hr', hf'⟩ := he'
          obtain ⟨sc', _, _, hb'⟩ := entOf_some hf'
          rw [hb, hb'] at heq
          unfold eid at heq
          simp only [Prod.mk.injEq, true_and] at heq
          exact hn.1 (heq ▸ List.mem_map.mpr ⟨r', hr', rfl⟩)
    exact this k.recs hnd
  · have hkn : s.keys.Pairwise (fun k k' => k.key ≠ k'.key) := List.pairwise_map.mp hd.kn
    refine (List.Pairwise.and_mem.mp hkn).imp ?_
    intro k k' ⟨hm, hm', hne⟩ e he e' he' heq
    rw [List.mem_filterMap] at he he'
    obtain ⟨r, _, hf⟩ := he
    obtain ⟨r', _, hf'⟩ := he'
    obtain ⟨_, _, _, hb⟩ := entOf_some hf
    obtain ⟨_, _, _, hb'⟩ := entOf_some hf'
    rw [hb, hb'] at heq
    unfold eid at heq
    simp only [Prod.mk.injEq] at heq
    exact hne heq.1

theorem entries_nodup {sel : Rec → Option Engine.Sched} {s : DB} (hd : DBI s) (p : Engine.Sched → Bool) :
    ((sortBySeq (·.seq) (rawE sel s p)).map eid).Nodup :=
  ((perm_sortBySeq (·.seq) (rawE sel s p)).map eid).nodup_iff.mpr (rawE_nodup hd p)

theorem entries_disjoint {sel : Rec → Option Engine.Sched} {s : DB} (hd : DBI s) (p q : Engine.Sched → Bool) (hpq : ∀ sc, p sc = true → q sc = true → False)
    {e e' : Ent} (he : e ∈ sortBySeq (·.seq) (rawE sel s p)) (he' : e' ∈ sortBySeq (·.seq) (rawE sel s q)) : eid e ≠ eid e' := by
  rw [Engine.mem_sortBySeq_iff, mem_rawE hd] at he he'
  obtain ⟨sc, _, hs, hp, _⟩ := he
  obtain ⟨sc', _, hs', hq, _⟩ := he'
  intro heq
  unfold eid at heq
  simp only [Prod.mk.injEq] at heq
  rw [heq.1, heq.2, hs'] at hs
  injection hs with hs
  subst hs
  exact hpq _ hp hq

-- the two entry lists of one sweep of second `c`: the slot and the long table
def slotP (c : Nat) (sc : Engine.Sched) : Bool := sc.visit == c && !sc.long
def longP (c : Nat) (sc : Engine.Sched) : Bool := sc.visit == c && sc.long

theorem slot_long_disjoint {sel : Rec → Option Engine.Sched} {s : DB} (hd : DBI s) (c : Nat) :
    ∀ e ∈ sortBySeq (·.seq) (rawE sel s (longP c)), eid e ∉ (sortBySeq (·.seq) (rawE sel s (slotP c))).map eid := by
  intro e hem hm
  obtain ⟨e', he', heq⟩ := List.mem_map.mp hm
  refine entries_disjoint hd (slotP c) (longP c) ?_ he' hem heq
  intro sc h1 h2
  unfold slotP at h1; unfold longP at h2
  simp only [Bool.and_eq_true, Bool.not_eq_true'] at h1 h2
  rw [h1.2] at h2; exact absurd h2.2 (by simp)

theorem sweep_nodup {sel : Rec → Option Engine.Sched} {s : DB} (hd : DBI s) (c : Nat) :
    ((sortBySeq (·.seq) (rawE sel s (slotP c)) ++ sortBySeq (·.seq) (rawE sel s (longP c))).map eid).Nodup := by
  rw [List.map_append]
  refine List.nodup_append.mpr ⟨entries_nodup hd _, entries_nodup hd _, fun i hi j hj e => ?_⟩
  obtain ⟨x, hx, rfl⟩ := List.mem_map.mp hj
  exact slot_long_disjoint hd c x hx (e ▸ hi)

end Slock.SimTick
