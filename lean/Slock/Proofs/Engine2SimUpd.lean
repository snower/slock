import Slock.Proofs.Engine2SimEdit
/-! Simulation stage 2 → stage 1: `UpdateLockedLock` + the long-table move (`W.updateLocked`) is stage 1's `updateHold` on the hold's
stage-1 view, given that the hold's wheel entry caches its back-off counter (`eSched = some sc`, `sc.checked = eChecked`). The step is
an edit of one record (`updRec`, `Edit.updateLocked`); that `updRec` is `updateHold` under `Rec.toHold` is a fact about records alone. -/
namespace Slock.Sim
open Slock Slock.Engine2
open Slock.Engine (has)

/-- `UpdateLockedLock`'s test "the only holder, and not journalled" -/
def soleAt (w : W) (h : Nat) : Bool := !(w.k.getR h).isAof && w.k.current == some h && w.k.locks.isEmpty

/-- does `UpdateLockedLock` move the hold's long-table entry (deadline changed) -/
def updMoves (db : DB) (sole : Bool) (c : Engine.Cmd) (r : Rec) : Bool := r.eLong && r.expT != (updF db sole c r).expT

/-- what `W.updateLocked rid c` does to the record, as far as `Rec.vis` can see (`sole` as computed there, `db` the database then) -/
def updRec (db : DB) (sole : Bool) (c : Engine.Cmd) (r : Rec) : Rec :=
  if updMoves db sole c r then
    { Rec.armE (Engine.wheelAdd db.eCheck db.seq (updF db sole c r).expT (updF db sole c r).eChecked) (updF db sole c r) with conn := c.conn }
  else { updF db sole c r with conn := c.conn }

/-- **`UpdateLockedLock` + long-table move is stage 1's `updateHold`**, on records alone: given that the hold's wheel entry caches its
back-off counter -/
theorem updRec_sim (db : DB) (a : Engine.DB) (hn : a.now = db.now) (he : a.eCheck = db.eCheck) (hq : a.seq = db.seq) (sole : Bool)
    (c : Engine.Cmd) (r : Rec) (sc : Engine.Sched) (hsc : r.eSched = some sc) (hck : sc.checked = r.eChecked) :
    Engine.updateHold a r.toHold c =
      ({ a with seq := a.seq + if updMoves db sole c r then 1 else 0 }, (updRec db sole c r).toHold) := by
  have hs : r.toHold.sched = sc := by unfold Rec.toHold; rw [hsc]; rfl
  have hl : r.eLong = sc.long := by unfold Rec.eLong; rw [hsc]
  unfold updRec updMoves Engine.updateHold
  rw [hl, hs, ← he, ← hq]
  by_cases hU : (has c.eflag Engine.EF_UNLIMITED && decide (c.expried ≥ 0xffff)) = true
  · -- unlimited: only the command changes
    have e3 : updF db sole c r = (if sole then { r with cmd := c, aofTime := aofTimeOf db c, eSched := some sc } else { r with cmd := c, eSched := some sc }) := by
      unfold updF; simp only [hU, if_true]; cases sole <;> simp only [hsc, ← hck] <;> rfl
    rw [if_pos hU, e3]
    cases sole <;> simp only [Bool.false_eq_true, if_false, if_true, bne_self_eq_false, Bool.and_false] <;> unfold Rec.toHold <;> rfl
  · have hU' : (has c.eflag Engine.EF_UNLIMITED && decide (c.expried ≥ 0xffff)) = false := by simpa using hU
    rw [if_neg hU]
    simp only []
    rw [hck]
    generalize hchk : (if has c.eflag Engine.EF_NO_RESET = true then r.eChecked
      else Engine.initChecked c a.now (Engine.expiryDeadline a.now c)) = chk
    have f1 : (updF db sole c r).expT = Engine.expiryDeadline a.now c := by unfold updF; simp only [hU', ← hn]; cases sole <;> rfl
    have f2 : (updF db sole c r).eChecked = chk := by unfold updF; simp only [hU', ← hn]; cases sole <;> exact hchk
    have f3 : ∀ (e : Nat) (s : Engine.Sched), ({ updF db sole c r with conn := c.conn, expT := e, eSched := some s } : Rec).toHold =
        { r.toHold with cmd := c, conn := c.conn, startT := a.now, expT := e, sched := s } := by
      intro e s; unfold updF; simp only [hU', ← hn]; cases sole <;> rfl
    have f4 : (updF db sole c r).eSched = some { sc with checked := chk } := by
      unfold updF; simp only [hU', hsc, ← hn]; cases sole <;> (rw [← hchk]; rfl)
    have hexp : r.toHold.expT = r.expT := rfl
    rw [f1, f2, f4, hexp, bne_comm (a := r.expT)]
    cases sc.long with
    | false => simp only [Bool.false_and, Bool.false_eq_true, if_false]; exact Prod.ext rfl (f3 _ _).symm
    | true =>
      cases (Engine.expiryDeadline a.now c != r.expT) with
      | false => simp only [Bool.and_false, Bool.false_eq_true, if_false, if_true]; exact Prod.ext rfl (f3 _ _).symm
      | true => simp only [Bool.and_true, if_true]; exact Prod.ext rfl (f3 _ _).symm

theorem updF_vis (db : DB) (sole : Bool) (c : Engine.Cmd) (r : Rec) : (updF db sole c r).vis = (updF db sole c r.vis).vis := by
  unfold updF
  cases (has c.eflag Engine.EF_UNLIMITED && decide (c.expried ≥ 0xffff)) <;> cases sole <;> rfl

theorem updMoves_vis (db : DB) (sole : Bool) (c : Engine.Cmd) {r r' : Rec} (h : r.vis = r'.vis) : updMoves db sole c r = updMoves db sole c r' := by
  have h3 : (updF db sole c r).expT = (updF db sole c r').expT :=
    (congrArg Rec.expT (updF_vis db sole c r) :).trans ((congrArg (fun x => (updF db sole c x).vis.expT) h).trans (congrArg Rec.expT (updF_vis db sole c r') :).symm)
  unfold updMoves
  rw [h3, show r.eLong = r'.eLong from (congrArg Rec.eLong h :), show r.expT = r'.expT from (congrArg Rec.expT h :)]

namespace Edit
variable {h : Nat} {f : Rec → Rec} {g : Nat → Nat} {n : Nat} {w0 w : W}

/-- `UpdateLockedLock`, the long-table move (one sequence number if it happens), `lock.protocol = …` -/
theorem updateLocked (e : Edit h f g n w0 w) (c : Engine.Cmd) :
    Edit h (fun r => updRec w.db (soleAt w h) c (f r)) g (n + if updMoves w.db (soleAt w h) c (w.k.getR h) then 1 else 0) w0
      (w.updateLocked h c) := by
  generalize hso : soleAt w h = sole
  have e1 := e.modR (updF w.db sole c) (fun r => (updF_fields w.db sole c r).rid) (updF_vis w.db sole c)
  have hm : w0.k.hasRec h → updMoves w.db sole c (f (w0.k.getR h)) = updMoves w.db sole c (w.k.getR h) :=
    fun hh => updMoves_vis w.db sole c (e.self hh).symm
  show Edit _ _ _ _ _ (((w.modR h (updF w.db (soleAt w h) c)).when (updMoves w.db (soleAt w h) c (w.k.getR h))
    (fun w => ((w.removeLongE h).addExpried h).ref h)).modR h (fun r => { r with conn := c.conn }))
  rw [hso]
  cases hc : updMoves w.db sole c (w.k.getR h) with
  | false =>
    exact (e1.modR (fun r => { r with conn := c.conn }) (fun _ => rfl) (fun _ => rfl)).cast rfl
      (fun hh => by unfold updRec; rw [hm hh, hc]; rfl)
  | true =>
    exact ((e1.removeLongE.addExpried.ref h).modR (fun r => { r with conn := c.conn }) (fun _ => rfl) (fun _ => rfl)).cast rfl
      (fun hh => by unfold updRec; rw [hm hh, hc, e.eCheck, e.seq]; rfl)

end Edit

theorem updRec_timeouted (db : DB) (sole : Bool) (c : Engine.Cmd) (r : Rec) : (updRec db sole c r).timeouted = r.timeouted := by
  unfold updRec; split <;> exact (updF_fields db sole c r).timeouted

theorem gone_updateLocked (w : W) (rid : Nat) (c : Engine.Cmd) : (w.updateLocked rid c).gone = w.gone := (FQ.updateLocked w rid c).qt.gone

end Slock.Sim
