import Slock.Model.Conn
/-! Helper lemmas for M-CONN: association lists, the will execution log, the will loop of `Close`, `recv`. -/
namespace Slock.Conn

theorem aget_adel (m : List (Nat × Nat)) (k j : Nat) : aget (adel m k) j = if j = k then none else aget m j := by
  induction m with
  | nil => simp only [adel, aget, ite_self]
  | cons p r ih =>
    obtain ⟨a, b⟩ := p
    unfold adel
    by_cases ha : a = k
    · rw [if_pos ha, ih]
      by_cases hj : j = k
      · rw [if_pos hj, if_pos hj]
      · rw [if_neg hj, if_neg hj, aget, if_neg (fun (e : a = j) => hj (e ▸ ha))]
    · rw [if_neg ha, aget, aget, ih]
      by_cases hj : a = j
      · rw [if_pos hj, if_pos hj, if_neg (fun e => ha (hj.trans e))]
      · rw [if_neg hj, if_neg hj]

theorem aget_aput (m : List (Nat × Nat)) (k v j : Nat) : aget (aput m k v) j = if j = k then some v else aget m j := by
  unfold aput
  rw [aget]
  by_cases hj : j = k
  · rw [if_pos hj.symm, if_pos hj]
  · rw [if_neg (fun e => hj e.symm), if_neg hj, aget_adel, if_neg hj]

theorem aget_adel_some {m : List (Nat × Nat)} {k j d : Nat} (h : aget (adel m k) j = some d) : aget m j = some d ∧ j ≠ k := by
  rw [aget_adel] at h
  split at h
  · cases h
  · exact ⟨h, ‹_›⟩

theorem execL_cons (e : Nat × Nat) (es : List (Nat × Nat)) (c : Nat) :
    execL (e :: es) c = if e.1 = c then e.2 :: execL es c else execL es c := by
  unfold execL
  rw [List.filter_cons]
  by_cases h : e.1 = c
  · rw [if_pos (decide_eq_true h), if_pos h]; rfl
  · rw [if_neg (by simpa using h), if_neg h]

theorem execL_append (e₁ e₂ : List (Nat × Nat)) (c : Nat) : execL (e₁ ++ e₂) c = execL e₁ c ++ execL e₂ c := by
  unfold execL
  rw [List.filter_append, List.map_append]

theorem execL_same (c : Nat) (toks : List Nat) : execL (toks.map (fun t => (c, t))) c = toks := by
  induction toks with
  | nil => rfl
  | cons t ts ih => rw [List.map_cons, execL_cons, if_pos rfl, ih]

theorem execL_none (eng : List (Nat × Nat)) (c : Nat) (h : ∀ e ∈ eng, e.1 ≠ c) : execL eng c = [] := by
  induction eng with
  | nil => rfl
  | cons e es ih =>
    rw [execL_cons, if_neg (h e (List.mem_cons_self ..)), ih fun e' he' => h e' (List.mem_cons_of_mem _ he')]

theorem execL_other (c d : Nat) (h : d ≠ c) (toks : List Nat) : execL (toks.map (fun t => (c, t))) d = [] :=
  execL_none _ _ fun e he => by
    obtain ⟨t, _, rfl⟩ := List.mem_map.mp he
    exact fun e => h e.symm

def willOutcome (s₁ : Server) (c : Nat) (w : Will) : WillRes :=
  ⟨w.tok, w.self, if w.imm || w.self then some (recv s₁ c w.tok) else none⟩

/-- Where no reply can recurse for ever, `Close` handles EVERY will of the queue, in order, whatever the outcome of the
earlier ones, and does not die. -/
theorem drain_eq (s₁ : Server) (c : Nat) (ws : List Will) (h : ∀ tok, recv s₁ c tok ≠ .loop) :
    drain s₁ c ws = (ws.map (willOutcome s₁ c), none) := by
  induction ws with
  | nil => rfl
  | cons w ws ih =>
    unfold drain
    rw [ih, List.map_cons, willOutcome]
    split
    · split
      · exact absurd ‹_› (h w.tok)
      · rfl
    · rfl

theorem drainT_eq (ws : List Will) :
    drainT ws = ws.map fun w => ⟨w.tok, w.self, if w.imm || w.self then some .dropped else none⟩ := by
  induction ws with
  | nil => rfl
  | cons w ws ih => rw [drainT, ih, List.map_cons]

/-- the reply is dealt with at connection `d` itself: written, dropped, filtered, or lost with `d`'s stream -/
def handledAt (d : Nat) : Dest → Prop
  | .to e => e = d
  | .lost e => e = d
  | .loop => False
  | _ => True

theorem handledAt.ne_loop {d : Nat} {r : Dest} (h : handledAt d r) : r ≠ .loop := by
  rintro rfl; exact h

/-- One level of `recv` at an existing record: an open connection deals with the reply itself; a closed one drops it, or
filters it, or — binary, inited, id still registered — hands it on to the connection registered under its id. -/
theorem recvN_cases {s : Server} {d : Nat} {y : Conn} (hy : s.conns[d]? = some y) (n tok : Nat) :
    (y.closed = false ∧ handledAt d (recvN s (n + 1) d tok)) ∨
    (y.closed = true ∧ (recvN s (n + 1) d tok = .dropped ∨ recvN s (n + 1) d tok = .filtered)) ∨
    (y.closed = true ∧ y.kind = .binary ∧ y.inited = true ∧
      ∃ e, aget s.clients y.cid = some e ∧ recvN s (n + 1) d tok = recvN s n e tok) := by
  generalize hr : recvN s (n + 1) d tok = r
  unfold recvN at hr
  rw [hy] at hr
  cases hc : y.closed <;> cases hk : y.kind <;>
    simp only [hc, hk, Bool.not_true, Bool.not_false, Bool.false_eq_true, if_false, if_true] at hr
  · -- open, binary
    refine Or.inl ⟨rfl, ?_⟩
    subst hr
    split
    · exact trivial
    · exact rfl
  · -- open, text
    refine Or.inl ⟨rfl, ?_⟩
    subst hr
    split
    · exact trivial
    · split <;> exact rfl
  · -- closed, binary
    cases hi : y.inited <;> simp only [hi, Bool.not_true, Bool.not_false, Bool.false_eq_true, if_false, if_true] at hr
    · exact Or.inr (Or.inl ⟨rfl, Or.inl hr.symm⟩)
    · cases he : aget s.clients y.cid with
      | none => rw [he] at hr; exact Or.inr (Or.inl ⟨rfl, Or.inl hr.symm⟩)
      | some e => rw [he] at hr; exact Or.inr (Or.inr ⟨rfl, rfl, rfl, e, rfl, hr.symm⟩)
  · -- closed, text
    refine Or.inr (Or.inl ⟨rfl, ?_⟩)
    subst hr
    split
    · exact Or.inr rfl
    · exact Or.inl rfl

theorem recv_none (s : Server) (d tok : Nat) (hy : s.conns[d]? = none) : recv s d tok = .dropped := by
  unfold recv recvN
  rw [hy]

theorem recvN_congr (s s' : Server) (hc : s'.clients = s.clients)
    (h : ∀ j : Nat, (s'.conns[j]?).map (fun (y : Conn) => (y.kind, y.closed, y.inited, y.cid, y.awaiting, y.halfClosed)) =
              (s.conns[j]?).map (fun (y : Conn) => (y.kind, y.closed, y.inited, y.cid, y.awaiting, y.halfClosed)))
    (fuel d tok : Nat) : recvN s' fuel d tok = recvN s fuel d tok := by
  induction fuel generalizing d with
  | zero => rfl
  | succ n ih =>
    unfold recvN
    have hd := h d
    cases h1 : s'.conns[d]? <;> cases h2 : s.conns[d]? <;> simp only [h1, h2, Option.map] at hd
    · rfl
    · cases hd
    · cases hd
    · rename_i y' y
      simp only [Option.some.injEq, Prod.mk.injEq] at hd
      obtain ⟨e1, e2, e3, e4, e5, e6⟩ := hd
      simp only [e1, e2, e3, e4, e5, e6, hc, ih]

theorem recvN_self_loop (s : Server) (c tok : Nat) (z : Conn) (hz : s.conns[c]? = some z) (hk : z.kind = .binary)
    (hc : z.closed = true) (hi : z.inited = true) (hr : aget s.clients z.cid = some c) : ∀ n, recvN s n c tok = .loop := by
  intro n
  induction n with
  | zero => rfl
  | succ n ih =>
    unfold recvN
    simp [hz, hk, hc, hi, hr, ih]

end Slock.Conn
