import Slock.Proofs.Engine2Nz
import Slock.Proofs.Engine2LvOps
import Slock.Proofs.Engine2PK
/-! Stage-2 engine: nothing leaks — through the helpers of an operation. -/
namespace Slock.Engine2

/-- the records of `k'` are those of `k`, edited one by one without lowering a count -/
def RecsUp (k' k : Key) : Prop :=
  ∃ g : Rec → Rec, k'.recs = k.recs.map g ∧ ∀ r, (g r).rid = r.rid ∧ (RecFine r → RecFine (g r)) ∧ (g r).depth = r.depth

theorem RecsUp.refl (k : Key) : RecsUp k k := ⟨id, by simp, fun _ => ⟨rfl, id, rfl⟩⟩
theorem RecsUp.of_eq {k' k : Key} (h : k'.recs = k.recs) : RecsUp k' k := ⟨id, by simp [h], fun _ => ⟨rfl, id, rfl⟩⟩
theorem RecsUp.trans {a b c : Key} (h1 : RecsUp a b) (h2 : RecsUp b c) : RecsUp a c := by
  obtain ⟨g1, e1, p1⟩ := h1
  obtain ⟨g2, e2, p2⟩ := h2
  refine ⟨g1 ∘ g2, by rw [e1, e2, List.map_map], fun r => ⟨?_, ?_, ?_⟩⟩
  · simp only [Function.comp]; rw [(p1 _).1, (p2 r).1]
  · intro h; exact (p1 _).2.1 ((p2 r).2.1 h)
  · simp only [Function.comp]; rw [(p1 _).2.2, (p2 r).2.2]
theorem RecsUp.modRec (k : Key) (rid : Nat) (f : Rec → Rec) (hf : ∀ r, (f r).rid = r.rid) (hc : ∀ r, RecFine r → RecFine (f r))
    (hd : ∀ r, (f r).depth = r.depth := by intro _; rfl) : RecsUp (k.modRec rid f) k :=
  ⟨fun x => if x.rid == rid then f x else x, rfl, fun r => by
    by_cases h : (r.rid == rid) = true
    · simp only [h, if_true]; exact ⟨hf r, hc r, hd r⟩
    · simp only [h]; exact ⟨rfl, id, rfl⟩⟩

theorem RecsUp.depth {k' k : Key} (h : RecsUp k' k) (y : Nat) : (k'.getR y).depth = (k.getR y).depth := by
  obtain ⟨g, e, p⟩ := h
  unfold Key.getR
  rw [e]
  have : ∀ l : List Rec, ((l.map g).find? (·.rid == y)) = (l.find? (·.rid == y)).map g := by
    intro l
    induction l with
    | nil => rfl
    | cons a as ih =>
      simp only [List.map_cons, List.find?_cons, (p a).1]
      cases (a.rid == y)
      · exact ih
      · rfl
  rw [this]
  cases k.recs.find? (·.rid == y) with
  | none => rfl
  | some r => exact (p r).2.2

theorem RecsUp.ids {k' k : Key} (h : RecsUp k' k) : k'.ids = k.ids := by
  obtain ⟨g, e, p⟩ := h
  unfold Key.ids; rw [e, List.map_map]
  apply List.map_congr_left; intro r _; exact (p r).1

theorem NZx.of_up {k' k : Key} {x : Option Nat} (h : NZx k x) (u : RecsUp k' k) : NZx k' x := by
  obtain ⟨g, e, p⟩ := u
  intro r hr hx
  rw [e] at hr
  obtain ⟨r0, hr0, e0⟩ := List.mem_map.mp hr
  rw [← e0] at hx ⊢
  rw [(p r0).1] at hx
  exact (p r0).2.1 (h r0 hr0 hx)

theorem Chain.up {data : Option Bytes} {q : Bool} {w0 w : W} (h : Chain data true q w0 w) : RecsUp w.k w0.k :=
  h.book (J := fun w => RecsUp w.k w0.k)
    (fun w rid f hf j => (RecsUp.modRec w.k rid f hf.rid (by cases hf <;> exact fun _ h => ⟨h.pos, h.hold, h.ended, h.fin⟩)
      (by cases hf <;> intro _ <;> rfl)).trans j)
    (fun w c n j => RecsUp.trans (a := ({ w.k with cell := c, locked := n } : Key)) (RecsUp.of_eq rfl) j) (fun _ _ _ _ j => j) (fun _ _ j => j) (RecsUp.refl _)

theorem up_addTimeOut (w : W) (rid : Nat) : RecsUp (w.addTimeOut rid).k w.k := RecsUp.modRec _ rid _ (fun _ => rfl) (fun _ h => ⟨h.pos, h.hold, h.ended, h.fin⟩)
theorem up_ref (w : W) (rid : Nat) : RecsUp (w.ref rid).k w.k :=
  RecsUp.modRec _ rid _ (fun _ => rfl) (fun r h => ⟨Nat.le_succ_of_le h.pos, h.hold, h.ended, h.fin⟩)
structure Nz (w : W) (x : Option Nat) : Prop where
  nd : w.k.NoDup
  nz : NZx w.k x

theorem Nz.of_up {w w' : W} {x : Option Nat} (h : Nz w x) (u : RecsUp w'.k w.k) : Nz w' x :=
  ⟨⟨by have := u.ids; unfold Key.ids at this; rw [this]; exact h.nd.nd⟩, h.nz.of_up u⟩

theorem Nz.weaken {w : W} (h : Nz w none) (x : Option Nat) : Nz w x := ⟨h.nd, h.nz.weaken x⟩

theorem Nz.modR_ex {w : W} (rid : Nat) (h : Nz w (some rid)) (f : Rec → Rec) (hf : ∀ r, (f r).rid = r.rid) : Nz (w.modR rid f) (some rid) :=
  ⟨h.nd.modRec rid f hf, NZx.modRec_ex rid h.nz f hf⟩

/-- `AddExpried` of the exempt record (arming an expiry entry is in order for a hold only) -/
theorem Nz.addExpried_ex {w : W} (rid : Nat) (h : Nz w (some rid)) : Nz (w.addExpried rid) (some rid) := by
  have h1 : Nz (w.schedExpried rid) (some rid) := by
    have := h.modR_ex rid (Rec.armE (Slock.Engine.wheelAdd w.db.eCheck w.db.seq (w.k.getR rid).expT (w.k.getR rid).eChecked)) (fun _ => rfl)
    exact ⟨this.nd, this.nz⟩
  exact h1.of_up (book_addExpried w rid).up

theorem Nz.removeIfZero {w : W} {x : Option Nat} (h : Nz w x) : Nz w.removeIfZero x :=
  ⟨h.nd.of_recs (removeIfZero_recs w), h.nz.of_recs (removeIfZero_recs w)⟩

theorem Nz.unrefCheck {w : W} {x : Option Nat} (h : Nz w x) (rid : Nat) : Nz (w.unrefCheck rid) x := by
  have hr := unrefCheck_recs w rid
  exact ⟨(h.nd.unref rid).of_recs hr, (NZx.unref h.nd.nd h.nz rid).of_recs hr⟩

theorem Nz.freeCheck_clear {w : W} (rid : Nat) (h : Nz w (some rid)) : Nz (w.freeCheck rid) none := by
  unfold W.freeCheck
  apply Nz.removeIfZero
  exact ⟨h.nd.free rid, NZx.free_clear rid h.nz⟩

theorem Nz.clear {w : W} (rid : Nat) (h : Nz w (some rid)) (hy : w.k.hasRec rid → RecFine (w.k.getR rid)) : Nz w none :=
  ⟨h.nd, NZx.clear h.nd.nd rid h.nz hy⟩

/-- long-table removal of a record that is NOT a hold: it is still referenced by the queue it sits in, so its count stays ≥ 1 -/
theorem Nz.removeLongT {w : W} {x : Option Nat} (l : Lv w zero) (h : Nz w x) (rid : Nat) (hq : 0 < w.k.qRefs rid)
    (ht : (w.k.getR rid).tSched.isSome = true) : Nz (w.removeLongT rid) x := by
  unfold W.removeLongT
  have hh := l.has hq
  have hrc := l.rc.refCount_of hh
  have hw : 1 ≤ (w.k.getR rid).wheelRefs := wheel_of_t ht
  have hn1 : (w.k.modRec rid fun r => { r with tSched := none }).NoDup := h.nd.modRec rid _ (by intro _; rfl)
  have hz1 : NZx (w.k.modRec rid fun r => { r with tSched := none }) x :=
    h.nz.modRec rid (fun r => { r with tSched := none }) (by intro _; rfl) (by intro _ h; exact ⟨h.pos, h.hold, h.ended, h.fin⟩)
  refine ⟨hn1.modRec rid _ (by intro _; rfl), ?_⟩
  refine NZx.unrefOnly hn1.nd hz1 rid ?_
  intro _
  rw [getR_modRec_same _ _ _ hh]
  show 2 ≤ (w.k.getR rid).refCount
  have := zero_nonneg rid; omega

theorem Nz.removeLongE_ex {w : W} (rid : Nat) (h : Nz w (some rid)) : Nz (w.removeLongE rid) (some rid) := by
  unfold W.removeLongE
  have h1 := NZx.modRec_ex rid h.nz (fun r => { r with eSched := none }) (by intro _; rfl)
  exact ⟨(h.nd.modRec rid _ (by intro _; rfl)).modRec rid _ (by intro _; rfl), by
    unfold Key.unrefOnly; exact NZx.modRec_ex rid h1 _ (by intro _; rfl)⟩

theorem getR_addExpried (w : W) (rid : Nat) (hh : w.k.hasRec rid) :
    ((w.addExpried rid).k.getR rid).eSched.isSome = true ∧ ((w.addExpried rid).k.getR rid).expried = false ∧
    ((w.addExpried rid).k.getR rid).depth = (w.k.getR rid).depth := by
  have h1 : (w.schedExpried rid).k.getR rid =
      Rec.armE (Slock.Engine.wheelAdd w.db.eCheck w.db.seq (w.k.getR rid).expT (w.k.getR rid).eChecked) (w.k.getR rid) :=
    getR_modRec_same _ _ _ hh
  have p := book_addExpried w rid
  rw [p.proj ins_eSched rid, p.proj ins_expried rid, p.proj ins_depth rid, h1]; exact ⟨rfl, rfl, rfl⟩

end Slock.Engine2
