import Slock.Model.Engine
import Slock.Gen.Kernels
import Slock.Gen.Consts
/-!
G3 tie: the decision kernels REGENERATED from /repo's Go source on every run (`Slock.Gen.K.*`, translated statement by
statement by go/extract/kernels_impl.go) compute the same function as the kernels M-ENGINE uses. A source edit that changes
what `doLock` / `CheckLockedEqual` / `checkLockedCountEqual` compute regenerates a different definition and breaks these
proofs; an edit that merely reorders usually re-proves. At the end the G2 tie of the constants (`consts_match`).
-/
namespace Slock.Engine
open Slock.Gen

/-- `LockDB.doLock` (core subset: the less-lock-version flag 0x4000 is clear). -/
theorem doLock_eq_generated (k : Key) (c : Cmd) (cur : Hold)
    (hcur : k.locked = 0 ∨ k.holders.head? = some cur) (hflag : c.tflag &&& 16384 = 0) (v : Int) :
    doLock k c = K.doLock k.locked cur.cmd.count c.count c.tflag v := by
  unfold doLock K.doLock
  by_cases h0 : k.locked = 0
  · simp [h0]
  · have hh : k.holders.head? = some cur := by
      rcases hcur with h | h
      · exact absurd h h0
      · exact h
    simp only [beq_iff_eq, h0, if_false, hh, hflag]
    by_cases hc : c.count = 0
    · simp [hc]
    · simp only [hc, if_false]
      by_cases h1 : k.locked ≥ 0xffff
      · by_cases h2 : k.locked ≥ 0x7fffffff
        · simp [h1, h2]
        · by_cases h3 : cur.cmd.count = 65535 <;> by_cases h4 : c.count = 65535 <;> simp [h1, h2, h3, h4]
      · by_cases h3 : k.locked ≤ cur.cmd.count <;> by_cases h4 : k.locked ≤ c.count <;> simp [h1, h3, h4]

theorem and16 (x : Nat) : x &&& 16 = 0 ∨ x &&& 16 = 16 := by
  refine (Bool.eq_false_or_eq_true (x.testBit 4)).symm.imp (fun hb => ?_) (fun hb => ?_) <;>
  · apply Nat.eq_of_testBit_eq
    intro i
    rw [Nat.testBit_and, show (16:Nat) = 2^4 from rfl, Nat.testBit_two_pow]
    by_cases hi : 4 = i
    · subst hi; simp [hb]
    · simp [hi]

/-- `LockManager.checkLockedCountEqual`. -/
theorem countEqual_eq_generated (h : Hold) (c : Cmd) :
    (c.count == h.cmd.count && c.rcount == h.cmd.rcount && (has c.tflag TF_PRIORITY == has h.cmd.tflag TF_PRIORITY)) =
      K.checkLockedCountEqual c.count c.rcount c.tflag h.cmd.count h.cmd.rcount h.cmd.tflag := by
  unfold K.checkLockedCountEqual has TF_PRIORITY
  by_cases h1 : c.count = h.cmd.count <;> by_cases h2 : c.rcount = h.cmd.rcount <;> simp [h1, h2]
  -- remaining: the priority bit compared as a flag vs compared as a masked number
  all_goals (rcases and16 c.tflag with a | a <;> rcases and16 h.cmd.tflag with b | b <;> simp [a, b])

/-- `LockManager.CheckLockedEqual` for second / minute units (millisecond flag 0x0400 clear). -/
theorem checkLockedEqual_eq_generated (now : Nat) (h : Hold) (c : Cmd) (hms : c.eflag &&& 1024 = 0) :
    checkLockedEqual now h c =
      K.checkLockedEqual now h.expT c.eflag c.expried
        (K.checkLockedCountEqual c.count c.rcount c.tflag h.cmd.count h.cmd.rcount h.cmd.tflag) := by
  rw [← countEqual_eq_generated]
  unfold checkLockedEqual K.checkLockedEqual has EF_UNLIMITED EF_MINUTE INF_TIME absDiff
  simp only [hms]
  by_cases hu : c.eflag &&& 16384 = 0
  · by_cases hm : c.eflag &&& 64 = 0
    · simp only [hu, hm, bne_self_eq_false, Bool.false_eq_true, if_false, beq_self_eq_true, if_true]
      by_cases hg : now + c.expried + 1 > h.expT
      · have hg' : ((now : Int) + (c.expried : Int) + 1 > (h.expT : Int)) := by omega
        simp only [hg, hg', if_true, decide_true]
        congr 1
        by_cases hd : now + c.expried + 1 - h.expT ≤ 1
        · have : ((now : Int) + c.expried + 1 - h.expT ≤ 1) := by omega
          simp [hd, this]
        · have : ¬ ((now : Int) + c.expried + 1 - h.expT ≤ 1) := by omega
          simp [hd, this]
      · have hg' : ¬ ((now : Int) + (c.expried : Int) + 1 > (h.expT : Int)) := by omega
        simp only [hg, hg', if_false, decide_false]
        congr 1
        by_cases hd : h.expT - (now + c.expried + 1) ≤ 1
        · have : ((h.expT : Int) - (now + c.expried + 1) ≤ 1) := by omega
          simp [hd, this]
        · have : ¬ ((h.expT : Int) - (now + c.expried + 1) ≤ 1) := by omega
          simp [hd, this]
    · have hm' : (c.eflag &&& 64 != 0) = true := by simpa using hm
      simp only [hu, hm', bne_self_eq_false, Bool.false_eq_true, if_false, beq_self_eq_true, if_true]
      by_cases hg : now + c.expried * 60 + 1 > h.expT
      · have hg' : ((now : Int) + (c.expried : Int) * 60 + 1 > (h.expT : Int)) := by omega
        simp only [hg, hg', if_true, decide_true]
        congr 1
        by_cases hd : now + c.expried * 60 + 1 - h.expT ≤ 60
        · have : ((now : Int) + c.expried * 60 + 1 - h.expT ≤ 60) := by omega
          simp [hd, this]
        · have : ¬ ((now : Int) + c.expried * 60 + 1 - h.expT ≤ 60) := by omega
          simp [hd, this]
      · have hg' : ¬ ((now : Int) + (c.expried : Int) * 60 + 1 > (h.expT : Int)) := by omega
        simp only [hg, hg', if_false, decide_false]
        congr 1
        by_cases hd : h.expT - (now + c.expried * 60 + 1) ≤ 60
        · have : ((h.expT : Int) - (now + c.expried * 60 + 1) ≤ 60) := by omega
          simp [hd, this]
        · have : ¬ ((h.expT : Int) - (now + c.expried * 60 + 1) ≤ 60) := by omega
          simp [hd, this]
  · have hu' : (c.eflag &&& 16384 != 0) = true := by simpa using hu
    simp only [hu', if_true]
    by_cases he : c.expried = 65535
    · simp [he]
    · have : (c.expried == 65535) = false := by simpa using he
      simp only [this, Bool.false_eq_true, if_false]
      by_cases hx : h.expT = 9223372036854775807
      · simp [hx]
      · have hx' : ¬ ((h.expT : Int) = 9223372036854775807) := by omega
        have e1 : (h.expT == 9223372036854775807) = false := by simpa using hx
        have e2 : ((h.expT : Int) == 9223372036854775807) = false := by simpa using hx'
        simp [e1, e2]

/-!
Every place in the Go source that computes an expiry or a wait deadline from a command is regenerated (`K.expAddLock`,
`K.expUpdate`, `K.expNew`, `K.expAck`, `K.toUpdate`, `K.toNew`; uint16 arithmetic wraps in the translation exactly as in Go) and
proved equal to the one formula M-ENGINE uses, for second / minute / unlimited units (millisecond flag 0x0400 clear). -/
open Slock.Gen

theorem has_ne (x m : Nat) : ((x &&& m) != 0) = has x m := by
  unfold has; rfl

theorem expDeadline_generated (now : Nat) (c : Cmd) (hms : c.eflag &&& 1024 = 0) :
    K.expAddLock now c.eflag c.expried = (expiryDeadline now c : Int) := by
  unfold K.expAddLock expiryDeadline has EF_UNLIMITED EF_MINUTE INF_TIME
  simp only [hms]
  by_cases hu : c.eflag &&& 16384 = 0
  · by_cases hm : c.eflag &&& 64 = 0
    · simp [hu, hm]
    · simp [hu, hm]
  · simp [hu]

/-- the four copies of the expiry formula agree (AddLock, UpdateLockedLock, GetOrNewLock, DoAckLock) -/
theorem exp_copies_agree (s : Int) (f e : Nat) :
    K.expUpdate s f e = K.expAddLock s f e ∧ K.expNew s f e = K.expAddLock s f e ∧ K.expAck s f e = K.expAddLock s f e :=
  ⟨rfl, rfl, rfl⟩

theorem toDeadline_generated (now : Nat) (c : Cmd) (hms : c.tflag &&& 1024 = 0) :
    K.toNew now c.tflag c.timeout = (timeoutDeadline now c : Int) := by
  unfold K.toNew timeoutDeadline has TF_MINUTE
  simp only [hms]
  by_cases hm : c.tflag &&& 64 = 0
  · simp [hm]
  · simp [hm]

theorem to_copies_agree (s : Int) (f t : Nat) : K.toUpdate s f t = K.toNew s f t := rfl

/-- millisecond unit (outside M-ENGINE's clock): the deadline is start + ⌊ms/1000⌋ + 1 in every copy -/
theorem exp_ms_generated (s : Int) (f e : Nat) (hu : f &&& 16384 = 0) (hms : f &&& 1024 ≠ 0) :
    K.expAddLock s f e = s + ((e / 1000 : Nat) : Int) + 1 := by
  unfold K.expAddLock
  simp [hu, hms]

/-! G2 tie: the constants M-ENGINE uses equal the ones regenerated from /repo's source on this run -/

theorem consts_match :
    RESULT_SUCCED = C.RESULT_SUCCED ∧ RESULT_LOCKED_ERROR = C.RESULT_LOCKED_ERROR ∧ RESULT_UNLOCK_ERROR = C.RESULT_UNLOCK_ERROR ∧
    RESULT_UNOWN_ERROR = C.RESULT_UNOWN_ERROR ∧ RESULT_TIMEOUT = C.RESULT_TIMEOUT ∧ RESULT_EXPRIED = C.RESULT_EXPRIED ∧
    RESULT_STATE_ERROR = C.RESULT_STATE_ERROR ∧
    F_SHOW = C.LOCK_FLAG_SHOW_WHEN_LOCKED ∧ F_UPDATE = C.LOCK_FLAG_UPDATE_WHEN_LOCKED ∧ F_FROM_AOF = C.LOCK_FLAG_FROM_AOF ∧
    F_CONCURRENT = C.LOCK_FLAG_CONCURRENT_CHECK ∧
    UF_FIRST = C.UNLOCK_FLAG_UNLOCK_FIRST_LOCK_WHEN_UNLOCKED ∧ UF_CANCEL = C.UNLOCK_FLAG_CANCEL_WAIT_LOCK_WHEN_UNLOCKED ∧
    TF_PRIORITY = C.TIMEOUT_FLAG_RCOUNT_IS_PRIORITY ∧ TF_MINUTE = C.TIMEOUT_FLAG_MINUTE_TIME ∧
    TF_WAIT_UNLOCK = C.TIMEOUT_FLAG_LOCK_WAIT_WHEN_UNLOCK ∧ TF_NO_RESET = C.TIMEOUT_FLAG_UPDATE_NO_RESET_TIMEOUT_CHECKED_COUNT ∧
    EF_MINUTE = C.EXPRIED_FLAG_MINUTE_TIME ∧ EF_ZERO_AOF = C.EXPRIED_FLAG_ZEOR_AOF_TIME ∧
    EF_NO_RESET = C.EXPRIED_FLAG_UPDATE_NO_RESET_EXPRIED_CHECKED_COUNT ∧ EF_UNLIMITED = C.EXPRIED_FLAG_UNLIMITED_EXPRIED_TIME ∧
    MAX_WAIT = C.TIMEOUT_QUEUE_MAX_WAIT ∧ MAX_WAIT = C.EXPRIED_QUEUE_MAX_WAIT ∧
    C.TIMEOUT_QUEUE_LENGTH = 16 ∧ C.EXPRIED_QUEUE_LENGTH = 16 ∧ C.TIMEOUT_QUEUE_LENGTH_MASK = 15 ∧ C.EXPRIED_QUEUE_LENGTH_MASK = 15 := by
  decide

end Slock.Engine
