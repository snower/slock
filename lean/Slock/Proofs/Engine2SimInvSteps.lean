import Slock.Proofs.Engine2SimInv
import Slock.Proofs.Engine2SimPop
/-! Simulation stage 2 → stage 1: `KI` through the steps that do touch what it reads. -/
namespace Slock.Sim
open Slock Slock.Engine2
open Slock.Engine (has)

/-- the reclaim check: the reset key record has shorter queues -/
theorem WI.removeIfZero {w : W} (h : WI w) : WI w.removeIfZero := by
  unfold W.removeIfZero
  split
  · refine KI.of_pk_sub (k := w.k) h ?_ ?_ (PKeep.of_eq rfl)
    · show (w.k.current.toList ++ []).Sublist _
      rw [List.append_nil]; exact List.sublist_append_left _ _
    · exact List.nil_sublist _
  · exact h

theorem WI.newLock {w : W} (h : WI w) (l : Lv w zero) (c : Engine.Cmd) (d : Option Bytes) : WI (w.newLock c d).1 := by
  have hfresh := nextRid_fresh l
  have hg : (w.newLock c d).1.k.getR w.db.nextRid = newRec w.db.nextRid w.db.now c d := getR_addRec_same w.k _ hfresh
  refine KI.step_rec_same (k := w.k) h w.db.nextRid (Nat.le_refl _) (PKeepX.addRec w.k _ rfl) (fun y hy => Or.inl hy) h.ln h.nd ?_ ?_ ?_ ?_
  · intro _; rw [hg]; rfl
  · intro _ sc hsc; rw [hg] at hsc; exact absurd hsc (by simp [newRec])
  · intro _ hd; rw [hg] at hd; exact absurd hd (by simp [newRec])
  · intro hm
    exfalso
    exact hfresh (l.has (qRefs_pos_of_holder w.k _ hm))

theorem newLock_unqueued {w : W} (l : Lv w zero) (c : Engine.Cmd) (data : Option Bytes) :
    w.db.nextRid ∉ (w.newLock c data).1.k.current.toList ++ (w.newLock c data).1.k.locks ∧
    w.db.nextRid ∉ (w.newLock c data).1.k.wait.map (·.rid) := by
  obtain ⟨_, _, _, hq0, _, _⟩ := l.newLock zero_nonneg c data
  constructor <;> intro hm
  · have := qRefs_pos_of_holder _ _ hm
    omega
  · have := qRefs_pos_of_wait_mem _ _ hm
    omega

theorem WI.step_rec_held {w w' : W} (h : WI w) (rid : Nat) (hs : w.db.seq ≤ w'.db.seq) (px : PKeepX πI (· = rid) w'.k w.k) (q : w'.k.queues = w.k.queues)
    (cs' : w'.k.hasRec rid → (w'.k.getR rid).conn = (w'.k.getR rid).cmd.conn)
    (ck' : w'.k.hasRec rid → ∀ sc, (w'.k.getR rid).eSched = some sc → sc.checked = (w'.k.getR rid).eChecked)
    (hid' : w'.k.hasRec rid → 0 < (w'.k.getR rid).depth → w.k.hasRec rid ∧ 0 < (w.k.getR rid).depth ∧ (w'.k.getR rid).hid = (w.k.getR rid).hid)
    (ht' : w'.k.hasRec rid → rid ∈ w.k.current.toList ++ w.k.locks → (w'.k.getR rid).timeouted = true) : WI w' := by
  obtain ⟨q1, q2, q3⟩ := queues_eq q
  refine KI.step_rec_same (k := w.k) h rid hs px (fun y hy => Or.inl (by rw [← q1, ← q2]; exact hy)) (by rw [q1, q2]; exact h.ln)
    (by rw [q3]; exact h.nd) cs' ck' hid' ?_
  intro hm
  by_cases hh : w'.k.hasRec rid
  · exact ht' hh (by rw [← q1, ← q2]; exact hm)
  · exact timeouted_dead _ _ hh

theorem WI.edit {h : Nat} {f : Rec → Rec} {g : Nat → Nat} {n : Nat} {w w' : W} (i : WI w) (e : Edit h f g n w w')
    (cs' : (w.k.getR h).conn = (w.k.getR h).cmd.conn → (f (w.k.getR h)).conn = (f (w.k.getR h)).cmd.conn)
    (ck' : (∀ sc, (w.k.getR h).eSched = some sc → sc.checked = (w.k.getR h).eChecked) →
      ∀ sc, (f (w.k.getR h)).eSched = some sc → sc.checked = (f (w.k.getR h)).eChecked)
    (hid' : 0 < (f (w.k.getR h)).depth → 0 < (w.k.getR h).depth ∧ (f (w.k.getR h)).hid = (w.k.getR h).hid)
    (ht' : (w.k.getR h).timeouted = true → (f (w.k.getR h)).timeouted = true) : WI w' := by
  have key : ∀ hh' : w'.k.hasRec h, w.k.hasRec h ∧ πI (w'.k.getR h) = πI (f (w.k.getR h)) :=
    fun hh' => ⟨(e.hasRec h).mp hh', e.getR ((e.hasRec h).mp hh') πI (fun _ => rfl)⟩
  refine i.step_rec_held h (by rw [e.seq]; exact Nat.le_add_right _ _)
    ⟨fun y _ hy => (e.hasRec y).mp hy, fun y hy _ => (congrArg πI (e.other y hy) :)⟩ e.q ?_ ?_ ?_ ?_
  · intro hh; obtain ⟨hk, v⟩ := key hh; obtain ⟨v1, v2, _⟩ := πI_inj v; rw [v1, v2]; exact cs' (i.cs h hk)
  · intro hh; obtain ⟨hk, v⟩ := key hh; obtain ⟨_, _, _, v4, v5, _⟩ := πI_inj v; rw [v4, v5]; exact ck' (i.ck h hk)
  · intro hh hd; obtain ⟨hk, v⟩ := key hh; obtain ⟨_, _, v3, _, _, v6, _⟩ := πI_inj v; rw [v3] at hd; rw [v6]; exact ⟨hk, hid' hd⟩
  · intro hh hm; obtain ⟨_, v⟩ := key hh; rw [(πI_inj v).2.2.2.2.2.2]; exact ht' (i.ht h hm)

theorem wheelAdd_checked (ck seq d n : Nat) : (Engine.wheelAdd ck seq d n).2.checked = n := by
  unfold Engine.wheelAdd; split <;> rfl

/-- `AddExpried(rid)` after an edit `f` of the back-off counter: the new entry caches the counter -/
theorem WI.rearmE {w : W} (h : WI w) (rid : Nat) (f : Rec → Rec) (hf : ∀ r, (f r).rid = r.rid) (hc : ∀ r, (f r).vis = (f r.vis).vis)
    (hp : ∀ r, (f r).conn = r.conn ∧ (f r).cmd = r.cmd ∧ (f r).depth = r.depth ∧ (f r).hid = r.hid ∧ (f r).timeouted = r.timeouted) :
    WI ((w.modR rid f).addExpried rid) :=
  h.edit ((Edit.refl w).modR f hf hc).addExpried
    (fun e => by show (f _).conn = (f _).cmd.conn; rw [(hp _).1, (hp _).2.1]; exact e)
    (fun _ sc hsc => (Option.some.inj hsc) ▸ wheelAdd_checked _ _ _ _)
    (fun hd => ⟨(hp _).2.2.1 ▸ hd, (hp _).2.2.2.1⟩) (fun ht => ((hp _).2.2.2.2).trans ht)

/-- `AddTimeOut(rid)` for a record that is not in the holder queue: it becomes (or stays) a live queued request -/
theorem WI.addTimeOut {w : W} (h : WI w) (rid : Nat) (hnot : rid ∉ w.k.current.toList ++ w.k.locks) : WI (w.addTimeOut rid) := by
  have key : ∀ hh : (w.addTimeOut rid).k.hasRec rid, w.k.hasRec rid ∧
      (w.addTimeOut rid).k.getR rid = Rec.armT (Engine.wheelAdd w.db.tCheck w.db.seq (w.k.getR rid).timeoutT (w.k.getR rid).tChecked) (w.k.getR rid) := by
    intro hh
    have hk : w.k.hasRec rid :=
      (hasRec_modRec w.k rid rid (Rec.armT (Engine.wheelAdd w.db.tCheck w.db.seq (w.k.getR rid).timeoutT (w.k.getR rid).tChecked))).mp hh
    exact ⟨hk, getR_modRec_same _ rid (Rec.armT (Engine.wheelAdd w.db.tCheck w.db.seq (w.k.getR rid).timeoutT (w.k.getR rid).tChecked)) hk⟩
  have px : PKeepX πI (· = rid) (w.addTimeOut rid).k w.k := by
    unfold W.addTimeOut
    exact PKeepX.modRec (X := (· = rid)) w.k rid _ (fun _ => rfl) rfl
  refine h.step_rec_held rid (Nat.le_succ _) px rfl ?_ ?_ ?_ ?_
  · intro hh; obtain ⟨hk, e⟩ := key hh; rw [e]; exact h.cs rid hk
  · intro hh; obtain ⟨hk, e⟩ := key hh; rw [e]; exact h.ck rid hk
  · intro hh hd; obtain ⟨hk, e⟩ := key hh; rw [e] at hd ⊢; exact ⟨hk, hd, rfl⟩
  · intro _ hm; exact absurd hm hnot

theorem WI.dropLongT {w : W} (h : WI w) (rid : Nat) : WI (w.dropLongT rid) := by
  unfold W.dropLongT W.when
  split
  · exact KI.of_pk h rfl (pk_removeLongT ins_πI w rid (fun _ _ => rfl))
  · exact h

theorem WI.tomb {w : W} (h : WI w) (x : Nat) : WI (w.modR x (fun r => { r with timeouted := true })) :=
  h.edit ((Edit.refl w).modR _ (fun _ => rfl) (fun _ => rfl)) id id (fun hd => ⟨hd, rfl⟩) (fun _ => rfl)

end Slock.Sim
