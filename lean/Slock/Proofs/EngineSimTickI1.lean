import Slock.Proofs.EngineSimTickSQOps
import Slock.Proofs.EngineSimTickLong
import Slock.Proofs.EngineNotLate
/-! Clock-tick simulation (`sim_tick`), stage 1: the facts about the stage-1 database that are carried through the steps of a sweep
(`I1`): distinct key ids, distinct (RequestId, connection) per key, distinct wheel sequence numbers (`S3`), `locked = Σ depth` (`DBInv`),
`waited ⇒ something is queued` (`FL`), every queued request / hold sits under the key its command names (`KW`, `KH`). -/
namespace Slock.SimTick
open Slock Slock.Engine Slock.Sim

def FL (a : DB) : Prop := ∀ k ∈ a.keys, k.waited = true → k.waiters ≠ []
/-- a hold sits under the key its command names (the hold-side twin of `Engine.KW`) -/
def KH (a : DB) : Prop := ∀ n x, HoldAt a n x → x.cmd.key = n

theorem FL.getKey {a : DB} (h : FL a) (n : Nat) : (a.getKey n).waited = true → (a.getKey n).waiters ≠ [] := by
  rcases getKey_mem_or_empty a n with h1 | h1
  · exact h _ h1
  · rw [h1]; intro hw; simp [emptyKey] at hw

theorem FL.setKey {a : DB} (h : FL a) {k : Key} (hk : k.waited = true → k.waiters ≠ []) : FL (a.setKey k) := by
  intro x hx
  rcases mem_setKey_keys hx with ⟨h1, _⟩ | h1
  · exact h x h1
  · rw [h1]; exact hk

theorem FL.of_keys_eq {a a' : DB} (h : FL a) (e : a'.keys = a.keys) : FL a' := by intro k hk; rw [e] at hk; exact h k hk

theorem wake_fl (db : DB) (k : Key) (out : List Reply) : (wake db k out).2.1.waited = true → (wake db k out).2.1.waiters ≠ [] := by
  rcases wake_settled db k out with ⟨_, h2⟩ | ⟨w, rest, h1, _⟩ | h1
  · intro hw; rw [h2] at hw; exact absurd hw (by simp)
  · intro _; rw [h1]; simp
  · intro hw; rw [h1] at hw; exact absurd hw (by simp)

theorem wake_store_fl {db0 db : DB} {k : Key} (out : List Reply) (h0 : FL db0) (e : db.keys = db0.keys) :
    FL ((wake db k out).1.setKey (wake db k out).2.1) :=
  (h0.of_keys_eq (by rw [wake_keys, e])).setKey (wake_fl db k out)

theorem KH.of_sub {a a' : DB} (h : KH a) (hs : ∀ n x, HoldAt a' n x → HoldAt a n x) : KH a' := fun n x hx => h n x (hs n x hx)

/-- the part of the stage-1 invariants (`SimP.Inv1`) that the sweeps read and carry; per key record and seen through `abs` it is `K1` -/
structure I1 (a : DB) : Prop where
  s3 : S3 a
  inv : DBInv a
  fl : FL a
  kw : KW a
  kh : KH a

theorem I1.of_keys_eq {a a' : DB} (h : I1 a) (e : a'.keys = a.keys) (hs : a.seq ≤ a'.seq) : I1 a' :=
  ⟨h.s3.of_keys_eq e hs, h.inv.of_keys_eq e, h.fl.of_keys_eq e, h.kw.of_sub (fun _ _ hx => hx.of_keys_eq e), h.kh.of_sub (fun _ _ hx => hx.of_keys_eq e)⟩

theorem I1.clockT {a : DB} (h : I1 a) : I1 (tick0 a) := h.of_keys_eq rfl (Nat.le_refl _)
theorem I1.clockE {a : DB} (h : I1 a) (now : Nat) : I1 (clockE a now) := h.of_keys_eq rfl (Nat.le_refl _)

/-- requests and holds under the key they name, of the record a `store` writes: a wake pass makes holds of queued requests -/
theorem store_kwh {a d : DB} {k : Key} (wk : Bool) (out : List Reply) (hw : KW a) (hh : KH a) (ek : d.keys = a.keys)
    (ec : clock d = clock a) (es : a.seq ≤ d.seq)
    (hk : (∀ w ∈ k.waiters, w.cmd.key = k.key) ∧ ∀ x ∈ k.holders, x.cmd.key = k.key) :
    KW (store wk d k out).1 ∧ KH (store wk d k out).1 := by
  have h := keysAll_store (P := fun _ q => (∀ w ∈ q.waiters, w.cmd.key = q.key) ∧ ∀ x ∈ q.holders, x.cmd.key = q.key) wk out
    (fun _ _ h => h)
    (fun _ q _ _ _ _ hq hi => by
      obtain ⟨w, rest, e, _, ⟨_, _, rfl, _⟩ | ⟨_, _, rfl, _⟩⟩ := wakeIter_some hi
      · refine ⟨fun v hv => hq.1 v (e ▸ List.mem_cons_of_mem _ hv), fun x hx => ?_⟩
        rcases List.mem_append.mp hx with hx | hx
        · exact hq.2 x hx
        · rw [List.mem_singleton.mp hx]; exact hq.1 w (e ▸ List.mem_cons_self ..)
      · exact ⟨fun v hv => hq.1 v (e ▸ List.mem_cons_of_mem _ hv), hq.2⟩)
    (fun _ _ h => h) ek ec es (fun q hq => ⟨fun w hx => hw q.key w ⟨q, hq, rfl, hx⟩, fun x hx => hh q.key x ⟨q, hq, rfl, hx⟩⟩) hk
  exact ⟨fun _ w ⟨q, hq, hn, hx⟩ => hn ▸ (h q hq).1 w hx, fun _ x ⟨q, hq, hn, hx⟩ => hn ▸ (h q hq).2 x hx⟩

variable {db0 db d : DB} {s : Src} {n : Nat} {wk : Bool} {k : Key} {out : List Reply}

/-- every edit of UNLOCK and of the two sweeps keeps `I1` (a LOCK needs a fresh (RequestId, connection): `WU.edit`) -/
theorem I1.edit (e : Edit db0 db s n wk d k out) (hs : ∀ c, s ≠ .lock c) (h : I1 db) : I1 (store wk d k out).1 := by
  have hk := store_kwh wk out h.kw h.kh e.frame.1 e.frame.2.1 e.frame.2.2.1 (k := k)
    ⟨fun w hw => e.frame.2.2.2 ▸ (e.waiters w hw).elim (fun h1 => h.kw n w (waitAt_getKey h1)) NewW.key, fun x hx => e.frame.2.2.2 ▸ by
      rcases e.holders x hx with h1 | h1
      · exact h.kh n x (holdAt_getKey h1)
      · cases h1 with
        | grant c | update c | relock c => exact absurd rfl (hs c)
        | dec _ _ h0 hm => exact h.kh n h0 (holdAt_getKey hm)
        | rearm _ _ _ hk => exact hk⟩
  refine ⟨h.s3.edit e hs, h.inv.edit e, ?_, hk.1, hk.2⟩
  have fl0 := h.fl.getKey n
  cases e with
  | rearmW w => exact (h.fl.of_keys_eq rfl).setKey fun hw e' => fl0 hw (List.map_eq_nil_iff.mp e')
  | rearmH x => exact (h.fl.of_keys_eq rfl).setKey fl0
  | cancel | dec | release | timeout | expire => exact wake_store_fl _ h.fl rfl
  | update c | relock c | grant c | grantNoHold c | queue c => exact absurd rfl (hs c)

theorem I1.rearmW {a : DB} (h : I1 a) {w : Waiter} (hw : w ∈ allW a) (hd : w.timeoutT > a.now) : I1 (rearmWaiter a w) :=
  I1.edit (db0 := a) (.rearmW w hw hd) (fun _ => nofun) h

theorem I1.rearmH {a : DB} (h : I1 a) {x : Hold} (hd : x.expT > a.now) : I1 (rearmHold a x) :=
  rearmHold_store a x ▸ I1.edit (db0 := a) (.rearmH x hd) (fun _ => nofun) h

theorem fireTimeoutStep_i1 (acc : DB × List Reply) (w : Waiter) (h : I1 acc.1) : I1 (fireTimeoutStep acc w).1 := by
  unfold fireTimeoutStep; split
  · rename_i hf; rw [Engine.fireTimeout_eq]; exact I1.edit (db0 := acc.1) (.timeout _ _ (List.mem_of_find?_eq_some hf)) (fun _ => nofun) h
  · exact h

theorem fireExpireStep_i1 (acc : DB × List Reply) (x : Hold) (h : I1 acc.1) : I1 (fireExpireStep acc x).1 := by
  unfold fireExpireStep; split
  · rename_i hf; rw [Engine.fireExpire_eq]; exact I1.edit (db0 := acc.1) (.expire _ _ (List.mem_of_find?_eq_some hf)) (fun _ => nofun) h
  · exact h

theorem I1.init (now : Nat) : I1 (DB.init now) :=
  ⟨S3.init now, DBInv.init now, by intro k hk; simp [DB.init] at hk, KW.init now, by intro n x ⟨k, hk, _⟩; simp [DB.init] at hk⟩

end Slock.SimTick
