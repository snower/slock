import Slock.Proofs.QueueIter
import Slock.Proofs.QueueLong
import Slock.Proofs.QueueResize
/-! The per-operation lemmas lifted to operation sequences of any length (induction over the list), from any state satisfying the
invariant and so from every constructor call: the plain deque without and with its maintenance operations (holes, iteration, Shrink,
Resize, Restructuring, each under its decidable precondition), and `LongWaitLockQueue`. -/
namespace Slock.Queue

/-- the operations covered by the lifted theorem (everything except Resize, Restructuring, Shrink, iteration, holes) -/
inductive Op
  | push (x : Elem)
  | pushLeft (x : Elem)
  | pop
  | popRight
  | head
  | tail
  | len
  | reset
  | rellac
  | freeQueue
  deriving Repr

inductive Obs
  | unit
  | full
  | elem (e : Elem)
  | int (n : Int)
  deriving Repr, DecidableEq

def stepModel (q : Q) : Op → Res (Q × Obs)
  | .push x => do let q ← push q x; pure (q, .unit)
  | .pushLeft x => do let (q, ok) ← pushLeft q x; pure (q, if ok then .unit else .full)
  | .pop => do let (q, x) ← pop q; pure (q, .elem x)
  | .popRight => do let (q, x) ← popRight q; pure (q, .elem x)
  | .head => do let x ← head q; pure (q, .elem x)
  | .tail => do let x ← tail q; pure (q, .elem x)
  | .len => do let n ← len q; pure (q, .int n)
  | .reset => do let q ← reset q; pure (q, .unit)
  | .rellac => do let q ← rellac q; pure (q, .unit)
  | .freeQueue => do let q ← freeQueue q; pure (q, .unit)

def runModel : Q → List Op → Res (Q × List Obs)
  | q, [] => .ok (q, [])
  | q, op :: ops => do
    let (q1, o) ← stepModel q op
    let (q2, os) ← runModel q1 ops
    pure (q2, o :: os)

/-- One step of the SPEC: a plain double-ended queue over `List (Option Nat)` (`none` = a nil element).
`pushLeft` may be refused with the answer "full", in which case nothing is inserted. -/
def stepSpec : List Elem → Op → Obs → List Elem → Prop
  | l, .push x, o, l' => o = .unit ∧ l' = l ++ [x]
  | l, .pushLeft x, o, l' => (o = .unit ∧ l' = x :: l) ∨ (o = .full ∧ l' = l)
  | l, .pop, o, l' => o = .elem l.head?.join ∧ l' = l.tail
  | l, .popRight, o, l' => o = .elem l.getLast?.join ∧ l' = l.dropLast
  | l, .head, o, l' => o = .elem l.head?.join ∧ l' = l
  | l, .tail, o, l' => o = .elem l.getLast?.join ∧ l' = l
  | l, .len, o, l' => o = .int (l.length : Int) ∧ l' = l
  | _, .reset, o, l' => o = .unit ∧ l' = []
  | _, .rellac, o, l' => o = .unit ∧ l' = []
  | l, .freeQueue, o, l' => o = .unit ∧ l' = l

inductive SpecRun : List Elem → List Op → List Obs → List Elem → Prop
  | nil (l : List Elem) : SpecRun l [] [] l
  | cons {l l1 l2 : List Elem} {op : Op} {o : Obs} {ops : List Op} {os : List Obs} :
      stepSpec l op o l1 → SpecRun l1 ops os l2 → SpecRun l (op :: ops) (o :: os) l2

theorem step_spec {q : Q} (h : QInv q) (op : Op) :
    ∃ q' o, stepModel q op = .ok (q', o) ∧ QInv q' ∧ stepSpec (abs q) op o (abs q') ∧ (HeadClean q → HeadClean q') := by
  cases op with
  | push x =>
    obtain ⟨q', e, hq, ha, hc⟩ := push_spec h x
    exact ⟨q', .unit, by simp [stepModel, e], hq, ⟨rfl, ha⟩, hc⟩
  | pushLeft x =>
    by_cases hf : q.hni = 0 ∧ q.hqi = 0
    · exact ⟨q, .full, by simp [stepModel, pushLeft_full q x hf], h, Or.inr ⟨rfl, rfl⟩, id⟩
    · obtain ⟨q', e, hq, ha, hc⟩ := pushLeft_spec h x hf
      exact ⟨q', .unit, by simp [stepModel, e], hq, Or.inl ⟨rfl, ha⟩, hc⟩
  | pop =>
    obtain ⟨q', e, hq, ha, hc⟩ := pop_spec h
    exact ⟨q', _, by simp [stepModel, e], hq, ⟨rfl, ha⟩, hc⟩
  | popRight =>
    obtain ⟨q', e, hq, ha, hc⟩ := popRight_spec h
    exact ⟨q', _, by simp [stepModel, e], hq, ⟨rfl, ha⟩, hc⟩
  | head => exact ⟨q, _, by simp [stepModel, head_refines h], h, ⟨rfl, rfl⟩, id⟩
  | tail => exact ⟨q, _, by simp [stepModel, tail_refines h], h, ⟨rfl, rfl⟩, id⟩
  | len => exact ⟨q, _, by simp [stepModel, len_refines h], h, ⟨rfl, rfl⟩, id⟩
  | reset =>
    obtain ⟨q', e, hq, ha, hc⟩ := reset_spec h
    exact ⟨q', .unit, by simp [stepModel, e], hq, ⟨rfl, ha⟩, fun _ => hc⟩
  | rellac =>
    obtain ⟨q', e, hq, ha, hc⟩ := rellac_spec h
    exact ⟨q', .unit, by simp [stepModel, e], hq, ⟨rfl, ha⟩, fun _ => hc⟩
  | freeQueue =>
    obtain ⟨q', e, hq, ha, hc⟩ := freeQueue_spec h
    exact ⟨q', .unit, by simp [stepModel, e], hq, ⟨rfl, ha⟩, hc⟩

theorem run_refines {q : Q} (h : QInv q) (ops : List Op) :
    ∃ q' os, runModel q ops = .ok (q', os) ∧ QInv q' ∧ SpecRun (abs q) ops os (abs q') := by
  induction ops generalizing q with
  | nil => exact ⟨q, [], rfl, h, SpecRun.nil _⟩
  | cons op ops ih =>
    obtain ⟨q1, o, e1, h1, s1, _⟩ := step_spec h op
    obtain ⟨q2, os, e2, h2, s2⟩ := ih h1
    exact ⟨q2, o :: os, by simp [runModel, e1, e2], h2, SpecRun.cons s1 s2⟩

theorem newQueue_inv (b n s : Nat) (hb : 1 ≤ b) (hn : 1 ≤ n) (hs : 1 ≤ s) (hs2 : s < 1073741824) :
    ∃ q, newQueue b n s = .ok q ∧ QInv q ∧ abs q = [] ∧ HeadClean q := by
  have hn0 : ¬ n = 0 := by omega
  have hb0 : ¬ b = 0 := by omega
  refine ⟨{ hqi := 0, hqs := s, headQueue := .node 0, tqi := 0, tqs := s, tailQueue := .node 0, hni := 0, tni := 0,
             queues := some (List.replicate s none) :: List.replicate (n - 1) none,
             sizes := s :: List.replicate (n - 1) 0,
             baseNodeSize := b, nodeIndex := 0, nodeSize := n, shrinkNodeSize := 0,
             baseQueueSize := s, queueSize := s, rellac := 0, dead := [] },
    by simp only [newQueue, hn0, hb0, if_false],
    .of ⟨[s], n - 1, by simp [shape], rfl, rfl, by show n = 1 + (n - 1); omega, fun m hm => ?_, hb⟩
      ⟨rfl, rfl, hs⟩ ⟨rfl, rfl, hs⟩ (Nat.le_refl _) (Nat.le_refl _) (fun _ => Nat.le_refl _)
      (by show (0 : Int) < s; omega) (by show (s : Int) < 1073741824; omega),
    abs_rewound _, HeadClean_origin rfl rfl⟩
  rw [List.mem_singleton.mp hm]; exact ⟨hs, hs2⟩

theorem run_from_new (b n s : Nat) (hb : 1 ≤ b) (hn : 1 ≤ n) (hs : 1 ≤ s) (hs2 : s < 1073741824) (ops : List Op) :
    ∃ q0 q' os, newQueue b n s = .ok q0 ∧ runModel q0 ops = .ok (q', os) ∧ QInv q' ∧ SpecRun [] ops os (abs q') := by
  obtain ⟨q0, e0, h0, a0, _⟩ := newQueue_inv b n s hb hn hs hs2
  obtain ⟨q', os, e, h', sr⟩ := run_refines h0 ops
  rw [a0] at sr
  exact ⟨q0, q', os, e0, e, h', sr⟩

def QInv2 (q : Q) : Prop := QInv q ∧ HeadClean q

/-- the precondition of `Resize`: either it has nothing to do (the head node has not moved past `baseNodeSize`), or no
spare node lies behind the tail node and the recomputed allocation size is sane -/
def ResizeOK (q : Q) : Prop := q.hni ≤ q.baseNodeSize ∨ (NoSpare q ∧ ResizeQs q)
instance (q : Q) : Decidable (ResizeOK q) := by unfold ResizeOK; exact inferInstance

inductive MOp
  | base (op : Op)
  | hole (pos : Nat)
  | iter
  | shrink (sz : Nat)
  | resize
  | restructuring
  deriving Repr

inductive MObs
  | base (o : Obs)
  | bool (b : Bool)
  | list (l : List Elem)
  | nat (n : Nat)
  | unit
  deriving Repr

def preM (q : Q) : MOp → Prop
  | .base _ => True
  | .hole _ => True
  | .iter => True
  | .shrink sz => ShrinkNoop q sz
  | .resize => ResizeOK q
  | .restructuring => NoSpare q

instance (q : Q) (op : MOp) : Decidable (preM q op) := by
  cases op <;> simp only [preM] <;> exact inferInstance

def stepM (q : Q) : MOp → Res (Q × MObs)
  | .base op => do let (q, o) ← stepModel q op; pure (q, .base o)
  | .hole pos => do let (q, b) ← hole q pos; pure (q, .bool b)
  | .iter => do let l ← iterAll q; pure (q, .list l.flatten)
  | .shrink sz => do let (q, n) ← shrink q sz; pure (q, .nat n)
  | .resize => do let q ← resize q; pure (q, .unit)
  | .restructuring => do let q ← restructuring q; pure (q, .unit)

def runM : Q → List MOp → Res (Q × List MObs)
  | q, [] => .ok (q, [])
  | q, op :: ops => do
    let (q1, o) ← stepM q op
    let (q2, os) ← runM q1 ops
    pure (q2, o :: os)

def runPre : Q → List MOp → Bool
  | _, [] => true
  | q, op :: ops =>
    decide (preM q op) &&
      (match stepM q op with
       | .ok (q', _) => runPre q' ops
       | _ => false)

/-- SPEC step: the plain deque with holes; iteration lists the content, a hole replaces one entry by nil,
Restructuring drops the nil entries, Shrink / Resize change nothing -/
def stepSpecM : List Elem → MOp → MObs → List Elem → Prop
  | l, .base op, o, l' => ∃ o', o = .base o' ∧ stepSpec l op o' l'
  | l, .hole pos, o, l' => o = .bool (decide (pos < l.length)) ∧ l' = l.set pos none
  | l, .iter, o, l' => o = .list l ∧ l' = l
  | l, .shrink _, o, l' => o = .nat 0 ∧ l' = l
  | l, .resize, o, l' => o = .unit ∧ l' = l
  | l, .restructuring, o, l' => o = .unit ∧ l' = l.filter Option.isSome

inductive SpecRunM : List Elem → List MOp → List MObs → List Elem → Prop
  | nil (l : List Elem) : SpecRunM l [] [] l
  | cons {l l1 l2 : List Elem} {op : MOp} {o : MObs} {ops : List MOp} {os : List MObs} :
      stepSpecM l op o l1 → SpecRunM l1 ops os l2 → SpecRunM l (op :: ops) (o :: os) l2

theorem stepM_refines {q : Q} (h : QInv2 q) (op : MOp) (hp : preM q op) :
    ∃ q' o, stepM q op = .ok (q', o) ∧ QInv2 q' ∧ stepSpecM (abs q) op o (abs q') := by
  cases op with
  | base op =>
    obtain ⟨q', o, e, hq, hs, hc⟩ := step_spec h.1 op
    exact ⟨q', .base o, by simp [stepM, e], ⟨hq, hc h.2⟩, o, rfl, hs⟩
  | hole pos =>
    obtain ⟨q', e, hq, ha, hcl⟩ := hole_spec h.1 pos
    exact ⟨q', _, by simp [stepM, e], ⟨hq, hcl h.2⟩, rfl, ha⟩
  | iter =>
    obtain ⟨l, e, hl⟩ := iterAll_refines h.1
    exact ⟨q, .list l.flatten, by simp [stepM, e], h, by rw [hl], rfl⟩
  | shrink sz =>
    exact ⟨q, _, by simp [stepM, shrink_noop h.1 sz hp], h, rfl, rfl⟩
  | resize =>
    obtain ⟨q', e, hq, ha, hcl⟩ := resize_spec h.1 hp
    exact ⟨q', _, by simp [stepM, e], ⟨hq, hcl h.2⟩, rfl, ha⟩
  | restructuring =>
    obtain ⟨q', e, hq, ha, hcl⟩ := restructuring_refines h.1 h.2 hp
    exact ⟨q', _, by simp [stepM, e], ⟨hq, hcl⟩, rfl, ha⟩

theorem runM_refines {q : Q} (h : QInv2 q) (ops : List MOp) (hp : runPre q ops = true) :
    ∃ q' os, runM q ops = .ok (q', os) ∧ QInv2 q' ∧ SpecRunM (abs q) ops os (abs q') := by
  induction ops generalizing q with
  | nil => exact ⟨q, [], rfl, h, SpecRunM.nil _⟩
  | cons op ops ih =>
    simp only [runPre, Bool.and_eq_true, decide_eq_true_eq] at hp
    obtain ⟨hp1, hp2⟩ := hp
    obtain ⟨q1, o, e1, h1, s1⟩ := stepM_refines h op hp1
    rw [e1] at hp2
    obtain ⟨q2, os, e2, h2, s2⟩ := ih h1 hp2
    exact ⟨q2, o :: os, by simp [runM, e1, e2], h2, SpecRunM.cons s1 s2⟩

theorem runM_from_new (b n s : Nat) (hb : 1 ≤ b) (hn : 1 ≤ n) (hs : 1 ≤ s) (hs2 : s < 1073741824) (ops : List MOp) :
    ∃ q0, newQueue b n s = .ok q0 ∧ (runPre q0 ops = true →
      ∃ q' os, runM q0 ops = .ok (q', os) ∧ QInv2 q' ∧ SpecRunM [] ops os (abs q')) := by
  obtain ⟨q0, e0, h0, a0, hc0⟩ := newQueue_inv b n s hb hn hs hs2
  refine ⟨q0, e0, fun hp => ?_⟩
  obtain ⟨q', os, e, h', sr⟩ := runM_refines ⟨h0, hc0⟩ ops hp
  rw [a0] at sr
  exact ⟨q', os, e, h', sr⟩

inductive LOp
  | push (id : Nat)
  | pop
  | remove (id p : Nat)
  | restructuring
  | len
  deriving Repr

def preL (l : LongQ) : LOp → Prop
  | .remove id p => removeAt l id p = true
  | .restructuring => LongQsOK l.q
  | _ => True

instance (l : LongQ) (op : LOp) : Decidable (preL l op) := by
  cases op <;> simp only [preL] <;> exact inferInstance

def stepL (l : LongQ) : LOp → Res (LongQ × Obs)
  | .push id => do let l ← longPush l id; pure (l, .unit)
  | .pop => do let (l, x) ← longPop l; pure (l, .elem x)
  | .remove id _ => do let l ← longRemove l id; pure (l, .unit)
  | .restructuring => do let l ← longRestructuring l; pure (l, .unit)
  | .len => do let n ← len l.q; pure (l, .int n)

def runL : LongQ → List LOp → Res (LongQ × List Obs)
  | l, [] => .ok (l, [])
  | l, op :: ops => do
    let (l1, o) ← stepL l op
    let (l2, os) ← runL l1 ops
    pure (l2, o :: os)

def runPreL : LongQ → List LOp → Bool
  | _, [] => true
  | l, op :: ops =>
    decide (preL l op) &&
      (match stepL l op with
       | .ok (l', _) => runPreL l' ops
       | _ => false)

def stepSpecL : List Elem → LOp → Obs → List Elem → Prop
  | l, .push id, o, l' => o = .unit ∧ l' = l ++ [some id]
  | l, .pop, o, l' => o = .elem l.head?.join ∧ l' = l.tail
  | l, .remove _ p, o, l' => o = .unit ∧ l' = l.set p none
  | l, .restructuring, o, l' => o = .unit ∧ l' = l.filter Option.isSome
  | l, .len, o, l' => o = .int (l.length : Int) ∧ l' = l

inductive SpecRunL : List Elem → List LOp → List Obs → List Elem → Prop
  | nil (l : List Elem) : SpecRunL l [] [] l
  | cons {l l1 l2 : List Elem} {op : LOp} {o : Obs} {ops : List LOp} {os : List Obs} :
      stepSpecL l op o l1 → SpecRunL l1 ops os l2 → SpecRunL l (op :: ops) (o :: os) l2

theorem stepL_refines {l : LongQ} (h : LInv l) (op : LOp) (hp : preL l op) :
    ∃ l' o, stepL l op = .ok (l', o) ∧ LInv l' ∧ stepSpecL (abs l.q) op o (abs l'.q) := by
  cases op with
  | push id =>
    obtain ⟨l', e, hl, ha⟩ := longPush_spec h id
    exact ⟨l', .unit, by simp [stepL, e], hl, rfl, ha⟩
  | pop =>
    obtain ⟨l', e, hl, ha⟩ := longPop_spec h
    exact ⟨l', _, by simp [stepL, e], hl, rfl, ha⟩
  | remove id p =>
    obtain ⟨l', e, hl, ha⟩ := longRemove_spec h id p hp
    exact ⟨l', .unit, by simp [stepL, e], hl, rfl, ha⟩
  | restructuring =>
    obtain ⟨l', e, hl, ha⟩ := longRestructuring_spec h hp
    exact ⟨l', .unit, by simp [stepL, e], hl, rfl, ha⟩
  | len => exact ⟨l, _, by simp [stepL, len_refines h.1], h, rfl, rfl⟩

theorem runL_refines {l : LongQ} (h : LInv l) (ops : List LOp) (hp : runPreL l ops = true) :
    ∃ l' os, runL l ops = .ok (l', os) ∧ LInv l' ∧ SpecRunL (abs l.q) ops os (abs l'.q) := by
  induction ops generalizing l with
  | nil => exact ⟨l, [], rfl, h, SpecRunL.nil _⟩
  | cons op ops ih =>
    simp only [runPreL, Bool.and_eq_true, decide_eq_true_eq] at hp
    obtain ⟨hp1, hp2⟩ := hp
    obtain ⟨l1, o, e1, h1, s1⟩ := stepL_refines h op hp1
    rw [e1] at hp2
    obtain ⟨l2, os, e2, h2, s2⟩ := ih h1 hp2
    exact ⟨l2, o :: os, by simp [runL, e1, e2], h2, SpecRunL.cons s1 s2⟩

end Slock.Queue
