import Slock.Model.Text
/-! M-TEXT: decimal rendering vs `atoi` (C14 text part). -/
namespace Slock.Text

def isDigit (b : UInt8) : Prop := 48 ≤ b.toNat ∧ b.toNat ≤ 57

theorem toUInt8_toNat (n : Nat) (h : n < 256) : n.toUInt8.toNat = n := UInt8.toNat_ofNat_of_lt' h

theorem digitVal_digit (d : Nat) (h : d < 10) : digitVal (digitByte d) = some d := by
  unfold digitVal digitByte
  rw [toUInt8_toNat _ (by omega)]
  simp
  omega

theorem isDigit_digit (d : Nat) (h : d < 10) : isDigit (digitByte d) := by
  unfold isDigit digitByte
  rw [toUInt8_toNat _ (by omega)]
  omega

theorem parseDigits_append (xs : Bytes) (d : Nat) (h : d < 10) (acc : Nat) :
    parseDigits (xs ++ [digitByte d]) acc = (parseDigits xs acc).map (fun a => a * 10 + d) := by
  induction xs generalizing acc with
  | nil => simp [parseDigits, digitVal_digit d h]
  | cons x xs ih =>
    simp only [List.cons_append, parseDigits]
    cases digitVal x with
    | none => simp
    | some v => simp [ih]

theorem parseDigits_decDigits (f n : Nat) (h : n < f) : parseDigits (decDigits f n) 0 = some n := by
  induction f generalizing n with
  | zero => omega
  | succ f ih =>
    unfold decDigits
    by_cases h10 : n < 10
    · simp [h10, parseDigits, digitVal_digit n h10]
    · simp only [h10, if_false]
      rw [parseDigits_append _ _ (Nat.mod_lt _ (by omega)), ih (n / 10) (by omega)]
      simp
      omega

theorem decDigits_all_digit (f n : Nat) : ∀ b ∈ decDigits f n, isDigit b := by
  induction f generalizing n with
  | zero => simp [decDigits]
  | succ f ih =>
    unfold decDigits
    by_cases h10 : n < 10
    · simp [h10]; exact isDigit_digit n h10
    · simp only [h10, if_false, List.mem_append, List.mem_singleton]
      intro b hb
      rcases hb with hb | hb
      · exact ih _ b hb
      · subst hb; exact isDigit_digit _ (Nat.mod_lt _ (by omega))

theorem decDigits_ne_nil (f n : Nat) : decDigits (f + 1) n ≠ [] := by
  unfold decDigits
  by_cases h10 : n < 10 <;> simp [h10]

theorem decDigits_length (f n k : Nat) (h : n < 10 ^ k) (hk : 0 < k) : (decDigits f n).length ≤ k := by
  induction f generalizing n k with
  | zero => simp [decDigits]
  | succ f ih =>
    unfold decDigits
    by_cases h10 : n < 10
    · simp [h10]; omega
    · simp only [h10, if_false, List.length_append, List.length_singleton]
      cases k with
      | zero => omega
      | succ k =>
        cases k with
        | zero => simp at h; omega
        | succ k =>
          have : n / 10 < 10 ^ (k + 1) := by
            rw [Nat.div_lt_iff_lt_mul (by omega)]
            rw [Nat.pow_succ] at h
            exact h
          have := ih (n / 10) (k + 1) this (by omega)
          omega

theorem natToDec_all_digit (n : Nat) : ∀ b ∈ natToDec n, isDigit b := decDigits_all_digit _ _

theorem natToDec_length (n : Nat) (h : n < 9223372036854775808) : (natToDec n).length ≤ 19 := by
  apply decDigits_length _ _ 19 _ (by omega)
  have : (9223372036854775808 : Nat) < 10 ^ 19 := by decide
  omega

theorem isDigit_ne (b : UInt8) (h : isDigit b) : b ≠ 10 ∧ b ≠ 13 ∧ b ≠ 45 ∧ b ≠ 43 := by
  unfold isDigit at h
  refine ⟨?_, ?_, ?_, ?_⟩ <;> (intro hb; subst hb; revert h; decide)

theorem atoi_natToDec (n : Nat) (h : n < 9223372036854775808) : atoi (natToDec n) = some (n : Int) := by
  have hp : parseDigits (natToDec n) 0 = some n := parseDigits_decDigits _ _ (by omega)
  have hd := natToDec_all_digit n
  have hne : natToDec n ≠ [] := decDigits_ne_nil _ _
  cases hx : natToDec n with
  | nil => exact absurd hx hne
  | cons b rest =>
    rw [hx] at hp hd
    have hb := isDigit_ne b (hd b (by simp))
    unfold atoi
    simp only [hb.2.2.1, hb.2.2.2, if_false, hp]
    simp [h]

end Slock.Text
