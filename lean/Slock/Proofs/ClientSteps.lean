import Slock.Proofs.ClientPolicies
import Slock.Proofs.ClientQueue
/-!
Step facts of M-ENGINE used by C19's RLock and Event theorems: what exactly a re-lock / an unlock of one level does to the
state of a key with a single holder, when a wake pass is a no-op, and which classification branches can answer SUCCED.
-/
namespace Slock.Engine

theorem getKey_setKey' (db : DB) (k : Key) {n : Nat} (hn : k.key = n) : (db.setKey k).getKey n = k := hn ▸ getKey_setKey_same db k

/-- the head of the queue, if any, is not admissible: a wake pass on the key does nothing -/
def Blocked (k : Key) : Prop := ∀ w rest, k.waiters = w :: rest → doLock k w.cmd = false

theorem wakeIter_blocked (db : DB) (k : Key) (hb : Blocked k) : wakeIter db k = none := by
  unfold wakeIter
  cases hw : k.waiters with
  | nil => rfl
  | cons w rest => simp [hb w rest hw]

theorem wake_blocked (db : DB) (k : Key) (out : List Reply) (hb : Blocked k) :
    (wake db k out).2.1.holders = k.holders ∧ (wake db k out).2.1.locked = k.locked ∧ (wake db k out).2.2 = out ∧
      (wake db k out).2.1.waiters = k.waiters := by
  unfold wake wakePass
  split
  · exact ⟨rfl, rfl, rfl, rfl⟩
  · rw [wakeIter_blocked db k hb]
    simp only []
    split <;> exact ⟨rfl, rfl, rfl, rfl⟩

theorem blocked_of_count_zero (k : Key) (hl : k.locked ≠ 0) (hw : ∀ w ∈ k.waiters, w.cmd.count = 0) : Blocked k := by
  intro w rest e
  unfold doLock
  have h1 : (k.locked == 0) = false := by simpa using hl
  have h2 : w.cmd.count = 0 := hw w (by rw [e]; simp)
  simp [h1, h2]

theorem blocked_of_head_count_zero (k : Key) (hl : k.locked ≠ 0) (hh : ∃ cur, k.holders.head? = some cur ∧ cur.cmd.count = 0) :
    Blocked k := by
  intro w rest _
  obtain ⟨cur, hcur, hc⟩ := hh
  unfold doLock
  have h1 : (k.locked == 0) = false := by simpa using hl
  by_cases hw : w.cmd.count = 0
  · simp [h1, hw]
  · have hpos : 0 < k.locked := Nat.pos_of_ne_zero hl
    by_cases hb : k.locked ≥ 0xffff
    · simp [h1, hw, hcur, hc, hb]
    · have : ¬ k.locked ≤ 0 := by omega
      simp [h1, hw, hcur, hc, hb, this]

theorem wake_store_blocked (db : DB) (k : Key) (out : List Reply) (n : Nat) (hn : k.key = n) (hb : Blocked k) :
    (((wake db k out).1.setKey (wake db k out).2.1).getKey n).holders = k.holders ∧
    (((wake db k out).1.setKey (wake db k out).2.1).getKey n).waiters = k.waiters ∧
    (((wake db k out).1.setKey (wake db k out).2.1).getKey n).locked = k.locked ∧ (wake db k out).2.2 = out := by
  obtain ⟨e1, e2, e3, e4⟩ := wake_blocked db k out hb
  rw [getKey_setKey' _ _ ((wake_key db k out).trans hn)]
  exact ⟨e1, e4, e2, e3⟩

theorem store_locked_pos (wk : Bool) (d : DB) (k : Key) (out : List Reply) (n : Nat) (hn : k.key = n) (hpos : 0 < k.locked) :
    0 < ((store wk d k out).1.getKey n).locked := by
  unfold store
  split
  · rw [getKey_setKey' _ _ ((wake_key d k out).trans hn)]
    exact Nat.lt_of_lt_of_le hpos (wake_mono d k out)
  · rw [getKey_setKey' _ _ hn]
    exact hpos

theorem wake_head (db : DB) (k : Key) (r : Reply) (out : List Reply) : (wake db k (r :: out)).2.2.head? = some r := by
  obtain ⟨more, hm⟩ := wake_out db k (r :: out)
  rw [hm]; rfl

theorem findHolder_single {k : Key} {h : Hold} (hs : k.holders = [h]) : findHolder k h.cmd.lockId = some h := by
  unfold findHolder; rw [hs]; simp

theorem locked_single {k : Key} (hi : KeyInv k) {h : Hold} (hs : k.holders = [h]) : k.locked = h.depth ∧ 1 ≤ h.depth := by
  refine ⟨by rw [hi.sum, hs]; simp, hi.pos h (by rw [hs]; simp)⟩

theorem replaceHolder_single (h h' : Hold) : replaceHolder [h] h h' = [h'] := by simp [replaceHolder]

/-- A wake pass follows the re-lock; with the new command's Count 0 it admits nobody. -/
theorem relock_state (db : DB) (c : Cmd) (h : Hold) (hinv : DBInv db) (hl : db.leader = true) (hflag : c.flag = 0)
    (hprio : has c.tflag TF_PRIORITY = false) (hexp : c.expried > 0)
    (hs : (db.getKey c.key).holders = [h]) (hid : h.cmd.lockId = c.lockId) (hd : h.depth < 0xff) (hr : h.depth ≤ c.rcount)
    (hc0 : c.count = 0) :
    ∃ h1, ((opLock db c).1.getKey c.key).holders = [h1] ∧ h1.depth = h.depth + 1 ∧ h1.cmd = c ∧
      (opLock db c).2 = [mkReply c RESULT_SUCCED ((db.getKey c.key).locked + 1) (h.depth + 1)] := by
  have hi := getKey_inv hinv c.key
  obtain ⟨hlk, hpos⟩ := locked_single hi hs
  have hfind : findHolder (db.getKey c.key) c.lockId = some h := by rw [← hid]; exact findHolder_single hs
  have hb : classifyLock db c = .relock h := by
    rw [classifyLock_of_holder db c h hl (by rw [hflag]; exact has_zero _) (by rw [hflag]; exact has_zero _)
      (by rw [hflag]; exact has_zero _) (by omega) hfind]
    have hne : ¬ c.expried = 0 := by omega
    simp [hd, hr, hprio, hne]
  have hbk : ∀ (k : Key), k.holders = [(updateHold db { h with depth := h.depth + 1 } c).2] → k.locked ≠ 0 → Blocked k :=
    fun k e hl => blocked_of_head_count_zero k hl ⟨_, by rw [e]; rfl, by rw [updateHold_cmd]; exact hc0⟩
  refine ⟨(updateHold db { h with depth := h.depth + 1 } c).2, ?_, by rw [updateHold_depth], updateHold_cmd _ _ _, ?_⟩
  · unfold opLock
    rw [hb]
    simp only [applyLock]
    rw [(wake_store_blocked _ _ _ c.key ?_ ?_).1]
    · simp only [hs, replaceHolder_single]
    · exact getKey_key db c.key
    · exact hbk _ (by simp only [hs, replaceHolder_single]) (by simp)
  · unfold opLock
    rw [hb]
    simp only [applyLock, updateHold_depth]
    rw [(wake_blocked _ _ _ ?_).2.2.1]
    exact hbk _ (by simp only [hs, replaceHolder_single]) (by simp)

theorem dec_state (db : DB) (c : Cmd) (h : Hold) (hinv : DBInv db) (hl : db.leader = true)
    (hprio : has c.tflag TF_PRIORITY = false) (hrc : c.rcount > 0)
    (hs : (db.getKey c.key).holders = [h]) (hid : h.cmd.lockId = c.lockId) (hd : 1 < h.depth)
    (hw : ∀ w ∈ (db.getKey c.key).waiters, w.cmd.count = 0) :
    ((opUnlock db c).1.getKey c.key).holders = [{ h with depth := h.depth - 1 }] ∧
      ((opUnlock db c).1.getKey c.key).waiters = (db.getKey c.key).waiters ∧
      (opUnlock db c).2 = [mkReply c RESULT_SUCCED ((db.getKey c.key).locked - 1) (h.depth - 1)] := by
  have hi := getKey_inv hinv c.key
  obtain ⟨hlk, hpos⟩ := locked_single hi hs
  have hfind : findHolder (db.getKey c.key) c.lockId = some h := by rw [← hid]; exact findHolder_single hs
  have hb : classifyUnlock db c = .dec h c := by
    rw [classifyUnlock_of_holder db c h hl (by omega) hfind]
    simp [hd, hrc, hprio]
  unfold opUnlock
  rw [hb]
  simp only [applyUnlock]
  have hblk : Blocked { db.getKey c.key with
      holders := replaceHolder (db.getKey c.key).holders h { h with depth := h.depth - 1 }, locked := (db.getKey c.key).locked - 1 } :=
    blocked_of_count_zero _ (by simp only []; omega) hw
  obtain ⟨e1, e2, e3, e4⟩ := wake_blocked
    { db with ctr := { db.ctr with unLockCount := db.ctr.unLockCount + 1, lockedCount := db.ctr.lockedCount - 1 } } _
    [mkReply c RESULT_SUCCED ((db.getKey c.key).locked - 1) (h.depth - 1)] hblk
  have hkey := wake_key
    { db with ctr := { db.ctr with unLockCount := db.ctr.unLockCount + 1, lockedCount := db.ctr.lockedCount - 1 } }
    { db.getKey c.key with
      holders := replaceHolder (db.getKey c.key).holders h { h with depth := h.depth - 1 }, locked := (db.getKey c.key).locked - 1 }
    [mkReply c RESULT_SUCCED ((db.getKey c.key).locked - 1) (h.depth - 1)]
  rw [getKey_setKey' _ _ (hkey.trans (getKey_key db c.key))]
  refine ⟨?_, e4, e3⟩
  rw [e1]; simp only [hs, replaceHolder_single]

theorem release_reply (db : DB) (c : Cmd) (h : Hold) (hinv : DBInv db) (hl : db.leader = true)
    (hs : (db.getKey c.key).holders = [h]) (hid : h.cmd.lockId = c.lockId) (hd : h.depth = 1) :
    classifyUnlock db c = .release h c ∧ (opUnlock db c).2.head? = some (mkReply c RESULT_SUCCED 0 0) := by
  have hi := getKey_inv hinv c.key
  obtain ⟨hlk, hpos⟩ := locked_single hi hs
  have hfind : findHolder (db.getKey c.key) c.lockId = some h := by rw [← hid]; exact findHolder_single hs
  have hb : classifyUnlock db c = .release h c := by
    rw [classifyUnlock_of_holder db c h hl (by omega) hfind]
    have : ¬ h.depth > 1 := by omega
    simp [this]
  refine ⟨hb, ?_⟩
  unfold opUnlock
  rw [hb]
  simp only [applyUnlock]
  rw [wake_head, hlk, Nat.sub_self]

/-- A LOCK that asks for no hold (Expried = 0) with Count 0 and Rcount 0 is answered SUCCED only when nothing is
outstanding on the key at that step. -/
theorem nohold_succed_free (db : DB) (c : Cmd) (hinv : DBInv db) (hc : c.count = 0) (hrc : c.rcount = 0) (he : c.expried = 0)
    (r : Reply) (hr : (opLock db c).2.head? = some r) (hres : r.result = RESULT_SUCCED) :
    (db.getKey c.key).locked = 0 := by
  have hi := getKey_inv hinv c.key
  unfold opLock at hr
  cases hb : classifyLock db c with
  | p0a | p0b | stateError | unlockedWaitRefused | timeout | «show» cur | updateEqual h' | relockRefused h' =>
    rw [hb] at hr
    simp only [applyLock, List.head?_cons, Option.some.injEq] at hr
    rw [← hr] at hres
    simp [mkReply, RESULT_SUCCED, RESULT_TIMEOUT, RESULT_STATE_ERROR, RESULT_UNOWN_ERROR, RESULT_LOCKED_ERROR] at hres
  | update h' =>
    rw [hb] at hr
    simp only [applyLock] at hr
    rw [wake_head] at hr
    simp only [Option.some.injEq] at hr
    rw [← hr] at hres
    simp [mkReply, RESULT_SUCCED, RESULT_LOCKED_ERROR] at hres
  | relockNoHold h' =>
    have hm := classifyLock_mem hb rfl
    have := (LockFacts.of hb).2.2.2.1
    have := hi.pos h' hm
    omega
  | relock h' =>
    have hm := classifyLock_mem hb rfl
    have := (LockFacts.of hb).2.2.2.1
    have := hi.pos h' hm
    omega
  | grant => have := (LockFacts.of hb).2; omega
  | grantNoHold =>
    have hd := (LockFacts.of hb).1
    rcases doLock_true _ c hd with h0 | ⟨hne, _⟩
    · exact h0
    · exact absurd hc hne
  | queue =>
    rw [hb] at hr
    simp [applyLock] at hr

theorem wake_grant_count_zero_free {db : DB} {k : Key} {db' : DB} {k' : Key} {r : Reply}
    (h : wakeIter db k = some (db', k', r)) :
    ∃ w rest, k.waiters = w :: rest ∧ r.req = w.cmd.req ∧ r.conn = w.conn ∧ (w.cmd.count = 0 → k.locked = 0) := by
  obtain ⟨w, rest, e1, hd, ⟨_, _, _, rfl⟩ | ⟨_, _, _, rfl⟩⟩ := wakeIter_some h <;>
    exact ⟨w, rest, e1, rfl, rfl, fun hc => (doLock_true k w.cmd hd).elim id fun ⟨hne, _⟩ => absurd hc hne⟩

/-- **Event.Clear (default-set mode).** An update-LOCK (flag = update-when-locked) that asks for a hold and is answered
SUCCED or LOCKED_ERROR leaves the key held. -/
theorem update_lock_holds (db : DB) (c : Cmd) (hinv : DBInv db) (hflag : c.flag = F_UPDATE) (he : c.expried > 0)
    (r : Reply) (hr : (opLock db c).2.head? = some r) (hres : r.result = RESULT_SUCCED ∨ r.result = RESULT_LOCKED_ERROR) :
    ((opLock db c).1.getKey c.key).locked > 0 := by
  have hi := getKey_inv hinv c.key
  have hupd : has c.flag F_UPDATE = true := by rw [hflag]; decide
  unfold opLock at hr ⊢
  cases hb : classifyLock db c with
  | p0a | p0b | stateError | unlockedWaitRefused | timeout | «show» cur =>
    rw [hb] at hr
    simp only [applyLock, List.head?_cons, Option.some.injEq] at hr
    rw [← hr] at hres
    simp [mkReply, RESULT_SUCCED, RESULT_TIMEOUT, RESULT_STATE_ERROR, RESULT_UNOWN_ERROR, RESULT_LOCKED_ERROR] at hres
  | relockNoHold h' | relock h' => have := (LockFacts.of hb).2.1; rw [this] at hupd; simp at hupd
  | relockRefused h' => have := (LockFacts.of hb).2; rw [this] at hupd; simp at hupd
  | updateEqual h' =>
    have hm := classifyLock_mem hb rfl
    simp only [applyLock]
    have h1 := hi.pos h' hm
    have h2 := hi.depth_le hm
    omega
  | update h' =>
    have hm := classifyLock_mem hb rfl
    have h1 := hi.pos h' hm
    have h2 := hi.depth_le hm
    exact store_locked_pos true _ _ _ c.key (getKey_key db c.key) (by dsimp only; omega)
  | grant =>
    rw [applyLock_grant]
    exact store_locked_pos _ _ _ _ c.key (getKey_key db c.key) (Nat.succ_pos _)
  | grantNoHold => have := (LockFacts.of hb).2; omega
  | queue =>
    rw [hb] at hr
    simp [applyLock] at hr

theorem other_refused (db : DB) (c : Cmd) (hl : db.leader = true) (hflag : c.flag = 0) (hcount : c.count = 0)
    (hlocked : (db.getKey c.key).locked > 0) (hnone : findHolder (db.getKey c.key) c.lockId = none) :
    classifyLock db c = if c.timeout > 0 then .queue else .timeout := by
  have hz : ∀ f, has c.flag f = false := fun f => hflag ▸ has_zero f
  have hd : doLock (db.getKey c.key) c = false := by
    unfold doLock
    have : ((db.getKey c.key).locked == 0) = false := by simp; omega
    simp [this, hcount]
  unfold classifyLock
  simp only [hz, hl, hlocked, hnone, hd, Bool.false_and, Bool.and_false, Bool.not_true, Bool.false_eq_true, if_false, if_true]

theorem opLock_leader (db : DB) (c : Cmd) : (opLock db c).1.leader = db.leader :=
  congrArg (·.2.2.2) (clock_opLock db c)

theorem opUnlock_leader (db : DB) (c : Cmd) : (opUnlock db c).1.leader = db.leader :=
  congrArg (·.2.2.2) (clock_opUnlock db c)

def lockN (db : DB) (c : Cmd) : Nat → DB
  | 0 => db
  | n + 1 => lockN (opLock db c).1 c n

def unlockN (db : DB) (c : Cmd) : Nat → DB
  | 0 => db
  | n + 1 => unlockN (opUnlock db c).1 c n

theorem lockN_depth (n : Nat) (db : DB) (c : Cmd) (h : Hold) (hinv : DBInv db) (hl : db.leader = true) (hflag : c.flag = 0)
    (hprio : has c.tflag TF_PRIORITY = false) (hexp : c.expried > 0) (hrc : c.rcount = 0xff)
    (hs : (db.getKey c.key).holders = [h]) (hid : h.cmd.lockId = c.lockId) (hd : h.depth + n ≤ 0xff) (hc0 : c.count = 0) :
    ∃ h', ((lockN db c n).getKey c.key).holders = [h'] ∧ h'.depth = h.depth + n ∧ h'.cmd.lockId = c.lockId ∧
      DBInv (lockN db c n) ∧ (lockN db c n).leader = true := by
  induction n generalizing db h with
  | zero => exact ⟨h, hs, rfl, hid, hinv, hl⟩
  | succ m ih =>
    obtain ⟨h1, e1, e2, e3, _⟩ := relock_state db c h hinv hl hflag hprio hexp hs hid (by omega) (by omega) hc0
    have := ih (opLock db c).1 h1 (opLock_inv db c hinv) (by rw [opLock_leader]; exact hl) e1 (by rw [e3]) (by omega)
    obtain ⟨h', f1, f2, f3, f4, f5⟩ := this
    exact ⟨h', f1, by rw [f2, e2]; omega, f3, f4, f5⟩

theorem unlockN_depth (n : Nat) (db : DB) (c : Cmd) (h : Hold) (hinv : DBInv db) (hl : db.leader = true)
    (hprio : has c.tflag TF_PRIORITY = false) (hrc : c.rcount > 0)
    (hs : (db.getKey c.key).holders = [h]) (hid : h.cmd.lockId = c.lockId) (hd : n < h.depth)
    (hw : ∀ w ∈ (db.getKey c.key).waiters, w.cmd.count = 0) :
    ∃ h', ((unlockN db c n).getKey c.key).holders = [h'] ∧ h'.depth = h.depth - n ∧ h'.cmd.lockId = c.lockId ∧
      DBInv (unlockN db c n) ∧ (unlockN db c n).leader = true ∧
      ((unlockN db c n).getKey c.key).waiters = (db.getKey c.key).waiters := by
  induction n generalizing db h with
  | zero => exact ⟨h, hs, rfl, hid, hinv, hl, rfl⟩
  | succ m ih =>
    obtain ⟨e1, e2, _⟩ := dec_state db c h hinv hl hprio hrc hs hid (by omega) hw
    have := ih (opUnlock db c).1 { h with depth := h.depth - 1 } (opUnlock_inv db c hinv) (by rw [opUnlock_leader]; exact hl)
      e1 hid (by simp only []; omega) (by rw [e2]; exact hw)
    obtain ⟨h', f1, f2, f3, f4, f5, f6⟩ := this
    exact ⟨h', f1, by rw [f2]; simp only []; omega, f3, f4, f5, f6.trans e2⟩

end Slock.Engine
