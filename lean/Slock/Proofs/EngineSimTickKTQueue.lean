import Slock.Proofs.EngineSimTickKT
import Slock.Proofs.Engine2SimEnqShape
import Slock.Proofs.Engine2SimInvUpd
/-! `KT`: the queue operations lose only tombstoned entries — a live queued request stays in the wait queue through
`GetWaitLock` / `Push` / the priority re-filing, a hold stays in the holder queue through `Push` / `RemoveLock` / `AddLock`. -/
namespace Slock.SimTick
open Slock Slock.Sim Slock.Engine2
open Slock.Engine (has)

theorem ktk_getWaitLock {XW XH : Nat → Prop} (k : Key) : KTK XW XH k.getWaitLock.1 k := by
  obtain ⟨c1, c2⟩ := waitSkip_cl k.wait k
  have e1 : k.getWaitLock.1.current = k.current := c1
  have e2 : k.getWaitLock.1.locks = k.locks := c2
  refine ⟨PKeepX.of_pk (PKeep.getWaitLock ins_πW k), PKeepX.of_pk (PKeep.getWaitLock ins_πD k), ?_, ?_⟩
  · intro y _ hy hm
    obtain ⟨e1, _, e3⟩ := waitSkip_eq k.wait k rfl
    obtain ⟨e, he, rfl⟩ := List.mem_map.mp hm
    exact List.mem_map.mpr ⟨e, e1 ▸ mem_dropWhile he ((e3 e.rid).1.symm.trans hy), rfl⟩
  · intro y _ _ hm
    rw [e1, e2]; exact hm

theorem ktk_settleWait {XW XH : Nat → Prop} (k : Key) : KTK XW XH k.settleWait k := by
  unfold Key.settleWait
  split
  · exact (KTK.of_pk (k' := clearWaited k.getWaitLock.1) (k := k.getWaitLock.1) rfl (PKeep.of_eq rfl)).trans (ktk_getWaitLock k)
  · exact ktk_getWaitLock k

theorem addWaitLock_live (k : Key) (rid y : Nat) (hy : ((k.addWaitLock rid).getR y).timeouted = false) (hm : y ∈ k.wait.map (·.rid)) :
    y ∈ (k.addWaitLock rid).wait.map (·.rid) := by
  have hk : k.deadWaiter y = false := ((PKeep.addWaitLock ins_timeouted k rid).val y (hasRec_of_liveWaiter hy)).symm.trans hy
  refine addWaitLock_ind (P := fun l _ => y ∈ l.map (·.rid)) k rid (fun _ => ?_) (fun _ _ => ?_) (fun _ _ l hl => ?_)
  · exact (insertPrio_mem _ _ y).mpr (Or.inr ((rePush_perm k).mem_iff.mpr hm))
  · exact (insertPrio_mem _ _ y).mpr (Or.inr hm)
  · rw [List.map_append]
    refine List.mem_append_left _ ?_
    rcases hl with e | e <;> rw [e]
    · exact hm
    · obtain ⟨x, hx, ex⟩ := List.mem_map.mp hm
      exact List.mem_map.mpr ⟨x, List.mem_filter.mpr ⟨hx, by rw [ex, hk]; rfl⟩, ex⟩

theorem addWaitLock_self (k : Key) (rid : Nat) : rid ∈ (k.addWaitLock rid).wait.map (·.rid) := by
  obtain ⟨⟨e, he, er⟩, _⟩ := addWaitLock_spec k rid
  exact List.mem_map.mpr ⟨e, he, er⟩

theorem ktk_addWaitLock {XW XH : Nat → Prop} (k : Key) (rid : Nat) : KTK XW XH (k.addWaitLock rid) k := by
  obtain ⟨_, a2, a3⟩ := addWaitLock_spec k rid
  refine ⟨PKeepX.of_pk (PKeep.addWaitLock ins_πW k rid), PKeepX.of_pk (PKeep.addWaitLock ins_πD k rid), ?_, ?_⟩
  · intro y _ hy hm
    exact addWaitLock_live k rid y hy hm
  · intro y _ _ hm
    rw [a2, a3]; exact hm

/-- a hold further down the holder queue survives the skip over released entries; with `take` the live entry found is popped -/
theorem locksSkip_live (b : Bool) (l : List Nat) (k : Key) (y : Nat) (hy : 0 < ((locksSkip b l k).1.getR y).depth)
    (hl : k.locks = l) (hm : y ∈ l) :
    y ∈ (bif b then (locksSkip b l k).2 else none).toList ++ (locksSkip b l k).1.locks := by
  obtain ⟨_, e2, e3⟩ := locksSkip_eq b l k hl
  have := mem_dropWhile (p := fun x => !k.liveHolder x) hm (by rw [← (e3 y).1]; simpa [Key.liveHolder] using hy)
  rw [← e2] at this
  cases b <;> exact this

/-- `Engine2.removeLock_depth` without its `hasRec` hypothesis: a record that is gone reads as the dead record, of depth 0 -/
theorem removeLock_depth0 (k : Key) (rid : Nat) : ((k.removeLock rid).getR rid).depth = 0 := by
  by_cases hh : (k.removeLock rid).hasRec rid
  · exact removeLock_depth k rid hh
  · rw [getR_of_not_hasRec _ _ hh]; rfl

theorem removeLock_live (k : Key) (rid y : Nat) (hy : 0 < ((k.removeLock rid).getR y).depth) (hm : y ∈ k.current.toList ++ k.locks) :
    y ∈ (k.removeLock rid).current.toList ++ (k.removeLock rid).locks := by
  have hne : y ≠ rid := by
    intro e; rw [e, removeLock_depth0] at hy; exact absurd hy (by simp)
  unfold Key.removeLock at hy ⊢
  simp only [] at hy ⊢
  by_cases hc : ((k.modRec rid fun r => { r with depth := 0 }).current == some rid) = true
  · rw [if_pos hc] at hy ⊢
    have hcur : k.current = some rid := by
      have hc' : (k.current == some rid) = true := hc
      simpa using hc'
    have hml : y ∈ k.locks := by
      rw [hcur] at hm
      rcases List.mem_append.mp hm with h | h
      · simp at h; exact absurd h hne
      · exact h
    exact locksSkip_live true _ _ y hy rfl hml
  · rw [if_neg hc] at hy ⊢
    obtain ⟨_, i2⟩ := locksSkip_queues false (k.modRec rid fun r => { r with depth := 0 }).locks (k.modRec rid fun r => { r with depth := 0 })
    rw [i2]
    rcases List.mem_append.mp hm with h | h
    · exact List.mem_append_left _ h
    · exact List.mem_append_right _ (locksSkip_live false _ _ y hy rfl h)

theorem addLock_self (k : Key) (rid : Nat) (f : Rec → Rec) : rid ∈ (k.addLock rid f).current.toList ++ (k.addLock rid f).locks := by
  rcases addLock_holders k rid f with ⟨_, e⟩ | ⟨l, _, e⟩ <;> rw [e] <;> simp

theorem addLock_live (k : Key) (rid y : Nat) (f : Rec → Rec)
    (hy : 0 < ((k.addLock rid f).getR y).depth) (hm : y ∈ k.current.toList ++ k.locks) :
    y ∈ (k.addLock rid f).current.toList ++ (k.addLock rid f).locks := by
  apply addLock_mem_live k rid y f hm
  have hh := hasRec_of_depth hy
  have p : PKeep (·.depth) (k.addLock rid f) (k.modRec rid f) := by
    unfold Key.addLock
    split
    · exact PKeep.of_eq rfl
    · exact PKeep.locksPush ins_depth _ rid
  unfold Key.liveHolder
  have v : ((k.addLock rid f).getR y).depth = ((k.modRec rid f).getR y).depth := p.val y hh
  rw [← v]; simpa using hy

theorem ktk_addLock {XW : Nat → Prop} (k : Key) (rid : Nat) (f : Rec → Rec) (hf : ∀ r, (f r).rid = r.rid) (hw : ∀ r, πW (f r) = πW r) :
    KTK XW (· = rid) (k.addLock rid f) k := by
  refine ⟨PKeepX.of_pk (PKeep.addLock ins_πW k rid f hf hw), ?_, ?_, ?_⟩
  · unfold Key.addLock
    split
    · exact PKeepX.trans (b := k.modRec rid f) (PKeepX.of_eq rfl) (PKeepX.modRec (X := (· = rid)) k rid f hf rfl)
    · exact (PKeepX.of_pk (PKeep.locksPush ins_πD _ rid)).trans (PKeepX.modRec (X := (· = rid)) k rid f hf rfl)
  · intro y _ _ hm
    rw [addLock_wait]; exact hm
  · intro y _ hy hm
    exact addLock_live k rid y f hy hm

theorem ktk_removeLock {XW : Nat → Prop} (k : Key) (rid : Nat) : KTK XW (· = rid) (k.removeLock rid) k := by
  refine ⟨PKeepX.of_pk (PKeep.removeLock ins_πW (fun _ _ => rfl) k rid), ?_, ?_, ?_⟩
  · exact (PKeepX.of_pk (removeLock_after_edit πD ins_πD k rid)).trans
      (PKeepX.modRec (X := (· = rid)) k rid (fun r => { r with depth := 0 }) (fun _ => rfl) rfl)
  · intro y _ _ hm
    rw [removeLock_wait]; exact hm
  · intro y _ hy hm
    exact removeLock_live k rid y hy hm

end Slock.SimTick
