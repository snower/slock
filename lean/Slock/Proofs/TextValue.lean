import Slock.Model.TextValue
/-! Totality of the value readers (C13 text part): no checked access fails. -/
namespace Slock.TextV

theorem getElem?_some_of_lt (d : Bytes) (i : Nat) (h : i < d.length) : ∃ v, d[i]? = some v :=
  ⟨d[i], by simp [h]⟩

theorem u32At_some (d : Bytes) (i : Nat) (h : i + 3 < d.length) : ∃ v, u32At d i = some v := by
  obtain ⟨a, ha⟩ := getElem?_some_of_lt d i (by omega)
  obtain ⟨b, hb⟩ := getElem?_some_of_lt d (i + 1) (by omega)
  obtain ⟨c, hc⟩ := getElem?_some_of_lt d (i + 2) (by omega)
  obtain ⟨e, he⟩ := getElem?_some_of_lt d (i + 3) (by omega)
  exact ⟨a.toNat + b.toNat * 256 + c.toNat * 65536 + e.toNat * 16777216, by simp [u32At, ha, hb, hc, he]⟩

theorem u16At_some (d : Bytes) (i : Nat) (h : i + 1 < d.length) : ∃ v, u16At d i = some v := by
  obtain ⟨a, ha⟩ := getElem?_some_of_lt d i (by omega)
  obtain ⟨b, hb⟩ := getElem?_some_of_lt d (i + 1) (by omega)
  exact ⟨a.toNat + b.toNat * 256, by simp [u16At, ha, hb]⟩

theorem sliceC_some (d : Bytes) (lo hi : Nat) (h1 : lo ≤ hi) (h2 : hi ≤ d.length) : ∃ s, sliceC d lo hi = some s :=
  ⟨(d.drop lo).take (hi - lo), by simp [sliceC, h1, h2]⟩

theorem arrayLoop_total (d : Bytes) (f index : Nat) (acc : List Bytes) : ∃ vs, arrayLoop d f index acc = .ok vs := by
  induction f generalizing index acc with
  | zero => exact ⟨acc, rfl⟩
  | succ f ih =>
    unfold arrayLoop
    by_cases h : index + 4 ≤ d.length
    · simp only [h, if_true]
      obtain ⟨vl, hv⟩ := u32At_some d index (by omega)
      simp only [hv]
      by_cases hb : index + 4 + vl > d.length
      · exact ⟨acc, by simp [hb]⟩
      · simp only [hb, if_false]
        obtain ⟨s, hs⟩ := sliceC_some d (index + 4) (index + 4 + vl) (by omega) (by omega)
        simp only [hs]; exact ih _ _
    · exact ⟨acc, by simp [h]⟩

theorem kvLoop_total (d : Bytes) (f index : Nat) (acc : List (Bytes × Bytes)) : ∃ vs, kvLoop d f index acc = .ok vs := by
  induction f generalizing index acc with
  | zero => exact ⟨acc, rfl⟩
  | succ f ih =>
    unfold kvLoop
    by_cases h : index + 4 < d.length
    · simp only [h, if_true]
      obtain ⟨kl, hk⟩ := u32At_some d index (by omega)
      simp only [hk]
      by_cases h0 : kl = 0
      · simp only [h0, if_true]; exact ih _ _
      · simp only [h0, if_false]
        by_cases hb : index + 8 + kl > d.length
        · exact ⟨acc, by simp [hb]⟩
        · simp only [hb, if_false]
          obtain ⟨s, hs⟩ := sliceC_some d (index + 4) (index + 4 + kl) (by omega) (by omega)
          simp only [hs]
          obtain ⟨vl, hv⟩ := u32At_some d (index + kl + 4) (by omega)
          simp only [hv]
          by_cases h1 : vl = 0
          · simp only [h1, if_true]; exact ih _ _
          · simp only [h1, if_false]
            by_cases hb2 : index + kl + 4 + 4 + vl > d.length
            · exact ⟨acc, by simp [hb2]⟩
            · simp only [hb2, if_false]
              obtain ⟨v, hv2⟩ := sliceC_some d (index + kl + 4 + 4) (index + kl + 4 + 4 + vl) (by omega) (by omega)
              simp only [hv2]; exact ih _ _
    · exact ⟨acc, by simp [h]⟩

theorem propLoop_total (d : Bytes) (plen : Nat) (hp : plen + 8 ≤ d.length) (f index : Nat) (acc : List (Nat × Bytes)) :
    ∃ ps, propLoop d plen f index acc = .ok ps := by
  induction f generalizing index acc with
  | zero => exact ⟨acc, rfl⟩
  | succ f ih =>
    unfold propLoop
    by_cases h : index + 3 ≤ plen
    · simp only [h, if_true]
      obtain ⟨code, hc⟩ := getElem?_some_of_lt d (8 + index) (by omega)
      obtain ⟨vl, hv⟩ := u16At_some d (9 + index) (by omega)
      simp only [hc, hv]
      by_cases hb : index + 3 + vl > plen
      · exact ⟨acc, by simp [hb]⟩
      · simp only [hb, if_false]
        by_cases h0 : vl > 0
        · simp only [h0, if_true]
          obtain ⟨s, hs⟩ := sliceC_some d (11 + index) (11 + index + vl) (by omega) (by omega)
          simp only [hs]; exact ih _ _
        · simp only [h0, if_false]; exact ih _ _
    · exact ⟨acc, by simp [h]⟩

theorem header_some (d : Bytes) (h : 6 ≤ d.length) : ∃ t fl, header d = some (t, fl) := by
  obtain ⟨a, ha⟩ := getElem?_some_of_lt d 4 (by omega)
  obtain ⟨b, hb⟩ := getElem?_some_of_lt d 5 (by omega)
  exact ⟨a.toNat % 64, b.toNat, by simp [header, ha, hb]⟩

end Slock.TextV
