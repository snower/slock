import Slock.Proofs.Engine
import Slock.Proofs.LockTree
/-! The branch tables of `classifyLock` and `classifyUnlock` read backwards: what the chosen branch says about the
state and the command.  Every backward lemma about M-ENGINE ("this branch, hence …") is a projection of one of the two tables. -/
namespace Slock.Engine

def LockFacts (db : DB) (c : Cmd) : LockBranch → Prop :=
  let k := db.getKey c.key
  fun
  | .p0a | .p0b | .timeout => c.timeout = 0
  | .stateError => db.leader = false
  | .show cur => k.holders.head? = some cur ∧ has c.flag F_UPDATE = false
  | .updateEqual h | .update h =>
    has c.flag F_UPDATE = true ∧ (k.holders.head? = some h ∨ findHolder k c.lockId = some h)
  | .relockNoHold h =>
    findHolder k c.lockId = some h ∧ has c.flag F_UPDATE = false ∧ h.depth < 0xff ∧ h.depth ≤ c.rcount ∧
      has c.tflag TF_PRIORITY = false ∧ c.expried = 0
  | .relock h =>
    findHolder k c.lockId = some h ∧ has c.flag F_UPDATE = false ∧ h.depth < 0xff ∧ h.depth ≤ c.rcount ∧
      has c.tflag TF_PRIORITY = false ∧ c.expried ≠ 0
  | .relockRefused h => findHolder k c.lockId = some h ∧ has c.flag F_UPDATE = false
  | .unlockedWaitRefused => k.locked = 0 ∧ k.waited = true ∧ c.count = 0
  | .grant => doLock k c = true ∧ c.expried > 0
  | .grantNoHold => doLock k c = true ∧ c.expried = 0
  | .queue =>
    c.timeout > 0 ∧
      (doLock k c = false ∨
        ((has c.tflag TF_PRIORITY && checkWaitPriority k c) = false ∧
          (k.waited = true ∨ (k.locked = 0 ∧ has c.tflag TF_WAIT_UNLOCK = true))))

theorem classifyLock_facts (db : DB) (c : Cmd) : LockFacts db c (classifyLock db c) := by
  rw [classifyLock_tree]
  refine lockTree_cases (LockFacts db c) _ _ _ _ _ _ _ _ _ _ _ _ _ _ _ _ _ _ _ _ _ _
    id id id (fun _ hh _ hu => ⟨hh, hu⟩) ?_ ?_
    (fun _ hf _ hu hd hr hp he => ⟨hf, hu, hd, hr, hp, he⟩) (fun _ hf _ hu hd hr hp he => ⟨hf, hu, hd, hr, hp, he⟩)
    (fun _ hf _ hu => ⟨hf, hu⟩) (fun hl hw hc => ⟨hl, hw, hc⟩) (fun hd he => ⟨hd, he⟩) (fun hd he => ⟨hd, he⟩)
    (fun ht hq => ⟨ht, hq⟩) id
  · intro h _ hh _ hu; split <;> exact ⟨hu, Or.inl hh⟩
  · intro h hf _ hu; split <;> exact ⟨hu, Or.inr hf⟩

theorem LockFacts.of {db : DB} {c : Cmd} {b : LockBranch} (hb : classifyLock db c = b) : LockFacts db c b :=
  hb ▸ classifyLock_facts db c

theorem classifyLock_grant_doLock (db : DB) (c : Cmd) (hb : classifyLock db c = .grant) :
    doLock (db.getKey c.key) c = true := (LockFacts.of hb).1

def LockBranch.holdOf : LockBranch → Option Hold
  | .show h | .updateEqual h | .update h | .relockNoHold h | .relock h | .relockRefused h => some h
  | _ => none

theorem classifyLock_mem {db : DB} {c : Cmd} {b : LockBranch} {h : Hold} (hb : classifyLock db c = b) (hh : b.holdOf = some h) :
    h ∈ (db.getKey c.key).holders := by
  have hf := LockFacts.of hb
  cases b <;> simp only [LockBranch.holdOf, Option.some.injEq, reduceCtorEq] at hh <;> subst hh
  case «show» => exact List.mem_of_head? hf.1
  case updateEqual | update => exact hf.2.elim List.mem_of_head? findHolder_mem
  all_goals exact findHolder_mem hf.1

/-- The hold an UNLOCK acts on and the command it is answered under: the hold with the request's LockId, or —
with the unlock-first flag, when no hold has that LockId — the oldest hold, the request taking over its terms. -/
def UnlockOf (k : Key) (c : Cmd) (h : Hold) (c' : Cmd) : Prop :=
  (findHolder k c.lockId = some h ∧ c' = c) ∨
    (k.holders.head? = some h ∧
      c' = { c with lockId := h.cmd.lockId, expried := h.cmd.expried, eflag := h.cmd.eflag, timeout := h.cmd.timeout,
                    tflag := h.cmd.tflag, count := h.cmd.count, rcount := h.cmd.rcount })

theorem UnlockOf.mem {k : Key} {c c' : Cmd} {h : Hold} (u : UnlockOf k c h c') : h ∈ k.holders :=
  u.elim (fun u => findHolder_mem u.1) (fun u => List.mem_of_head? u.1)

theorem UnlockOf.rid {k : Key} {c c' : Cmd} {h : Hold} (u : UnlockOf k c h c') : (c'.conn, c'.req) = (c.conn, c.req) := by
  rcases u with ⟨_, rfl⟩ | ⟨_, rfl⟩ <;> rfl

def UnlockFacts (db : DB) (c : Cmd) : UnlockBranch → Prop :=
  let k := db.getKey c.key
  fun
  | .stateError => db.leader = false
  | .notLocked => k.locked = 0
  | .unown => k.locked ≠ 0 ∧ findHolder k c.lockId = none
  | .cancelNone => findCancel k.waiters c.lockId = none
  | .cancel w => findCancel k.waiters c.lockId = some w
  | .dec h c' => UnlockOf k c h c' ∧ 1 < h.depth ∧ 0 < c'.rcount ∧ has c'.tflag TF_PRIORITY = false
  | .release h c' => UnlockOf k c h c'

theorem classifyUnlock_facts (db : DB) (c : Cmd) : UnlockFacts db c (classifyUnlock db c) := by
  rw [classifyUnlock_tree]
  refine unlockTree_cases (UnlockFacts db c) _ _ _ _ _ _ _ _ _ _ _ _ _ _ _ ?_ ?_ ?_ ?_ ?_ ?_ ?_
  · intro h; simp only [Bool.and_eq_true, Bool.not_eq_true'] at h; exact h.1.1
  · exact id
  · exact fun a b => ⟨a, b⟩
  · exact id
  · exact fun _ => id
  · exact fun _ _ o a b d => ⟨o, a, b, d⟩
  · exact fun _ _ => id

theorem UnlockFacts.of {db : DB} {c : Cmd} {b : UnlockBranch} (hb : classifyUnlock db c = b) : UnlockFacts db c b :=
  hb ▸ classifyUnlock_facts db c

theorem findCancel_mem {ws : List Waiter} {id : Nat} {w : Waiter} (h : findCancel ws id = some w) : w ∈ ws :=
  (List.mem_filter.mp (List.mem_of_getLast? h)).1

theorem classifyUnlock_cancel_mem (db : DB) (c : Cmd) (w : Waiter) (hb : classifyUnlock db c = .cancel w) :
    w ∈ (db.getKey c.key).waiters := findCancel_mem (UnlockFacts.of hb)

/-! The tables read forwards, where a client layer needs it: these tests, hence this branch. -/

theorem classifyLock_of_holder (db : DB) (c : Cmd) (h : Hold) (hl : db.leader = true)
    (hconc : has c.flag F_CONCURRENT = false) (hshow : has c.flag F_SHOW = false) (hupd : has c.flag F_UPDATE = false)
    (hlocked : (db.getKey c.key).locked > 0) (hh : findHolder (db.getKey c.key) c.lockId = some h) :
    classifyLock db c =
      if h.depth < 0xff ∧ h.depth ≤ c.rcount ∧ has c.tflag TF_PRIORITY = false then
        (if c.expried = 0 then .relockNoHold h else .relock h)
      else .relockRefused h := by
  unfold classifyLock
  simp only [hl, hconc, hshow, hupd, hlocked, hh, Bool.false_and, Bool.not_true, Bool.false_eq_true, if_false, if_true]
  by_cases h1 : h.depth < 0xff <;> by_cases h2 : h.depth ≤ c.rcount <;> by_cases h3 : has c.tflag TF_PRIORITY = true <;>
    by_cases h4 : c.expried = 0 <;> simp [h1, h2, h3, h4]

theorem classifyUnlock_of_holder (db : DB) (c : Cmd) (h : Hold) (hl : db.leader = true)
    (hlocked : (db.getKey c.key).locked ≠ 0) (hh : findHolder (db.getKey c.key) c.lockId = some h) :
    classifyUnlock db c =
      if h.depth > 1 ∧ c.rcount > 0 ∧ has c.tflag TF_PRIORITY = false then .dec h c else .release h c := by
  unfold classifyUnlock
  simp only [hl, hh, Bool.not_true, Bool.false_and, Bool.false_eq_true, if_false, beq_iff_eq, hlocked]
  by_cases h1 : h.depth > 1 <;> by_cases h2 : c.rcount > 0 <;> by_cases h3 : has c.tflag TF_PRIORITY = true <;>
    simp [h1, h2, h3]

end Slock.Engine
