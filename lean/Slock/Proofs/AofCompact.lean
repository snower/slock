import Slock.Proofs.AofDeadline
/-!
Compaction: the file-system mutations that only touch `rewrite.aof.tmp(.dat)` are invisible to a start-up; replaying the kept
records is the same as replaying all records when dropped records are no-ops; and the expiry comparison of the keep-rule:
`CheckLockedEqual` (regenerated kernel) on a seconds / minute command is "deadline of the command within the unit's tolerance
of the hold's deadline, and equal counts".
-/
namespace Slock.Aof

def TmpOp : FsOp → Prop
  | .openAppend b => b = .rewriteTmp
  | .append n _ => n.base = .rewriteTmp
  | .remove n => n.base = .rewriteTmp
  | .rename _ _ => False

theorem relevant_remove (d : Dir) (n : FName) (h : relevantName n = false) : relevant (d.remove n) = relevant d := by
  unfold relevant Dir.remove
  rw [List.filter_filter]
  apply List.filter_congr
  intro f _
  by_cases hf : f.1 = n
  · subst hf; simp [h]
  · simp [hf]

theorem relevant_put (d : Dir) (n : FName) (x : Bytes) (h : relevantName n = false) : relevant (d.put n x) = relevant d := by
  unfold Dir.put
  have : relevant (d.remove n ++ [(n, x)]) = relevant (d.remove n) := by
    unfold relevant; simp [List.filter_append, h]
  rw [this, relevant_remove d n h]

theorem tmp_not_relevant (n : FName) (h : n.base = .rewriteTmp) : relevantName n = false := by
  unfold relevantName; rw [h]

theorem relevant_applyOp (d : Dir) (op : FsOp) (h : TmpOp op) : relevant (applyOp d op) = relevant d := by
  cases op with
  | openAppend b =>
    simp only [TmpOp] at h; subst h
    simp only [applyOp]
    split
    · exact relevant_put d _ _ rfl
    · rw [relevant_put _ _ _ rfl, relevant_put d _ _ rfl]
  | append n b =>
    simp only [TmpOp] at h
    simp only [applyOp]
    split
    · exact relevant_put d n _ (tmp_not_relevant n h)
    · rfl
  | remove n =>
    simp only [TmpOp] at h
    exact relevant_remove d n (tmp_not_relevant n h)
  | rename a b => simp [TmpOp] at h

theorem relevant_applyOps : ∀ (ops : List FsOp) (d : Dir), (∀ op ∈ ops, TmpOp op) → relevant (applyOps d ops) = relevant d
  | [], _, _ => rfl
  | op :: ops, d, h => by
    show relevant (applyOps (applyOp d op) ops) = _
    rw [relevant_applyOps ops _ (fun o ho => h o (by simp [ho])), relevant_applyOp d op (h op (by simp))]

theorem writeSteps_tmp (kept : List Rec) : ∀ op ∈ writeSteps kept, TmpOp op := by
  intro op hop
  unfold writeSteps at hop
  simp only [List.mem_append, List.mem_singleton] at hop
  rcases hop with (h | h) | h
  · subst h; rfl
  · split at h
    · simp at h
    · simp at h; subst h; rfl
  · split at h
    · simp at h
    · simp at h; subst h; rfl

theorem replay_kept {σ : Type} (replay : σ → Rec → σ) (keep : Rec → Bool)
    (hdrop : ∀ s r, keep r = false → replay s r = s) (hmark : ∀ s r, replay s (markRewritten r) = replay s r) :
    ∀ (recs : List Rec) (s : σ), ((recs.filter keep).map markRewritten).foldl replay s = recs.foldl replay s
  | [], _ => rfl
  | r :: rs, s => by
    cases hk : keep r with
    | true => simp only [List.filter_cons, hk, if_true, List.map_cons, List.foldl_cons, hmark]; exact replay_kept replay keep hdrop hmark rs _
    | false =>
      simp only [List.filter_cons, hk, Bool.false_eq_true, if_false, List.foldl_cons, hdrop s r hk]
      exact replay_kept replay keep hdrop hmark rs _

/-- The kernel's two-sided test `if a > b then a − b ≤ t else b − a ≤ t` is `|a − b| ≤ t`. -/
theorem within_tolerance (a b t : Int) (ht : 0 ≤ t) (countEq : Bool) :
    (if decide (a > b) then decide (a - b ≤ t) && countEq else decide (b - a ≤ t) && countEq) =
      (decide (a - b ≤ t ∧ b - a ≤ t) && countEq) := by
  by_cases hg : a > b
  · rw [if_pos (decide_eq_true hg)]
    exact congrArg (· && countEq) (decide_eq_decide.mpr ⟨fun h => ⟨h, by omega⟩, fun h => h.1⟩)
  · rw [if_neg (by simpa using hg)]
    exact congrArg (· && countEq) (decide_eq_decide.mpr ⟨fun h => ⟨by omega, h⟩, fun h => h.2⟩)

open Slock.Gen.K in
theorem checkLockedEqual_sec (now expT : Int) (ef expried : Nat) (countEq : Bool) (h : IsSeconds ef) :
    checkLockedEqual now expT ef expried countEq =
      (decide (now + expried + 1 - expT ≤ 1 ∧ expT - (now + expried + 1) ≤ 1) && countEq) := by
  obtain ⟨h1, h2, h3⟩ : ef &&& 16384 = 0 ∧ ef &&& 1024 = 0 ∧ ef &&& 64 = 0 := h
  unfold checkLockedEqual
  simp only [h1, h2, h3, bne_self_eq_false, Bool.false_eq_true, if_false, beq_self_eq_true, if_true]
  exact within_tolerance _ _ 1 (by decide) _

open Slock.Gen.K in
theorem checkLockedEqual_min (now expT : Int) (ef expried : Nat) (countEq : Bool) (h : IsMinutes ef) :
    checkLockedEqual now expT ef expried countEq =
      (decide (now + (expried : Int) * 60 + 1 - expT ≤ 60 ∧ expT - (now + (expried : Int) * 60 + 1) ≤ 60) && countEq) := by
  obtain ⟨h1, h2, h3⟩ : ef &&& 16384 = 0 ∧ ef &&& 1024 = 0 ∧ ef &&& 64 ≠ 0 := h
  unfold checkLockedEqual
  simp only [h1, h2, bne_iff_ne.mpr h3, bne_self_eq_false, Bool.false_eq_true, if_false, beq_self_eq_true, if_true]
  exact within_tolerance _ _ 60 (by decide) _

end Slock.Aof
