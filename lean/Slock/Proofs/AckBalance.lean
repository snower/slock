import Slock.Proofs.AckInvStep
/-! M-ACK: request accounting. `answered x out` = terminal replies in `out` for request id `x` = (connection, RequestId);
`openN x db` = lock records still owing that request an answer (queued, or ack-pending). The wake pass, `DoAckLock`, LOCK, UNLOCK and
the sweeps keep the record-local invariant `QR` and the balance `answered + open = (open before) + (the request the operation itself
brought)`, by following the one record an operation changes (`At`). Journal delivery, reports and demotion need `InvK` too: AckRun. -/
namespace Slock.Ack

abbrev Rid := Nat × Nat
def Cmd.rid (c : Cmd) : Rid := (c.conn, c.req)
def Reply.rid (r : Reply) : Rid := (r.conn, r.req)
/-- terminal = anything but the asynchronous EXPRIED notice -/
def terminal (r : Reply) : Bool := r.result != R_EXPRIED
def answered (x : Rid) (out : List Reply) : Int := ((out.filter terminal).map Reply.rid).count x
def b2i (b : Bool) : Int := if b then 1 else 0
def openR (x : Rid) (r : Rec) : Int := if r.cmd.rid = x then b2i r.queued + b2i r.pending else 0
def openN (x : Rid) (db : DB) : Int := (db.recs.map (openR x)).sum
def hit (x y : Rid) : Int := if y = x then 1 else 0

@[simp] theorem answered_nil (x : Rid) : answered x [] = 0 := rfl
theorem answered_append (x : Rid) (a b : List Reply) : answered x (a ++ b) = answered x a + answered x b := by
  unfold answered; simp [List.filter_append, List.count_append]

theorem answered_mk (x : Rid) (c : Cmd) (res l lr : Nat) (d : Option Bytes) (h : res ≠ R_EXPRIED) :
    answered x [mkReply c res l lr d] = hit x c.rid := by
  unfold answered terminal mkReply hit Reply.rid Cmd.rid
  have : (res != R_EXPRIED) = true := by simpa using h
  simp only [List.filter, this, List.map_cons, List.map_nil, List.count_cons, List.count_nil]
  by_cases e : (c.conn, c.req) = x <;> simp [e]

theorem answered_mk_expried (x : Rid) (c : Cmd) (l lr : Nat) (d : Option Bytes) : answered x [mkReply c R_EXPRIED l lr d] = 0 := by
  unfold answered terminal mkReply; simp [List.filter]

theorem openR_dead (x : Rid) (h : Nat) : openR x (deadRec h) = 0 := by
  unfold openR b2i deadRec Rec.pending NOACK; simp

theorem openR_idle (x : Rid) {r : Rec} (hq : r.queued = false) (hp : r.pending = false) : openR x r = 0 := by
  unfold openR; rw [hq, hp]; simp [b2i]

theorem openR_owing (x : Rid) {r : Rec} (h : (r.queued = true ∧ r.pending = false) ∨ (r.queued = false ∧ r.pending = true)) :
    openR x r = hit x r.cmd.rid := by
  unfold openR hit b2i; rcases h with h | h <;> rw [h.1, h.2] <;> simp

theorem openN_frame {db db' : DB} (x : Rid) (e : db'.recs = db.recs) : openN x db' = openN x db := by unfold openN; rw [e]

theorem openN_modR_same (x : Rid) (db : DB) (hid : Nat) (f : Rec → Rec) (hf : ∀ r, openR x (f r) = openR x r) :
    openN x (db.modR hid f) = openN x db := by
  have := sum_modRecs (openR x) hid f db.recs
  unfold openN; rw [modR_recs]
  split at this <;> simp [hf] at this <;> omega

theorem openN_modR_at (x : Rid) (db : DB) (hid : Nat) (f : Rec → Rec) {r : Rec} (e : findR db.recs hid = some r) :
    openN x (db.modR hid f) = openN x db + openR x (f r) - openR x r := by
  have := sum_modRecs (openR x) hid f db.recs
  rw [e] at this; simp only [] at this
  unfold openN; rw [modR_recs]; omega

@[simp] theorem openN_modKey (x : Rid) (db : DB) (k : Nat) (f : Key → Key) : openN x (db.modKey k f) = openN x db := openN_frame x (by simp)
@[simp] theorem openN_ctrMod (x : Rid) (db : DB) (f : Counters → Counters) : openN x (db.ctrMod f) = openN x db := rfl

theorem openN_newRec (x : Rid) (db : DB) (c : Cmd) : openN x (db.newRec c).1 = openN x db := by
  obtain ⟨r0, e0, _, _, e3, e4, _⟩ := newRec_recs db c
  unfold openN; rw [e0]; simp [openR, b2i, e3, Rec.pending, e4]

def QR (r : Rec) : Prop :=
  (r.timeouted = false → (r.depth > 0 → r.pending = true) ∧ (r.depth = 0 → r.queued = true)) ∧
  (r.expried = false → r.timeouted = true ∧ r.pending = false ∧ r.queued = false) ∧
  (r.queued = true → r.pending = false ∧ r.expried = true) ∧ r.ack ≤ NOACK

structure InvQ (db : DB) : Prop where
  recs : ∀ r ∈ db.recs, QR r
  cfg : reqAcks db.cfg < NOACK

theorem QR.pending_of_live {r : Rec} (h : QR r) (ht : r.timeouted = false) (hd : r.depth > 0) : r.pending = true := (h.1 ht).1 hd
theorem QR.queued_of_live {r : Rec} (h : QR r) (ht : r.timeouted = false) (hd : r.depth = 0) : r.queued = true := (h.1 ht).2 hd
theorem QR.of_wheel {r : Rec} (h : QR r) (he : r.expried = false) : r.timeouted = true ∧ r.pending = false ∧ r.queued = false := h.2.1 he
theorem QR.of_queued {r : Rec} (h : QR r) (hq : r.queued = true) : r.pending = false ∧ r.expried = true := h.2.2.1 hq
theorem QR.ack_le {r : Rec} (h : QR r) : r.ack ≤ NOACK := h.2.2.2

/-- an ordinary hold, or an idle record -/
theorem QR.settled {r : Rec} (ht : r.timeouted = true) (hp : r.ack = NOACK) (hq : r.queued = false) : QR r :=
  ⟨by rw [ht]; simp, fun _ => ⟨ht, (pending_false_iff r).mpr hp, hq⟩, by rw [hq]; simp, by rw [hp]; exact Nat.le_refl _⟩

theorem QR.pend {r : Rec} (hd : r.depth > 0) (ha : r.ack < NOACK) (he : r.expried = true) (hq : r.queued = false) : QR r :=
  ⟨fun _ => ⟨fun _ => (pending_iff r).mpr (by omega), by omega⟩, by rw [he]; simp, by rw [hq]; simp, by omega⟩

theorem QR.queued {r : Rec} (hd : r.depth = 0) (hq : r.queued = true) (hp : r.ack = NOACK) (he : r.expried = true) : QR r :=
  ⟨fun _ => ⟨by omega, fun _ => hq⟩, by rw [he]; simp, fun _ => ⟨(pending_false_iff r).mpr hp, he⟩, by rw [hp]; exact Nat.le_refl _⟩

theorem QR.not_queued {r : Rec} (h : QR r) (hp : r.pending = true) : r.queued = false := by
  cases e : r.queued with
  | false => rfl
  | true => have := (h.of_queued e).1; rw [hp] at this; exact absurd this (by decide)

theorem QR.expried_of_pending {r : Rec} (h : QR r) (hp : r.pending = true) : r.expried = true := by
  cases e : r.expried with
  | true => rfl
  | false => have := (h.of_wheel e).2.1; rw [hp] at this; exact absurd this (by decide)

theorem QR.timeouted_of_held {r : Rec} (h : QR r) (hd : r.depth > 0) (hp : r.pending = false) : r.timeouted = true := by
  cases e : r.timeouted with
  | true => rfl
  | false => have := (h.1 e).1 hd; rw [hp] at this; exact absurd this (by decide)

theorem InvQ.frame {db db' : DB} (h : InvQ db) (e1 : db'.recs = db.recs) (e2 : db'.cfg = db.cfg) : InvQ db' :=
  ⟨by rw [e1]; exact h.recs, by rw [e2]; exact h.cfg⟩

theorem InvQ.modR {db : DB} (h : InvQ db) (hid : Nat) (f : Rec → Rec) (hf : ∀ r ∈ db.recs, r.hid = hid → QR r → QR (f r)) :
    InvQ (db.modR hid f) :=
  ⟨forall_modR db hid f h.recs hf, h.cfg⟩

theorem InvQ.modKey {db : DB} (h : InvQ db) (k : Nat) (f : Key → Key) : InvQ (db.modKey k f) :=
  h.frame (by simp) (cfg_of_env (modKey_env db k f))
theorem InvQ.toEnd {db : DB} (h : InvQ db) (hid : Nat) : InvQ (db.toEnd hid) :=
  ⟨fun r hr => h.recs r (mem_toEnd.mp hr), h.cfg⟩

theorem InvQ.getR {db : DB} (h : InvQ db) (a : Nat) : QR (db.getR a) := by
  rw [getR_eq]
  cases e : findR db.recs a with
  | some r => exact h.recs r (findR_some_mem e).1
  | none => exact QR.settled rfl rfl rfl

theorem InvQ.newRec {db : DB} (h : InvQ db) (c : Cmd) : InvQ (db.newRec c).1 := by
  obtain ⟨r0, e0, _, e2, e3, e4, _, e6, e7⟩ := newRec_recs db c
  refine ⟨?_, h.cfg⟩
  intro r hr
  rw [e0] at hr
  rcases List.mem_append.mp hr with hr | hr
  · exact h.recs r hr
  · simp at hr; subst hr; exact QR.settled e6 e4 e3

/-- following one record: `r` is the record with identity `hid`, every other record satisfies `QR`, and what all the OTHER records owe
request `x` is `base` -/
structure At (x : Rid) (db : DB) (hid : Nat) (r : Rec) (base : Int) : Prop where
  nd : (db.recs.map (·.hid)).Nodup
  fnd : findR db.recs hid = some r
  qo : ∀ r' ∈ db.recs, r'.hid ≠ hid → QR r'
  cfg : reqAcks db.cfg < NOACK
  bal : openN x db = base + openR x r

theorem At.start {db : DB} (x : Rid) (hn : (db.recs.map (·.hid)).Nodup) (hq : InvQ db) {hid : Nat} {r : Rec} (e : findR db.recs hid = some r)
    {v : Int} (ho : openR x r = v) : At x db hid r (openN x db - v) :=
  ⟨hn, e, fun r' hr' _ => hq.recs r' hr', hq.cfg, by omega⟩

theorem At.hid_eq {x : Rid} {db : DB} {hid : Nat} {r : Rec} {base : Int} (h : At x db hid r base) : r.hid = hid :=
  (findR_some_mem h.fnd).2

theorem At.finish {x : Rid} {db : DB} {hid : Nat} {r : Rec} {base : Int} (h : At x db hid r base) (hr : QR r) {v : Int} (ho : openR x r = v) :
    InvQ db ∧ openN x db = base + v :=
  ⟨⟨forall_of_found h.nd h.fnd hr h.qo, h.cfg⟩, ho ▸ h.bal⟩

theorem At.tracker (x : Rid) (hid : Nat) (base : Int) : Tracker hid (fun db r => At x db hid r base) where
  modR {db r} f h hf := by
    refine ⟨?_, ?_, ?_, h.cfg, ?_⟩
    · rw [modR_recs, map_hid_modRecs hid f hf]; exact h.nd
    · exact (found_tracker hid).modR f h.fnd hf
    · intro r' hr' hne
      rcases mem_modRecs hr' with hm | ⟨r0, hr0, e⟩
      · exact h.qo r' hm hne
      · rw [e, hf] at hne; exact absurd (findR_some_mem hr0).2 hne
    · have := openN_modR_at x db hid f h.fnd
      have := h.bal
      omega
  frame h e1 e2 :=
    ⟨by rw [e1]; exact h.nd, by rw [e1]; exact h.fnd, by rw [e1]; exact h.qo, by rw [cfg_of_env e2]; exact h.cfg,
      by rw [openN_frame x e1]; exact h.bal⟩
  toEnd {db r} a h :=
    ⟨nodup_toEnd h.nd a, (found_tracker hid).toEnd a h.fnd, fun r' hr' => h.qo r' (mem_toEnd.mp hr'), h.cfg,
      by unfold openN; rw [sum_toEnd]; exact h.bal⟩
  pushJ {db r} r0 b h _ :=
    ⟨by rw [pushJ_recs]; exact h.nd, by rw [pushJ_recs]; exact h.fnd, by rw [pushJ_recs]; exact h.qo, by rw [pushJ_cfg]; exact h.cfg,
      by rw [openN_frame x (pushJ_recs db r0 b)]; exact h.bal⟩

theorem At.rollback {x : Rid} {db : DB} {hid : Nat} {r : Rec} {base : Int} (h : At x db hid r base) :
    ∃ r', At x (db.rollback hid) hid r' base ∧ r'.cmd = r.cmd ∧ r'.depth = 0 ∧ r'.ack = NOACK ∧ r'.queued = r.queued ∧
      r'.timeouted = r.timeouted ∧ r'.expried = r.expried :=
  let ⟨_, _, h'⟩ := (At.tracker x hid base).rollback h
  ⟨_, h', rfl, rfl, rfl, rfl, rfl, rfl⟩

def Bal (x : Rid) (base : Int) (db : DB) (out : List Reply) : Prop :=
  InvA db ∧ InvQ db ∧ answered x out + openN x db = base

theorem Bal.step {x : Rid} {base : Int} {db db' : DB} {out out' : List Reply} (h : Bal x base db out) (ha : InvA db')
    (hc : InvQ db' ∧ answered x out' + openN x db' = openN x db) : Bal x base db' (out ++ out') :=
  ⟨ha, hc.1, by rw [answered_append]; have := hc.2; have := h.2.2; omega⟩

theorem grant_snd (db : DB) (hid : Nat) : ∃ l d, (db.grant hid).2 = mkReply (db.getR hid).cmd R_SUCCED l 1 d := ⟨_, _, rfl⟩

theorem applyWake_cons (x : Rid) {db : DB} (ha : InvA db) (hq : InvQ db) (k : Nat) :
    InvQ (applyWake db k (classifyWake db k)).1 ∧
      answered x (applyWake db k (classifyWake db k)).2 + openN x (applyWake db k (classifyWake db k)).1 = openN x db := by
  have key : ∀ {w : Rec}, (db.waiters k).head? = some w → At x db w.hid w (openN x db - hit x w.cmd.rid) ∧ w.ack = NOACK ∧ w.expried = true := by
    intro w hw
    obtain ⟨hf, _, hqd, _⟩ := ha.waiter hw
    have hqr := (hq.recs w (findR_some_mem hf).1).of_queued hqd
    exact ⟨At.start x ha.nodup hq hf (openR_owing x (Or.inl ⟨hqd, hqr.1⟩)), (pending_false_iff w).mp hqr.1, hqr.2⟩
  fun_cases classifyWake db k <;> dsimp only [applyWake]
  case case1 | case2 => exact ⟨hq, by simp⟩
  case case3 w hw _ _ _ =>  -- ackFail
    obtain ⟨hs, _, hex⟩ := key hw
    obtain ⟨u, h1⟩ := (At.tracker x w.hid _).ackHold hs
    obtain ⟨u', a, h3⟩ := (At.tracker x w.hid _).failed ((At.tracker x w.hid _).ctrMod h1 _)
    obtain ⟨hq', hb⟩ := h3.finish (QR.settled rfl rfl rfl) (openR_idle x rfl rfl)
    refine ⟨hq', ?_⟩
    rw [answered_mk x _ _ _ _ _ (by decide), getR_of_find hs.fnd]
    have hb' : openN x (((db.ackHold w.hid).ctrMod (fun x => { x with waitCount := x.waitCount - 1 })).modR w.hid (fun r => { r with timeouted := true }) |>.rollback w.hid) = _ := hb
    rw [hb']
    omega
  case case4 w hw _ hya _ =>  -- ackGrant
    obtain ⟨hs, _, hex⟩ := key hw
    obtain ⟨u, a, h2⟩ := (At.tracker x w.hid _).ackWake hs (fun x => { x with waitCount := x.waitCount - 1 })
    have hack : (if w.cmd.ack = true then 0 else w.ack) = 0 := if_pos hya
    obtain ⟨hq', hb⟩ := h2.finish
      (QR.pend (Nat.le_refl 1) (by show (if w.cmd.ack = true then 0 else w.ack) < NOACK; rw [hack]; decide) hex rfl)
      (openR_owing x (Or.inr ⟨rfl, (pending_iff _).mpr (by show (if w.cmd.ack = true then 0 else w.ack) ≠ NOACK; rw [hack]; decide)⟩))
    refine ⟨hq', ?_⟩
    unfold ackWake at hb
    rw [hb, answered_nil]
    show 0 + (_ + hit x w.cmd.rid) = _
    omega
  case case5 w hw _ hna =>  -- grant
    obtain ⟨hs, hnp, _⟩ := key hw
    obtain ⟨u, t, s, h1⟩ := (At.tracker x w.hid _).grant ((At.tracker x w.hid _).ctrMod hs _)
    have hnp' : (if w.cmd.ack = true then 0 else w.ack) = NOACK := (if_neg hna).trans hnp
    obtain ⟨hq', hb⟩ := h1.finish (QR.settled rfl hnp' rfl) (openR_idle x rfl ((pending_false_iff _).mpr hnp'))
    refine ⟨hq', ?_⟩
    obtain ⟨l, d, eg⟩ := grant_snd (db.ctrMod (fun x => { x with waitCount := x.waitCount - 1 })) w.hid
    rw [eg, answered_mk x _ _ _ _ _ (by decide), hb, getR_ctrMod, getR_of_find hs.fnd]
    omega

theorem wake_cons (x : Rid) {db : DB} (ha : InvA db) (hq : InvQ db) (k : Nat) (out : List Reply) :
    InvQ (db.wake k out).1 ∧ answered x (db.wake k out).2 + openN x (db.wake k out).1 = answered x out + openN x db :=
  (wake_ind k (Bal x (answered x out + openN x db)) (fun _ _ h _ => h.step (h.1.applyWake k) (applyWake_cons x h.1 h.2.1 k))
    (fun _ _ h => ⟨h.1.modKey _ _, h.2.1.modKey _ _, by rw [openN_modKey]; exact h.2.2⟩) db out ⟨ha, hq, rfl⟩).2

theorem wake_bal (x : Rid) {mid : DB} (ha : InvA mid) (hq : InvQ mid) (k : Nat) (rp : Reply) {v : Int} (hb : answered x [rp] + openN x mid = v) :
    InvQ (mid.wake k [rp]).1 ∧ answered x (mid.wake k [rp]).2 + openN x (mid.wake k [rp]).1 = v :=
  ⟨(wake_cons x ha hq k [rp]).1, (wake_cons x ha hq k [rp]).2.trans hb⟩

theorem QR.tout {r : Rec} (h : QR r) : QR { r with timeouted := true } :=
  ⟨by simp, fun he => ⟨rfl, (h.of_wheel he).2⟩, h.of_queued, h.ack_le⟩

/-- `hfail`: only the failure exit starts a wake pass and needs the whole structural invariant -/
theorem ackDone_cons' (x : Rid) {db : DB} (hn : (db.recs.map (·.hid)).Nodup) (hq : InvQ db) (hid : Nat) (ok : Bool)
    (hfail : classifyAck db hid ok = .fail → InvA db) :
    InvQ (ackDone db hid ok).1 ∧ answered x (ackDone db hid ok).2 + openN x (ackDone db hid ok).1 = openN x db := by
  have key : (db.getR hid).pending = true → (db.getR hid).queued = false ∧ At x db hid (db.getR hid) (openN x db - hit x (db.getR hid).cmd.rid) :=
    fun hp => ⟨(hq.getR hid).not_queued hp, At.start x hn hq (present_of_pending hp) (openR_owing x (Or.inr ⟨(hq.getR hid).not_queued hp, hp⟩))⟩
  unfold ackDone
  cases e : classifyAck db hid ok <;> have hf := AckFacts.of e <;> unfold applyAck <;> simp only []
  · refine ⟨hq.modR hid _ (fun r _ _ hr => hr.tout), ?_⟩
    rw [answered_nil, Int.zero_add]
    exact openN_modR_same x db hid _ (fun _ => rfl)
  · obtain ⟨hnq, hs⟩ := key hf.1
    have h0 := (At.tracker x hid _).modR (fun r => { r with timeouted := true }) hs (fun _ => rfl)
    obtain ⟨hq', hb⟩ := ((At.tracker x hid _).modR (fun r => { r with ack := NOACK, undo := none }) h0 (fun _ => rfl)).finish
      (QR.settled rfl rfl hnq) (openR_idle x hnq rfl)
    exact ⟨hq', by rw [getR_of_find h0.fnd, answered_mk x _ _ _ _ _ (by decide), hb]; show hit x (db.getR hid).cmd.rid + _ = _; omega⟩
  · obtain ⟨hnq, hs⟩ := key hf.1
    have h0 := (At.tracker x hid _).modR (fun r => { r with timeouted := true }) hs (fun _ => rfl)
    obtain ⟨t, s, h1⟩ := (At.tracker x hid _).addExpried
      ((At.tracker x hid _).modR (fun r => { r with ack := NOACK, undo := none, expT := r.startT + r.cmd.expried + 1 }) h0 (fun _ => rfl))
    obtain ⟨hq', hb⟩ := h1.finish (QR.settled rfl rfl hnq) (openR_idle x hnq rfl)
    exact ⟨hq', by rw [getR_of_find h0.fnd, answered_mk x _ _ _ _ _ (by decide), hb]; show hit x (db.getR hid).cmd.rid + _ = _; omega⟩
  · obtain ⟨hnq, hs⟩ := key hf.1
    obtain ⟨u, a, h1⟩ := (At.tracker x hid _).failed hs
    obtain ⟨hq', hb⟩ := h1.finish (QR.settled rfl rfl hnq) (openR_idle x hnq rfl)
    rw [getR_of_find ((At.tracker x hid _).modR (fun r => { r with timeouted := true }) hs (fun _ => rfl)).fnd]
    exact wake_bal x ((hfail e).failed hid) hq' _ _ (by rw [answered_mk x _ _ _ _ _ (by decide), hb]; show hit x (db.getR hid).cmd.rid + _ = _; omega)

theorem ackDone_cons (x : Rid) {db : DB} (ha : InvA db) (hq : InvQ db) (hid : Nat) (ok : Bool) :
    InvQ (ackDone db hid ok).1 ∧ answered x (ackDone db hid ok).2 + openN x (ackDone db hid ok).1 = openN x db :=
  ackDone_cons' x ha.nodup hq hid ok (fun _ => ha)

theorem opLock_cons (x : Rid) {db : DB} (ha : InvA db) (hq : InvQ db) (c : Cmd) :
    InvQ (opLock db c).1 ∧ answered x (opLock db c).2 + openN x (opLock db c).1 = openN x db + hit x c.rid := by
  have f0 := newRec_findR ha.hidLt c
  have hs := At.start x (ha.newRec c).nodup (hq.newRec c) f0 (openR_idle x rfl rfl)
  rw [openN_newRec] at hs
  unfold opLock
  cases e : classifyLock db c with
  | stateError | ackWaiting | relockRefused | timeout =>
    unfold applyLock; exact ⟨hq, by dsimp only; rw [answered_mk x _ _ _ _ _ (by decide)]; omega⟩
  | relock h =>
    obtain ⟨r, hr, rfl, hnp, _⟩ := LockFacts.of e
    have hm := findHolder_mem hr
    have hnq := ha.heldNQ r hm.1 hm.2
    obtain ⟨_, _, _, h1, _⟩ := (At.tracker x r.hid _).relockHold (At.start x ha.nodup hq (findR_of_mem ha.nodup hm.1) (openR_idle x hnq hnp)) c
    obtain ⟨hq', hb⟩ := h1.finish (QR.settled ((hq.recs r hm.1).timeouted_of_held hm.2 hnp) ((pending_false_iff r).mp hnp) hnq) (openR_idle x hnq hnp)
    unfold applyLock
    exact wake_bal x (ha.relockHold c r.hid (ha.holder hm)) hq' _ _ (by rw [answered_mk x _ _ _ _ _ (by decide), hb]; omega)
  | grant =>
    obtain ⟨u, t, s, h1⟩ := (At.tracker x _ _).grant hs
    have hack : (if c.ack = true then 0 else NOACK) = NOACK := by rw [(LockFacts.of e).2]; rfl
    obtain ⟨hq', hb⟩ := h1.finish (QR.settled rfl hack rfl) (openR_idle x rfl ((pending_false_iff _).mpr hack))
    have hbal : answered x [((db.newRec c).1.grant (db.newRec c).2).2] + openN x ((db.newRec c).1.grant (db.newRec c).2).1 = openN x db + hit x c.rid := by
      obtain ⟨l, d, eg⟩ := grant_snd (db.newRec c).1 (db.newRec c).2
      rw [eg, answered_mk x _ _ _ _ _ (by decide), hb, getR_of_find f0]; show hit x c.rid + _ = _; omega
    unfold applyLock
    simp only []
    split
    · exact wake_bal x ((ha.newRec c).grant _ (ha.newRec_unref c)) hq' _ _ hbal
    · exact ⟨hq', hbal⟩
  | ackGrant =>
    obtain ⟨u, h1⟩ := (At.tracker x _ _).ackHold hs
    obtain ⟨t, s, h2⟩ := (At.tracker x _ _).addTimeOut h1
    obtain ⟨a, h3⟩ := (At.tracker x _ _).pushLock h2
    have hack : (if c.ack = true then 0 else NOACK) = 0 := by rw [(LockFacts.of e).2]; rfl
    obtain ⟨hq', hb⟩ := h3.finish (QR.pend (Nat.le_refl 1) (by show (if c.ack = true then 0 else NOACK) < NOACK; rw [hack]; decide) rfl rfl)
      (openR_owing x (Or.inr ⟨rfl, (pending_iff _).mpr (by show (if c.ack = true then 0 else NOACK) ≠ NOACK; rw [hack]; decide)⟩))
    have hbal : openN x ((((db.newRec c).1.ackHold (db.newRec c).2).addTimeOut (db.newRec c).2).pushLock (db.newRec c).2).1 = openN x db + hit x c.rid := by
      rw [hb]; show _ + hit x c.rid = _; omega
    unfold applyLock
    simp only []
    split
    · exact ⟨hq', by rw [answered_nil, Int.zero_add]; exact hbal⟩
    · have := ackDone_cons x (ha.ackGranted c) hq' (db.newRec c).2 false
      exact ⟨this.1, by rw [this.2]; exact hbal⟩
  | queue =>
    obtain ⟨t, s, h2⟩ := (At.tracker x _ _).addTimeOut ((At.tracker x _ _).modR (fun r => { r with queued := true }) hs (fun _ => rfl))
    obtain ⟨hq', hb⟩ := ((At.tracker x _ _).ctrMod ((At.tracker x _ _).modKey h2 _ _) _).finish (QR.queued rfl rfl rfl rfl)
      (openR_owing x (Or.inl ⟨rfl, rfl⟩))
    unfold applyLock
    exact ⟨hq', by dsimp only; rw [hb, answered_nil]; show 0 + (_ + hit x c.rid) = _; omega⟩

theorem opUnlock_cons (x : Rid) {db : DB} (ha : InvA db) (hq : InvQ db) (c : Cmd) :
    InvQ (opUnlock db c).1 ∧ answered x (opUnlock db c).2 + openN x (opUnlock db c).1 = openN x db + hit x c.rid := by
  have key : ∀ {r : Rec}, UnlockOf db c r → r.pending = false → r.queued = false ∧ r.timeouted = true ∧ r.ack = NOACK ∧
      At x db r.hid r (openN x db - 0) := by
    intro r u hnp
    have hnq := ha.heldNQ r u.mem.1 u.mem.2
    exact ⟨hnq, (hq.recs r u.mem.1).timeouted_of_held u.mem.2 hnp, (pending_false_iff r).mp hnp,
      At.start x ha.nodup hq (findR_of_mem ha.nodup u.mem.1) (openR_idle x hnq hnp)⟩
  unfold opUnlock
  cases e : classifyUnlock db c with
  | stateError | notLocked | unown | ackWaiting =>
    unfold applyUnlock DB.bumpErr; exact ⟨hq.frame rfl rfl, by dsimp only; rw [answered_mk x _ _ _ _ _ (by decide), openN_ctrMod]; omega⟩
  | dec h =>
    obtain ⟨r, u, rfl, hnp, _⟩ := UnlockFacts.of e
    obtain ⟨hnq, hto, hack, hs⟩ := key u hnp
    obtain ⟨a, h2⟩ := (At.tracker x r.hid _).lowered hs _ _
    obtain ⟨hq', hb⟩ := h2.finish (QR.settled hto hack hnq) (openR_idle x hnq hnp)
    unfold applyUnlock
    exact wake_bal x (ha.lowered r.hid _ _) hq' _ _ (by rw [answered_mk x _ _ _ _ _ (by decide), hb]; omega)
  | release h =>
    obtain ⟨r, u, rfl, hnp⟩ := UnlockFacts.of e
    obtain ⟨hnq, hto, _, hs⟩ := key u hnp
    obtain ⟨a, h3⟩ := (At.tracker x r.hid _).released hs _ _ _
    obtain ⟨hq', hb⟩ := h3.finish (QR.settled hto rfl hnq) (openR_idle x hnq rfl)
    unfold applyUnlock
    exact wake_bal x (ha.released r.hid _ _ _) hq' _ _ (by rw [answered_mk x _ _ _ _ _ (by decide), hb]; omega)

theorem fireTimeout_cons (x : Rid) {db : DB} (ha : InvA db) (hq : InvQ db) (hid : Nat) (hnt : (db.getR hid).timeouted = false) :
    InvQ (fireTimeout db hid).1 ∧ answered x (fireTimeout db hid).2 + openN x (fireTimeout db hid).1 = openN x db := by
  have hqr := hq.getR hid
  have hs := fun {v} => At.start x ha.nodup hq (present_of_timeouted hnt) (v := v)
  unfold fireTimeout
  simp only []
  split
  · rename_i hd
    have hp := hqr.pending_of_live hnt hd
    have hnq := hqr.not_queued hp
    obtain ⟨u, a, h2⟩ := (At.tracker x hid _).failed (hs (openR_owing x (Or.inr ⟨hnq, hp⟩)))
    obtain ⟨hq', hb⟩ := ((At.tracker x hid _).ctrMod h2 _).finish (QR.settled rfl rfl hnq) (openR_idle x hnq rfl)
    exact wake_bal x ((ha.failed hid).ctrMod _) hq' _ _ (by rw [answered_mk x _ _ _ _ _ (by decide), hb]; omega)
  · rename_i hd
    have hqd := hqr.queued_of_live hnt (by omega)
    have hnp := (hqr.of_queued hqd).1
    obtain ⟨hq', hb⟩ := ((At.tracker x hid _).dropWaiter (hs (openR_owing x (Or.inl ⟨hqd, hnp⟩)))).finish
      (QR.settled rfl ((pending_false_iff _).mp hnp) rfl) (openR_idle x rfl hnp)
    exact wake_bal x (ha.dropWaiter hid) hq' _ _ (by rw [answered_mk x _ _ _ _ _ (by decide), hb]; omega)

theorem fireExpire_cons (x : Rid) {db : DB} (ha : InvA db) (hq : InvQ db) (hid : Nat) (hne : (db.getR hid).expried = false) :
    InvQ (fireExpire db hid).1 ∧ answered x (fireExpire db hid).2 + openN x (fireExpire db hid).1 = openN x db := by
  obtain ⟨hto, hnp, hnq⟩ := (hq.getR hid).of_wheel hne
  have hs := At.start x ha.nodup hq (present_of_expried hne) (openR_idle x hnq hnp)
  unfold fireExpire
  simp only []
  split
  · obtain ⟨t, s, h2⟩ := (At.tracker x hid _).addExpried ((At.tracker x hid _).modR (fun r => { r with expT := db.now + 30 }) hs (fun _ => rfl))
    obtain ⟨hq', hb⟩ := h2.finish (QR.settled hto ((pending_false_iff _).mp hnp) hnq) (openR_idle x hnq hnp)
    exact ⟨hq', by rw [answered_nil, hb]; omega⟩
  · obtain ⟨a, h3⟩ := (At.tracker x hid _).released hs _ _ _
    obtain ⟨hq', hb⟩ := h3.finish (QR.settled hto rfl hnq) (openR_idle x hnq rfl)
    exact wake_bal x (ha.released hid _ _ _) hq' _ _ (by rw [answered_mk_expried, hb]; omega)

theorem Rearm.eqv {f : Rec → Rec} (hf : Rearm f) (x : Rid) (r : Rec) : (QR r → QR (f r)) ∧ openR x (f r) = openR x r := by
  obtain ⟨_, _, _, _, e⟩ := hf r; rw [e]; exact ⟨id, rfl⟩

theorem Bal.rearm {x : Rid} {base : Int} {d : DB} {o : List Reply} (h : Bal x base d o) (hid : Nat) {f : Rec → Rec} (n : Nat) (hf : Rearm f) :
    Bal x base { d.modR hid f with seq := n } o := by
  refine ⟨h.1.rearm hid n hf, (h.2.1.modR hid f (fun r _ _ => (hf.eqv x r).1)).frame rfl rfl, ?_⟩
  show answered x o + openN x (d.modR hid f) = base
  rw [openN_modR_same x d hid f (fun r => (hf.eqv x r).2)]
  exact h.2.2

theorem opTick_cons (x : Rid) {db : DB} (ha : InvA db) (hq : InvQ db) :
    InvQ (opTick db).1 ∧ answered x (opTick db).2 + openN x (opTick db).1 = openN x db :=
  (opTick_ind (Bal x (openN x db)) (fun _ _ _ _ _ h => ⟨h.1.env rfl rfl, h.2.1.frame rfl rfl, h.2.2⟩)
    (fun _ _ hid _ n h hf => h.rearm hid n hf) (fun _ _ hid h hnt => h.step (h.1.fireTimeout hid) (fireTimeout_cons x h.1 h.2.1 hid hnt))
    (fun _ _ hid h hne => h.step (h.1.fireExpire hid) (fireExpire_cons x h.1 h.2.1 hid hne)) db [] ⟨ha, hq, by simp⟩).2

theorem pendingKeep_cons (x : Rid) {db : DB} (hn : (db.recs.map (·.hid)).Nodup) (hq : InvQ db) (hid : Nat) (a : Nat → Nat)
    (hp : (db.getR hid).pending = true) (ha : a (db.getR hid).ack < NOACK) :
    InvQ (db.modR hid (fun r => { r with ack := a r.ack })) ∧ openN x (db.modR hid (fun r => { r with ack := a r.ack })) = openN x db := by
  have hqr := hq.getR hid
  have hnq := hqr.not_queued hp
  have hpa : ({ (db.getR hid) with ack := a (db.getR hid).ack } : Rec).pending = true := (pending_iff _).mpr (by show a _ ≠ NOACK; omega)
  obtain ⟨hq', hb⟩ := ((At.tracker x hid _).modR (fun r => { r with ack := a r.ack })
      (At.start x hn hq (present_of_pending hp) (openR_owing x (Or.inr ⟨hnq, hp⟩))) (fun _ => rfl)).finish
    ⟨fun ht => ⟨fun _ => hpa, hqr.queued_of_live ht⟩, by rw [show _ = true from hqr.expried_of_pending hp]; simp, by rw [show _ = false from hnq]; simp, by
      show a _ ≤ NOACK; omega⟩ (openR_owing x (Or.inr ⟨hnq, hpa⟩))
  exact ⟨hq', by rw [hb]; show _ - hit x (db.getR hid).cmd.rid + hit x (db.getR hid).cmd.rid = _; omega⟩

end Slock.Ack
