import Slock.Proofs.Engine2RCQ
/-! Stage-2 engine: a record that still has a wheel entry is never freed by lazy popping (the wheel's reference keeps it alive).
The lemmas need `RCx` at every pop (is the popped record owed its reference?), so they follow the inductions of `Engine2RCQ` and
not the closure family. -/
namespace Slock.Engine2

/-- the fields of a record that lazy popping never changes -/
structure SameButCount (r' r : Rec) : Prop where
  tSched : r'.tSched = r.tSched
  eSched : r'.eSched = r.eSched
  timeouted : r'.timeouted = r.timeouted
  cmd : r'.cmd = r.cmd
  conn : r'.conn = r.conn
  depth : r'.depth = r.depth

theorem SameButCount.refl (r : Rec) : SameButCount r r := ⟨rfl, rfl, rfl, rfl, rfl, rfl⟩
theorem SameButCount.trans {a b c : Rec} (h1 : SameButCount a b) (h2 : SameButCount b c) : SameButCount a c :=
  ⟨h1.tSched.trans h2.tSched, h1.eSched.trans h2.eSched, h1.timeouted.trans h2.timeouted, h1.cmd.trans h2.cmd, h1.conn.trans h2.conn,
   h1.depth.trans h2.depth⟩

theorem unref_keep {k : Key} {ex : Nat → Int} (h : RCx k ex) (x rid : Nat) (hpos : 0 < (k.qRefs x : Int) + ex x) (hh : k.hasRec rid)
    (hw : 1 ≤ (k.getR rid).wheelRefs) : (k.unref x).hasRec rid ∧ SameButCount ((k.unref x).getR rid) (k.getR rid) := by
  by_cases e : rid = x
  · subst e
    have hrc := h.refCount_of hh
    have h1 : (k.unrefOnly rid).hasRec rid := by unfold Key.unrefOnly; rw [hasRec_modRec _ _ _ _]; exact hh
    have g1 : (k.unrefOnly rid).getR rid = { (k.getR rid) with refCount := decU8 (k.getR rid).refCount } :=
      getR_modRec_same _ _ _ hh
    have hne : ((k.unrefOnly rid).getR rid).refCount ≠ 0 := by
      rw [g1]; simp only [decU8]
      have : (k.getR rid).refCount ≠ 0 := by omega
      simp only [this, if_false]; omega
    unfold Key.unref
    simp only []
    have : (((k.unrefOnly rid).getR rid).refCount == 0) = false := by simpa using hne
    simp only [this, Bool.false_eq_true, if_false]
    exact ⟨h1, by rw [g1]; exact ⟨rfl, rfl, rfl, rfl, rfl, rfl⟩⟩
  · exact ⟨(hasRec_unref_other _ _ _ e).mpr hh, by rw [getR_unref_other _ _ _ e]; exact SameButCount.refl _⟩

theorem wheelRefs_of_same {r' r : Rec} (h : SameButCount r' r) : r'.wheelRefs = r.wheelRefs := by
  unfold Rec.wheelRefs; rw [h.tSched, h.eSched]

theorem waitSkip_keep {ex : Nat → Int} (hex : ∀ y, 0 ≤ ex y) (l : List WEnt) (k : Key) (h : RCx k ex) (hl : k.wait = l) (rid : Nat)
    (hh : k.hasRec rid) (hw : 1 ≤ (k.getR rid).wheelRefs) :
    (waitSkip l k).1.hasRec rid ∧ SameButCount ((waitSkip l k).1.getR rid) (k.getR rid) := by
  induction l generalizing k with
  | nil => exact ⟨hh, SameButCount.refl _⟩
  | cons e rest ih =>
    unfold waitSkip
    split
    · have h1 := h.popWait hl (if k.waitPrio then k.waitPopped else k.waitPopped + 1)
      have hpos : 0 < (({ k with wait := rest, waitPopped := if k.waitPrio then k.waitPopped else k.waitPopped + 1 } : Key).qRefs e.rid : Int) +
          (ex e.rid + delta e.rid e.rid) := by have := hex e.rid; simp only [delta, if_true]; omega
      have h2 : RCx ({ k with wait := rest, waitPopped := if k.waitPrio then k.waitPopped else k.waitPopped + 1 }.unref e.rid) ex :=
        (h1.unref e.rid hpos).congr (fun y => by simp)
      obtain ⟨a1, a2⟩ := unref_keep h1 e.rid rid hpos hh hw
      obtain ⟨_, q2, _⟩ := unref_queues { k with wait := rest, waitPopped := if k.waitPrio then k.waitPopped else k.waitPopped + 1 } e.rid
      obtain ⟨b1, b2⟩ := ih _ h2 q2 a1 (by rw [wheelRefs_of_same a2]; exact hw)
      exact ⟨b1, b2.trans a2⟩
    · exact ⟨hh, SameButCount.refl _⟩

theorem settleWait_keep {k : Key} {ex : Nat → Int} (hex : ∀ y, 0 ≤ ex y) (h : RCx k ex) (rid : Nat) (hh : k.hasRec rid)
    (hw : 1 ≤ (k.getR rid).wheelRefs) : k.settleWait.hasRec rid ∧ SameButCount (k.settleWait.getR rid) (k.getR rid) := by
  have := waitSkip_keep hex _ k h rfl rid hh hw
  unfold Key.settleWait
  split
  · exact this
  · exact this

theorem locksSkip_keep {ex : Nat → Int} (hex : ∀ y, 0 ≤ ex y) (take : Bool) (l : List Nat) (k : Key) (h : RCx k ex) (hl : k.locks = l) (rid : Nat)
    (hh : k.hasRec rid) (hw : 1 ≤ (k.getR rid).wheelRefs) :
    (locksSkip take l k).1.hasRec rid ∧ SameButCount ((locksSkip take l k).1.getR rid) (k.getR rid) := by
  induction l generalizing k with
  | nil => exact ⟨hh, SameButCount.refl _⟩
  | cons x rest ih =>
    unfold locksSkip
    split
    · split
      · exact ⟨hh, SameButCount.refl _⟩
      · exact ⟨hh, SameButCount.refl _⟩
    · have h1 := h.popLocks hl (k.locksPopped + 1)
      have hpos : 0 < (({ k with locks := rest, locksPopped := k.locksPopped + 1 } : Key).qRefs x : Int) + (ex x + delta x x) := by
        have := hex x; simp only [delta, if_true]; omega
      have h2 : RCx ({ k with locks := rest, locksPopped := k.locksPopped + 1 }.unref x) ex := (h1.unref x hpos).congr (fun y => by simp)
      obtain ⟨a1, a2⟩ := unref_keep h1 x rid hpos hh hw
      obtain ⟨q1, _⟩ := unref_queues { k with locks := rest, locksPopped := k.locksPopped + 1 } x
      obtain ⟨b1, b2⟩ := ih _ h2 q1 a1 (by rw [wheelRefs_of_same a2]; exact hw)
      exact ⟨b1, b2.trans a2⟩

theorem removeLock_keep {k : Key} {ex : Nat → Int} (hex : ∀ y, 0 ≤ ex y) (h : RCx k ex) (rid y : Nat) (hh : k.hasRec y)
    (hw : 1 ≤ (k.getR y).wheelRefs) :
    (k.removeLock rid).hasRec y ∧ ((k.removeLock rid).getR y).eSched = (k.getR y).eSched ∧ ((k.removeLock rid).getR y).tSched = (k.getR y).tSched := by
  unfold Key.removeLock
  simp only []
  have h1 : RCx (k.modRec rid fun r => { r with depth := 0 }) ex := h.modRec_plain rid _ (fun _ => rfl) (fun _ => rfl) (fun _ => rfl)
  have hh1 : (k.modRec rid fun r => { r with depth := 0 }).hasRec y := (hasRec_modRec _ _ _ _).mpr hh
  have e1 := getR_modRec_proj (·.eSched) k rid y (fun r => { r with depth := 0 }) (fun _ => rfl)
  have t1 := getR_modRec_proj (·.tSched) k rid y (fun r => { r with depth := 0 }) (fun _ => rfl)
  have hw1 : 1 ≤ ((k.modRec rid fun r => { r with depth := 0 }).getR y).wheelRefs := by unfold Rec.wheelRefs at hw ⊢; rw [e1, t1]; exact hw
  split
  · rename_i hc
    have h3 := h.unsetCurrent hex rid (by simpa [Key.modRec] using hc)
    have hh3 : ({ (k.modRec rid fun r => { r with depth := 0 }).unrefOnly rid with current := none } : Key).hasRec y :=
      (hasRec_modRec (k.modRec rid fun r => { r with depth := 0 }) rid y _).mpr hh1
    have e3 : (({ (k.modRec rid fun r => { r with depth := 0 }).unrefOnly rid with current := none } : Key).getR y).eSched = _ :=
      getR_modRec_proj (·.eSched) (k.modRec rid fun r => { r with depth := 0 }) rid y _ (by intro _; rfl)
    have t3 : (({ (k.modRec rid fun r => { r with depth := 0 }).unrefOnly rid with current := none } : Key).getR y).tSched = _ :=
      getR_modRec_proj (·.tSched) (k.modRec rid fun r => { r with depth := 0 }) rid y _ (by intro _; rfl)
    obtain ⟨b1, b2⟩ := locksSkip_keep hex true _ _ h3 rfl y hh3 (by unfold Rec.wheelRefs at hw1 ⊢; rw [e3, t3]; exact hw1)
    exact ⟨b1, (b2.eSched.trans e3).trans e1, (b2.tSched.trans t3).trans t1⟩
  · obtain ⟨b1, b2⟩ := locksSkip_keep hex false _ _ h1 rfl y hh1 hw1
    exact ⟨b1, b2.eSched.trans e1, b2.tSched.trans t1⟩

end Slock.Engine2
