import Slock.Model.Ack
import Slock.Proofs.Lists
/-! M-ACK: which components each primitive update and building block touches; record lookup after an update; sums over the records. -/
namespace Slock.Ack

theorem setKey_eq (db : DB) (k : Key) : ∃ ks, db.setKey k = { db with keys := ks } := by
  unfold DB.setKey; split <;> exact ⟨_, rfl⟩

theorem modKey_eq (db : DB) (k : Nat) (f : Key → Key) : ∃ ks, db.modKey k f = { db with keys := ks } := setKey_eq db _

@[simp] theorem modKey_recs (db : DB) (k : Nat) (f : Key → Key) : (db.modKey k f).recs = db.recs := by
  obtain ⟨ks, h⟩ := modKey_eq db k f; rw [h]
@[simp] theorem modKey_nextId (db : DB) (k : Nat) (f : Key → Key) : (db.modKey k f).nextId = db.nextId := by
  obtain ⟨ks, h⟩ := modKey_eq db k f; rw [h]
@[simp] theorem modKey_now (db : DB) (k : Nat) (f : Key → Key) : (db.modKey k f).now = db.now := by
  obtain ⟨ks, h⟩ := modKey_eq db k f; rw [h]
@[simp] theorem modKey_eCheck (db : DB) (k : Nat) (f : Key → Key) : (db.modKey k f).eCheck = db.eCheck := by
  obtain ⟨ks, h⟩ := modKey_eq db k f; rw [h]

@[simp] theorem ctrMod_recs (db : DB) (f : Counters → Counters) : (db.ctrMod f).recs = db.recs := rfl
@[simp] theorem ctrMod_tab (db : DB) (f : Counters → Counters) : (db.ctrMod f).tab = db.tab := rfl
@[simp] theorem ctrMod_journal (db : DB) (f : Counters → Counters) : (db.ctrMod f).journal = db.journal := rfl
@[simp] theorem ctrMod_nextHid (db : DB) (f : Counters → Counters) : (db.ctrMod f).nextHid = db.nextHid := rfl
@[simp] theorem ctrMod_nextId (db : DB) (f : Counters → Counters) : (db.ctrMod f).nextId = db.nextId := rfl
@[simp] theorem ctrMod_leader (db : DB) (f : Counters → Counters) : (db.ctrMod f).leader = db.leader := rfl
@[simp] theorem ctrMod_closed (db : DB) (f : Counters → Counters) : (db.ctrMod f).closed = db.closed := rfl
@[simp] theorem ctrMod_cfg (db : DB) (f : Counters → Counters) : (db.ctrMod f).cfg = db.cfg := rfl
@[simp] theorem ctrMod_keys (db : DB) (f : Counters → Counters) : (db.ctrMod f).keys = db.keys := rfl
@[simp] theorem ctrMod_now (db : DB) (f : Counters → Counters) : (db.ctrMod f).now = db.now := rfl
@[simp] theorem ctrMod_seq (db : DB) (f : Counters → Counters) : (db.ctrMod f).seq = db.seq := rfl
@[simp] theorem ctrMod_tCheck (db : DB) (f : Counters → Counters) : (db.ctrMod f).tCheck = db.tCheck := rfl
@[simp] theorem ctrMod_eCheck (db : DB) (f : Counters → Counters) : (db.ctrMod f).eCheck = db.eCheck := rfl

@[simp] theorem modR_recs (db : DB) (h : Nat) (f : Rec → Rec) : (db.modR h f).recs = modRecs h f db.recs := rfl
@[simp] theorem modR_tab (db : DB) (h : Nat) (f : Rec → Rec) : (db.modR h f).tab = db.tab := rfl
@[simp] theorem modR_journal (db : DB) (h : Nat) (f : Rec → Rec) : (db.modR h f).journal = db.journal := rfl
@[simp] theorem modR_nextHid (db : DB) (h : Nat) (f : Rec → Rec) : (db.modR h f).nextHid = db.nextHid := rfl
@[simp] theorem modR_nextId (db : DB) (h : Nat) (f : Rec → Rec) : (db.modR h f).nextId = db.nextId := rfl
@[simp] theorem modR_leader (db : DB) (h : Nat) (f : Rec → Rec) : (db.modR h f).leader = db.leader := rfl
@[simp] theorem modR_closed (db : DB) (h : Nat) (f : Rec → Rec) : (db.modR h f).closed = db.closed := rfl
@[simp] theorem modR_cfg (db : DB) (h : Nat) (f : Rec → Rec) : (db.modR h f).cfg = db.cfg := rfl
@[simp] theorem modR_keys (db : DB) (h : Nat) (f : Rec → Rec) : (db.modR h f).keys = db.keys := rfl
@[simp] theorem modR_now (db : DB) (h : Nat) (f : Rec → Rec) : (db.modR h f).now = db.now := rfl
@[simp] theorem modR_seq (db : DB) (h : Nat) (f : Rec → Rec) : (db.modR h f).seq = db.seq := rfl
@[simp] theorem modR_tCheck (db : DB) (h : Nat) (f : Rec → Rec) : (db.modR h f).tCheck = db.tCheck := rfl
@[simp] theorem modR_eCheck (db : DB) (h : Nat) (f : Rec → Rec) : (db.modR h f).eCheck = db.eCheck := rfl

@[simp] theorem toEnd_tab (db : DB) (h : Nat) : (db.toEnd h).tab = db.tab := rfl
@[simp] theorem toEnd_journal (db : DB) (h : Nat) : (db.toEnd h).journal = db.journal := rfl
@[simp] theorem toEnd_nextHid (db : DB) (h : Nat) : (db.toEnd h).nextHid = db.nextHid := rfl
@[simp] theorem toEnd_nextId (db : DB) (h : Nat) : (db.toEnd h).nextId = db.nextId := rfl
@[simp] theorem toEnd_leader (db : DB) (h : Nat) : (db.toEnd h).leader = db.leader := rfl
@[simp] theorem toEnd_closed (db : DB) (h : Nat) : (db.toEnd h).closed = db.closed := rfl
@[simp] theorem toEnd_cfg (db : DB) (h : Nat) : (db.toEnd h).cfg = db.cfg := rfl
@[simp] theorem toEnd_keys (db : DB) (h : Nat) : (db.toEnd h).keys = db.keys := rfl
@[simp] theorem toEnd_now (db : DB) (h : Nat) : (db.toEnd h).now = db.now := rfl
@[simp] theorem toEnd_seq (db : DB) (h : Nat) : (db.toEnd h).seq = db.seq := rfl

@[simp] theorem removeLock_tab (db : DB) (h : Nat) : (db.removeLock h).tab = db.tab := rfl
@[simp] theorem removeLock_cfg (db : DB) (h : Nat) : (db.removeLock h).cfg = db.cfg := rfl
@[simp] theorem addExpried_tab (db : DB) (h : Nat) : (db.addExpried h).tab = db.tab := rfl
@[simp] theorem addExpried_cfg (db : DB) (h : Nat) : (db.addExpried h).cfg = db.cfg := rfl
@[simp] theorem addTimeOut_tab (db : DB) (h : Nat) : (db.addTimeOut h).tab = db.tab := rfl
@[simp] theorem addTimeOut_cfg (db : DB) (h : Nat) : (db.addTimeOut h).cfg = db.cfg := rfl
theorem addExpried_journal (db : DB) (hid : Nat) : (db.addExpried hid).journal = db.journal := rfl
theorem addExpried_nextHid (db : DB) (hid : Nat) : (db.addExpried hid).nextHid = db.nextHid := rfl
@[simp] theorem newRec_tab' (db : DB) (c : Cmd) : (db.newRec c).1.tab = db.tab := rfl
@[simp] theorem newRec_cfg (db : DB) (c : Cmd) : (db.newRec c).1.cfg = db.cfg := rfl
theorem newRec_tab (db : DB) (c : Cmd) : (db.newRec c).1.tab = db.tab := rfl
theorem newRec_journal (db : DB) (c : Cmd) : (db.newRec c).1.journal = db.journal := rfl
theorem newRec_snd (db : DB) (c : Cmd) : (db.newRec c).2 = db.nextHid := rfl
@[simp] theorem getKey_modR (db : DB) (h : Nat) (f : Rec → Rec) (k : Nat) : (db.modR h f).getKey k = db.getKey k := rfl
@[simp] theorem getKey_ctrMod (db : DB) (f : Counters → Counters) (k : Nat) : (db.ctrMod f).getKey k = db.getKey k := rfl
@[simp] theorem getKey_removeLock (db : DB) (h : Nat) (k : Nat) : (db.removeLock h).getKey k = db.getKey k := rfl
theorem deadRec_queued (h : Nat) : (deadRec h).queued = false := rfl
theorem deadRec_pending (h : Nat) : (deadRec h).pending = false := rfl

/-- configuration, role, channel state and the ack table: no lock operation changes them -/
structure Conf where
  cfg : Cfg
  leader : Bool
  closed : Bool
  tab : List Ent

/-- … together with the journal and the identity counter: what a building block that pushes nothing to the journal and makes no record leaves alone -/
structure Env extends Conf where
  journal : List JRec
  nextHid : Nat

def DB.env (db : DB) : Env :=
  { cfg := db.cfg, leader := db.leader, closed := db.closed, tab := db.tab, journal := db.journal, nextHid := db.nextHid }

theorem tab_of_conf {d d' : DB} (h : d'.env.toConf = d.env.toConf) : d'.tab = d.tab := congrArg Conf.tab h
theorem cfg_of_conf {d d' : DB} (h : d'.env.toConf = d.env.toConf) : d'.cfg = d.cfg := congrArg Conf.cfg h
theorem cfg_of_env {d d' : DB} (h : d'.env = d.env) : d'.cfg = d.cfg := congrArg (·.cfg) h
theorem tab_of_env {d d' : DB} (h : d'.env = d.env) : d'.tab = d.tab := congrArg (·.tab) h
theorem journal_of_env {d d' : DB} (h : d'.env = d.env) : d'.journal = d.journal := congrArg Env.journal h
theorem nextHid_of_env {d d' : DB} (h : d'.env = d.env) : d'.nextHid = d.nextHid := congrArg Env.nextHid h

@[simp] theorem modKey_env (db : DB) (k : Nat) (f : Key → Key) : (db.modKey k f).env = db.env := by
  obtain ⟨ks, h⟩ := modKey_eq db k f; rw [h]; rfl
@[simp] theorem ctrMod_env (db : DB) (f : Counters → Counters) : (db.ctrMod f).env = db.env := rfl
@[simp] theorem modR_env (db : DB) (h : Nat) (f : Rec → Rec) : (db.modR h f).env = db.env := rfl
@[simp] theorem toEnd_env (db : DB) (h : Nat) : (db.toEnd h).env = db.env := rfl
@[simp] theorem removeLock_env (db : DB) (h : Nat) : (db.removeLock h).env = db.env := rfl
@[simp] theorem addExpried_env (db : DB) (h : Nat) : (db.addExpried h).env = db.env := rfl
@[simp] theorem addTimeOut_env (db : DB) (h : Nat) : (db.addTimeOut h).env = db.env := rfl
@[simp] theorem addLock_env (db : DB) (h : Nat) : (db.addLock h).env = db.env := by unfold DB.addLock; simp
@[simp] theorem valueOp_env (db : DB) (h : Nat) (b : Bool) : (db.valueOp h b).env = db.env := by
  unfold DB.valueOp; simp only []; split; rfl; split <;> simp
@[simp] theorem grant_env (db : DB) (h : Nat) : (db.grant h).1.env = db.env := by unfold DB.grant; simp
@[simp] theorem ackHold_env (db : DB) (h : Nat) : (db.ackHold h).env = db.env := by unfold DB.ackHold; simp
@[simp] theorem updateHold_env (db : DB) (h : Nat) (c : Cmd) : (db.updateHold h c).env = db.env := by
  unfold DB.updateHold; simp only []; split <;> simp
theorem addLock_tab (db : DB) (hid : Nat) : (db.addLock hid).tab = db.tab := tab_of_env (addLock_env db hid)
theorem updateHold_nextHid (db : DB) (hid : Nat) (c : Cmd) : (db.updateHold hid c).nextHid = db.nextHid := nextHid_of_env (updateHold_env db hid c)
@[simp] theorem dropWaiter_env (db : DB) (h : Nat) : (db.dropWaiter h).env = db.env := by
  unfold DB.dropWaiter; simp only []; split <;> simp

theorem pushJ_eq (db : DB) (r : Rec) (b : Bool) : ∃ js, (db.pushJ r b).1 = { db with journal := db.journal ++ js } := by
  unfold DB.pushJ; split
  · exact ⟨[], by simp⟩
  · split
    · exact ⟨[], by simp⟩
    · exact ⟨_, rfl⟩

@[simp] theorem pushJ_recs (db : DB) (r : Rec) (b : Bool) : (db.pushJ r b).1.recs = db.recs := by
  obtain ⟨js, h⟩ := pushJ_eq db r b; rw [h]
@[simp] theorem pushJ_conf (db : DB) (r : Rec) (b : Bool) : (db.pushJ r b).1.env.toConf = db.env.toConf := by
  obtain ⟨js, h⟩ := pushJ_eq db r b; rw [h]; rfl
theorem pushJ_tab (db : DB) (r : Rec) (b : Bool) : (db.pushJ r b).1.tab = db.tab := tab_of_conf (pushJ_conf db r b)
theorem pushJ_cfg (db : DB) (r : Rec) (b : Bool) : (db.pushJ r b).1.cfg = db.cfg := cfg_of_conf (pushJ_conf db r b)
theorem pushJ_leader (db : DB) (r : Rec) (b : Bool) : (db.pushJ r b).1.leader = db.leader := congrArg Conf.leader (pushJ_conf db r b)
theorem pushJ_closed (db : DB) (r : Rec) (b : Bool) : (db.pushJ r b).1.closed = db.closed := congrArg Conf.closed (pushJ_conf db r b)
theorem pushJ_nextHid (db : DB) (r : Rec) (b : Bool) : (db.pushJ r b).1.nextHid = db.nextHid := by
  obtain ⟨js, h⟩ := pushJ_eq db r b; rw [h]
@[simp] theorem pushLock_conf (db : DB) (h : Nat) : (db.pushLock h).1.env.toConf = db.env.toConf := by
  unfold DB.pushLock; simp only []; split <;> simp
@[simp] theorem journalUnlock_conf (db : DB) (h : Nat) (b : Bool) : (db.journalUnlock h b).env.toConf = db.env.toConf := by
  unfold DB.journalUnlock; split
  · simp only []; split <;> simp
  · rfl
@[simp] theorem rollback_conf (db : DB) (h : Nat) : (db.rollback h).env.toConf = db.env.toConf := by
  unfold DB.rollback; simp only []; split <;> simp
@[simp] theorem relockHold_conf (db : DB) (c : Cmd) (h : Nat) : (db.relockHold c h).env.toConf = db.env.toConf := by
  unfold DB.relockHold; simp only []; split <;> split <;> simp

def findR (rs : List Rec) (h : Nat) : Option Rec := rs.find? (·.hid == h)

theorem getR_eq (db : DB) (h : Nat) : db.getR h = (findR db.recs h).getD (deadRec h) := rfl

theorem findR_some_mem {rs : List Rec} {h : Nat} {r : Rec} (e : findR rs h = some r) : r ∈ rs ∧ r.hid = h := by
  unfold findR at e
  exact ⟨List.mem_of_find?_eq_some e, by have := List.find?_some e; simpa using this⟩

theorem getR_hid (db : DB) (h : Nat) : (db.getR h).hid = h := find_getD_key Rec.hid _ h _ rfl

theorem findR_modRecs (hid : Nat) (f : Rec → Rec) (hf : ∀ r, (f r).hid = r.hid) (rs : List Rec) (h : Nat) :
    findR (modRecs hid f rs) h = if h = hid then (findR rs h).map f else findR rs h := by
  induction rs with
  | nil => unfold modRecs findR; simp
  | cons r rs ih =>
    unfold modRecs
    by_cases e1 : r.hid = hid
    · have : (r.hid == hid) = true := by simpa using e1
      rw [if_pos this]
      unfold findR
      by_cases e2 : h = hid
      · subst e2
        simp [List.find?, hf, e1]
      · have hb : (hid == h) = false := by
          have : ¬ hid = h := fun hh => e2 hh.symm
          simpa using this
        simp [List.find?, hf, e1, e2, hb]
    · have : (r.hid == hid) = false := by simpa using e1
      rw [this]
      simp only [Bool.false_eq_true, if_false]
      unfold findR at ih ⊢
      by_cases e3 : r.hid = h
      · have : ¬ h = hid := by omega
        simp [List.find?, e3, this]
      · have e3' : (r.hid == h) = false := by simpa using e3
        simp only [List.find?, e3']
        exact ih

theorem getR_modR (db : DB) (hid : Nat) (f : Rec → Rec) (hf : ∀ r, (f r).hid = r.hid) (h : Nat) :
    (db.modR hid f).getR h = if h = hid then (if (findR db.recs h).isSome then f (db.getR h) else db.getR h) else db.getR h := by
  rw [getR_eq, getR_eq, modR_recs, findR_modRecs hid f hf]
  by_cases e : h = hid
  · simp only [e, if_true]
    cases findR db.recs hid <;> simp
  · simp [e]

theorem getR_modR_ne (db : DB) (hid : Nat) (f : Rec → Rec) (hf : ∀ r, (f r).hid = r.hid) (h : Nat) (hne : h ≠ hid) :
    (db.modR hid f).getR h = db.getR h := by
  rw [getR_modR db hid f hf]; simp [hne]

theorem mem_modRecs {hid : Nat} {f : Rec → Rec} {rs : List Rec} {x : Rec} (hx : x ∈ modRecs hid f rs) :
    x ∈ rs ∨ ∃ r, findR rs hid = some r ∧ x = f r := by
  induction rs with
  | nil => unfold modRecs at hx; simp at hx
  | cons r rs ih =>
    unfold modRecs at hx
    by_cases e1 : (r.hid == hid) = true
    · rw [if_pos e1] at hx
      rcases List.mem_cons.mp hx with h | h
      · right; exact ⟨r, by unfold findR; simp [List.find?, e1], h⟩
      · left; exact List.mem_cons_of_mem _ h
    · have e1' : (r.hid == hid) = false := by simpa using e1
      rw [e1'] at hx
      simp only [Bool.false_eq_true, if_false] at hx
      rcases List.mem_cons.mp hx with h | h
      · left; rw [h]; exact List.mem_cons_self
      · rcases ih h with h' | ⟨r', hr', hx'⟩
        · left; exact List.mem_cons_of_mem _ h'
        · right; exact ⟨r', by unfold findR at hr' ⊢; simp only [List.find?, e1']; exact hr', hx'⟩

theorem forall_modR {P : Rec → Prop} (db : DB) (hid : Nat) (f : Rec → Rec) (hall : ∀ r ∈ db.recs, P r)
    (hf : ∀ r ∈ db.recs, r.hid = hid → P r → P (f r)) : ∀ r ∈ (db.modR hid f).recs, P r := by
  intro x hx
  rcases mem_modRecs hx with h | ⟨r, hr, e⟩
  · exact hall x h
  · have := findR_some_mem hr
    rw [e]; exact hf r this.1 this.2 (hall r this.1)

theorem mem_toEnd {db : DB} {hid : Nat} {x : Rec} : x ∈ (db.toEnd hid).recs ↔ x ∈ db.recs := by
  unfold DB.toEnd
  simp only [List.mem_append, List.mem_filter]
  constructor
  · rintro (h | h) <;> exact h.1
  · intro h
    by_cases e : x.hid = hid
    · right; exact ⟨h, by simpa using e⟩
    · left; exact ⟨h, by simpa using e⟩

theorem findR_toEnd (rs : List Rec) (hid h : Nat) :
    findR (rs.filter (·.hid != hid) ++ rs.filter (·.hid == hid)) h = findR rs h := by
  unfold findR
  rw [List.find?_append]
  by_cases e : h = hid
  · subst e
    have h1 : (rs.filter (·.hid != h)).find? (·.hid == h) = none := by
      rw [List.find?_eq_none]; intro x hx
      have := (List.mem_filter.mp hx).2
      simpa using this
    rw [h1]; simp only [Option.none_or]
    rw [List.find?_filter]
    congr 1; funext x
    by_cases ex : x.hid = h <;> simp [ex]
  · have h2 : (rs.filter (·.hid != hid)).find? (·.hid == h) = rs.find? (·.hid == h) := by
      rw [List.find?_filter]
      congr 1; funext x
      by_cases ex : x.hid = h
      · have : ¬ h = hid := e
        simp [ex, this]
      · simp [ex]
    rw [h2]
    cases e3 : rs.find? (·.hid == h) with
    | some r => simp
    | none =>
      simp only [Option.none_or]
      rw [List.find?_eq_none] at e3 ⊢
      intro x hx; exact e3 x (List.mem_filter.mp hx).1

@[simp] theorem getR_toEnd (db : DB) (hid h : Nat) : (db.toEnd hid).getR h = db.getR h := by
  rw [getR_eq, getR_eq]; unfold DB.toEnd; simp only []; rw [findR_toEnd]

theorem getR_frame {db db' : DB} (e : db'.recs = db.recs) (a : Nat) : db'.getR a = db.getR a := by rw [getR_eq, getR_eq, e]
@[simp] theorem getR_modKey (db : DB) (k : Nat) (f : Key → Key) (a : Nat) : (db.modKey k f).getR a = db.getR a := getR_frame (by simp) a
@[simp] theorem getR_ctrMod (db : DB) (f : Counters → Counters) (a : Nat) : (db.ctrMod f).getR a = db.getR a := rfl

theorem getR_of_find {db : DB} {h : Nat} {r : Rec} (e : findR db.recs h = some r) : db.getR h = r := by rw [getR_eq, e]; rfl

theorem present_of {db : DB} {h : Nat} (hp : (db.getR h).pending = true ∨ (db.getR h).queued = true ∨ (db.getR h).timeouted = false ∨
    (db.getR h).expried = false ∨ (db.getR h).depth > 0) : findR db.recs h = some (db.getR h) := by
  rw [getR_eq] at hp ⊢
  cases e : findR db.recs h with
  | some r => rfl
  | none => rw [e] at hp; simp [deadRec, Rec.pending, NOACK] at hp

theorem present_of_pending {db : DB} {h : Nat} (hp : (db.getR h).pending = true) : findR db.recs h = some (db.getR h) := present_of (Or.inl hp)
theorem present_of_timeouted {db : DB} {h : Nat} (hp : (db.getR h).timeouted = false) : findR db.recs h = some (db.getR h) :=
  present_of (Or.inr (Or.inr (Or.inl hp)))
theorem present_of_expried {db : DB} {h : Nat} (hp : (db.getR h).expried = false) : findR db.recs h = some (db.getR h) :=
  present_of (Or.inr (Or.inr (Or.inr (Or.inl hp))))
theorem present_of_depth {db : DB} {h : Nat} (hp : (db.getR h).depth ≠ 0) : findR db.recs h = some (db.getR h) :=
  present_of (Or.inr (Or.inr (Or.inr (Or.inr (Nat.pos_of_ne_zero hp)))))

theorem pending_iff (r : Rec) : r.pending = true ↔ r.ack ≠ NOACK := by unfold Rec.pending; simp
theorem pending_false_iff (r : Rec) : r.pending = false ↔ r.ack = NOACK := by unfold Rec.pending; simp

/-- the counter is a uint8 that wraps; a registered pending lock has it at 1 or more (`InvA.tabOk`) -/
theorem decU8_succ {a : Nat} (h : 1 ≤ a) : decU8 a + 1 = a := by unfold decU8; rw [if_neg (by omega)]; omega

theorem modRecs_of_none {hid : Nat} (f : Rec → Rec) : ∀ {rs : List Rec}, findR rs hid = none → modRecs hid f rs = rs
  | [], _ => rfl
  | x :: xs, hn => by
    unfold findR at hn; unfold modRecs
    by_cases ex : (x.hid == hid) = true
    · simp [List.find?, ex] at hn
    · have ex' : (x.hid == hid) = false := by simpa using ex
      simp only [List.find?, ex'] at hn
      rw [ex']; simp only [Bool.false_eq_true, if_false]; rw [modRecs_of_none f hn]

theorem map_hid_modRecs (hid : Nat) (f : Rec → Rec) (hf : ∀ r, (f r).hid = r.hid) (rs : List Rec) :
    (modRecs hid f rs).map (·.hid) = rs.map (·.hid) := by
  induction rs with
  | nil => rfl
  | cons r rs ih =>
    unfold modRecs
    split
    · simp [hf]
    · simp [ih]

theorem nodup_toEnd {db : DB} (h : (db.recs.map (·.hid)).Nodup) (hid : Nat) : ((db.toEnd hid).recs.map (·.hid)).Nodup := by
  unfold DB.toEnd
  simp only [List.map_append]
  rw [List.nodup_append]
  refine ⟨(h.sublist (List.Sublist.map _ List.filter_sublist)), (h.sublist (List.Sublist.map _ List.filter_sublist)), ?_⟩
  intro a ha b hb
  simp only [List.mem_map, List.mem_filter] at ha hb
  obtain ⟨x, ⟨_, hx⟩, rfl⟩ := ha
  obtain ⟨y, ⟨_, hy⟩, rfl⟩ := hb
  simp at hx hy
  omega

theorem findR_of_mem {rs : List Rec} (hn : (rs.map (·.hid)).Nodup) {r : Rec} (hr : r ∈ rs) : findR rs r.hid = some r :=
  find_of_mem_nodup Rec.hid rs hn hr

theorem forall_of_found {P : Rec → Prop} {rs : List Rec} (hn : (rs.map (·.hid)).Nodup) {hid : Nat} {r : Rec} (hf : findR rs hid = some r)
    (hr : P r) (ho : ∀ r' ∈ rs, r'.hid ≠ hid → P r') : ∀ r' ∈ rs, P r' := by
  intro r' hr'
  by_cases e : r'.hid = hid
  · have h1 := findR_of_mem hn hr'
    rw [e, hf] at h1
    exact Option.some.inj h1 ▸ hr
  · exact ho r' hr' e

theorem sum_modRecs (g : Rec → Int) (hid : Nat) (f : Rec → Rec) (rs : List Rec) :
    ((modRecs hid f rs).map g).sum + (match findR rs hid with | some r => g r | none => 0) =
      (rs.map g).sum + (match findR rs hid with | some r => g (f r) | none => 0) := by
  induction rs with
  | nil => simp [modRecs, findR]
  | cons r rs ih =>
    unfold modRecs findR
    by_cases e : (r.hid == hid) = true
    · simp only [e, if_true, List.map_cons, List.sum_cons, List.find?]; omega
    · have e' : (r.hid == hid) = false := by simpa using e
      simp only [e', Bool.false_eq_true, if_false, List.map_cons, List.sum_cons, List.find?]
      unfold findR at ih
      omega

theorem sum_filter_split (g : Rec → Int) (p : Rec → Bool) (rs : List Rec) :
    ((rs.filter (fun r => !p r) ++ rs.filter p).map g).sum = (rs.map g).sum := by
  induction rs with
  | nil => rfl
  | cons r rs ih =>
    simp only [List.map_append, List.sum_append] at ih ⊢
    by_cases e : p r = true
    · simp [List.filter, e]; omega
    · have e' : p r = false := by simpa using e
      simp [List.filter, e']; omega

theorem sum_toEnd (g : Rec → Int) (db : DB) (hid : Nat) : ((db.toEnd hid).recs.map g).sum = (db.recs.map g).sum := by
  have := sum_filter_split g (fun r => r.hid == hid) db.recs
  unfold DB.toEnd; simpa [bne] using this

theorem newRec_recs (db : DB) (c : Cmd) : ∃ r0 : Rec, (db.newRec c).1.recs = db.recs ++ [r0] ∧ r0.hid = db.nextHid ∧ r0.depth = 0 ∧
    r0.queued = false ∧ r0.ack = NOACK ∧ r0.cmd = c ∧ r0.timeouted = true ∧ r0.expried = true := ⟨_, rfl, rfl, rfl, rfl, rfl, rfl, rfl, rfl⟩

theorem findR_none_of_ge {db : DB} (h : ∀ r ∈ db.recs, r.hid < db.nextHid) {a : Nat} (ha : a ≥ db.nextHid) : findR db.recs a = none := by
  unfold findR; rw [List.find?_eq_none]; intro r hr
  have := h r hr
  simp; omega

theorem newRec_getR (db : DB) (c : Cmd) (a : Nat) (ha : a ≠ db.nextHid) : (db.newRec c).1.getR a = db.getR a := by
  rw [getR_eq, getR_eq]
  show (findR (db.recs ++ [_]) a).getD _ = _
  simp only [findR, List.find?_append]
  cases List.find? (fun x => x.hid == a) db.recs with
  | some r => rfl
  | none =>
    have hb : (db.nextHid == a) = false := by simpa using fun h => ha h.symm
    simp [List.find?, hb]

theorem newRec_findR {db : DB} (h : ∀ r ∈ db.recs, r.hid < db.nextHid) (c : Cmd) : findR (db.newRec c).1.recs (db.newRec c).2 =
    some { hid := db.nextHid, cmd := c, startT := db.now, timeoutT := db.now + c.timeout + 1 } := by
  show findR (db.recs ++ [_]) db.nextHid = _
  simp only [findR, List.find?_append]
  rw [show List.find? (fun x => x.hid == db.nextHid) db.recs = none from findR_none_of_ge h (Nat.le_refl _)]
  simp [List.find?]

end Slock.Ack
