import Slock.Proofs.Engine2SimUnlock
/-! Simulation stage 2 → stage 1: a queued request leaves the queue (cancel, timeout) — the record is tombstoned where it sits, stage 1
removes "the first waiter with that (RequestId, connection)"; `settleWait`. -/
namespace Slock.Sim
open Slock Slock.Engine2
open Slock.Engine (has)

/-- the identity stage 1's `removeWaiter` goes by -/
def rcOf (w : Engine.Waiter) : Nat × Nat := (w.cmd.req, w.conn)

theorem removeWaiter_map (l : List Nat) (f : Nat → Engine.Waiter) (x : Nat) (hx : x ∈ l) (hnd : (l.map (fun y => rcOf (f y))).Nodup) :
    Engine.removeWaiter (l.map f) (f x) = (l.filter (· != x)).map f := by
  induction l with
  | nil => simp at hx
  | cons a as ih =>
    simp only [List.map_cons, List.nodup_cons] at hnd
    unfold Engine.removeWaiter
    by_cases e : a = x
    · subst e
      simp only [List.map_cons, beq_self_eq_true, Bool.and_self, if_true, List.filter, bne_self_eq_false]
      symm
      congr 1
      apply List.filter_eq_self.mpr
      intro y hy
      have : y ≠ a := by
        intro e; subst e
        exact hnd.1 (List.mem_map.mpr ⟨y, hy, rfl⟩)
      simpa using this
    · have hxa : x ∈ as := by rcases List.mem_cons.mp hx with h | h; exact absurd h.symm e; exact h
      have hne : ¬ ((f a).cmd.req = (f x).cmd.req ∧ (f a).conn = (f x).conn) := by
        intro ⟨e1, e2⟩
        apply hnd.1
        have : rcOf (f a) = rcOf (f x) := by unfold rcOf; rw [e1, e2]
        rw [this]
        exact List.mem_map.mpr ⟨x, hxa, rfl⟩
      have hc : ((f a).cmd.req == (f x).cmd.req && (f a).conn == (f x).conn) = false := by
        cases h1 : ((f a).cmd.req == (f x).cmd.req && (f a).conn == (f x).conn) with
        | false => rfl
        | true =>
          simp only [Bool.and_eq_true, beq_iff_eq] at h1
          exact absurd h1 hne
      simp only [List.map_cons, hc, Bool.false_eq_true, if_false]
      have hax : (a != x) = true := by simpa using e
      simp only [List.filter, hax, List.map_cons]
      rw [ih hxa hnd.2]

def keyW (k : Engine.Key) (ws : List Engine.Waiter) : Engine.Key := { k with waiters := ws }

theorem abs_tomb {k k' : Key} (x : Nat) (hk : k'.key = k.key) (hlk : k'.locked = k.locked) (hw : k'.waited = k.waited) (q : k'.queues = k.queues)
    (p : PKeepX πA (· = x) k' k)
    (hrec : ∀ y ∈ k.current.toList ++ k.locks ++ k.wait.map (·.rid), k'.hasRec y)
    (hm : x ∈ k.wait.map (·.rid)) (hd : k.deadWaiter x = false) (hd' : k'.deadWaiter x = true)
    (hnot : x ∉ k.current.toList ++ k.locks) (wu : ((Key.abs k).waiters.map rcOf).Nodup) :
    Key.abs k' = keyW (Key.abs k) (Engine.removeWaiter (Key.abs k).waiters (waiterOf k x)) := by
  obtain ⟨q1, q2, q3⟩ := queues_eq q
  refine abs_ext hk hlk ?_ ?_ hw
  · exact abs_holders_congr q1 q2 p (fun y hy e => hnot (e ▸ hy)) (fun y hy => hrec y (List.mem_append_left _ hy))
  · show (Key.abs k').waiters = Engine.removeWaiter (Key.abs k).waiters (waiterOf k x)
    rw [abs_waiters] at wu ⊢
    rw [List.map_map] at wu
    rw [abs_waiters, q3, removeWaiter_map _ (waiterOf k) x (List.mem_filter.mpr ⟨hm, by rw [hd]; rfl⟩) wu, List.filter_filter]
    apply filter_map_congr_on
    intro y hy
    by_cases e : y = x
    · subst e
      rw [hd']
      exact ⟨by simp, fun h => by simp at h⟩
    · obtain ⟨ht, hv⟩ := p.waiter e (hrec y (List.mem_append_right _ hy))
      exact ⟨by rw [ht]; simp [e], fun _ => hv⟩

theorem abs_settleWait (k : Key) (rc : RCx k zero) :
    Key.abs k.settleWait = { Key.abs k with waited := if (Key.abs k).waiters.isEmpty then false else k.waited } := by
  have ha := abs_getWaitLock k rc
  unfold Key.settleWait
  cases hr : k.getWaitLock.2 with
  | none =>
    simp only [Option.isNone_none, if_true]
    have hw0 : k.getWaitLock.1.wait = [] := waitSkip_none k.wait k rfl hr
    have hws : (Key.abs k).waiters = [] := by rw [← ha, abs_waiters, hw0]; rfl
    rw [hws]
    simp only [List.isEmpty_nil, if_true]
    show ({ Key.abs k.getWaitLock.1 with waited := false } : Engine.Key) = _
    rw [ha]
    exact abs_ext rfl rfl rfl hws rfl
  | some rid =>
    simp only [Option.isNone_some, Bool.false_eq_true, if_false]
    obtain ⟨e, rest, hw, he, hd⟩ := getWaitLock_some k rid hr
    have hws : (Key.abs k).waiters ≠ [] := by
      rw [← ha, abs_waiters, hw]
      simp only [List.map_cons, List.filter, he, hd, Bool.not_false]
      simp
    have : (Key.abs k).waiters.isEmpty = false := by
      cases h : (Key.abs k).waiters with
      | nil => exact absurd h hws
      | cons _ _ => rfl
    rw [this, ha]
    simp only [Bool.false_eq_true, if_false]
    exact abs_ext rfl rfl rfl rfl rfl

/-- **a tombstoned request leaves the wait queue** (`settleWait`): `w2` is `w` after the tombstone of record `x` and edits stage 1 does
not see (UNLOCK with the cancel flag drops the long-table entry there, `doTimeOut` nothing) -/
theorem Rel.settle_tomb {w w2 : W} {a : Engine.DB} {k1 : Engine.Key} {out1 : List Engine.Reply} (r : Rel w a k1 out1) (hg : w.gone = false)
    (x : Nat) (hm : x ∈ w.k.wait.map (·.rid)) (hd : w.k.deadWaiter x = false) (wu : (k1.waiters.map rcOf).Nodup)
    {f : Rec → Rec} (e : Edit x f id 0 w w2) (k2 : Wk True w2 none) (i2 : WI w2) (hd2 : w2.k.deadWaiter x = true) :
    Rel (w2.modK (·.settleWait)) a (keyCancel k1 (waiterOf w.k x)) out1 := by
  have l := r.live hg
  obtain rfl := l.abs
  have k3 := k2.settleWait
  have sx := e.sx
  obtain ⟨q1, q2, q3⟩ := queues_eq sx.q
  have hrec2 : ∀ y ∈ w.k.current.toList ++ w.k.locks ++ w.k.wait.map (·.rid), w2.k.hasRec y :=
    fun y hy => (e.hasRec y).mpr (hasRec_of_queues l.good.lv rfl y hy)
  have hnot : x ∉ w.k.current.toList ++ w.k.locks := by
    obtain ⟨y, hy, hyx⟩ := List.mem_map.mp hm
    exact hyx ▸ l.wq.sep y hy (by rw [hyx]; exact hd)
  have habs3 : Key.abs (w2.modK (·.settleWait)).k = keyCancel (Key.abs w.k) (waiterOf w.k x) := by
    show Key.abs w2.k.settleWait = _
    rw [abs_settleWait _ k2.lv.rc, abs_tomb x sx.key e.locked sx.waited sx.q sx.p hrec2 hm hd hd2 hnot wu,
      show w2.k.waited = (Key.abs w.k).waited from sx.waited]
    rfl
  have cn3 : CurNone (w2.modK (·.settleWait)).k := by
    obtain ⟨a1, a2⟩ := waitSkip_cl w2.k.wait w2.k
    show CurNone w2.k.settleWait
    unfold Key.settleWait
    split <;> exact (l.cn.of_cl q1 q2).of_cl a1 a2
  have sc3 : SC w (w2.modK (·.settleWait)) := e.sc.trans (SC.modK _ _)
  exact Rel.of_live (sc3.gone.trans hg) (sc3.scal r.sc) (by rw [sc3.out]; exact r.out)
    ⟨k3, cn3, WI.modK _ (KI.settleWait i2), habs3⟩

theorem tombPre_rel {w : W} {a : Engine.DB} {k1 : Engine.Key} {out1 : List Engine.Reply} (r : Rel w a k1 out1) (hg : w.gone = false)
    (x : Nat) (hm : x ∈ w.k.wait.map (·.rid)) (hd : w.k.deadWaiter x = false) (wu : (k1.waiters.map rcOf).Nodup) :
    Rel (tombPre w x) a (keyCancel k1 (waiterOf w.k x)) out1 := by
  have l := r.live hg
  have hq0 : 0 < w.k.qRefs x := qRefs_pos_of_wait_mem _ x hm
  have hh : w.k.hasRec x := l.good.lv.has hq0
  exact r.settle_tomb hg x hm hd wu (wakePre_edit w x)
    ((l.wk.tombstone x).dropLongT x ((hasRec_modR _ x x _).mpr hh) (fun _ => hq0)) ((l.wi.tomb x).dropLongT x)
    (wakePre_dead w x hh)

theorem keyCancel_fl (k : Engine.Key) (w : Engine.Waiter) : (keyCancel k w).waited = true → (keyCancel k w).waiters ≠ [] := by
  unfold keyCancel
  simp only []
  intro h e
  rw [e] at h
  simp at h

/-- **UNLOCK with the cancel flag hitting a queued request**: tombstone, `settleWait`, reclaim check, two replies, then the wake pass —
at the level of `applyUnlock`, for any state with `DBQ` and `KI` of the key (`SimP.sim_unlock_cancel`: for a reachable state, at the level of `opUnlock`) -/
theorem sim_unlock_cancel (s : DB) (hq : DBQ s) (c : Engine.Cmd) (data : Option Bytes) (x : Nat)
    (hcls : classifyUnlock s c = .cancel x)
    (hk : KI s.seq (s.getKey c.key)) (hki : Engine.KeyInv (Key.abs (s.getKey c.key))) (wu : ((Key.abs (s.getKey c.key)).waiters.map rcOf).Nodup) (m : Bool) :
    Agrees (applyUnlock s c data (.cancel x)) (Engine.applyUnlock (Engine2.abs s) { c with mgr := m } (.cancel (waiterOf (s.getKey c.key) x))) := by
  obtain ⟨hm, hd⟩ := classifyUnlock_cancel s c x hcls
  have hgone0 : (s.openKey c.key).gone = false :=
    openKey_live s c.key x ((Good.openKey hq.dbt.dbi hq.dbt.tight c.key).lv.has (qRefs_pos_of_wait_mem (s.openKey c.key).k x hm))
  have hki' := Engine.waiters_inv hki (keyCancel (Key.abs (s.getKey c.key)) (waiterOf (s.getKey c.key) x)).waiters
    (keyCancel (Key.abs (s.getKey c.key)) (waiterOf (s.getKey c.key) x)).waited
  have r5 := (((tombPre_rel (rel_openKey s hq c.key hk) hgone0 x hm hd wu).ctr ctrW).removeIfZero hki' (keyCancel_fl _ _)).ctr ctrU
  have r6 := (r5.reply c Engine.RESULT_LOCKED_ERROR 0 (cancelPre (s.openKey c.key) x).lockData).reply
    { ((s.openKey c.key).k.getR x).cmd with conn := ((s.openKey c.key).k.getR x).conn } Engine.RESULT_UNLOCK_ERROR 0 (cancelPre (s.openKey c.key) x).lockData
  rw [applyUnlock_cancel_eq, mkReply_mgr]
  exact (abs_getKey s hq.dbt.dbi.kn c.key).symm ▸ r6.wake_end (sim_unlock_finish s hq c data _ hcls) hki' (applyUnlock_cancel s c data x) rfl (getKey_key _ _)

end Slock.Sim
