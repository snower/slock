import Slock.Model.Elect
/-!
Facts about `compareAofId`, the candidate selection of `DoVote` and the proposal and commit handlers, each on its own.
-/
namespace Slock.Elect

theorem compareAofId_refl (a : AofId) : compareAofId a a = 0 := if_pos rfl

theorem compareAofId_of_gt {a b : AofId} (h : a.aid > b.aid) :
    compareAofId a b = if a.aid - b.aid ≥ WINDOW then -1 else 1 := by
  have hne : a ≠ b := fun e => Nat.lt_irrefl _ (e ▸ h)
  unfold compareAofId; rw [if_neg hne, if_pos h]

theorem compareAofId_of_lt {a b : AofId} (h : a.aid < b.aid) :
    compareAofId a b = if b.aid - a.aid ≥ WINDOW then 1 else -1 := by
  have hne : a ≠ b := fun e => Nat.lt_irrefl _ (e ▸ h)
  unfold compareAofId; rw [if_neg hne, if_neg (Nat.lt_asymm h), if_pos h]

theorem compareAofId_of_eq {a b : AofId} (hne : a ≠ b) (h : a.aid = b.aid) :
    compareAofId a b = if a.time > b.time then 1 else -1 := by
  unfold compareAofId; rw [if_neg hne, if_neg (by omega), if_neg (by omega)]

theorem compareAofId_ne_zero {a b : AofId} (h : a ≠ b) : compareAofId a b = 1 ∨ compareAofId a b = -1 := by
  rcases Nat.lt_trichotomy a.aid b.aid with h1 | h1 | h1
  · rw [compareAofId_of_lt h1]; split <;> simp
  · rw [compareAofId_of_eq h h1]; split <;> simp
  · rw [compareAofId_of_gt h1]; split <;> simp

theorem compareAofId_eq_zero_iff (a b : AofId) : compareAofId a b = 0 ↔ a = b := by
  constructor
  · intro h
    by_cases hab : a = b
    · exact hab
    · rcases compareAofId_ne_zero hab with h1 | h1 <;> rw [h1] at h <;> simp at h
  · intro h; rw [h]; exact compareAofId_refl b

theorem AofId.eq_of_fields {a b : AofId} (h1 : a.index = b.index) (h2 : a.offset = b.offset) (h3 : a.time = b.time) : a = b := by
  cases a; cases b; simp_all

theorem aid_inj {a b : AofId} (ha : a.WF) (hb : b.WF) (h : a.aid = b.aid) : a.index = b.index ∧ a.offset = b.offset := by
  unfold AofId.aid at h
  unfold AofId.WF at ha hb
  omega

theorem compareAofId_antisymm {a b : AofId} (ha : a.WF) (hb : b.WF) : compareAofId a b = - compareAofId b a := by
  by_cases hab : a = b
  · rw [hab, compareAofId_refl]; rfl
  rcases Nat.lt_trichotomy a.aid b.aid with h | h | h
  · rw [compareAofId_of_lt h, compareAofId_of_gt h]; split <;> rfl
  · have ht : a.time ≠ b.time := fun ht => hab (AofId.eq_of_fields (aid_inj ha hb h).1 (aid_inj ha hb h).2 ht)
    rw [compareAofId_of_eq hab h, compareAofId_of_eq (Ne.symm hab) h.symm]
    by_cases h5 : a.time > b.time
    · rw [if_pos h5, if_neg (by omega)]; rfl
    · rw [if_neg h5, if_pos (by omega)]
  · rw [compareAofId_of_gt h, compareAofId_of_lt h]; split <;> rfl

def InWindow (a b : AofId) : Prop := a.aid < b.aid + WINDOW ∧ b.aid < a.aid + WINDOW

instance (a b : AofId) : Decidable (InWindow a b) := by unfold InWindow; exact inferInstance

instance (a : AofId) : Decidable a.WF := by unfold AofId.WF; exact inferInstance

def LexGt (a b : AofId) : Prop := a.aid > b.aid ∨ (a.aid = b.aid ∧ a.time > b.time)

theorem compareAofId_pos_iff {a b : AofId} (hw : InWindow a b) : compareAofId a b > 0 ↔ LexGt a b := by
  unfold InWindow at hw
  unfold LexGt
  by_cases hab : a = b
  · subst hab; rw [compareAofId_refl]; omega
  rcases Nat.lt_trichotomy a.aid b.aid with h | h | h
  · rw [compareAofId_of_lt h, if_neg (by omega)]; omega
  · rw [compareAofId_of_eq hab h]; split <;> omega
  · rw [compareAofId_of_gt h, if_neg (by omega)]; omega

theorem LexGt_trans {a b c : AofId} (h1 : LexGt a b) (h2 : LexGt b c) : LexGt a c := by
  unfold LexGt at *; omega

theorem LexGt_irrefl (a : AofId) : ¬ LexGt a a := by
  unfold LexGt; omega

/-- `x` is strictly preferred to `y` by the selection loop: newer log; same log and larger weight; same and larger host -/
def Better (x y : VoteResp) : Prop :=
  compareAofId x.aof y.aof > 0 ∨ (x.aof = y.aof ∧ (x.weight > y.weight ∨ (x.weight = y.weight ∧ x.rank > y.rank)))

theorem Better_irrefl (x : VoteResp) : ¬ Better x x := by
  unfold Better
  rw [compareAofId_refl]
  intro h
  rcases h with h | ⟨_, h⟩
  · simp at h
  · omega

theorem pick_spec (sel r : VoteResp) : (pick sel r = r ∧ Better r sel) ∨ (pick sel r = sel ∧ ¬ Better r sel) := by
  unfold pick Better
  by_cases he : sel.aof = r.aof
  · rw [if_pos he, he, compareAofId_refl]
    by_cases hw : sel.weight < r.weight
    · simp [hw]
    · by_cases hw2 : sel.weight = r.weight
      · by_cases hr : sel.rank < r.rank
        · simp [hw2, hr]
        · right; simp [hw2, hr]
      · right; simp [hw, hw2]; omega
  · rw [if_neg he]
    split
    · exact Or.inl ⟨rfl, Or.inl ‹_›⟩
    · exact Or.inr ⟨rfl, fun h => h.elim ‹_› fun h => he h.1.symm⟩

def AllInWindow (l : List VoteResp) : Prop := ∀ x ∈ l, ∀ y ∈ l, InWindow x.aof y.aof

theorem Better_trans {l : List VoteResp} (hw : AllInWindow l) {x y z : VoteResp} (hx : x ∈ l) (hy : y ∈ l) (hz : z ∈ l)
    (h1 : Better x y) (h2 : Better y z) : Better x z := by
  unfold Better at *
  rw [compareAofId_pos_iff (hw x hx y hy)] at h1
  rw [compareAofId_pos_iff (hw y hy z hz)] at h2
  rw [compareAofId_pos_iff (hw x hx z hz)]
  rcases h1 with h1 | ⟨e1, h1⟩
  · rcases h2 with h2 | ⟨e2, h2⟩
    · left; exact LexGt_trans h1 h2
    · left; rw [← e2]; exact h1
  · rcases h2 with h2 | ⟨e2, h2⟩
    · left; rw [e1]; exact h2
    · right; exact ⟨e1.trans e2, by omega⟩

/-- what the selection loop of `DoVote` holds after the responses `seen`: nothing if none of them is electable, otherwise
an electable one to which no other is preferred -/
def Selected (seen : List VoteResp) : Option VoteResp → Prop
  | none => ∀ y ∈ seen, eligible y = false
  | some s => s ∈ seen ∧ eligible s = true ∧ ∀ y ∈ seen, eligible y = true → ¬ Better y s

theorem choose_selected : ∀ (rs seen : List VoteResp) (sel : Option VoteResp), AllInWindow (seen ++ rs) → Selected seen sel →
    Selected (seen ++ rs) (choose sel rs)
  | [], seen, sel, _, h => by rw [List.append_nil]; exact h
  | x :: rs, seen, sel, hw, h => by
    rw [List.append_cons] at hw ⊢
    unfold choose
    have mem : ∀ {y}, y ∈ seen ++ [x] → y ∈ seen ∨ y = x := by simp
    by_cases hx : eligible x = true
    · rw [if_pos hx]
      cases sel with
      | none =>
        refine choose_selected rs _ _ hw ⟨by simp, hx, fun y hy hye => ?_⟩
        rcases mem hy with hy | rfl
        · rw [h y hy] at hye; cases hye
        · exact Better_irrefl y
      | some s =>
        obtain ⟨hs, hse, hmax⟩ := h
        refine choose_selected rs _ _ hw ?_
        rcases pick_spec s x with ⟨hp, hb⟩ | ⟨hp, hb⟩ <;> rw [hp]
        · refine ⟨by simp, hx, fun y hy hye hc => ?_⟩
          rcases mem hy with hy | rfl
          · exact hmax y hy hye (Better_trans hw (by simp [hy]) (by simp) (by simp [hs]) hc hb)
          · exact Better_irrefl y hc
        · refine ⟨by simp [hs], hse, fun y hy hye => ?_⟩
          rcases mem hy with hy | rfl
          · exact hmax y hy hye
          · exact hb
    · rw [if_neg hx]
      refine choose_selected rs _ _ hw ?_
      cases sel with
      | none =>
        intro y hy
        rcases mem hy with hy | rfl
        · exact h y hy
        · simpa using hx
      | some s =>
        refine ⟨by simp [h.1], h.2.1, fun y hy hye => ?_⟩
        rcases mem hy with hy | rfl
        · exact h.2.2 y hy hye
        · exact absurd hye hx

theorem choose_max {rs : List VoteResp} (hw : AllInWindow rs) {r : VoteResp} (h : choose none rs = some r) :
    r ∈ rs ∧ eligible r = true ∧ ∀ y ∈ rs, eligible y = true → ¬ Better y r := by
  have := choose_selected rs [] none hw (fun _ hy => nomatch hy)
  rwa [h] at this

theorem choose_eq_none : ∀ (rs : List VoteResp) (sel : Option VoteResp), choose sel rs = none →
    sel = none ∧ ∀ y ∈ rs, eligible y = false
  | [], _, h => ⟨h, fun _ hy => nomatch hy⟩
  | x :: rs, sel, h => by
    unfold choose at h
    split at h
    · split at h <;> cases (choose_eq_none rs _ h).1
    · obtain ⟨h1, h2⟩ := choose_eq_none rs sel h
      exact ⟨h1, by simpa [‹¬ _›] using h2⟩

theorem handleProposal_refuse_newer (n self : Nat) (m : Member) (k host : Nat) (aof : AofId)
    (hd : m.arbiter = 0) (hn : compareAofId m.ownAof aof > 0) :
    handleProposal n self m k host aof = (.reject, m) := by
  unfold handleProposal classifyProposal
  simp [hd, hn]

theorem scanMembers_not_ok (rs sts : List Nat) (vs : List AofId) (a : AofId) (r : PropRes)
    (h : scanMembers rs sts vs a = some r) : r = .status ∨ r = .aofid := by
  induction rs generalizing sts vs with
  | nil => simp [scanMembers] at h
  | cons x rs ih =>
    cases sts with
    | nil => simp [scanMembers] at h
    | cons st sts =>
      cases vs with
      | nil => simp [scanMembers] at h
      | cons v vs =>
        simp only [scanMembers] at h
        split at h
        · left; injection h with h; exact h.symm
        · split at h
          · right; injection h with h; exact h.symm
          · exact ih sts vs h

theorem scanMembers_leader (rs sts : List Nat) (vs : List AofId) (a : AofId) (j : Nat)
    (hlen1 : rs.length = sts.length) (hlen2 : rs.length = vs.length) (hj : j < rs.length)
    (hr : getN rs j = ROLE_LEADER) (hs : getN sts j = STATUS_ONLINE) :
    scanMembers rs sts vs a = some .status ∨ scanMembers rs sts vs a = some .aofid := by
  induction rs generalizing sts vs j with
  | nil => simp at hj
  | cons x rs ih =>
    cases sts with
    | nil => simp at hlen1
    | cons st sts =>
      cases vs with
      | nil => simp at hlen2
      | cons v vs =>
        simp only [scanMembers]
        split
        · left; rfl
        · split
          · right; rfl
          · rename_i hnl _
            cases j with
            | zero =>
              simp only [getN] at hr hs
              exfalso; apply hnl; simp [hr, hs]
            | succ j =>
              simp only [getN] at hr hs
              exact ih sts vs j (by simpa using hlen1) (by simpa using hlen2) (by simpa using hj) hr hs

theorem ite_eq_elim {α : Type} {c : Prop} [Decidable c] {a b r : α} (h : (if c then a else b) = r) (hne : a ≠ r) :
    ¬ c ∧ b = r := by
  by_cases hc : c
  · rw [if_pos hc] at h; exact absurd h hne
  · rw [if_neg hc] at h; exact ⟨hc, h⟩

theorem classifyProposal_ok {n self : Nat} {m : Member} {k host : Nat} {aof : AofId} {old : Nat}
    (h : classifyProposal n self m k host aof = .ok old) :
    m.latch = none ∧ m.pid < k ∧ m.cid < k ∧ old = m.pid ∧ getN m.roles self ≠ ROLE_LEADER ∧
      scanMembers m.roles m.statuses m.views aof = none ∧ ¬ (m.arbiter = 0 ∧ compareAofId m.ownAof aof > 0) := by
  unfold classifyProposal at h
  obtain ⟨h1, h⟩ := ite_eq_elim h nofun
  obtain ⟨h2, h⟩ := ite_eq_elim h nofun
  cases hsc : scanMembers m.roles m.statuses m.views aof with
  | some r =>
    rw [hsc] at h
    rcases scanMembers_not_ok _ _ _ _ _ hsc with rfl | rfl <;> cases h
  | none =>
    rw [hsc] at h
    obtain ⟨_, h⟩ := ite_eq_elim h nofun
    obtain ⟨_, h⟩ := ite_eq_elim h nofun
    obtain ⟨h5, h⟩ := ite_eq_elim h nofun
    obtain ⟨h6, h⟩ := ite_eq_elim h nofun
    cases h
    simp only [Bool.or_eq_true, decide_eq_true_eq, not_or, Nat.not_le, Option.isSome_iff_ne_none, ne_eq, Decidable.not_not] at h5
    exact ⟨h5.2, h5.1, by omega, rfl, by simpa using h2, rfl, fun hh => h1 (by simp [hh.1, hh.2])⟩

theorem handleProposal_fst (n self : Nat) (m : Member) (k host : Nat) (aof : AofId) :
    (handleProposal n self m k host aof).1 = classifyProposal n self m k host aof := by
  unfold handleProposal; split <;> simp_all

theorem handleProposal_snd (n self : Nat) (m : Member) (k host : Nat) (aof : AofId) :
    (handleProposal n self m k host aof).2 = m ∨
    ∃ o, classifyProposal n self m k host aof = .ok o ∧ (handleProposal n self m k host aof).2 = { m with pid := k } := by
  unfold handleProposal
  split
  · next o h => exact Or.inr ⟨o, h, rfl⟩
  · exact Or.inl rfl

theorem classifyCommit_ok {n : Nat} {m : Member} {k host : Nat} (h : classifyCommit n m k host = .ok) :
    host < n ∧ m.pid = k ∧ m.cid < k := by
  unfold classifyCommit at h
  obtain ⟨h1, h⟩ := ite_eq_elim h nofun
  obtain ⟨h2, h⟩ := ite_eq_elim h nofun
  obtain ⟨h3, _⟩ := ite_eq_elim h nofun
  exact ⟨by omega, by simpa using h2, by omega⟩

theorem handleCommit_snd (n : Nat) (m : Member) (f k host : Nat) :
    (handleCommit n m f k host).2 = m ∨
    classifyCommit n m k host = .ok ∧ (handleCommit n m f k host).2 =
      { m with latch := some host, fromHost := some f, cid := k, commits := (k, host) :: m.commits } := by
  unfold handleCommit
  split
  · next h => exact Or.inr ⟨h, rfl⟩
  · exact Or.inl rfl

end Slock.Elect
