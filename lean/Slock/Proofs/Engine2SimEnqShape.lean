import Slock.Proofs.Engine2SimEnqList
import Slock.Proofs.Engine2QK
/-! Simulation stage 2 → stage 1: what `AddWaitLock` does to the wait queue, case by case. -/
namespace Slock.Sim
open Slock Slock.Engine2
open Slock.Engine (has)

/-- the re-filing of `RePushPriorityRingQueue` -/
def recache (k : Key) (e : WEnt) : WEnt := { e with prio := Engine.cmdPriority (k.getR e.rid).cmd }

theorem rePush_wait (k : Key) : k.rePush.wait = (k.wait.map (recache k)).foldl insertPrio [] ∧ k.rePush.waitPrio = true := ⟨rfl, rfl⟩

theorem rePush_perm (k : Key) : (k.rePush.wait.map (·.rid)).Perm (k.wait.map (·.rid)) := by
  have p := (foldl_insertPrio_perm (k.wait.map (recache k)) []).map (·.rid)
  rw [List.nil_append, List.map_map] at p
  exact p

theorem addWaitLock_pre (k : Key) (rid : Nat) :
    (k.addWaitLock rid).wait = ((if rePushes k rid then k.rePush else k).waitPush ⟨rid, Engine.cmdPriority (k.getR rid).cmd⟩).wait ∧
    (k.addWaitLock rid).waitPrio = ((if rePushes k rid then k.rePush else k).waitPush ⟨rid, Engine.cmdPriority (k.getR rid).cmd⟩).waitPrio := by
  rw [addWaitLock_eq]
  exact ⟨rfl, rfl⟩

theorem waitPush_prio (k : Key) (e : WEnt) (h : k.waitPrio = true) : (k.waitPush e).wait = insertPrio k.wait e ∧ (k.waitPush e).waitPrio = true := by
  unfold Key.waitPush
  rw [if_pos h]
  exact ⟨rfl, h⟩

theorem hclosed_wp (a : Bool) : HClosed (·.waitPrio = a) := ⟨fun k x h => (unref_queues k x).2.2.2.2.1.trans h, fun _ _ _ _ h => h⟩

theorem foldl_unrefW_wp (d : List WEnt) (k : Key) : (d.foldl (fun k x => k.unref x.rid) k).waitPrio = k.waitPrio :=
  foldl_unrefW_inv (hclosed_wp _).unref d rfl

/-- FIFO push: the entry goes to the back; a compaction drops tombstoned entries only -/
theorem waitPush_fifo (k : Key) (e : WEnt) (h : k.waitPrio = false) :
    (k.waitPush e).waitPrio = false ∧
    ((k.waitPush e).wait = k.wait ++ [e] ∨ (k.waitPush e).wait = k.wait.filter (fun x => !k.deadWaiter x.rid) ++ [e]) := by
  unfold Key.waitPush
  rw [if_neg (by rw [h]; simp)]
  simp only []
  split
  · exact ⟨h, Or.inl rfl⟩
  · split
    · rename_i hem
      refine ⟨h, Or.inl ?_⟩
      have : k.wait = [] := by simpa using hem
      rw [this]; rfl
    · refine ⟨?_, Or.inr ?_⟩
      · rw [foldl_unrefW_wp]; split <;> exact h
      · obtain ⟨_, _, q3⟩ := queues_eq (foldl_unrefW_queues (k.wait.filter (fun x => k.deadWaiter x.rid))
          (if (k.wait.filter (fun x => !k.deadWaiter x.rid)).length < k.waitPopped + k.wait.length then
            { k with wait := k.wait.filter (fun x => !k.deadWaiter x.rid) ++ [e], waitPopped := 0 }
           else { k with wait := k.wait.filter (fun x => !k.deadWaiter x.rid) ++ [e], waitCap := 2 * k.waitCap }))
        rw [q3]
        split <;> rfl

/-- a FIFO queue whose head asks for another priority is re-sorted
first (then the insertion is by priority); a priority queue gets the entry by priority; a FIFO queue gets it at the back, after a
compaction that keeps the live entries, or none. -/
theorem addWaitLock_ind {P : List WEnt → Bool → Prop} (k : Key) (rid : Nat)
    (resort : rePushes k rid = true →
      P (insertPrio ((k.wait.map (recache k)).foldl insertPrio []) ⟨rid, Engine.cmdPriority (k.getR rid).cmd⟩) true)
    (prio : rePushes k rid = false → k.waitPrio = true → P (insertPrio k.wait ⟨rid, Engine.cmdPriority (k.getR rid).cmd⟩) true)
    (fifo : rePushes k rid = false → k.waitPrio = false → ∀ l, l = k.wait ∨ l = k.wait.filter (fun x => !k.deadWaiter x.rid) →
      P (l ++ [⟨rid, Engine.cmdPriority (k.getR rid).cmd⟩]) false) :
    P (k.addWaitLock rid).wait (k.addWaitLock rid).waitPrio := by
  rw [(addWaitLock_pre k rid).1, (addWaitLock_pre k rid).2]
  cases hr : rePushes k rid with
  | true =>
    rw [if_pos rfl, (waitPush_prio k.rePush _ (rePush_wait k).2).1, (waitPush_prio k.rePush _ (rePush_wait k).2).2, (rePush_wait k).1]
    exact resort hr
  | false =>
    rw [if_neg Bool.false_ne_true]
    cases hp : k.waitPrio with
    | true => rw [(waitPush_prio k _ hp).1, (waitPush_prio k _ hp).2]; exact prio hr hp
    | false =>
      rw [(waitPush_fifo k _ hp).1]
      rcases (waitPush_fifo k ⟨rid, Engine.cmdPriority (k.getR rid).cmd⟩ hp).2 with e | e <;> rw [e]
      · exact fifo hr hp _ (Or.inl rfl)
      · exact fifo hr hp _ (Or.inr rfl)

theorem addWaitLock_mem (k : Key) (rid : Nat) (x : WEnt) (hx : x ∈ (k.addWaitLock rid).wait) :
    x = ⟨rid, Engine.cmdPriority (k.getR rid).cmd⟩ ∨ (∃ y ∈ k.wait, x = y ∨ x = recache k y) := by
  revert hx
  refine addWaitLock_ind (P := fun l _ => x ∈ l → x = ⟨rid, Engine.cmdPriority (k.getR rid).cmd⟩ ∨ ∃ y ∈ k.wait, x = y ∨ x = recache k y) k rid
    (fun _ hx => ?_) (fun _ _ hx => ?_) (fun _ _ l hl hx => ?_)
  · rcases (insertPrio_mem' _ _ x).mp hx with h | h
    · exact Or.inl h
    · rcases (mem_foldl_insertPrio _ [] x).mp h with h | h
      · simp at h
      · obtain ⟨y, hy, e⟩ := List.mem_map.mp h
        exact Or.inr ⟨y, hy, Or.inr e.symm⟩
  · rcases (insertPrio_mem' _ _ x).mp hx with h | h
    · exact Or.inl h
    · exact Or.inr ⟨x, h, Or.inl rfl⟩
  · rcases List.mem_append.mp hx with h | h
    · refine Or.inr ⟨x, ?_, Or.inl rfl⟩
      rcases hl with e | e <;> rw [e] at h
      · exact h
      · exact (List.mem_filter.mp h).1
    · exact Or.inl (by simpa using h)

theorem addWaitLock_waited (k : Key) (rid : Nat) : (k.addWaitLock rid).waited = true := rfl

end Slock.Sim
