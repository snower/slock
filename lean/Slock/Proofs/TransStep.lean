import Slock.Proofs.TransBasic
/-! M-TRANS: what `relay`, `dropLink` and the close hand to the client and to the leader; and a step seen from the one
connection it is addressed to (`connStep`, `step_cases`), so that a fact about steps is a fact about the functions that
act on one connection record. -/
namespace Slock.Trans
open Slock.Gen

variable {s : Node} {c c' : Nat} {x : Conn} {l : Link} {msg : LeaderMsg} {early : Bool} {m : ToClient} {f : Fwd} {e : Event}

theorem idx_lt (hx : s.conns[c]? = some x) : c < s.conns.length :=
  (List.getElem?_eq_some_iff.mp hx).1

theorem relay_client (h : (c', m) ∈ (relay s c x l msg early).2) :
    c' = c ∧ ((∃ r, msg = .lockRes r ∧ Carries m r) ∨
      (∃ rid res it, msg = .initRes rid res it ∧ m = .initRes rid res (rewriteInitType s.role s.addr it)) ∨
      (∃ rid res ct, msg = .callRes rid res ct ∧ m = .callRes rid res ct)) := by
  revert h
  -- the leaves of `relay` that hand something to the client: binary 1 a lock result, 2 a call result, 5 the answer to the link's
  -- own INIT; text 7 the lock result the handler is blocked on
  fun_cases relay s c x l msg early <;> intro h
  case case1 => cases List.mem_singleton.mp h; exact ⟨rfl, .inl ⟨_, rfl, .inl rfl⟩⟩
  case case2 => cases List.mem_singleton.mp h; exact ⟨rfl, .inr (.inr ⟨_, _, _, rfl, rfl⟩)⟩
  case case5 => cases List.mem_singleton.mp h; exact ⟨rfl, .inr (.inl ⟨_, _, _, rfl, rfl⟩)⟩
  case case7 =>
    unfold textDeliver at h
    cases hh : x.half <;> rw [hh] at h
    · cases List.mem_singleton.mp h; exact ⟨rfl, .inl ⟨_, rfl, carries_renderText _ _⟩⟩
    · cases h
  all_goals cases h

theorem relay_text_other {s : Node} {c : Nat} {x : Conn} {l : Link} {r : LockRes} {early : Bool}
    (hk : x.kind = .text) (ha : ∀ md, x.awaiting ≠ some (r.rid, md)) :
    (relay s c x l (.lockRes r) early).2 = [] := by
  rcases relay_text_lock s c l early hk r with ⟨md, h, _⟩ | ⟨_, h⟩
  · exact absurd h (ha md)
  · rw [h]

theorem rollbackMsg_some {msg : LeaderMsg} (h : rollbackMsg l = some msg) :
    ∃ ct, l.latestT = some ct ∧
      ((ct = .call ∧ msg = .callRes l.latestR C.RESULT_ERROR []) ∨ (ct ≠ .call ∧ msg = .lockRes (rollbackRes ct l.latestR))) := by
  unfold rollbackMsg at h
  split at h
  · cases h
  · cases h; rename_i h; exact ⟨_, h, .inl ⟨rfl, rfl⟩⟩
  · cases h; rename_i ct hne h; exact ⟨ct, h, .inr ⟨hne, rfl⟩⟩

theorem dropLink_client (h : (c', m) ∈ (dropLink s c x l).2.1) :
    c' = c ∧ ∃ ct, l.latestT = some ct ∧
      ((ct = .call ∧ m = .callRes l.latestR C.RESULT_ERROR []) ∨ (ct ≠ .call ∧ Carries m (rollbackRes ct l.latestR))) := by
  simp only [dropLink] at h
  split at h
  · rename_i hm
    obtain ⟨ct, hct, hcase⟩ := rollbackMsg_some hm
    obtain ⟨rfl, hsrc⟩ := relay_client h
    refine ⟨rfl, ct, hct, ?_⟩
    rcases hcase with ⟨rfl, rfl⟩ | ⟨hne, rfl⟩
    · rcases hsrc with ⟨_, hr, _⟩ | ⟨_, _, _, hr, _⟩ | ⟨_, _, _, hr, hm'⟩ <;> cases hr
      exact .inl ⟨rfl, hm'⟩
    · rcases hsrc with ⟨_, hr, hc⟩ | ⟨_, _, _, hr, _⟩ | ⟨_, _, _, hr, _⟩ <;> cases hr
      exact .inr ⟨hne, hc⟩
  · cases h

/-- what `Transparency*ServerProtocol.Close` writes to the leader: the connection's will commands, preceded by the INIT it
announced when the link has to be opened for them -/
def WillOf (x : Conn) (f : Fwd) : Prop :=
  (∃ w ∈ x.wills, f = .lk w.1 w.2) ∨ (∃ rid cid, x.initCmd = some (rid, cid) ∧ f = .init rid cid)

theorem openFwd_mem {ic : Option (Nat × Nat)} (h : f ∈ openFwd ic) : ∃ rid cid, ic = some (rid, cid) ∧ f = .init rid cid := by
  cases ic with
  | none => cases h
  | some p => exact ⟨p.1, p.2, rfl, List.mem_singleton.mp h⟩

theorem willFwd_mem (h : f ∈ willFwd x) : WillOf x f := by
  obtain ⟨w, hw, rfl⟩ := List.mem_map.mp h
  exact .inl ⟨w, hw, rfl⟩

theorem checkClient_pre {ic : Option (Nat × Nat)} {n : Bool} {pre : List Fwd}
    (h : checkClient s x ic = some (l, n, pre)) (hf : f ∈ pre) :
    x.link = none ∧ ∃ rid cid, ic = some (rid, cid) ∧ f = .init rid cid := by
  rcases checkClient_some h with ⟨_, _, rfl⟩ | ⟨_, hl, _, rfl, _, _⟩
  · cases hf
  · exact ⟨hl, openFwd_mem hf⟩

theorem closeFwd_mem (h : f ∈ closeFwd s x) : WillOf x f := by
  unfold closeFwd at h
  split at h
  · split at h
    · rename_i hcc
      rcases List.mem_append.mp h with h | h
      · obtain ⟨_, rid, cid, hic, rfl⟩ := checkClient_pre hcc h
        cases hk : x.kind <;> rw [hk] at hic
        · exact .inr ⟨rid, cid, hic, rfl⟩
        · cases hic
      · exact willFwd_mem h
    · cases h
  · cases h

/-- what the loss of its link sends to the leader: the INIT the detached link object re-sends when it reconnects, and the wills of a
half-closed text connection that closes here -/
theorem dropLink_fwd (h : (c', f) ∈ (dropLink s c x l).2.2) :
    c' = c ∧ ((∃ rid cid, l.initC = some (rid, cid) ∧ f = .init rid cid) ∨ WillOf x f) := by
  simp only [dropLink] at h
  rcases List.mem_append.mp h with h | h
  · obtain ⟨g, hg, he⟩ := List.mem_map.mp (List.mem_ite_nil_right.mp h).2
    cases he
    exact ⟨rfl, .inl (openFwd_mem hg)⟩
  · obtain ⟨g, hg, he⟩ := List.mem_map.mp h
    cases he
    exact ⟨rfl, .inr (closeFwd_mem (x := { x with link := none }) (List.mem_ite_nil_right.mp hg).2)⟩

def Event.target : Event → Option Nat
  | .request c _ _ | .leaderMsg c _ _ | .linkDown c | .close c | .closeCut c _ => some c
  | _ => none

def onLink (x : Conn) (g : Link → Conn × Out) : Conn × Out :=
  match x.link with
  | none => (x, { tag := .nolink })
  | some l => g l

def msgConn (s : Node) (c : Nat) (x : Conn) (m : LeaderMsg) (early : Bool) : Conn × Out :=
  onLink x fun l =>
    let r := relay s c x l m early
    (r.1, { tag := if r.2 = [] then .dropped else .relayed, client := r.2,
            fwd := (if r.1.closed ∧ !x.closed then willFwd x else []).map (fun f => (c, f)) })

def downConn (s : Node) (c : Nat) (x : Conn) : Conn × Out :=
  onLink x fun l => ((dropLink s c x l).1, { tag := .down, client := (dropLink s c x l).2.1, fwd := (dropLink s c x l).2.2 })

def closeConn (s : Node) (c : Nat) (x : Conn) (cut : Option Nat) : Conn × Out :=
  if x.closed then (x, { tag := .ign })
  else if x.awaiting.isSome then ({ x with half := true }, { tag := .deferred })
  else
    let fw := match cut with | none => closeFwd s x | some k => (closeFwd s x).take k
    ({ x with closed := true, link := none }, { tag := if fw = [] then .ok else .down, fwd := fw.map (fun f => (c, f)) })

/-- what the event does to the record `x` of the connection it is addressed to, and what it emits: the bodies of
`stepRequest`, `stepLeaderMsg`, `stepLinkDown`, `stepClose` below their look-up of the connection -/
def connStep (s : Node) (x : Conn) : Event → Conn × Out
  | .request c short q =>
    match q with
    | .will ct cmd => willConn s c x ct cmd
    | _ => applyConn s c x (reqRid q) (classify s x short q)
  | .leaderMsg c m early => msgConn s c x m early
  | .linkDown c => downConn s c x
  | .close c => closeConn s c x none
  | .closeCut c k => closeConn s c x (some k)
  | _ => (x, { tag := .ok })

theorem connStep_request {short : Bool} {q : Req} (hq : ∀ ct cmd, q ≠ .will ct cmd) :
    connStep s x (.request c short q) = applyConn s c x (reqRid q) (classify s x short q) := by
  cases q with
  | will ct cmd => exact absurd rfl (hq ct cmd)
  | _ => rfl

theorem step_target (ht : e.target = some c) (hx : s.conns[c]? = some x) :
    (step s e).1.conns = s.conns.set c (connStep s x e).1 ∧ (step s e).2 = (connStep s x e).2 := by
  have hself : s.conns = s.conns.set c x := by
    obtain ⟨h, rfl⟩ := List.getElem?_eq_some_iff.mp hx
    exact (List.set_getElem_self h).symm
  have hclose : ∀ cut, (stepClose s c cut).1.conns = s.conns.set c (closeConn s c x cut).1 ∧
      (stepClose s c cut).2 = (closeConn s c x cut).2 := by
    intro cut
    unfold stepClose closeConn
    simp only [hx]
    cases x.closed
    · cases x.awaiting <;> exact ⟨rfl, rfl⟩
    · exact ⟨hself, rfl⟩
  cases e with
  | request d short q => cases ht; simp only [step, stepRequest, hx]; cases q <;> exact ⟨rfl, rfl⟩
  | leaderMsg d m early =>
    cases ht
    cases hl : x.link <;> simp only [step, stepLeaderMsg, hx, connStep, msgConn, onLink, hl, ← hself, and_self]
  | linkDown d =>
    cases ht
    cases hl : x.link <;> simp only [step, stepLinkDown, hx, connStep, downConn, onLink, hl, ← hself, and_self]
  | close d => cases ht; exact hclose none
  | closeCut d k => cases ht; exact hclose (some k)
  | _ => cases ht

theorem step_target_none (ht : e.target = some c) (hx : s.conns[c]? = none) :
    (step s e).1.conns = s.conns ∧ (step s e).2.client = [] ∧ (step s e).2.fwd = [] := by
  cases e <;> cases ht <;> simp only [step, stepRequest, stepLeaderMsg, stepLinkDown, stepClose, hx, and_self]

/-- every event is an `accept`, a change of the leader address that takes all links down, addressed to one existing
connection, or leaves connections and outputs as they are -/
theorem step_cases (s : Node) (e : Event) :
    (∃ k, e = .accept k ∧ (step s e).1.conns = s.conns ++ [{ kind := k }] ∧ (step s e).2.client = [] ∧ (step s e).2.fwd = []) ∨
    (∃ a, e = .leader a ∧ (step s e).1.conns = (dropAll { s with addr := a } 0 s.conns).1 ∧
      (step s e).2.client = (dropAll { s with addr := a } 0 s.conns).2.1 ∧
      (step s e).2.fwd = (dropAll { s with addr := a } 0 s.conns).2.2.1) ∨
    ((step s e).1.conns = s.conns ∧ (step s e).2.client = [] ∧ (step s e).2.fwd = []) ∨
    (∃ c x, e.target = some c ∧ s.conns[c]? = some x ∧
      (step s e).1.conns = s.conns.set c (connStep s x e).1 ∧ (step s e).2 = (connStep s x e).2) := by
  cases ht : e.target with
  | some c =>
    cases hx : s.conns[c]? with
    | some x => exact .inr (.inr (.inr ⟨c, x, rfl, hx, step_target ht hx⟩))
    | none => exact .inr (.inr (.inl (step_target_none ht hx)))
  | none =>
    cases e with
    | accept k => exact .inl ⟨k, rfl, rfl, rfl, rfl⟩
    | leader a =>
      simp only [step, stepLeader]
      split
      · exact .inr (.inl ⟨a, rfl, rfl, rfl, rfl⟩)
      · exact .inr (.inr (.inl ⟨rfl, rfl, rfl⟩))
    | role r => exact .inr (.inr (.inl ⟨rfl, rfl, rfl⟩))
    | unattached d => exact .inr (.inr (.inl ⟨rfl, rfl, rfl⟩))
    | _ => cases ht

theorem onLink_some {g : Link → Conn × Out} (hl : x.link = some l) : onLink x g = g l := by
  simp only [onLink, hl]

theorem onLink_ind {g : Link → Conn × Out} {P : Conn × Out → Prop} (h0 : P (x, { tag := .nolink }))
    (h1 : ∀ l, x.link = some l → P (g l)) : P (onLink x g) := by
  unfold onLink
  split
  · exact h0
  · exact h1 _ ‹_›

theorem onLink_client {g : Link → Conn × Out} {p : Nat × ToClient} (h : p ∈ (onLink x g).2.client) :
    ∃ l, x.link = some l ∧ p ∈ (g l).2.client :=
  onLink_ind (P := fun r => p ∈ r.2.client → _) nofun (fun l hl h => ⟨l, hl, h⟩) h

theorem onLink_fwd {g : Link → Conn × Out} {p : Nat × Fwd} (h : p ∈ (onLink x g).2.fwd) :
    ∃ l, x.link = some l ∧ p ∈ (g l).2.fwd :=
  onLink_ind (P := fun r => p ∈ r.2.fwd → _) nofun (fun l hl h => ⟨l, hl, h⟩) h

/-- a half-closed text connection closes when the answer it waited for cannot be written: its wills go out -/
theorem msgConn_fwd (h : (c', f) ∈ (msgConn s c x msg early).2.fwd) : c' = c ∧ WillOf x f := by
  obtain ⟨l, _, h⟩ := onLink_fwd h
  obtain ⟨g, hg, he⟩ := List.mem_map.mp h
  cases he
  exact ⟨rfl, willFwd_mem (List.mem_ite_nil_right.mp hg).2⟩

theorem downConn_client (h : (c', m) ∈ (downConn s c x).2.client) :
    c' = c ∧ ∃ l ct, x.link = some l ∧ l.latestT = some ct ∧
      ((ct = .call ∧ m = .callRes l.latestR C.RESULT_ERROR []) ∨ (ct ≠ .call ∧ Carries m (rollbackRes ct l.latestR))) := by
  obtain ⟨l, hl, h⟩ := onLink_client h
  obtain ⟨rfl, ct, hct⟩ := dropLink_client h
  exact ⟨rfl, l, ct, hl, hct⟩

theorem downConn_fwd (h : (c', f) ∈ (downConn s c x).2.fwd) :
    c' = c ∧ ((∃ l rid cid, x.link = some l ∧ l.initC = some (rid, cid) ∧ f = .init rid cid) ∨ WillOf x f) := by
  obtain ⟨l, hl, h⟩ := onLink_fwd h
  obtain ⟨rfl, hsrc⟩ := dropLink_fwd h
  exact ⟨rfl, hsrc.imp (fun ⟨rid, cid, h⟩ => ⟨l, rid, cid, hl, h⟩) id⟩

theorem closeConn_client (s : Node) (c : Nat) (x : Conn) (cut : Option Nat) : (closeConn s c x cut).2.client = [] := by
  unfold closeConn
  cases x.closed
  · cases x.awaiting <;> rfl
  · rfl

theorem not_mem_closeConn_client {cut : Option Nat} {p : Nat × ToClient} (h : p ∈ (closeConn s c x cut).2.client) : False := by
  rw [closeConn_client] at h; cases h

theorem closeConn_fwd {cut : Option Nat} (h : (c', f) ∈ (closeConn s c x cut).2.fwd) : c' = c ∧ WillOf x f := by
  unfold closeConn at h
  cases hc : x.closed <;> rw [hc] at h
  · cases ha : x.awaiting <;> rw [ha] at h
    · obtain ⟨g, hg, he⟩ := List.mem_map.mp h
      cases he
      cases cut with
      | none => exact ⟨rfl, closeFwd_mem hg⟩
      | some k => exact ⟨rfl, closeFwd_mem (List.mem_of_mem_take hg)⟩
    · cases h
  · cases h

theorem dropAll_cons (s : Node) (i : Nat) (x : Conn) (xs : List Conn) :
    (dropAll s i (x :: xs)).1 = (downConn s i x).1 :: (dropAll s (i + 1) xs).1 ∧
    (dropAll s i (x :: xs)).2.1 = (downConn s i x).2.client ++ (dropAll s (i + 1) xs).2.1 ∧
    (dropAll s i (x :: xs)).2.2.1 = (downConn s i x).2.fwd ++ (dropAll s (i + 1) xs).2.2.1 := by
  cases hl : x.link <;> simp [dropAll, downConn, onLink, hl]

theorem dropAll_eq (s : Node) : ∀ (xs : List Conn) (i : Nat),
    (dropAll s i xs).1 = (xs.zipIdx i).map (fun p => (downConn s p.2 p.1).1) ∧
    (dropAll s i xs).2.1 = ((xs.zipIdx i).map (fun p => (downConn s p.2 p.1).2.client)).flatten ∧
    (dropAll s i xs).2.2.1 = ((xs.zipIdx i).map (fun p => (downConn s p.2 p.1).2.fwd)).flatten
  | [], _ => ⟨rfl, rfl, rfl⟩
  | x :: xs, i => by
    obtain ⟨h1, h2, h3⟩ := dropAll_cons s i x xs
    obtain ⟨t1, t2, t3⟩ := dropAll_eq s xs (i + 1)
    rw [h1, h2, h3, t1, t2, t3]
    exact ⟨rfl, rfl, rfl⟩

theorem dropAll_get (s : Node) (xs : List Conn) (j : Nat) :
    (dropAll s 0 xs).1[j]? = xs[j]?.map (fun x => (downConn s j x).1) := by
  rw [(dropAll_eq s xs 0).1, List.getElem?_map, List.getElem?_zipIdx]
  cases xs[j]? <;> simp

/-- among blocks of addressed messages, one per list element, of which the block of the element at index `j` is addressed
to `j` only: a message comes from the block of the element it is addressed to -/
theorem mem_blocks {α β : Type} {g : α × Nat → List (Nat × β)} (hg : ∀ q, ∀ p ∈ g q, p.1 = q.2) {xs : List α} {i : Nat}
    {p : Nat × β} (h : p ∈ ((xs.zipIdx i).map g).flatten) : ∃ x, i ≤ p.1 ∧ xs[p.1 - i]? = some x ∧ p ∈ g (x, p.1) := by
  obtain ⟨_, hl, hp⟩ := List.mem_flatten.mp h
  obtain ⟨⟨x, j⟩, hq, rfl⟩ := List.mem_map.mp hl
  obtain ⟨hj, hx⟩ := List.mem_zipIdx_iff_le_and_getElem?_sub.mp hq
  cases hg _ p hp
  exact ⟨x, hj, hx, hp⟩

theorem dropAll_client_mem {xs : List Conn} {i : Nat} {p : Nat × ToClient} (h : p ∈ (dropAll s i xs).2.1) :
    ∃ x, i ≤ p.1 ∧ xs[p.1 - i]? = some x ∧ p ∈ (downConn s p.1 x).2.client :=
  mem_blocks (fun _ _ hp => (downConn_client hp).1) ((dropAll_eq s xs i).2.1 ▸ h)

theorem dropAll_fwd_mem {xs : List Conn} {i : Nat} {p : Nat × Fwd} (h : p ∈ (dropAll s i xs).2.2.1) :
    ∃ x, i ≤ p.1 ∧ xs[p.1 - i]? = some x ∧ p ∈ (downConn s p.1 x).2.fwd :=
  mem_blocks (fun _ _ hp => (downConn_fwd hp).1) ((dropAll_eq s xs i).2.2 ▸ h)

end Slock.Trans
