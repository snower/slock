import Slock.Proofs.Engine2QK
import Slock.Proofs.EngineSimTickCases
/-! Stage-2 engine: where wheel entries are scheduled. Through every primitive step of an operation (`Ok.prim`), the timeout-wheel
entry and the expiry-wheel entry of a lock record are each: gone, what they were (same visit second, same sequence number), or
FRESH — armed by `AddTimeOut` / `AddExpried` for a second ≥ the sweeper's next check second. Then the sweeper's visits and firings:
what each does to the entry it was called for — afterwards that record has no entry on the swept wheel, or a fresh one. -/
namespace Slock.Engine2
open Slock.Engine (wheelAdd)

theorem wheelAdd_visit_ge (check seq d n : Nat) : check ≤ (wheelAdd check seq d n).2.visit := by
  unfold wheelAdd
  split
  · simp only []; split <;> omega
  · simp only []; split
    · split <;> omega
    · omega

/-- what the sweeps read of a wheel entry: the second it is scheduled for, and its sequence number -/
def πT (r : Rec) : Option (Nat × Nat) := r.tSched.map (fun s => (s.visit, s.seq))
def πE (r : Rec) : Option (Nat × Nat) := r.eSched.map (fun s => (s.visit, s.seq))
/-- … of the entry `sel` selects (`πT`, `πE` for `·.tSched`, `·.eSched`) -/
def πs (sel : Rec → Option Sched) (r : Rec) : Option (Nat × Nat) := (sel r).map (fun s => (s.visit, s.seq))

/-- none, unchanged, or fresh (scheduled after second `c`) -/
def Step (c : Nat) (n o : Option (Nat × Nat)) : Prop := n = none ∨ n = o ∨ ∃ v q, n = some (v, q) ∧ c < v

theorem Step.refl (c : Nat) (o : Option (Nat × Nat)) : Step c o o := Or.inr (Or.inl rfl)
theorem Step.trans {c : Nat} {a b d : Option (Nat × Nat)} (h1 : Step c a b) (h2 : Step c b d) : Step c a d := by
  rcases h1 with h | h | h
  · exact Or.inl h
  · rw [h]; exact h2
  · exact Or.inr (Or.inr h)
theorem Step.of_none {c : Nat} {a d : Option (Nat × Nat)} (h : Step c a none) : Step c a d := by
  rcases h with h | h | h
  · exact Or.inl h
  · exact Or.inl h
  · exact Or.inr (Or.inr h)
theorem Step.of_eq {c : Nat} {a b : Option (Nat × Nat)} (h : a = b) : Step c a b := Or.inr (Or.inl h)

structure RS (ct ce : Nat) (r' r : Rec) : Prop where
  t : Step ct (πT r') (πT r)
  e : Step ce (πE r') (πE r)

variable {ct ce : Nat}

theorem RS.refl (ct ce : Nat) (r : Rec) : RS ct ce r r := ⟨Step.refl _ _, Step.refl _ _⟩
theorem RS.trans {a b d : Rec} (h1 : RS ct ce a b) (h2 : RS ct ce b d) : RS ct ce a d := ⟨h1.t.trans h2.t, h1.e.trans h2.e⟩
theorem RS.of_eq {a b : Rec} (h1 : a.tSched = b.tSched) (h2 : a.eSched = b.eSched) : RS ct ce a b :=
  ⟨Step.of_eq (by unfold πT; rw [h1]), Step.of_eq (by unfold πE; rw [h2])⟩
theorem RS.of_dead {a d : Rec} {rid : Nat} (h : RS ct ce a (deadRec rid)) : RS ct ce a d := ⟨h.t.of_none, h.e.of_none⟩

/-- key-record level (lookups; a record that was not there counts as one without entries) -/
def KS (ct ce : Nat) (k' k : Key) : Prop := ∀ y, k'.hasRec y → RS ct ce (k'.getR y) (k.getR y)

theorem KS.refl (ct ce : Nat) (k : Key) : KS ct ce k k := fun _ _ => RS.refl _ _ _
theorem KS.trans {a b d : Key} (h1 : KS ct ce a b) (h2 : KS ct ce b d) : KS ct ce a d := by
  intro y hy
  by_cases hb : b.hasRec y
  · exact (h1 y hy).trans (h2 y hb)
  · have := h1 y hy
    rw [getR_of_not_hasRec b y hb] at this
    exact this.of_dead

theorem KS.of_pk {k' k : Key} (pT : PKeep πT k' k) (pE : PKeep πE k' k) : KS ct ce k' k :=
  fun y hy => ⟨Step.of_eq (pT.val y hy), Step.of_eq (pE.val y hy)⟩

theorem KS.of_recs {k' k : Key} (h : k'.recs = k.recs) : KS ct ce k' k := KS.of_pk (PKeep.of_eq h) (PKeep.of_eq h)

theorem KS.modRec (k : Key) (rid : Nat) (f : Rec → Rec) (hf : ∀ r, (f r).rid = r.rid) (hs : ∀ r, RS ct ce (f r) r) :
    KS ct ce (k.modRec rid f) k := by
  intro y hy
  have hk := (hasRec_modRec _ _ _ _ hf).mp hy
  by_cases e : y = rid
  · subst e; rw [getR_modRec_same _ _ _ hk hf]; exact hs _
  · rw [getR_modRec_other _ _ _ _ e hf]; exact RS.refl _ _ _

theorem KS.addRec (k : Key) (r : Rec) (h1 : r.tSched = none) (h2 : r.eSched = none) : KS ct ce (k.addRec r) k := by
  intro y hy
  by_cases hk : k.hasRec y
  · rw [getR_addRec _ _ _ hk]; exact RS.refl _ _ _
  ·
    obtain ⟨x, hx, e⟩ := hy
    rcases List.mem_append.mp hx with h3 | h3
    · exact absurd ⟨x, h3, e⟩ hk
    · obtain rfl : x = r := by simpa using h3
      subst e
      rw [getR_addRec_same k x hk]
      exact ⟨Or.inl (by unfold πT; rw [h1]; rfl), Or.inl (by unfold πE; rw [h2]; rfl)⟩

/-- working states: `w` is `w0` after steps of this kind, and the sweeper's check seconds are ahead of `ct` / `ce` -/
structure Ok (ct ce : Nat) (w0 w : W) : Prop where
  tc : ct < w.db.tCheck
  ec : ce < w.db.eCheck
  ks : KS ct ce w.k w0.k
  teq : w.db.tCheck = w0.db.tCheck
  eeq : w.db.eCheck = w0.db.eCheck

theorem Ok.refl {w : W} (h1 : ct < w.db.tCheck) (h2 : ce < w.db.eCheck) : Ok ct ce w w := ⟨h1, h2, KS.refl _ _ _, rfl, rfl⟩

theorem Ok.rebase {w0 w1 w : W} (h : Ok ct ce w1 w) (h0 : Ok ct ce w0 w1) : Ok ct ce w0 w :=
  ⟨h.tc, h.ec, h.ks.trans h0.ks, h.teq.trans h0.teq, h.eeq.trans h0.eeq⟩

/-- no edit of a record touches what the sweeps read of its entries, but for taking an entry off -/
theorem REdit.rs {b : Bool} {f : Rec → Rec} (hf : REdit b f) (r : Rec) : RS ct ce (f r) r := by
  cases hf
  case clearT => exact ⟨Or.inl rfl, Step.of_eq rfl⟩
  case clearE => exact ⟨Step.of_eq rfl, Or.inl rfl⟩
  case collect => exact ⟨Step.of_eq (by unfold πT; show Option.map _ (Option.map _ r.tSched) = _; cases r.tSched <;> rfl), Step.of_eq rfl⟩
  case upd db s c =>
    refine ⟨Step.of_eq (by unfold πT; rw [(updF_fields db s c r).tSched]), Step.of_eq ?_⟩
    unfold updF πE
    cases s <;> cases (Slock.Engine.has c.eflag Slock.Engine.EF_UNLIMITED && decide (c.expried ≥ 0xffff)) <;> cases r.eSched <;> rfl
  all_goals exact RS.of_eq rfl rfl

namespace Ok
variable {w0 w : W} (h : Ok ct ce w0 w)
include h

theorem self : Ok ct ce w w := Ok.refl h.tc h.ec

theorem key {w' : W} (h1 : w'.db.tCheck = w.db.tCheck) (h2 : w'.db.eCheck = w.db.eCheck) (hk : KS ct ce w'.k w.k) : Ok ct ce w0 w' :=
  ⟨by rw [h1]; exact h.tc, by rw [h2]; exact h.ec, hk.trans h.ks, h1.trans h.teq, h2.trans h.eeq⟩

omit h in
theorem newLock (h : Ok ct ce w0 w) (c : Cmd) (d : Option Bytes) : Ok ct ce w0 (w.newLock c d).1 :=
  h.key rfl rfl (KS.addRec w.k _ rfl rfl)

theorem prim {data : Option Bytes} {b q : Bool} {w' : W} : Prim data b q w w' → Ok ct ce w0 w'
  | .edit _ rid f hf => h.key rfl rfl (KS.modRec w.k rid f hf.rid hf.rs)
  | .free _ rid => h.key rfl rfl (KS.of_pk (PKeep.free _ rid) (PKeep.free _ rid))
  | .shape _ k' hk => h.key rfl rfl (KS.of_recs hk.recs)
  | .newLock _ c => h.newLock c data
  | .addTimeOut _ rid =>
    h.key rfl rfl (KS.modRec w.k rid _ (by intro _; rfl) fun _ =>
      ⟨Or.inr (Or.inr ⟨_, _, rfl, Nat.lt_of_lt_of_le h.tc (wheelAdd_visit_ge _ _ _ _)⟩), Step.of_eq rfl⟩)
  | .schedExpried _ rid =>
    h.key rfl rfl (KS.modRec w.k rid _ (by intro _; rfl) fun _ =>
      ⟨Step.of_eq rfl, Or.inr (Or.inr ⟨_, _, rfl, Nat.lt_of_lt_of_le h.ec (wheelAdd_visit_ge _ _ _ _)⟩)⟩)
  | .reclaim _ hg h0 => by
    unfold W.removeIfZero
    rw [if_pos (by simp [hg, h0])]
    exact h.key rfl rfl (KS.of_recs rfl)
  | .locked .. | .cell .. | .cellAof .. | .reply .. | .out .. | .ctr .. | .panic .. | .journal .. => h.key rfl rfl (KS.of_recs rfl)

theorem chain {data : Option Bytes} {b q : Bool} {w' : W} (c : Chain data b q w w') : Ok ct ce w0 w' := c.ind (fun _ _ p h => h.prim p) h

end Ok

open Slock.Engine (has)

/-- no entry, or one scheduled after second `c` -/
def Ahead (c : Nat) (o : Option (Nat × Nat)) : Prop := o = none ∨ ∃ v q, o = some (v, q) ∧ c < v

theorem ahead_of_step {c : Nat} {n : Option (Nat × Nat)} (h : Step c n none) : Ahead c n := h.elim Or.inl (·.elim Or.inl Or.inr)

/-- the sweeper's presence check (`!hasT` / `!hasE`) failed -/
theorem not_has_ahead {sel : Rec → Option Sched} {c : Nat} {k : Key} (rid : Nat)
    (h : (!(k.recs.any (·.rid == rid) && (sel (k.getR rid)).isSome)) = true) (hh : k.hasRec rid) : Ahead c (πs sel (k.getR rid)) := by
  rw [(any_iff_hasRec k rid).mpr hh] at h
  have : sel (k.getR rid) = none := by simpa using h
  exact Or.inl (by unfold πs; rw [this]; rfl)

theorem getR_cleared {α : Type} (π : Rec → Option α) (hd : ∀ rid, π (deadRec rid) = none) (w : W) (rid : Nat) (clr : Rec → Rec)
    (hrid : ∀ r, (clr r).rid = r.rid) (hclr : ∀ r, π (clr r) = none) : π ((w.modR rid clr).k.getR rid) = none := by
  by_cases hk : w.k.hasRec rid
  · exact (congrArg π (getR_modRec_same _ _ _ hk hrid)).trans (hclr _)
  · rw [getR_of_not_hasRec _ _ (mt (hasRec_modR w rid rid clr hrid).mp hk)]; exact hd rid

/-- A chain of `Ok` steps in which the sweeper drops its timeout entry of `rid` (`dropT` = clear the entry, `unrefCheck`): whatever
`Ok` steps follow, `rid`'s entry stays gone or is a fresh one. Seen from the state in which the entry was just cleared, every later
entry is new. -/
theorem swept_dropT {ct ce : Nat} {w wm w' : W} (hpre : Ok ct ce w wm) (rid : Nat)
    (hpost : Ok ct ce (wm.dropT rid) (wm.dropT rid) → Ok ct ce (wm.dropT rid) w') :
    Ok ct ce w w' ∧ (w'.k.hasRec rid → Ahead ct (πT (w'.k.getR rid))) := by
  have hd := hpre.chain ((Chain.nil none _).dropT rid)
  have h := hpost hd.self
  have hm : Ok ct ce (wm.modR rid fun r => { r with tSched := none }) (wm.dropT rid) :=
    (Ok.refl (w := wm.modR rid _) hpre.tc hpre.ec).chain ((Chain.nil none _).unrefCheck rid)
  refine ⟨h.rebase hd, fun hh => ahead_of_step ?_⟩
  have hs := ((h.rebase hm).ks rid hh).t
  rwa [getR_cleared πT (fun _ => rfl) wm rid (fun r => { r with tSched := none }) (fun _ => rfl) (fun _ => rfl)] at hs

theorem swept_dropE {ct ce : Nat} {w wm w' : W} (hpre : Ok ct ce w wm) (rid : Nat)
    (hpost : Ok ct ce (wm.dropE rid) (wm.dropE rid) → Ok ct ce (wm.dropE rid) w') :
    Ok ct ce w w' ∧ (w'.k.hasRec rid → Ahead ce (πE (w'.k.getR rid))) := by
  have hd := hpre.chain ((Chain.nil none _).dropE rid)
  have h := hpost hd.self
  have hm : Ok ct ce (wm.modR rid fun r => { r with eSched := none }) (wm.dropE rid) :=
    (Ok.refl (w := wm.modR rid _) hpre.tc hpre.ec).chain ((Chain.nil none _).unrefCheck rid)
  refine ⟨h.rebase hd, fun hh => ahead_of_step ?_⟩
  have hs := ((h.rebase hm).ks rid hh).e
  rwa [getR_cleared πE (fun _ => rfl) wm rid (fun r => { r with eSched := none }) (fun _ => rfl) (fun _ => rfl)] at hs

theorem addTimeOut_fresh {ct : Nat} (w : W) (rid : Nat) (h : ct < w.db.tCheck) (hh : (w.addTimeOut rid).k.hasRec rid) :
    Ahead ct (πT ((w.addTimeOut rid).k.getR rid)) := by
  unfold W.addTimeOut at hh ⊢
  simp only [] at hh ⊢
  rw [getR_modRec_same _ _ _ ((hasRec_modRec _ _ _ _ (by intro _; rfl)).mp hh)]
  exact Or.inr ⟨_, _, rfl, Nat.lt_of_lt_of_le h (wheelAdd_visit_ge _ _ _ _)⟩

/-- after `AddExpried` the entry is the fresh one (journalling does not touch it) -/
theorem addExpried_fresh {ce : Nat} (w : W) (rid : Nat) (h : ce < w.db.eCheck) (hh : (w.addExpried rid).k.hasRec rid) :
    Ahead ce (πE ((w.addExpried rid).k.getR rid)) := by
  have hsch : Ahead ce (πE ((w.schedExpried rid).k.getR rid)) := by
    unfold W.schedExpried
    simp only []
    rw [getR_modRec_same _ _ _ ((pk_addExpried ins_depth w rid fun _ _ => rfl).sub rid hh)]
    exact Or.inr ⟨_, _, rfl, Nat.lt_of_lt_of_le h (wheelAdd_visit_ge _ _ _ _)⟩
  rw [(book_addExpried w rid).proj (π := πE) ⟨fun _ _ => rfl, fun _ _ => rfl, fun _ _ => rfl, fun _ _ => rfl⟩]; exact hsch

theorem fireTimeout_ok {ct ce : Nat} {w : W} (h0 : Ok ct ce w w) (rid : Nat) :
    Ok ct ce w (w.fireTimeout rid) ∧ ((w.fireTimeout rid).k.hasRec rid → Ahead ct (πT ((w.fireTimeout rid).k.getR rid))) := by
  unfold W.fireTimeout
  by_cases h1 : (!w.k.hasT rid) = true
  · rw [if_pos h1]; exact ⟨h0.chain (Chain.nil none _).wheelBroken, not_has_ahead rid h1⟩
  rw [if_neg h1]
  by_cases h2 : (w.k.getR rid).timeouted = true
  · rw [if_pos h2]; exact swept_dropT h0 rid id
  rw [if_neg h2]
  exact swept_dropT (h0.chain ((((Chain.nil none _).modR rid .tomb).settleWait).ctr _)) rid
    fun h => h.chain ((((Chain.nil none _).ctr _).reply _ _ _ _).wake)

theorem fireExpire_ok {ct ce : Nat} {w : W} (h0 : Ok ct ce w w) (rid : Nat) :
    Ok ct ce w (w.fireExpire rid) ∧ ((w.fireExpire rid).k.hasRec rid → Ahead ce (πE ((w.fireExpire rid).k.getR rid))) := by
  unfold W.fireExpire
  by_cases h1 : (!w.k.hasE rid) = true
  · rw [if_pos h1]; exact ⟨h0.chain (Chain.nil none _).wheelBroken, not_has_ahead rid h1⟩
  rw [if_neg h1]
  by_cases h2 : (w.k.getR rid).expried = true
  · rw [if_pos h2]; exact swept_dropE h0 rid id
  rw [if_neg h2]
  by_cases h3 : deferExpiry w.db (w.k.getR rid) = true
  · rw [if_pos h3]
    have h4 := h0.chain ((Chain.nil none _).modR rid (.expT (w.db.now + 30)))
    exact ⟨h4.chain ((Chain.nil none _).addExpried rid), addExpried_fresh _ rid h4.ec⟩
  rw [if_neg h3]
  exact swept_dropE (h0.chain (((((Chain.nil none _).modR rid .expire).setLocked (· - _)).when _ _
    (·.pushUnLockAof rid _ false false AOF_EXPRIED)).removeLock rid)) rid
    fun h => h.chain ((((Chain.nil none _).ctr _).reply _ _ _ _).wake)

/-- visiting an entry that is not there or a tombstone's is firing it; a live one is re-armed or collected (`EngineSimTickCases`) -/
theorem visitTimeout_ok {ct ce : Nat} {w : W} (h0 : Ok ct ce w w) (slot : Bool) (rid : Nat) (w' : W) (hv : w.visitTimeout slot rid = some w') :
    Ok ct ce w w' ∧ (w'.k.hasRec rid → Ahead ct (πT (w'.k.getR rid))) := by
  by_cases hd : w.k.hasT rid = false ∨ (w.k.getR rid).timeouted = true
  · rw [SimTick.visitTimeout_dead w slot rid hd] at hv; cases hv; exact fireTimeout_ok h0 rid
  rw [SimTick.visitT_live_cases w slot rid (by simpa using fun h => hd (Or.inl h)) (by simpa using fun h => hd (Or.inr h))] at hv
  split at hv
  · cases hv
    have h4 := h0.chain ((Chain.nil none _).modR rid .backoffT)
    exact ⟨h4.chain ((Chain.nil none _).addTimeOut rid), addTimeOut_fresh _ rid h4.tc⟩
  · cases hv

theorem visitExpire_ok {ct ce : Nat} {w : W} (h0 : Ok ct ce w w) (slot : Bool) (rid : Nat) (w' : W) (hv : w.visitExpire slot rid = some w') :
    Ok ct ce w w' ∧ (w'.k.hasRec rid → Ahead ce (πE (w'.k.getR rid))) := by
  by_cases hd : w.k.hasE rid = false ∨ (w.k.getR rid).expried = true
  · rw [SimTick.visitExpire_dead w slot rid hd] at hv; cases hv; exact fireExpire_ok h0 rid
  rw [SimTick.visitE_live_cases w slot rid (by simpa using fun h => hd (Or.inl h)) (by simpa using fun h => hd (Or.inr h))] at hv
  split at hv
  · cases hv
    have h4 := h0.chain ((Chain.nil none _).modR rid .backoffE)
    exact ⟨h4.chain ((Chain.nil none _).addExpried rid), addExpried_fresh _ rid h4.ec⟩
  · cases hv

end Slock.Engine2
