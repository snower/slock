import Slock.Proofs.EngineWheel
/-!
Queue order as a REACHABLE-state invariant (used by C19's PriorityLock hand-over and, through `EngineQuiet`, by C04): every
key's wait queue stays sorted by priority (higher first) through every operation — lock, unlock, both sweeps of a tick.

The model identifies a queued request by (connection, RequestId) when the timeout sweep re-arms it (`updateWaiter`), so the
invariant needs what real clients guarantee: a request id is not reused while a request bearing it is still queued
(`Fresh`). `IdDet` is the resulting state invariant: queued requests with equal ids are equal commands.
-/
namespace Slock.Engine

def IdDet (db : DB) : Prop :=
  ∀ a ∈ allW db, ∀ b ∈ allW db, a.cmd.req = b.cmd.req → a.conn = b.conn → a.cmd = b.cmd

/-- queued requests of `d` and of `d0` with equal ids are equal commands; `IdDet db` is `Agree db db` -/
def Agree (d d0 : DB) : Prop :=
  ∀ x ∈ allW d, ∀ y ∈ allW d0, x.cmd.req = y.cmd.req → x.conn = y.conn → x.cmd = y.cmd

def DBSorted (db : DB) : Prop := ∀ k ∈ db.keys, PrioSorted k.waiters

def QInv (db : DB) : Prop := IdDet db ∧ DBSorted db

def Fresh (db : DB) (c : Cmd) : Prop := ∀ w ∈ allW db, ¬ (w.cmd.req = c.req ∧ w.conn = c.conn)

theorem IdDet.of_sub {db db' : DB} (h : IdDet db) (hs : ∀ x ∈ allW db', x ∈ allW db) : IdDet db' :=
  fun a ha b hb => h a (hs a ha) b (hs b hb)

theorem IdDet.init (n : Nat) : IdDet (DB.init n) := by intro a ha; simp [allW, DB.init] at ha
theorem DBSorted.init (n : Nat) : DBSorted (DB.init n) := by intro k hk; simp [DB.init] at hk

theorem PrioSorted.sublist {ws ws' : List Waiter} (h : PrioSorted ws) (hs : ws'.Sublist ws) : PrioSorted ws' :=
  List.Pairwise.sublist hs h

theorem sorted_map_same (ws : List Waiter) (f : Waiter → Waiter)
    (hf : ∀ x ∈ ws, cmdPriority (f x).cmd = cmdPriority x.cmd) (hs : PrioSorted ws) : PrioSorted (ws.map f) := by
  induction ws with
  | nil => simp [PrioSorted]
  | cons x xs ih =>
    have hx := List.pairwise_cons.mp hs
    simp only [List.map_cons]
    apply List.pairwise_cons.mpr
    refine ⟨?_, ih (fun y hy => hf y (List.mem_cons_of_mem _ hy)) hx.2⟩
    intro z hz
    obtain ⟨y, hy, e⟩ := List.mem_map.mp hz
    have h1 := hx.1 y hy
    have h2 := hf x (by simp)
    have h3 := hf y (List.mem_cons_of_mem _ hy)
    rw [← e, h2, h3]; exact h1

theorem getKey_sorted {db : DB} (h : DBSorted db) (n : Nat) : PrioSorted (db.getKey n).waiters :=
  KeysAll.getKey (P := fun k => PrioSorted k.waiters) h (fun _ => List.Pairwise.nil) n

theorem DBSorted.of_keys_eq {db db' : DB} (h : DBSorted db) (e : db'.keys = db.keys) : DBSorted db' := KeysAll.of_keys_eq h e

theorem QInv.of_keys_eq {db db' : DB} (h : QInv db) (e : db'.keys = db.keys) : QInv db' :=
  ⟨h.1.of_sub (fun _ hx => mem_allW_of_keys_eq e hx), h.2.of_keys_eq e⟩

/-- what is carried through an operation that began in `d0`: queue order, and the queued requests agree on equal ids among
themselves and with those queued in `d0` (the sweep re-arms copies it collected in `d0`) -/
def QAgree (d0 : DB) (d : DB) : Prop := QInv d ∧ Agree d d0

theorem QInv.qagree {db : DB} (h : QInv db) : QAgree db db := ⟨h, h.1⟩

variable {db0 db d : DB} {s : Src} {n : Nat} {wk : Bool} {k : Key} {out : List Reply}

/-- whatever is queued under the id of a request of `db0` carries its command: the re-armed copy changes no command -/
theorem rearm_map_cmd {w : Waiter} (ha : Agree db db0) (hw : w ∈ allW db0) : ∀ x ∈ (db.getKey w.cmd.key).waiters,
    (if x.cmd.req == w.cmd.req && x.conn == w.conn then rearmed db w else x).cmd = x.cmd := by
  intro x hx
  split
  · rename_i hm
    have hm' : x.cmd.req = w.cmd.req ∧ x.conn = w.conn := by simpa using hm
    exact (ha x (mem_getKey_waiters hx) w hw hm'.1 hm'.2).symm
  · rfl

theorem PrioSorted.edit (e : Edit db0 db s n wk d k out) (ha : Agree db db0) (hk : PrioSorted (db.getKey n).waiters) :
    PrioSorted k.waiters := by
  cases e with
  | queue => exact insertWaiter_sorted _ _ hk
  | cancel | timeout => exact hk.sublist (removeWaiter_sublist _ _)
  | rearmW w hw => exact sorted_map_same _ _ (fun x hx => congrArg cmdPriority (rearm_map_cmd ha hw x hx)) hk
  | _ => exact hk

/-- A LOCK that queues carries an id that no queued request bears; a sweep only re-arms copies of what the operation
began with. So a new request agrees with everything queued now or at the beginning, and with every other new one. -/
theorem QAgree.edit (e : Edit db0 db s n wk d k out) (hf : ∀ c, s = .lock c → Fresh db c ∧ Fresh db0 c) (h0 : IdDet db0)
    (h : QAgree db0 db) : QAgree db0 (store wk d k out).1 := by
  obtain ⟨⟨hid, hs⟩, hag⟩ := h
  have hold : ∀ x, NewW db0 db s n x → (∀ y ∈ allW db, y.cmd.req = x.cmd.req → y.conn = x.conn → y.cmd = x.cmd) ∧
      ∀ y ∈ allW db0, y.cmd.req = x.cmd.req → y.conn = x.conn → y.cmd = x.cmd := by
    intro x hx
    cases hx with
    | queue c => exact ⟨fun y hy e1 e2 => ((hf c rfl).1 y hy ⟨e1, e2⟩).elim, fun y hy e1 e2 => ((hf c rfl).2 y hy ⟨e1, e2⟩).elim⟩
    | rearm _ _ w0 hw0 => exact ⟨fun y hy e1 e2 => hag y hy w0 hw0 e1 e2, fun y hy e1 e2 => h0 y hy w0 hw0 e1 e2⟩
  have hnew : ∀ x y, NewW db0 db s n x → NewW db0 db s n y → x.cmd.req = y.cmd.req → x.conn = y.conn → x.cmd = y.cmd := by
    intro x y hx hy e1 e2
    cases hx with
    | queue c =>
      cases hy with
      | queue => rfl
      | rearm _ _ w1 hw1 => exact ((hf c rfl).2 w1 hw1 ⟨e1.symm, e2.symm⟩).elim
    | rearm _ _ w0 hw0 => exact ((hold y hy).2 w0 hw0 e1 e2)
  refine ⟨⟨fun a ha b hb e1 e2 => ?_, ?_⟩, fun x hx y hy e1 e2 => ?_⟩
  · rcases e.allW ha with h1 | h1 <;> rcases e.allW hb with h2 | h2
    · exact hid a h1 b h2 e1 e2
    · exact (hold b h2).1 a h1 e1 e2
    · exact ((hold a h1).1 b h2 e1.symm e2.symm).symm
    · exact hnew a b h1 h2 e1 e2
  · exact keysAll_edit (P := fun _ q => PrioSorted q.waiters) (fun _ _ h => h)
      (fun _ q _ _ _ _ hq hw => by
        obtain ⟨w, rest, e1, _, ⟨_, _, rfl, _⟩ | ⟨_, _, rfl, _⟩⟩ := wakeIter_some hw <;>
          exact (List.pairwise_cons.mp (e1 ▸ hq)).2)
      (fun _ _ h => h) e hs (PrioSorted.edit e hag (getKey_sorted hs n))
  · rcases e.allW hx with h1 | h1
    · exact hag x h1 y hy e1 e2
    · exact ((hold x h1).2 y hy e1.symm e2.symm).symm

theorem opLock_qinv (db : DB) (c : Cmd) (hf : Fresh db c) (h : QInv db) : QInv (opLock db c).1 :=
  opLock_edit db c (Q := fun p => QInv p.1) (fun _ _ _ => h) fun _ _ _ _ e =>
    (h.qagree.edit e (fun _ hc => by cases hc; exact ⟨hf, hf⟩) h.1).1

theorem opUnlock_qinv (db : DB) (c : Cmd) (h : QInv db) : QInv (opUnlock db c).1 :=
  opUnlock_edit db c (Q := fun p => QInv p.1) (fun _ _ _ => h.of_keys_eq rfl) fun _ _ _ e =>
    (h.qagree.edit e (fun _ hc => nomatch hc) h.1).1

/-- On a sorted queue, the first request a wake pass grants (the second reply of a step whose own reply is the first) has
maximal priority among ALL queued requests of the key. -/
theorem wake_second_max {db : DB} {k : Key} {ws : List Waiter} {r0' r0 r1 : Reply} {rest : List Reply} (hs : PrioSorted ws)
    (h : (wake db k [r0']).2.2 = r0 :: r1 :: rest) (hws : k.waiters = ws) :
    ∃ w ∈ ws, r1.req = w.cmd.req ∧ r1.conn = w.conn ∧ r1.result = RESULT_SUCCED ∧
      ∀ x ∈ ws, cmdPriority x.cmd ≤ cmdPriority w.cmd := by
  obtain ⟨gs, more, e1, e2, e3⟩ := (wake_frame db k [r0']).grants
  rw [e2] at h
  obtain rfl : more = r1 :: rest := (List.cons.inj h).2
  match gs, e3 with
  | w :: gs', e3 =>
    simp only [List.map_cons, List.cons.injEq, Prod.mk.injEq] at e3
    rw [← hws, e1] at hs ⊢
    refine ⟨w, List.mem_cons_self .., e3.1.2.1, e3.1.1, e3.1.2.2, fun x hx => ?_⟩
    rcases List.mem_cons.mp hx with hx | hx
    · rw [hx]; exact Nat.le_refl _
    · exact (List.pairwise_cons.mp hs).1 x hx

end Slock.Engine
