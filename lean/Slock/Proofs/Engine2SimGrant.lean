import Slock.Proofs.Engine2SimPop
/-! Simulation stage 2 → stage 1: the grant (`AddLock` … `AddExpried`) is stage 1's `grantHold`. `AddLock` may compact the holder queue
before it appends; compaction drops tombstones only, so under `abs` the grant appends one hold to the live holders (`grant_abs`). -/
namespace Slock.Sim
open Slock Slock.Engine2
open Slock.Engine (has)

/-- the first steps of the grant after `AddLock` + `locked++`: value operation, data consumed -/
def grantMid (s0 : W) (rid : Nat) : W :=
  (s0.procData .lock (s0.k.getR rid).cmd (frameOf (s0.k.getR rid).cmd (s0.k.getR rid).data) rid).modR rid (fun r => { r with data := none })

/-- the grant after `AddLock` + `locked++`: `grantMid`, then `AddExpried`, `refCount++`, counters, reply -/
def grantTail (s0 : W) (rid : Nat) : W :=
  (((((grantMid s0 rid).addExpried rid).ref rid).ctr
      (fun c => { c with lockCount := c.lockCount + 1, lockedCount := c.lockedCount + 1 })).reply
      { (s0.k.getR rid).cmd with conn := (s0.k.getR rid).conn } Engine.RESULT_SUCCED 1 s0.lockData)

theorem grantTail_edit (s0 : W) (rid : Nat) :
    Edit rid (fun r => Rec.armE (Engine.wheelAdd s0.db.eCheck s0.db.seq r.expT r.eChecked) r) id 1 s0 (((grantMid s0 rid).addExpried rid).ref rid) :=
  ((((Edit.refl s0).procData .lock (s0.k.getR rid).cmd (frameOf (s0.k.getR rid).cmd (s0.k.getR rid).data) rid).modR_inert rid
    (fun r => { r with data := none }) (fun _ => rfl) (fun _ => rfl)).addExpried).ref rid

theorem grantTail_locked (s0 : W) (rid : Nat) : (grantTail s0 rid).k.locked = s0.k.locked := (grantTail_edit s0 rid).locked

theorem grant_eq (w : W) (rid : Nat) : w.grant rid = grantTail ((w.addLock rid).modK incLocked) rid := rfl

theorem grant_rec (w : W) (rid : Nat) (hh : w.k.hasRec rid) :
    (w.grant rid).k.hasRec rid ∧
    ((w.grant rid).k.getR rid).toHold =
      { hid := w.db.seq, cmd := (w.k.getR rid).cmd, conn := (w.k.getR rid).conn, depth := 1, startT := w.db.now,
        expT := (Engine.wheelAdd w.db.eCheck w.db.seq (Engine.expiryDeadline w.db.now (w.k.getR rid).cmd)
          (Engine.initChecked (w.k.getR rid).cmd w.db.now (Engine.expiryDeadline w.db.now (w.k.getR rid).cmd))).1,
        sched := (Engine.wheelAdd w.db.eCheck w.db.seq (Engine.expiryDeadline w.db.now (w.k.getR rid).cmd)
          (Engine.initChecked (w.k.getR rid).cmd w.db.now (Engine.expiryDeadline w.db.now (w.k.getR rid).cmd))).2 } ∧
    ((w.grant rid).k.getR rid).timeouted = (w.k.getR rid).timeouted := by
  have hf := addLockF_fields w.db w.k
  obtain ⟨g0, hh0⟩ := keep_addLock w.k rid (addLockF w.db w.k) (fun r => (hf r).rid) (fun r => (hf r).depth) hh
  have g0' : ((w.addLock rid).modK incLocked).k.getR rid = addLockF w.db w.k (w.k.getR rid) := g0
  have e := grantTail_edit ((w.addLock rid).modK incLocked) rid
  rw [grant_eq]
  unfold grantTail
  rw [reply_k, ctr_k]
  generalize ((grantMid ((w.addLock rid).modK incLocked) rid).addExpried rid).ref rid = w1 at e ⊢
  exact ⟨(e.hasRec rid).mpr hh0, (e.getR hh0 Rec.toHold (fun _ => rfl)).trans (by rw [g0']; rfl),
    (e.getR hh0 (·.timeouted) (fun _ => rfl)).trans (by rw [g0']; exact (hf _).timeouted)⟩


theorem locksPush_cur (k : Key) (rid : Nat) : (k.locksPush rid).current = k.current := (locksPush_wait k rid).2

theorem grantTail_sx (s0 : W) (rid : Nat) : SX (· = rid) s0 (grantTail s0 rid) := ((grantTail_edit s0 rid).sx.ctr _).reply _ _ _ _

theorem pkx_addExpried {α : Type} {π : Rec → α} (hπ : Ins π) (w : W) (rid : Nat) : PKeepX π (· = rid) (w.addExpried rid).k w.k := by
  unfold W.addExpried
  simp only []
  refine (PKeepX.of_pk (pk_when _ _ _ (pk_pushLockAofN hπ _ _ _))).trans ?_
  unfold W.schedExpried
  exact PKeepX.modRec (X := (· = rid)) _ rid _ (fun _ => rfl) rfl

theorem grant_others {α : Type} {π : Rec → α} (hπ : Ins π) (w : W) (rid : Nat) : PKeepX π (· = rid) (w.grant rid).k w.k := by
  have hf := addLockF_fields w.db w.k
  have p1 : PKeepX π (· = rid) ((w.addLock rid).modK incLocked).k w.k := by
    show PKeepX π (· = rid) (incLocked (w.k.addLock rid (addLockF w.db w.k))) w.k
    refine PKeepX.trans (b := w.k.addLock rid (addLockF w.db w.k)) (PKeepX.of_eq rfl) ?_
    unfold Key.addLock
    split
    · exact PKeepX.trans (b := w.k.modRec rid (addLockF w.db w.k)) (PKeepX.of_eq rfl) (PKeepX.modRec (X := (· = rid)) w.k rid _ (fun r => (hf r).rid) rfl)
    · exact (PKeepX.of_pk (PKeep.locksPush hπ _ rid)).trans (PKeepX.modRec (X := (· = rid)) w.k rid _ (fun r => (hf r).rid) rfl)
  rw [grant_eq]
  generalize (w.addLock rid).modK incLocked = s0 at p1
  have p2 : PKeepX π (· = rid) (grantMid s0 rid).k s0.k := by
    unfold grantMid
    exact (PKeepX.modRec (X := (· = rid)) _ rid (fun r => { r with data := none }) (fun _ => rfl) rfl).trans (PKeepX.of_pk (pk_procData hπ _ _ _ _ _))
  have p3 := pkx_addExpried hπ (grantMid s0 rid) rid
  have p4 : PKeepX π (· = rid) (((grantMid s0 rid).addExpried rid).ref rid).k ((grantMid s0 rid).addExpried rid).k :=
    PKeepX.modRec (X := (· = rid)) _ rid (fun r => { r with refCount := r.refCount + 1 }) (fun _ => rfl) rfl
  exact (p4.trans (p3.trans p2)).trans p1

theorem grant_queue (w : W) (rid : Nat) : (w.grant rid).k.current.toList ++ (w.grant rid).k.locks =
    (w.k.addLock rid (addLockF w.db w.k)).current.toList ++ (w.k.addLock rid (addLockF w.db w.k)).locks := by
  rw [grant_eq]
  obtain ⟨q1, q2, _⟩ := queues_eq (grantTail_sx ((w.addLock rid).modK incLocked) rid).q
  rw [q1, q2]; rfl

/-- the ids of the holder side after `AddLock(rid)`, as far as a filter can tell that is false on the tombstones of the queue -/
theorem addLock_ids (k : Key) (cn : CurNone k) (rid : Nat) (f : Rec → Rec) (P : Nat → Bool)
    (hP : ∀ y ∈ k.locks, (k.modRec rid f).liveHolder y = false → P y = false) :
    ((k.addLock rid f).current.toList ++ (k.addLock rid f).locks).filter P = (k.current.toList ++ k.locks).filter P ++ [rid].filter P := by
  rcases addLock_holders k rid f with ⟨hc, e⟩ | ⟨l, hl, e⟩ <;> rw [e]
  · rw [hc, cn hc]; rfl
  · rw [List.filter_append, List.filter_append, List.filter_append]
    congr 2
    rcases hl with rfl | rfl
    · rfl
    · rw [List.filter_filter]
      apply List.filter_congr
      intro y hy
      cases hv : (k.modRec rid f).liveHolder y with
      | true => simp
      | false => simp [hP y hy hv]

theorem addLock_mem_live (k : Key) (rid y : Nat) (f : Rec → Rec) (hy : y ∈ k.current.toList ++ k.locks) (hl : (k.modRec rid f).liveHolder y = true) :
    y ∈ (k.addLock rid f).current.toList ++ (k.addLock rid f).locks := by
  rcases addLock_holders k rid f with ⟨hc, e⟩ | ⟨l, hl', e⟩ <;> rw [e]
  · rw [hc] at hy; exact List.mem_cons_of_mem _ hy
  · refine List.mem_append_left _ ?_
    rcases List.mem_append.mp hy with h | h
    · exact List.mem_append_left _ h
    · exact List.mem_append_right _ (by rcases hl' with rfl | rfl; exact h; exact List.mem_filter.mpr ⟨h, hl⟩)

theorem grant_holders (w : W) (l : Lv w zero) (cn : CurNone w.k) (rid : Nat) (g : Grantable w.k rid)
    (hnot : rid ∉ w.k.current.toList ++ w.k.locks) :
    (Key.abs (w.grant rid).k).holders = (Key.abs w.k).holders ++ [((w.grant rid).k.getR rid).toHold] := by
  have lg := ((Wk.of_lv (x := some rid) l).grant g).1.lv
  obtain ⟨_, hhold, _⟩ := grant_rec w rid g.has
  have hlive : (w.grant rid).k.liveHolder rid = true := by
    have e : ((w.grant rid).k.getR rid).toHold.depth = ((w.grant rid).k.getR rid).depth := rfl
    have : ((w.grant rid).k.getR rid).toHold.depth = 1 := by rw [hhold]
    unfold Key.liveHolder
    rw [← e, this]; rfl
  have p := grant_others ins_πA w rid
  have d := qk_grant_tail w rid
  obtain ⟨q1, q2, _⟩ := queues_eq d.q
  have hdang : ∀ y, y ∈ (w.grant rid).k.current.toList ++ (w.grant rid).k.locks → (w.grant rid).k.hasRec y := by
    intro y hy
    exact lg.has (qRefs_pos_of_holder (w.grant rid).k y hy)
  have hlv : ∀ y, y ≠ rid → (w.grant rid).k.hasRec y →
      (w.grant rid).k.liveHolder y = w.k.liveHolder y ∧ holdOf (w.grant rid).k y = holdOf w.k y := fun y hne hy => p.holder hne hy
  have hgone : ∀ y, ¬ (w.grant rid).k.hasRec y → (w.grant rid).k.liveHolder y = false := by
    intro y hy
    unfold Key.liveHolder
    rw [getR_of_not_hasRec _ _ hy]; rfl
  rw [abs_holders, abs_holders, q1, q2]
  show (((w.k.addLock rid (addLockF w.db w.k)).current.toList ++ (w.k.addLock rid (addLockF w.db w.k)).locks).filter
    (fun x => (w.grant rid).k.liveHolder x)).map (holdOf (w.grant rid).k) = _
  have hids := addLock_ids w.k cn rid (addLockF w.db w.k) (fun x => (w.grant rid).k.liveHolder x) (by
    intro y hy hdead
    have hne : y ≠ rid := by intro e; apply hnot; rw [← e]; exact List.mem_append_right _ hy
    by_cases hh : (w.grant rid).k.hasRec y
    · rw [(hlv y hne hh).1]
      unfold Key.liveHolder at hdead ⊢
      rw [getR_modRec_other _ _ _ _ hne (fun r => (addLockF_fields w.db w.k r).rid)] at hdead
      exact hdead
    · exact hgone y hh)
  rw [hids, List.map_append]
  refine congr (congrArg _ ?_) ?_
  · apply filter_map_congr_on
    intro y hy
    have hne : y ≠ rid := fun e => hnot (e ▸ hy)
    by_cases hh : (w.grant rid).k.hasRec y
    · exact ⟨(hlv y hne hh).1, fun _ => (hlv y hne hh).2⟩
    · -- not there any more: then it was a tombstone of the queue (a live entry is still queued, hence still a record)
      have hdw : w.k.liveHolder y = false := by
        cases hv : w.k.liveHolder y with
        | false => rfl
        | true =>
          exfalso
          apply hh
          apply hdang
          rw [q1, q2]
          apply addLock_mem_live w.k rid y (addLockF w.db w.k) hy
          unfold Key.liveHolder at hv ⊢
          rw [getR_modRec_other _ _ _ _ hne (fun r => (addLockF_fields w.db w.k r).rid)]
          exact hv
      refine ⟨by rw [hgone y hh, hdw], fun hq => ?_⟩
      rw [hdw] at hq; exact absurd hq (by simp)
  · simp only [List.filter, hlive, List.map_cons, List.map_nil]; rfl


theorem addLock_kw (k : Key) (rid : Nat) (f : Rec → Rec) : (k.addLock rid f).waited = k.waited ∧ (k.addLock rid f).key = k.key := by
  unfold Key.addLock
  split
  · exact ⟨rfl, rfl⟩
  · exact ⟨locksPush_waited _ rid, locksPush_key _ rid⟩

theorem grant_seq (w : W) (rid : Nat) : (w.grant rid).db.seq = w.db.seq + 1 := by
  have e := grantTail_edit ((w.addLock rid).modK incLocked) rid
  rw [grant_eq]
  unfold grantTail
  rw [reply_db]
  generalize ((grantMid ((w.addLock rid).modK incLocked) rid).addExpried rid).ref rid = w1 at e ⊢
  exact e.seq

theorem scal_grant {a : Engine.DB} {w : W} (hs : Scal a w.db) (rid : Nat) : Scal (dbG a) (w.grant rid).db := by
  have e := grantTail_edit ((w.addLock rid).modK incLocked) rid
  rw [grant_eq]
  unfold grantTail
  rw [reply_db]
  generalize ((grantMid ((w.addLock rid).modK incLocked) rid).addExpried rid).ref rid = w1 at e ⊢
  exact (e.scal hs).withCtr ctrG

theorem grant_abs (w : W) (l : Lv w zero) (cn : CurNone w.k) (rid : Nat) (g : Grantable w.k rid)
    (hnot : rid ∉ w.k.current.toList ++ w.k.locks) :
    Key.abs (w.grant rid).k = { Key.abs w.k with holders := (Key.abs w.k).holders ++ [((w.grant rid).k.getR rid).toHold], locked := w.k.locked + 1 } := by
  have lg := ((Wk.of_lv (x := some rid) l).grant g).1.lv
  obtain ⟨_, _, hto⟩ := grant_rec w rid g.has
  have hsx : SX (· = rid) ((w.addLock rid).modK incLocked) (w.grant rid) := by
    rw [grant_eq]; exact grantTail_sx _ rid
  obtain ⟨kw1, kw2⟩ := addLock_kw w.k rid (addLockF w.db w.k)
  have hlk : (w.grant rid).k.locked = w.k.locked + 1 := by
    rw [grant_eq, grantTail_locked]
    exact congrArg (· + 1) (FQ.addLock w rid).qt.locked
  refine abs_eq (hsx.key.trans kw2) hlk (grant_holders w l cn rid g hnot) ?_ (hsx.waited.trans kw1)
  have hw := (grant_wait_t w rid).1
  refine abs_waiters_congr hw (grant_others ins_πA w rid) (fun y _ e => by rw [e]; exact ⟨g.tomb, hto.trans g.tomb⟩) ?_
  intro y hy
  exact lg.has (qRefs_pos_of_wait_mem (w.grant rid).k y (by rw [hw]; exact hy))

theorem cmd_conn_self (c : Engine.Cmd) (n : Nat) (h : n = c.conn) : ({ c with conn := n } : Engine.Cmd) = c := by
  subst h; cases c; rfl

theorem grant_out_r (w : W) (rid : Nat) (hh : w.k.hasRec rid) :
    (w.grant rid).out.map (·.r) = w.out.map (·.r) ++
      [Engine.mkReply { (w.k.getR rid).cmd with conn := (w.k.getR rid).conn } Engine.RESULT_SUCCED (w.k.locked + 1) 1] := by
  have hf := addLockF_fields w.db w.k
  obtain ⟨g0, _⟩ := keep_addLock w.k rid (addLockF w.db w.k) (fun r => (hf r).rid) (fun r => (hf r).depth) hh
  have g0' : ((w.addLock rid).modK incLocked).k.getR rid = addLockF w.db w.k (w.k.getR rid) := g0
  rw [grant_eq]
  unfold grantTail W.reply
  simp only [List.map_append, List.map_cons, List.map_nil]
  have e := grantTail_edit ((w.addLock rid).modK incLocked) rid
  rw [ctr_out, ctr_k]
  generalize ((grantMid ((w.addLock rid).modK incLocked) rid).addExpried rid).ref rid = w1 at e ⊢
  have ho : w1.out = w.out := e.out.trans (FQ.addLock w rid).qt.out
  have hl : w1.k.locked = w.k.locked + 1 := e.locked.trans (congrArg (· + 1) (FQ.addLock w rid).qt.locked)
  rw [ho, hl, g0', (hf _).cmd, (hf _).conn]

/-- **the grant is stage 1's `grantHold`** of the granted record's command (whose connection is the record's) -/
theorem grant_sim {w : W} {a : Engine.DB} (l : Lv w zero) (cn : CurNone w.k) (hs : Scal a w.db) (rid : Nat) (g : Grantable w.k rid)
    (hnot : rid ∉ w.k.current.toList ++ w.k.locks) (hconn : (w.k.getR rid).conn = (w.k.getR rid).cmd.conn) :
    Scal (dbG a) (w.grant rid).db ∧ Key.abs (w.grant rid).k = keyG (Key.abs w.k) (Engine.grantedHold a (w.k.getR rid).cmd) ∧
    (w.grant rid).out.map (·.r) = w.out.map (·.r) ++ [Engine.mkReply (w.k.getR rid).cmd Engine.RESULT_SUCCED (w.k.locked + 1) 1] := by
  obtain ⟨_, hhold, _⟩ := grant_rec w rid g.has
  refine ⟨scal_grant hs rid, ?_, ?_⟩
  · rw [grant_abs w l cn rid g hnot, hhold, ← hs.seq, ← hs.eCheck, ← hs.now, hconn]
    rfl
  · rw [grant_out_r w rid g.has, cmd_conn_self _ _ hconn]

end Slock.Sim
