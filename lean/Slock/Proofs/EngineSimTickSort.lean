import Slock.Proofs.Engine
/-! `sortBySeq` (the insertion sort both engine models order the due wheel entries with): it is stable, so it commutes with `filter` and
with a key-preserving `map`; its result is a permutation; and on lists whose keys are pairwise distinct the result depends on the SET of
elements only (`sortBySeq_ext`). -/
namespace Slock.SimTick
open Slock.Engine (insertBySeq sortBySeq mem_insertBySeq insertBySeq_ord)

variable {α : Type}

theorem ord_of_le {s : α → Nat} {l : List α} (h : l.Pairwise (fun a b => s a ≤ s b)) : l.Pairwise (fun a b => ¬ s b < s a) := h.imp Nat.not_lt.mpr

theorem insertBySeq_sorted (s : α → Nat) (x : α) (acc : List α) (h : acc.Pairwise (fun a b => s a ≤ s b)) :
    (insertBySeq s x acc).Pairwise (fun a b => s a ≤ s b) :=
  ((insertBySeq_ord s).sorted acc x (ord_of_le h)).imp Nat.le_of_not_lt

theorem foldl_insert_sorted (s : α → Nat) (l acc : List α) (h : acc.Pairwise (fun a b => s a ≤ s b)) :
    (l.foldl (fun acc x => insertBySeq s x acc) acc).Pairwise (fun a b => s a ≤ s b) := by
  induction l generalizing acc with
  | nil => exact h
  | cons x xs ih => simp only [List.foldl_cons]; exact ih _ (insertBySeq_sorted s x acc h)

theorem sortBySeq_sorted (s : α → Nat) (l : List α) : (sortBySeq s l).Pairwise (fun a b => s a ≤ s b) :=
  foldl_insert_sorted s l [] List.Pairwise.nil

theorem filter_insertBySeq (s : α → Nat) (p : α → Bool) (x : α) (acc : List α) (h : acc.Pairwise (fun a b => s a ≤ s b)) :
    (insertBySeq s x acc).filter p = if p x then insertBySeq s x (acc.filter p) else acc.filter p := by
  cases hp : p x with
  | false => exact (insertBySeq_ord s).filter_skip p acc x hp
  | true => exact (insertBySeq_ord s).filter_ins p acc x (ord_of_le h) hp

theorem filter_foldl_insert (s : α → Nat) (p : α → Bool) (l acc : List α) (h : acc.Pairwise (fun a b => s a ≤ s b)) :
    (l.foldl (fun acc x => insertBySeq s x acc) acc).filter p = (l.filter p).foldl (fun acc x => insertBySeq s x acc) (acc.filter p) := by
  induction l generalizing acc with
  | nil => rfl
  | cons x xs ih =>
    simp only [List.foldl_cons]
    rw [ih _ (insertBySeq_sorted s x acc h), filter_insertBySeq s p x acc h]
    cases hpx : p x
    · simp [List.filter, hpx]
    · simp [List.filter, hpx]

theorem filter_sortBySeq (s : α → Nat) (p : α → Bool) (l : List α) : (sortBySeq s l).filter p = sortBySeq s (l.filter p) := by
  unfold sortBySeq
  exact filter_foldl_insert s p l [] List.Pairwise.nil

theorem map_insertBySeq_on {β : Type} (s : α → Nat) (t : β → Nat) (f : α → β) (x : α) (acc : List α) (hx : t (f x) = s x)
    (hf : ∀ z ∈ acc, t (f z) = s z) : (insertBySeq s x acc).map f = insertBySeq t (f x) (acc.map f) :=
  (insertBySeq_ord s).map (insertBySeq_ord t) f acc x fun y hy => by rw [hx, hf y hy]

theorem map_sortBySeq_on {β : Type} (s : α → Nat) (t : β → Nat) (f : α → β) (l : List α) (hf : ∀ z ∈ l, t (f z) = s z) :
    (sortBySeq s l).map f = sortBySeq t (l.map f) := by
  unfold sortBySeq
  have gen : ∀ (l acc : List α), (∀ z ∈ l, t (f z) = s z) → (∀ z ∈ acc, t (f z) = s z) →
      (l.foldl (fun acc x => insertBySeq s x acc) acc).map f = (l.map f).foldl (fun acc x => insertBySeq t x acc) (acc.map f) := by
    intro l
    induction l with
    | nil => intro acc _ _; rfl
    | cons x xs ih =>
      intro acc h1 h2
      simp only [List.foldl_cons, List.map_cons]
      rw [ih _ (fun z hz => h1 z (List.mem_cons_of_mem _ hz)) (by
        intro z hz
        rcases (mem_insertBySeq s z x acc).mp hz with e | e
        · rw [e]; exact h1 x (by simp)
        · exact h2 z e), map_insertBySeq_on s t f x acc (h1 x (by simp)) h2]
  exact gen l [] hf (by simp)

theorem map_sortBySeq {β : Type} (s : α → Nat) (t : β → Nat) (f : α → β) (hf : ∀ z, t (f z) = s z) (l : List α) :
    (sortBySeq s l).map f = sortBySeq t (l.map f) :=
  map_sortBySeq_on s t f l (fun z _ => hf z)

theorem insertBySeq_congr (s t : α → Nat) (x : α) (acc : List α) (hx : s x = t x) (h : ∀ z ∈ acc, s z = t z) :
    insertBySeq s x acc = insertBySeq t x acc := by
  have := (insertBySeq_ord s).map (insertBySeq_ord t) id acc x fun y hy => by rw [id, id, hx, h y hy]
  rwa [List.map_id, List.map_id] at this

export Slock.Engine (perm_insertBySeq perm_foldl_insert perm_sortBySeq)

theorem strictSorted_ext (s : α → Nat) (l1 l2 : List α) (h1 : l1.Pairwise (fun a b => s a < s b)) (h2 : l2.Pairwise (fun a b => s a < s b))
    (hm : ∀ x, x ∈ l1 ↔ x ∈ l2) : l1 = l2 :=
  have nd : ∀ {l : List α}, l.Pairwise (fun a b => s a < s b) → l.Nodup := fun h => h.imp fun hab e => by rw [e] at hab; omega
  List.Perm.eq_of_pairwise (fun _ _ _ _ h h' => by omega) h1 h2 ((List.perm_ext_iff_of_nodup (nd h1) (nd h2)).mpr hm)

theorem sortBySeq_strict (s : α → Nat) (l : List α) (hn : (l.map s).Nodup) : (sortBySeq s l).Pairwise (fun a b => s a < s b) := by
  have h1 := sortBySeq_sorted s l
  have h2 : ((sortBySeq s l).map s).Nodup := ((perm_sortBySeq s l).map s).nodup_iff.mpr hn
  have h3 : (sortBySeq s l).Pairwise (fun a b => s a ≠ s b) := List.pairwise_map.mp h2
  exact (h1.and h3).imp (fun ⟨a, b⟩ => by omega)

theorem sortBySeq_ext (s : α → Nat) (l1 l2 : List α) (h1 : (l1.map s).Nodup) (h2 : (l2.map s).Nodup) (hm : ∀ x, x ∈ l1 ↔ x ∈ l2) :
    sortBySeq s l1 = sortBySeq s l2 :=
  strictSorted_ext s _ _ (sortBySeq_strict s l1 h1) (sortBySeq_strict s l2 h2)
    (fun x => by rw [Engine.mem_sortBySeq_iff, Engine.mem_sortBySeq_iff]; exact hm x)

theorem sortBySeq_of_strict (s : α → Nat) (l : List α) (h : l.Pairwise (fun a b => s a < s b)) : sortBySeq s l = l := by
  have hn : (l.map s).Nodup := List.pairwise_map.mpr (h.imp (fun hab => by omega))
  exact strictSorted_ext s _ _ (sortBySeq_strict s l hn) h (fun x => Engine.mem_sortBySeq_iff s l x)

end Slock.SimTick
