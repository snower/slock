import Slock.Proofs.Engine2SimEdit
/-! Simulation stage 2 → stage 1: each half of `Key.abs` depends on its queue and on the stage-1 view of the queue's members only
(congruences); hence popping tombstoned heads off the wait queue (`GetWaitLock`) is invisible to stage 1. -/
namespace Slock.Sim
open Slock Slock.Engine2

theorem abs_holders_eq {k' k : Key} (hc : k'.current = k.current) (hl : k'.locks = k.locks)
    (hv : ∀ y ∈ k.current.toList ++ k.locks, k'.liveHolder y = k.liveHolder y ∧ (k.liveHolder y = true → holdOf k' y = holdOf k y)) :
    (Key.abs k').holders = (Key.abs k).holders := by
  rw [abs_holders, abs_holders, hc, hl]
  exact filter_map_congr_on _ _ _ _ _ hv

theorem abs_waiters_eq {k' k : Key} (hw : k'.wait = k.wait)
    (hv : ∀ y ∈ k.wait.map (·.rid), k'.deadWaiter y = k.deadWaiter y ∧ (k.deadWaiter y = false → waiterOf k' y = waiterOf k y)) :
    (Key.abs k').waiters = (Key.abs k).waiters := by
  rw [abs_waiters, abs_waiters, hw]
  refine filter_map_congr_on _ _ _ _ _ (fun y hy => ⟨by rw [(hv y hy).1], fun h => (hv y hy).2 ?_⟩)
  cases hd : k.deadWaiter y with
  | false => rfl
  | true => rw [hd] at h; exact absurd h (by simp)

theorem PKeepX.holder {X : Nat → Prop} {k' k : Key} (p : PKeepX πA X k' k) {y : Nat} (hx : ¬ X y) (hy : k'.hasRec y) :
    k'.liveHolder y = k.liveHolder y ∧ holdOf k' y = holdOf k y := by
  have := p.val y hx hy
  exact ⟨by unfold Key.liveHolder; rw [show (k'.getR y).depth = (k.getR y).depth from congrArg (fun t => t.1.depth) this], congrArg (fun t => t.1) this⟩

theorem PKeepX.waiter {X : Nat → Prop} {k' k : Key} (p : PKeepX πA X k' k) {y : Nat} (hx : ¬ X y) (hy : k'.hasRec y) :
    k'.deadWaiter y = k.deadWaiter y ∧ waiterOf k' y = waiterOf k y := by
  have := p.val y hx hy
  exact ⟨timeouted_of_πA this, congrArg (fun t => t.2.1) this⟩

theorem abs_holders_congr {X : Nat → Prop} {k' k : Key} (hc : k'.current = k.current) (hl : k'.locks = k.locks) (p : PKeepX πA X k' k)
    (hx : ∀ y ∈ k.current.toList ++ k.locks, ¬ X y) (hd : ∀ y ∈ k.current.toList ++ k.locks, k'.hasRec y) :
    (Key.abs k').holders = (Key.abs k).holders :=
  abs_holders_eq hc hl (fun y hy => ⟨(p.holder (hx y hy) (hd y hy)).1, fun _ => (p.holder (hx y hy) (hd y hy)).2⟩)

theorem abs_waiters_congr {X : Nat → Prop} {k' k : Key} (hw : k'.wait = k.wait) (p : PKeepX πA X k' k)
    (hx : ∀ y ∈ k.wait.map (·.rid), X y → k.deadWaiter y = true ∧ k'.deadWaiter y = true) (hd : ∀ y ∈ k.wait.map (·.rid), k'.hasRec y) :
    (Key.abs k').waiters = (Key.abs k).waiters :=
  abs_waiters_eq hw (fun y hy => by
    by_cases e : X y
    · obtain ⟨h1, h2⟩ := hx y hy e
      exact ⟨h2.trans h1.symm, fun h => absurd (h1.symm.trans h) (by simp)⟩
    · exact ⟨(p.waiter e (hd y hy)).1, fun _ => (p.waiter e (hd y hy)).2⟩)

theorem abs_ext {a b : Engine.Key} (h1 : a.key = b.key) (h2 : a.locked = b.locked) (h3 : a.holders = b.holders) (h4 : a.waiters = b.waiters)
    (h5 : a.waited = b.waited) : a = b := by
  cases a; cases b; simp_all

theorem abs_eq {k' : Key} {K : Engine.Key} (h1 : k'.key = K.key) (h2 : k'.locked = K.locked) (h3 : (Key.abs k').holders = K.holders)
    (h4 : (Key.abs k').waiters = K.waiters) (h5 : k'.waited = K.waited) : Key.abs k' = K := abs_ext h1 h2 h3 h4 h5

theorem abs_eq_x {X : Nat → Prop} {k' k : Key} (h1 : k'.key = k.key) (h2 : k'.locked = k.locked) (h3 : k'.waited = k.waited)
    (q : k'.queues = k.queues) (p : PKeepX πA X k' k)
    (hx : ∀ y ∈ k.current.toList ++ k.locks ++ k.wait.map (·.rid), ¬ X y)
    (hd : ∀ y ∈ k.current.toList ++ k.locks ++ k.wait.map (·.rid), k'.hasRec y) : Key.abs k' = Key.abs k := by
  obtain ⟨q1, q2, q3⟩ := queues_eq q
  apply abs_eq h1 h2
  · exact abs_holders_congr q1 q2 p (fun y hy => hx y (List.mem_append_left _ hy)) (fun y hy => hd y (List.mem_append_left _ hy))
  · exact abs_waiters_congr q3 p (fun y hy h => absurd h (hx y (List.mem_append_right _ hy))) (fun y hy => hd y (List.mem_append_right _ hy))
  · exact h3

/-- the key record as stage 1 sees it after an operation on it: its view if the record is still linked, an empty key if it was reclaimed -/
def Loc (w : W) (k' : Engine.Key) : Prop := (w.gone = false → Key.abs w.k = k') ∧ (w.gone = true → k'.isEmpty = true)

theorem qRefs_pos_of_any (k : Key) (y : Nat) (hy : y ∈ k.current.toList ++ k.locks ++ k.wait.map (·.rid)) : 0 < k.qRefs y := by
  rcases List.mem_append.mp hy with h | h
  · exact qRefs_pos_of_holder k y h
  · exact qRefs_pos_of_wait_mem k y h

theorem hasRec_of_queues {w' : W} {k : Key} (l : Lv w' zero) (q : w'.k.queues = k.queues) :
    ∀ y ∈ k.current.toList ++ k.locks ++ k.wait.map (·.rid), w'.k.hasRec y := by
  intro y hy
  exact l.has (by have := qRefs_pos_of_any k y hy; have h0 := qRefs_of_queues q y; omega)

theorem nextRid_fresh {w : W} (l : Lv w zero) : ¬ w.k.hasRec w.db.nextRid := by
  rintro ⟨r, hr, e⟩
  have := l.side.fresh r hr
  omega

theorem nextRid_not_queued {w : W} (l : Lv w zero) : ∀ y ∈ w.k.current.toList ++ w.k.locks ++ w.k.wait.map (·.rid), ¬ y = w.db.nextRid :=
  fun y hy e => nextRid_fresh l (e ▸ hasRec_of_queues l rfl y hy)

theorem abs_getWaitLock (k : Key) (rc : RCx k zero) : Key.abs k.getWaitLock.1 = Key.abs k := by
  obtain ⟨e1, _, e3⟩ := waitSkip_eq k.wait k rfl
  obtain ⟨rc', c1, c2⟩ := waitSkip_rc zero_nonneg k.wait k rc rfl
  refine abs_ext ((closed_key _).waitSkip _ rfl) ((closed_locked _).waitSkip _ rfl) ?_ ?_ ((closed_waited _).waitSkip _ rfl)
  · refine abs_holders_congr (X := fun _ => False) c1 c2 (PKeepX.of_pk (PKeep.getWaitLock ins_πA k)) (fun _ _ h => h) ?_
    intro y hy
    apply rc'.dang
    have : 0 < (waitSkip k.wait k).1.qRefs y := by
      apply qRefs_pos_of_holder
      show y ∈ (waitSkip k.wait k).1.current.toList ++ (waitSkip k.wait k).1.locks
      rw [c1, c2]; exact hy
    simp only [zero]; omega
  · rw [abs_waiters, abs_waiters]
    show (((waitSkip k.wait k).1.wait.map (·.rid)).filter (fun x => !(waitSkip k.wait k).1.deadWaiter x)).map _ = _
    have : (k.wait.dropWhile fun e => k.deadWaiter e.rid).map WEnt.rid = (k.wait.map (·.rid)).dropWhile k.deadWaiter :=
      (List.dropWhile_map (f := WEnt.rid) (p := k.deadWaiter)).symm
    rw [e1, funext fun x => congrArg not (e3 x).1, this, filter_dropWhile (fun a h => by simp [h])]
    exact List.map_congr_left fun x hx => congrArg Rec.toWaiter ((e3 x).2 (by simpa using (List.mem_filter.mp hx).2))

end Slock.Sim
