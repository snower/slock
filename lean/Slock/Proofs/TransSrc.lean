import Slock.Proofs.TransStep
/-! M-TRANS: what a request hands to its client and sends to the leader, by branch; who decides (tags); the exact relay
outputs. Per step, any state `s` (reachable or not). -/
namespace Slock.Trans
open Slock.Gen

variable {s : Node} {c c' : Nat} {x : Conn} {rid : Option Nat} {b : Branch} {m : ToClient} {f : Fwd} {e : Event}

/-- where a lock / unlock result handed to the client of connection `c` by the step `e` from state `s` comes from:
a refusal built from the request itself (UNKNOWN_DB / STATE_ERROR), the node's own lock table (`CheckProbableLock`:
TIMEOUT), the rollback of the latest in-flight command at a link loss (ERROR, every other field zero), or the relay of
the leader's frame — there is no fifth source. -/
def Src (s : Node) (e : Event) (c : Nat) (r : LockRes) : Prop :=
  (∃ short ct md cmd rep, e = .request c short (.lk ct md cmd rep) ∧
      (r = localRes ct cmd C.RESULT_UNKNOWN_DB 0 0 [] ∨ r = localRes ct cmd C.RESULT_STATE_ERROR 0 0 [])) ∨
  (∃ short md cmd rep lc d, e = .request c short (.lk .lock md cmd rep) ∧ probe cmd rep = some (lc, d) ∧
      r = localRes .lock cmd C.RESULT_TIMEOUT lc 0 d) ∨
  (∃ x l ct, s.conns[c]? = some x ∧ x.link = some l ∧ l.latestT = some ct ∧ r = rollbackRes ct l.latestR ∧
      (e = .linkDown c ∨ ∃ a, e = .leader a)) ∨
  (∃ early x l, e = .leaderMsg c (.lockRes r) early ∧ s.conns[c]? = some x ∧ x.link = some l)

theorem applyConn_client (h : (c', m) ∈ (applyConn s c x rid b).2.client) :
    c' = c ∧ (b = .refuse m ∨ (∃ r, b = .probed r ∧ m = .lockRes r) ∨
      (∃ ct cmd l n pre aw, b = .fwdLk ct cmd l n pre aw (some m)) ∨
      (∃ rid' cid, b = .initRefused rid' cid ∧ m = .initRes rid' C.RESULT_STATE_ERROR (2 ||| initState s.role s.addr))) := by
  cases b with
  | refuse m' => cases List.mem_singleton.mp h; exact ⟨rfl, .inl rfl⟩
  | probed r => cases List.mem_singleton.mp h; exact ⟨rfl, .inr (.inl ⟨_, rfl, rfl⟩)⟩
  | fwdLk ct cmd l n pre aw ack =>
    cases ack with
    | none => cases h
    | some a => cases List.mem_singleton.mp h; exact ⟨rfl, .inr (.inr (.inl ⟨_, _, _, _, _, _, rfl⟩))⟩
  | initRefused rid' cid => cases List.mem_singleton.mp h; exact ⟨rfl, .inr (.inr (.inr ⟨_, _, rfl, rfl⟩))⟩
  | _ => cases h

theorem applyConn_fwd (h : (c', f) ∈ (applyConn s c x rid b).2.fwd) :
    c' = c ∧ ((∃ ct cmd l n pre aw ack, b = .fwdLk ct cmd l n pre aw ack ∧ (f ∈ pre ∨ f = .lk ct cmd)) ∨
      (∃ rid' cid l n, b = .fwdInit rid' cid l n ∧ f = .init rid' cid) ∨
      (∃ rid' l n pre, b = .fwdCall rid' l n pre ∧ (f ∈ pre ∨ f = .call rid'))) := by
  cases b with
  | fwdLk ct cmd l n pre aw ack =>
    obtain ⟨g, hg, he⟩ := List.mem_map.mp h
    cases he
    exact ⟨rfl, .inl ⟨_, _, _, _, _, _, _, rfl, (List.mem_append.mp hg).imp id List.mem_singleton.mp⟩⟩
  | fwdInit rid' cid l n => cases List.mem_singleton.mp h; exact ⟨rfl, .inr (.inl ⟨_, _, _, _, rfl, rfl⟩)⟩
  | fwdCall rid' l n pre =>
    obtain ⟨g, hg, he⟩ := List.mem_map.mp h
    cases he
    exact ⟨rfl, .inr (.inr ⟨_, _, _, _, rfl, (List.mem_append.mp hg).imp id List.mem_singleton.mp⟩)⟩
  | _ => cases h

theorem connStep_client_idx {p : Nat × ToClient} (ht : e.target = some c) (h : p ∈ (connStep s x e).2.client) : p.1 = c := by
  cases e with
  | request d short q =>
    cases ht
    rcases will_or_not q with ⟨ct, cmd, rfl⟩ | hq
    · exact (willConn_client (c' := p.1) (m := p.2) h).1
    · rw [connStep_request hq] at h; exact (applyConn_client (c' := p.1) (m := p.2) h).1
  | leaderMsg d m early =>
    cases ht
    obtain ⟨l, _, hr⟩ := onLink_client h
    exact (relay_client (c' := p.1) (m := p.2) hr).1
  | linkDown d => cases ht; exact (downConn_client (c' := p.1) (m := p.2) h).1
  | close d => exact (not_mem_closeConn_client h).elim
  | closeCut d k => exact (not_mem_closeConn_client h).elim
  | _ => cases ht

def reqFwd : Req → Option Fwd
  | .lk ct _ c _ => some (.lk ct c)
  | .init rid cid => some (.init rid cid)
  | .call rid _ => some (.call rid)
  | .will _ _ => none
  | .other => none

theorem request_as_leader (s : Node) (c : Nat) (x : Conn) (short : Bool) (q : Req) (hq : ∀ ct cmd, q ≠ .will ct cmd)
    (hx : s.conns[c]? = some x) (ho : x.closed = false) (ha : x.awaiting = none) (hr : s.role = .leader) :
    (step s (.request c short q)).2 = { tag := .loc (x.plainLoop == some false) } ∧
    ∃ x', (step s (.request c short q)).1.conns[c]? = some x' ∧ x'.plainLoop = some true ∧ x'.link = x.link := by
  obtain ⟨hc, hout⟩ := step_target (e := .request c short q) rfl hx
  rw [hc, hout, connStep_request hq, classify_leader_open hr ho ha, List.getElem?_set_self (idx_lt hx)]
  simp only [applyConn, dispatched, hr]
  refine ⟨?_, _, rfl, rfl, rfl⟩
  cases hp : x.plainLoop with
  | none => rfl
  | some p => cases p <;> rfl

theorem lk_forwarded (s : Node) (c : Nat) (x : Conn) (short : Bool) (ct : CType) (md : TextMode) (cmd : LockCmd) (rep : Replica)
    (a : Bool) (hx : s.conns[c]? = some x)
    (h : (step s (.request c short (.lk ct md cmd rep))).2.tag = .forwarded a) :
    s.role ≠ .leader ∧ (a = true ↔ x.plainLoop = some true) ∧
    (c, Fwd.lk ct cmd) ∈ (step s (.request c short (.lk ct md cmd rep))).2.fwd ∧
    ∃ x' l', (step s (.request c short (.lk ct md cmd rep))).1.conns[c]? = some x' ∧ x'.kind = x.kind ∧ x'.closed = false ∧
      x'.link = some l' ∧ x'.plainLoop = some false ∧ x'.half = x.half ∧
      (x.kind = .text → md ≠ .push → x'.awaiting = some (cmd.rid, md)) := by
  obtain ⟨hc, hout⟩ := step_target (e := .request c short (.lk ct md cmd rep)) rfl hx
  rw [hout] at h ⊢
  rw [hc, List.getElem?_set_self (idx_lt hx)]
  change (applyConn s c x _ (classify s x short (.lk ct md cmd rep))).2.tag = _ at h
  change _ ∧ _ ∧ _ ∈ (applyConn s c x _ (classify s x short (.lk ct md cmd rep))).2.fwd ∧
    ∃ x' l', some (applyConn s c x _ (classify s x short (.lk ct md cmd rep))).1 = some x' ∧ _
  generalize hb : classify s x short (.lk ct md cmd rep) = b at h ⊢
  cases b with
  | fwdLk ct' cmd' l n pre aw ack =>
    obtain ⟨⟨hcl, _, hr⟩, rfl, rfl, hk⟩ := ClassifyFacts.of hb
    have hdec : decide (s.role = .leader) = false := by simp [hr]
    simp only [applyConn, dispatched, hdec] at h ⊢
    refine ⟨hr, ?_, by simp, _, _, rfl, rfl, hcl, rfl, rfl, rfl, fun hkt hmd => ?_⟩
    · cases h
      cases hp : x.plainLoop with
      | none => simp
      | some p => cases p <;> simp
    · rcases hk with ⟨hkb, _⟩ | ⟨_, _, ⟨hm, _⟩ | ⟨_, hm, _⟩⟩
      · rw [hkb] at hkt; cases hkt
      · exact absurd hm hmd
      · exact hm
  | fwdInit rid cid l n => exact nomatch (ClassifyFacts.of hb).2.1
  | fwdCall rid l n pre => exact nomatch (ClassifyFacts.of hb).2.1
  | _ => exact nomatch h

theorem leaderMsg_binary_call (s : Node) (c : Nat) (x : Conn) (l : Link) (rid res : Nat) (ct : List Nat) (early : Bool)
    (hx : s.conns[c]? = some x) (hk : x.kind = .binary) (hl : x.link = some l) :
    (step s (.leaderMsg c (.callRes rid res ct) early)).2.client = [(c, .callRes rid res ct)] := by
  rw [(step_target (e := .leaderMsg c (.callRes rid res ct) early) rfl hx).2, connStep, msgConn, onLink_some hl, relay_binary_eq hk]

theorem leaderMsg_text_lock (s : Node) (c : Nat) (x : Conn) (l : Link) (r : LockRes) (md : TextMode) (early : Bool)
    (hx : s.conns[c]? = some x) (hk : x.kind = .text) (hl : x.link = some l) (ha : x.awaiting = some (r.rid, md))
    (hh : x.half = false) :
    (step s (.leaderMsg c (.lockRes r) early)).2.client = [(c, renderText md r)] := by
  rw [(step_target (e := .leaderMsg c (.lockRes r) early) rfl hx).2, connStep, msgConn, onLink_some hl, relay_text_eq hk]
  simp [ha, textDeliver, hh]

end Slock.Trans
