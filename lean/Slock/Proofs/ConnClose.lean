import Slock.Proofs.ConnInv
/-! `Close()` of one record (`doClose`): what it does to the state, where the replies of its wills go, and that it
preserves the invariants — in particular that it never dies in a state satisfying `Good`. -/
namespace Slock.Conn

/-- the invariant of runs: `Good`, `Safe`, and the server process is alive -/
def GSA (s : Server) : Prop := Good s ∧ Safe s ∧ s.dead = none

theorem unadopt_eq (c : Nat) (y : Conn) :
    unadopt c y = { y with target := if y.target = .conn c then .default else y.target } := by
  unfold unadopt
  split <;> rfl

theorem get_unadopt {l : List Conn} {c j : Nat} {y : Conn} (h : (l.map (unadopt c))[j]? = some y) :
    ∃ y0, l[j]? = some y0 ∧ unadopt c y0 = y := by
  rw [List.getElem?_map] at h
  exact Option.map_eq_some_iff.mp h

theorem get_unadopt_of {l : List Conn} {c j : Nat} {y : Conn} (h : l[j]? = some y) :
    (l.map (unadopt c))[j]? = some (unadopt c y) := by
  rw [List.getElem?_map, h]; rfl

theorem RecOk.unadopt {y : Conn} (r : RecOk y) (c : Nat) : RecOk (unadopt c y) := by
  unfold Conn.unadopt
  split
  · rename_i h
    exact ⟨fun hc => ⟨(r.closedShape hc).1, nofun, (r.closedShape hc).2.2⟩, fun ho => (by rw [r.openShape ho] at h; cases h),
      r.willsOpen, r.announcedOwn⟩
  · exact r

theorem good_unadopt {s : Server} (hg : Good s) (c : Nat) :
    Good { s with conns := s.conns.map (unadopt c) } ∧
      ∀ (j : Nat) (y : Conn), (s.conns.map (unadopt c))[j]? = some y → y.target ≠ .conn c := by
  have hr : ∀ j y, (s.conns.map (unadopt c))[j]? = some y → RecOk y := fun j y hj => by
    obtain ⟨y0, h0, rfl⟩ := get_unadopt hj
    exact (hg.recOk h0).unadopt c
  refine ⟨⟨fun j y h => (hr j y h).closedShape, fun j y h => (hr j y h).openShape, fun j y d hj ht => ?_,
    fun k d hk => ?_, fun j y h => (hr j y h).willsOpen, fun j y hj hcl => ?_, fun j y h => (hr j y h).announcedOwn⟩,
    fun j y hj ht => ?_⟩
  · obtain ⟨y0, h0, rfl⟩ := get_unadopt hj
    rw [unadopt_eq] at ht ⊢
    have ht0 : y0.target = .conn d := by
      by_cases h : y0.target = .conn c
      · simp only [if_pos h] at ht; cases ht
      · simp only [if_neg h] at ht; exact ht
    obtain ⟨hnz, z, hz, hzo, hza⟩ := hg.adopted j y0 d h0 ht0
    exact ⟨hnz, unadopt c z, get_unadopt_of hz, by rw [unadopt_eq]; exact hzo, by rw [unadopt_eq]; exact hza⟩
  · obtain ⟨z, hz, a, b, e, f, g⟩ := hg.clientsOk k d hk
    refine ⟨unadopt c z, get_unadopt_of hz, ?_⟩
    rw [unadopt_eq]
    exact ⟨a, b, e, f, g⟩
  · obtain ⟨y0, h0, rfl⟩ := get_unadopt hj
    rw [unadopt_eq] at hcl ⊢
    exact hg.willsClosed j y0 h0 hcl
  · obtain ⟨y0, h0, rfl⟩ := get_unadopt hj
    rw [unadopt_eq] at ht
    by_cases h : y0.target = .conn c
    · simp only [if_pos h] at ht; cases ht
    · simp only [if_neg h] at ht; exact h ht

def closeState (s : Server) (c : Nat) (x : Conn) : Server :=
  { s with conns := (s.conns.map (unadopt c)).set c (closing x), clients := unregister s c x }

def closedRec (x : Conn) : Option Fatal → Conn
  | none => { closing x with inited := false }
  | some _ => closing x

theorem closedRec_eq (x : Conn) (f : Option Fatal) : ∃ i, closedRec x f = { closing x with inited := i } := by
  cases f
  · exact ⟨false, rfl⟩
  · exact ⟨x.inited, rfl⟩

theorem doClose_eq (s : Server) (c : Nat) (x : Conn) :
    doClose s c x =
      ({ conns := (s.conns.map (unadopt c)).set c (closedRec x (drainK (closeState s c x) c x).2),
         clients := unregister s c x,
         owner := putOwners s.owner c ((drainK (closeState s c x) c x).1.map (·.tok)),
         willLog := s.willLog ++ ((drainK (closeState s c x) c x).1.map (·.tok)).map (fun t => (c, t)),
         dead := (drainK (closeState s c x) c x).2 },
       drainK (closeState s c x) c x) := by
  unfold doClose closeState
  simp only []
  generalize drainK _ c x = r
  obtain ⟨res, f⟩ := r
  cases f
  · simp only [closedRec, List.set_set]
  · rfl

theorem unregister_some {s : Server} (hg : Good s) {c : Nat} {x : Conn} (hx : s.conns[c]? = some x) {k d : Nat}
    (h : aget (unregister s c x) k = some d) : aget s.clients k = some d ∧ d ≠ c := by
  unfold unregister at h
  have hk' : aget s.clients k = some d ∧ ¬ (x.kind = .binary ∧ x.inited = true ∧ aget s.clients x.cid = some c ∧ k = x.cid) := by
    split at h
    · obtain ⟨h1, h2⟩ := aget_adel_some h
      exact ⟨h1, fun hh => h2 hh.2.2.2⟩
    · rename_i hc
      exact ⟨h, fun hh => hc ⟨hh.1, hh.2.1, hh.2.2.1⟩⟩
  refine ⟨hk'.1, fun e' => ?_⟩
  obtain ⟨z, hz, _, b, e1, _, g⟩ := hg.clientsOk k d hk'.1
  subst e'
  cases hx.symm.trans hz
  exact hk'.2 ⟨g, b, e1 ▸ hk'.1, e1.symm⟩

/-- Where the reply of a will goes that is produced inside `Close`: the closing connection drops or filters it, or — binary,
inited — hands it to the connection `e` still registered under its id, which is another, open connection and deals with it. -/
theorem recv_closeState {s : Server} (hg : Good s) {c : Nat} {x : Conn} (hx : s.conns[c]? = some x) (tok : Nat) :
    (recv (closeState s c x) c tok = .dropped ∨ recv (closeState s c x) c tok = .filtered) ∨
    (x.inited = true ∧ ∃ e y, aget s.clients x.cid = some e ∧ e ≠ c ∧ s.conns[e]? = some y ∧ y.closed = false ∧
      handledAt e (recv (closeState s c x) c tok)) := by
  have hc1 : (closeState s c x).conns[c]? = some (closing x) := get_set_self (get_unadopt_of hx) _
  rcases recvN_cases hc1 (closeState s c x).conns.length tok with ⟨h, _⟩ | ⟨_, h⟩ | ⟨_, _, hi, e, he, hr⟩
  · cases h
  · exact Or.inl h
  · obtain ⟨h1, hec⟩ := unregister_some hg hx he
    obtain ⟨y, hy, hyo, _⟩ := hg.clientsOk x.cid e h1
    have hy1 : (closeState s c x).conns[e]? = some (unadopt c y) := (get_set_ne hec _).trans (get_unadopt_of hy)
    obtain ⟨n, hn⟩ : ∃ n, (closeState s c x).conns.length = n + 1 :=
      ⟨_, (Nat.succ_pred_eq_of_pos (Nat.zero_lt_of_lt (lt_of_get hc1))).symm⟩
    refine Or.inr ⟨hi, e, y, h1, hec, hy, hyo, ?_⟩
    show handledAt e (recvN _ (_ + 1) c tok)
    rw [hr, hn]
    rcases recvN_cases hy1 n tok with ⟨_, h⟩ | ⟨h, _⟩ | ⟨h, _⟩
    · exact h
    · rw [unadopt_eq] at h; exact absurd (hyo.symm.trans h) nofun
    · rw [unadopt_eq] at h; exact absurd (hyo.symm.trans h) nofun

/-- In a state satisfying `Good` no reply of a will recurses for ever (before repo commit a1e474f the connection was still
registered under its own id here, and it did). -/
theorem closeState_noloop {s : Server} (hg : Good s) {c : Nat} {x : Conn} (hx : s.conns[c]? = some x) (tok : Nat) :
    recv (closeState s c x) c tok ≠ .loop := by
  rcases recv_closeState hg hx tok with (e | e) | ⟨_, _, _, _, _, _, _, hh⟩
  · exact fun h => nomatch e.symm.trans h
  · exact fun h => nomatch e.symm.trans h
  · exact hh.ne_loop

theorem drainK_good {s : Server} (hg : Good s) {c : Nat} {x : Conn} (hx : s.conns[c]? = some x) :
    (drainK (closeState s c x) c x).2 = none ∧ (drainK (closeState s c x) c x).1.map (·.tok) = x.wills.map (·.tok) := by
  unfold drainK
  cases hk : x.kind <;> simp only []
  · rw [drain_eq _ _ _ (closeState_noloop hg hx)]
    exact ⟨rfl, by rw [List.map_map]; rfl⟩
  · exact ⟨trivial, by rw [drainT_eq, List.map_map]; rfl⟩

theorem doClose_alive {s : Server} (hg : Good s) {c : Nat} {x : Conn} (hx : s.conns[c]? = some x) :
    (doClose s c x).2.2 = none := by
  rw [doClose_eq]; exact (drainK_good hg hx).1

theorem doClose_all {s : Server} (hg : Good s) {c : Nat} {x : Conn} (hx : s.conns[c]? = some x) :
    (doClose s c x).1.willLog = s.willLog ++ (x.wills.map (·.tok)).map (fun t => (c, t)) := by
  rw [doClose_eq, (drainK_good hg hx).2]

theorem gsa_doClose {s : Server} (h : GSA s) {c : Nat} {x : Conn} (hx : s.conns[c]? = some x) (ho : x.closed = false) :
    GSA (doClose s c x).1 := by
  obtain ⟨hg, hs, _⟩ := h
  obtain ⟨hf, htoks⟩ := drainK_good hg hx
  obtain ⟨g1, g2⟩ := good_unadopt hg c
  have hxc := get_unadopt_of (c := c) hx
  have hW : ∀ j, j ≠ c → execL (s.willLog ++ (x.wills.map (·.tok)).map (fun t => (c, t))) j = execL s.willLog j :=
    fun j e => by rw [execL_append, execL_other c j e, List.append_nil]
  rw [doClose_eq, hf, htoks]
  refine ⟨good_update g1 hxc _ _ _ _ none ⟨fun _ => ⟨rfl, nofun, rfl⟩, nofun, nofun, fun h => ?_⟩ nofun (.inr g2)
    (fun k d hk => .inr (unregister_some hg hx hk).symm) (fun _ => ?_) hW, ?_, rfl⟩
  · exact (hg.recOk hx).announcedOwn (h.elim Or.inl nofun)
  · have h1 : execL s.willLog c = [] := hs.execOpen c x hx ho
    rw [execL_append, execL_same, h1]
    exact (hg.willsOpen c x hx ho).symm
  · refine safe_of hs (by simp) (fun e he => ?_) fun j y' hj hop => ?_
    · rcases List.mem_append.mp he with h | h
      · exact hs.engRange e h
      · obtain ⟨t, _, rfl⟩ := List.mem_map.mp h
        exact lt_of_get hx
    · rcases get_set_cases hxc _ j y' hj with ⟨_, rfl⟩ | ⟨e, h⟩
      · cases hop
      · obtain ⟨y0, h0, rfl⟩ := get_unadopt h
        rw [unadopt_eq] at hop
        exact ⟨hW j e, y0, h0, hop⟩

end Slock.Conn
