import Slock.Proofs.ConnRun
/-! Consequences of the M-CONN invariants used by the C18 statements: idempotence of close, routing, what close does to the
engine, answerability of pending tokens. -/
namespace Slock.Conn

theorem doClose_get_self {t : Server} {j : Nat} {x : Conn} (h : t.conns[j]? = some x) :
    ∃ i, (doClose t j x).1.conns[j]? = some { closing x with inited := i } := by
  obtain ⟨i, e⟩ := closedRec_eq x (drainK (closeState t j x) j x).2
  rw [doClose_eq]
  exact ⟨i, e ▸ get_set_self (get_unadopt_of h) _⟩

theorem doClose_get_ne {t : Server} {j i : Nat} (x : Conn) (e : i ≠ j) :
    (doClose t j x).1.conns[i]? = (t.conns[i]?).map (unadopt j) := by
  rw [doClose_eq]
  exact (get_set_ne e _).trans (List.getElem?_map ..)

/-- `Close()` of record `j` keeps every record, its ADMIN links and its `awaiting`, and closed stays closed -/
theorem closeOne_get (t : Server) (j i : Nat) :
    ∃ f : Conn → Conn, (closeOne t j).1.conns[i]? = (t.conns[i]?).map f ∧
      ∀ y, t.conns[i]? = some y →
        (f y).outer = y.outer ∧ (f y).nested = y.nested ∧ (f y).awaiting = y.awaiting ∧ (y.closed = true → (f y).closed = true) := by
  have same : ∃ f : Conn → Conn, t.conns[i]? = (t.conns[i]?).map f ∧ ∀ y, t.conns[i]? = some y →
      (f y).outer = y.outer ∧ (f y).nested = y.nested ∧ (f y).awaiting = y.awaiting ∧ (y.closed = true → (f y).closed = true) :=
    ⟨id, by cases t.conns[i]? <;> rfl, fun _ _ => ⟨rfl, rfl, rfl, id⟩⟩
  fun_cases closeOne t j
  case case3 x hx _ _ =>
    by_cases hij : i = j
    · subst hij
      exact ⟨fun y => { y with halfClosed := true }, by rw [hx]; exact get_set_self hx _, fun _ _ => ⟨rfl, rfl, rfl, id⟩⟩
    · exact ⟨id, by rw [show (_ : Server).conns[i]? = _ from get_set_ne hij _]; cases t.conns[i]? <;> rfl,
        fun _ _ => ⟨rfl, rfl, rfl, id⟩⟩
  case case4 x hx _ _ _ =>
    by_cases hij : i = j
    · subst hij
      obtain ⟨i', h'⟩ := doClose_get_self (t := t) hx
      refine ⟨fun y => { closing y with inited := i' }, by rw [hx]; exact h', fun _ _ => ⟨rfl, rfl, rfl, fun _ => rfl⟩⟩
    · refine ⟨unadopt j, doClose_get_ne x hij, fun y _ => ?_⟩
      rw [unadopt_eq]
      exact ⟨rfl, rfl, rfl, id⟩
  all_goals exact same

theorem closeOne_streamOf (t : Server) (j c : Nat) : streamOf (closeOne t j).1 c = streamOf t c := by
  obtain ⟨f, e, hf⟩ := closeOne_get t j c
  unfold streamOf
  rw [e]
  cases h : t.conns[c]? with
  | none => rfl
  | some y => exact congrArg (·.getD c) (hf y h).1

theorem closeOne_idem (s : Server) (c : Nat) : (closeOne (closeOne s c).1 c).1 = (closeOne s c).1 := by
  fun_cases closeOne s c
  case case1 h => show (closeOne s c).1 = s; unfold closeOne; rw [h]
  case case2 x hx hc => exact congrArg Prod.fst (closeOne_noop hx hc)
  case case3 x hx hc ha =>
    show (closeOne { s with conns := s.conns.set c { x with halfClosed := true } } c).1 = _
    rw [closeOne_defer (t := { s with conns := s.conns.set c { x with halfClosed := true } }) (get_set_self hx _)
      (Bool.not_eq_true _ ▸ hc) ha]
    simp [List.set_set]
  case case4 x hx _ _ _ =>
    obtain ⟨i, hy⟩ := doClose_get_self (t := s) hx
    show (closeOne (doClose s c x).1 c).1 = (doClose s c x).1
    rw [closeOne_noop hy rfl]

theorem nestedOf_spec (t : Server) (o n : Nat) (h : nestedOf t o = some n) :
    ∃ x y, t.conns[o]? = some x ∧ x.nested = some n ∧ t.conns[n]? = some y ∧ y.closed = false := by
  revert h
  fun_cases nestedOf t o <;> intro h
  case case5 x hx m hm y hy hyo => cases h; exact ⟨x, y, hx, hm, hy, Bool.not_eq_true _ ▸ hyo⟩
  all_goals cases h

theorem nestedOf_none {t : Server} {o : Nat}
    (h : ∀ x n y, t.conns[o]? = some x → x.nested = some n → t.conns[n]? = some y → y.closed = true) : nestedOf t o = none := by
  cases hn : nestedOf t o with
  | none => rfl
  | some n =>
    obtain ⟨x, y, hx, hxn, hy, hyo⟩ := nestedOf_spec t o n hn
    exact nomatch hyo.symm.trans (h x n y hx hxn hy)

theorem nestedOf_none_spec {t : Server} {o : Nat} (h : nestedOf t o = none) {x : Conn} (hx : t.conns[o]? = some x) {n : Nat}
    (hn : x.nested = some n) {y : Conn} (hy : t.conns[n]? = some y) : y.closed = true := by
  unfold nestedOf at h
  simp only [hx, hn, hy] at h
  split at h
  · assumption
  · cases h

theorem closeOne_nestedOf_none (t : Server) (j o : Nat) (h : nestedOf t o = none) : nestedOf (closeOne t j).1 o = none := by
  refine nestedOf_none fun x' n y' hx' hn' hy' => ?_
  obtain ⟨f, e, hf⟩ := closeOne_get t j o
  obtain ⟨g, e', hg⟩ := closeOne_get t j n
  rw [e] at hx'
  rw [e'] at hy'
  obtain ⟨x, hx, rfl⟩ := Option.map_eq_some_iff.mp hx'
  obtain ⟨y, hy, rfl⟩ := Option.map_eq_some_iff.mp hy'
  exact (hg y hy).2.2.2 (nestedOf_none_spec h hx ((hf x hx).2.1.symm.trans hn') hy)

theorem set_same {l : List Conn} {i : Nat} {z : Conn} (h : l[i]? = some z) : l.set i z = l := by
  apply List.ext_getElem?
  intro k
  by_cases e : k = i
  · subst e; rw [get_set_self h]; exact h.symm
  · rw [get_set_ne e]

theorem stepClose_idem (s : Server) (c : Nat) (hd : (stepClose s c).1.dead = none) :
    (stepClose (stepClose s c).1 c).1 = (stepClose s c).1 := by
  generalize ho : streamOf s c = o at *
  have plain : ∀ t, streamOf t c = o → nestedOf t o = none → stepClose t c = closeOne t o := fun t h1 h2 => by
    unfold stepClose; rw [h1, h2]
  cases hn : nestedOf s o with
  | none =>
    rw [plain s ho hn, plain _ (by rw [closeOne_streamOf, ho]) (closeOne_nestedOf_none s o o hn), closeOne_idem]
  | some n =>
    obtain ⟨x, y, hx, hxn, hy, hyo⟩ := nestedOf_spec s o n hn
    by_cases hya : y.awaiting = 0
    · -- the nested protocol closes (not fatally: the result is alive), then the connection
      have c1 := closeOne_do hy hyo hya
      have e1 : (stepClose s c).1 = (closeOne (closeOne s n).1 o).1 := by
        unfold stepClose at hd ⊢
        rw [ho, hn] at hd ⊢
        simp only [c1] at hd ⊢
        cases hf : (doClose s n y).2.2 with
        | some ff =>
          rw [hf] at hd
          rw [doClose_eq] at hd hf
          exact nomatch hd.symm.trans hf
        | none => simp only []; split <;> rfl
      rw [e1]
      -- n is closed from now on, so no nested protocol is running
      have e3 : nestedOf (closeOne s n).1 o = none := by
        refine nestedOf_none fun x' n' y' hx' hn' hy' => ?_
        obtain ⟨f, e, hf⟩ := closeOne_get s n o
        rw [e, hx] at hx'
        cases hx'
        cases hxn.symm.trans ((hf x hx).2.1.symm.trans hn')
        rw [c1] at hy'
        obtain ⟨i, h'⟩ := doClose_get_self (t := s) hy
        cases h'.symm.trans hy'
        rfl
      rw [plain _ (by rw [closeOne_streamOf, closeOne_streamOf, ho]) (closeOne_nestedOf_none _ o o e3), closeOne_idem]
    · -- the nested handler is blocked: both records get marked, and marking again changes nothing
      have c1 := closeOne_defer hy hyo hya
      have hr : (closeOne s n).2 = .deferred := by rw [c1]
      generalize hs1 : (closeOne s n).1 = s1 at *
      obtain ⟨x1, hx1, hx1n⟩ : ∃ x1, s1.conns[o]? = some x1 ∧ x1.nested = some n := by
        obtain ⟨f, e, hf⟩ := closeOne_get s n o
        rw [hs1, hx] at e
        exact ⟨f x, e, (hf x hx).2.1.trans hxn⟩
      have e1 : (stepClose s c).1 = { s1 with conns := s1.conns.set o { x1 with halfClosed := true } } := by
        unfold stepClose; rw [ho, hn]; simp only [hr, hs1, hx1]
      rw [e1]
      obtain ⟨y1, hy1, hy1o, hy1a, hy1h⟩ : ∃ y1, s1.conns[n]? = some y1 ∧ y1.closed = false ∧ y1.awaiting ≠ 0 ∧ y1.halfClosed = true := by
        rw [← hs1, c1]; exact ⟨_, get_set_self hy _, hyo, hya, rfl⟩
      let s2 : Server := { s1 with conns := s1.conns.set o { x1 with halfClosed := true } }
      have ho2 : s2.conns[o]? = some { x1 with halfClosed := true } := get_set_self hx1 _
      obtain ⟨y2, hy2, hy2o, hy2a, hy2h⟩ : ∃ y2, s2.conns[n]? = some y2 ∧ y2.closed = false ∧ y2.awaiting ≠ 0 ∧ y2.halfClosed = true := by
        by_cases e : n = o
        · subst e
          cases hy1.symm.trans hx1
          exact ⟨_, ho2, hy1o, hy1a, rfl⟩
        · exact ⟨y1, (get_set_ne e _).trans hy1, hy1o, hy1a, hy1h⟩
      have hst : streamOf s2 c = o := by
        have : streamOf s1 c = o := by rw [← hs1, closeOne_streamOf, ho]
        unfold streamOf at this ⊢
        by_cases e : c = o
        · subst e
          rw [ho2]
          rw [hx1] at this
          exact this
        · rw [show s2.conns[c]? = _ from get_set_ne e _]; exact this
      have hne2 : nestedOf s2 o = some n := by
        unfold nestedOf
        simp only [ho2, hx1n, hy2, hy2o]
        simp
      have half : ∀ z : Conn, z.halfClosed = true → ({ z with halfClosed := true } : Conn) = z := fun z h => by
        cases z; cases h; rfl
      have hc2 : closeOne s2 n = (s2, .deferred) := by
        rw [closeOne_defer hy2 hy2o hy2a, half y2 hy2h, set_same hy2]
      show (stepClose s2 c).1 = s2
      unfold stepClose
      rw [hst, hne2]
      simp only [hc2, ho2]
      rw [half { x1 with halfClosed := true } rfl, set_same ho2]

theorem recv_open {s : Server} {d : Nat} {y : Conn} (hy : s.conns[d]? = some y) (ho : y.closed = false) (tok : Nat) :
    handledAt d (recv s d tok) := by
  rcases recvN_cases hy s.conns.length tok with ⟨_, h⟩ | ⟨h, _⟩ | ⟨h, _⟩
  · exact h
  · exact nomatch ho.symm.trans h
  · exact nomatch ho.symm.trans h

theorem route_to {s : Server} (hg : Good s) (tok o : Nat) (x : Conn) (d : Nat) (ho : aget s.owner tok = some o)
    (hx : s.conns[o]? = some x) (hd : (route s tok).2 = .to d) :
    (d = o ∧ x.closed = false) ∨
    (x.closed = true ∧ d ≠ o ∧ x.cid ≠ 0 ∧ x.cid ∈ x.announced ∧
      ∃ y, s.conns[d]? = some y ∧ y.closed = false ∧ x.cid ∈ y.announced) := by
  -- the reply is handed to an open connection `d0` that announced the issuer's id: that is where it is written
  have other : ∀ d0 y, x.target ≠ .self → x.cid ≠ 0 → s.conns[d0]? = some y → y.closed = false → x.cid ∈ y.announced →
      recv s d0 tok = .to d → x.closed = true ∧ d ≠ o ∧ x.cid ≠ 0 ∧ x.cid ∈ x.announced ∧
        ∃ y, s.conns[d]? = some y ∧ y.closed = false ∧ x.cid ∈ y.announced := fun d0 y ht hnz hy hyo hya h => by
    have hxc := hg.closed_of_target hx ht
    have hh := recv_open hy hyo tok
    rw [h] at hh
    cases hh
    refine ⟨hxc, fun e => ?_, hnz, hg.announcedOwn o x hx (.inl hnz), y, hy, hyo, hya⟩
    subst e
    cases hx.symm.trans hy
    exact nomatch hxc.symm.trans hyo
  revert hd
  -- the leaves of `route` that hand the reply on: 3 to the issuer itself, 4 to the connection that adopted its proxy, 7 and 8 to
  -- the connection registered under its id
  fun_cases route s tok <;> intro hd
  case case3 o' ho' x' hx' ht =>
    cases ho.symm.trans ho'
    cases hx.symm.trans hx'
    have hop : x.closed = false := by
      cases hc : x.closed
      · rfl
      · exact absurd ht (hg.closedShape o x hx hc).2.1
    have hh := recv_open hx hop tok
    rw [show recv s o tok = .to d from hd] at hh
    exact .inl ⟨hh, hop⟩
  case case4 o' ho' x' hx' d0 ht =>
    cases ho.symm.trans ho'
    cases hx.symm.trans hx'
    obtain ⟨hnz, y, hy, hyo, hya⟩ := hg.adopted o x d0 hx ht
    exact .inr (other d0 y (ht ▸ nofun) hnz hy hyo hya hd)
  case case7 o' ho' x' hx' ht hnz d0 hl _ | case8 o' ho' x' hx' ht hnz d0 hl _ =>
    cases ho.symm.trans ho'
    cases hx.symm.trans hx'
    obtain ⟨y, hy, hyo, _, _, hya, _⟩ := hg.clientsOk x.cid d0 hl
    exact .inr (other d0 y (ht ▸ nofun) hnz hy hyo hya hd)
  all_goals cases hd

theorem will_reply_to {s : Server} (hg : Good s) (c : Nat) (x : Conn) (hx : s.conns[c]? = some x) (t d : Nat)
    (h : recv (closeState s c x) c t = .to d) :
    x.inited = true ∧ aget s.clients x.cid = some d ∧ d ≠ c ∧ ∃ y, s.conns[d]? = some y ∧ y.closed = false := by
  rcases recv_closeState hg hx t with (e | e) | ⟨hi, e, y, h1, hec, hy, hyo, hh⟩
  · exact nomatch e.symm.trans h
  · exact nomatch e.symm.trans h
  · rw [h] at hh
    cases hh
    exact ⟨hi, h1, hec, y, hy, hyo⟩

/-- in a state satisfying `Good`, `Close` handles every will of the queue, in order, each with the outcome `willOutcome`
says — whatever the outcome of the earlier ones (the error `ProcessCommad` returns for a self-answered will is ignored) -/
theorem doClose_outcomes {s : Server} (hg : Good s) {c : Nat} {x : Conn} (hx : s.conns[c]? = some x) (hk : x.kind = .binary) :
    (doClose s c x).2 = (x.wills.map (willOutcome (closeState s c x) c), none) := by
  rw [doClose_eq]
  unfold drainK
  rw [hk]
  exact drain_eq _ _ _ (closeState_noloop hg hx)

theorem close_reply_to {s : Server} (hg : Good s) (c : Nat) (res : List WillRes) (f : Option Fatal)
    (r : WillRes) (d : Nat) (h : (closeOne s c).2 = .closed res f) (hm : r ∈ res) (hrd : r.reply = some (Dest.to d)) :
    ∃ x, s.conns[c]? = some x ∧ x.inited = true ∧ aget s.clients x.cid = some d ∧ d ≠ c ∧
      ∃ y, s.conns[d]? = some y ∧ y.closed = false := by
  revert h
  fun_cases closeOne s c <;> intro h
  case case4 x hx _ _ _ =>
    cases h
    change r ∈ (doClose s c x).2.1 at hm
    refine ⟨x, hx, ?_⟩
    cases hk : x.kind
    · -- binary: the reply of a will is what `recv` makes of it in the closing state
      rw [doClose_outcomes hg hx hk] at hm
      obtain ⟨w, _, rfl⟩ := List.mem_map.mp hm
      unfold willOutcome at hrd
      split at hrd
      · exact will_reply_to hg c x hx w.tok d (Option.some.inj hrd)
      · cases hrd
    · -- text: every reply is dropped
      rw [doClose_eq] at hm
      unfold drainK at hm
      rw [hk, show (drainT x.wills, (none : Option Fatal)).1 = _ from drainT_eq _] at hm
      obtain ⟨w, _, rfl⟩ := List.mem_map.mp hm
      split at hrd <;> cases hrd
  all_goals cases h

theorem aget_putOwners_notin (m : List (Nat × Nat)) (c : Nat) (toks : List Nat) (tok : Nat) (h : tok ∉ toks) :
    aget (putOwners m c toks) tok = aget m tok := by
  induction toks generalizing m with
  | nil => rfl
  | cons t ts ih =>
    simp only [List.mem_cons, not_or] at h
    unfold putOwners
    rw [ih _ h.2, aget_aput, if_neg h.1]

theorem closeOne_engine (s : Server) (c : Nat) :
    ∃ toks : List Nat, (closeOne s c).1.willLog = s.willLog ++ toks.map (fun t => (c, t)) ∧
      (∀ tok, tok ∉ toks → aget (closeOne s c).1.owner tok = aget s.owner tok) := by
  fun_cases closeOne s c
  case case4 x _ _ _ _ =>
    show ∃ toks, (doClose s c x).1.willLog = _ ∧ ∀ tok, tok ∉ toks → aget (doClose s c x).1.owner tok = _
    rw [doClose_eq]
    exact ⟨_, rfl, fun tok h => aget_putOwners_notin _ _ _ _ h⟩
  all_goals exact ⟨[], (List.append_nil _).symm, fun _ _ => rfl⟩

theorem stepClose_engine (s : Server) (c : Nat) :
    ∃ subs : List (Nat × Nat), (stepClose s c).1.willLog = s.willLog ++ subs ∧
      (∀ tok, tok ∉ subs.map (·.2) → aget (stepClose s c).1.owner tok = aget s.owner tok) := by
  refine stepClose_ind (fun t => ∃ subs : List (Nat × Nat), t.willLog = s.willLog ++ subs ∧
      (∀ tok, tok ∉ subs.map (·.2) → aget t.owner tok = aget s.owner tok)) s c ⟨[], by simp, fun _ _ => rfl⟩ ?_ ?_
  · intro t j ⟨subs, h1, h2⟩
    obtain ⟨toks, g1, g3⟩ := closeOne_engine t j
    refine ⟨subs ++ toks.map (fun t => (j, t)), by rw [g1, h1, List.append_assoc], ?_⟩
    intro tok hn
    simp only [List.map_append, List.mem_append, not_or, List.map_map] at hn
    rw [g3 tok (by intro hm; exact hn.2 (by simpa using hm)), h2 tok hn.1]
  · intro t j x ⟨subs, h1, h2⟩ _
    exact ⟨subs, h1, h2⟩

theorem recv_noloop {s : Server} (hg : Good s) (d tok : Nat) : recv s d tok ≠ .loop := by
  cases hd : s.conns[d]? with
  | none => rw [recv_none s d tok hd]; nofun
  | some y =>
    rcases recvN_cases hd s.conns.length tok with ⟨_, h⟩ | ⟨_, h | h⟩ | ⟨hc, _, hi, _⟩
    · exact h.ne_loop
    · exact fun hl => nomatch h.symm.trans hl
    · exact fun hl => nomatch h.symm.trans hl
    · exact nomatch (hg.closedShape d y hd hc).1.symm.trans hi

theorem route_noloop {s : Server} (hg : Good s) (tok : Nat) : (route s tok).2 ≠ .loop := by
  fun_cases route s tok
  case case3 | case4 | case7 | case8 => exact recv_noloop hg _ tok
  all_goals nofun

theorem closed_unreferenced {s : Server} (hg : Good s) (c : Nat) (x : Conn) (hx : s.conns[c]? = some x) (hc : x.closed = true) :
    (∀ k, aget s.clients k ≠ some c) ∧ (∀ (o : Nat) (y : Conn), s.conns[o]? = some y → y.target ≠ .conn c) := by
  constructor
  · intro k h
    obtain ⟨z, hz, hzo, _⟩ := hg.clientsOk k c h
    cases hx.symm.trans hz
    exact nomatch hc.symm.trans hzo
  · intro o y hy ht
    obtain ⟨_, z, hz, hzo, _⟩ := hg.adopted o y c hy ht
    cases hx.symm.trans hz
    exact nomatch hc.symm.trans hzo

theorem stepClose_plain {s : Server} {c : Nat} {x : Conn} (hx : s.conns[c]? = some x) (h1 : x.nested = none)
    (h2 : x.outer = none) : stepClose s c = closeOne s c := by
  have e1 : streamOf s c = c := by unfold streamOf; simp [hx, h2]
  have e2 : nestedOf s c = none := by unfold nestedOf; simp [hx, h1]
  unfold stepClose; rw [e1, e2]

theorem stepClose_admin_log {s : Server} (h : GSA s) {o n : Nat} {x y : Conn} (hx : s.conns[o]? = some x)
    (hxo : x.closed = false) (hxa : x.awaiting = 0) (hxn : x.nested = some n) (hxu : x.outer = none) (hne : n ≠ o)
    (hy : s.conns[n]? = some y) (hyo : y.closed = false) (hya : y.awaiting = 0) :
    (stepClose s o).1.willLog =
      s.willLog ++ (y.wills.map (·.tok)).map (fun t => (n, t)) ++ (x.wills.map (·.tok)).map (fun t => (o, t)) := by
  have e1 : streamOf s o = o := by unfold streamOf; simp [hx, hxu]
  have e2 : nestedOf s o = some n := by unfold nestedOf; simp [hx, hxn, hy, hyo]
  have c1 := closeOne_do hy hyo hya
  have a1 : (doClose s n y).2.2 = none := doClose_alive h.1 hy
  have g1 : GSA (doClose s n y).1 := gsa_doClose h hy hyo
  have hx1 : (doClose s n y).1.conns[o]? = some (unadopt n x) := by
    rw [doClose_get_ne y (fun e => hne e.symm), hx]; rfl
  have c2 := closeOne_do (t := (doClose s n y).1) hx1 (by rw [unadopt_eq]; exact hxo) (by rw [unadopt_eq]; exact hxa)
  have l2 := doClose_all g1.1 hx1
  unfold stepClose
  rw [e1, e2]
  simp only [c1, a1, c2]
  rw [l2, doClose_all h.1 hy, unadopt_eq]

end Slock.Conn
