import Slock.Proofs.Engine2SimInv
/-! Simulation stage 2 → stage 1: the SHAPE of the wait queue (`QS`): empty unless `waited`; the cached priority of an entry is the
priority of its record's command (while the record exists); priority mode: sorted by the cached priorities; FIFO mode: all cached
priorities equal; behind the head nothing sits in the holder queue. `QR k k'`: a step that can only shrink the queue. -/
namespace Slock.Sim
open Slock Slock.Engine2
open Slock.Engine (has)

/-- the priority of the request's command NOW -/
def prOf (k : Key) (rid : Nat) : Nat := Engine.cmdPriority (k.getR rid).cmd

structure QS (k : Key) : Prop where
  emp : k.waited = false → k.wait = []
  srt : k.waitPrio = true → (k.wait.map (·.prio)).Pairwise (· ≥ ·)
  eqc : k.waitPrio = false → ∀ e ∈ k.wait, ∀ e' ∈ k.wait, e.prio = e'.prio
  cch : ∀ e ∈ k.wait, k.hasRec e.rid → e.prio = prOf k e.rid
  dj : ∀ e ∈ k.wait.tail, e.rid ∉ k.current.toList ++ k.locks

theorem QS.of_nil {k : Key} (hw : k.wait = []) : QS k :=
  ⟨fun _ => hw, fun _ => (by rw [hw]; exact .nil), fun _ e he => absurd (hw ▸ he) List.not_mem_nil, fun e he => absurd (hw ▸ he) List.not_mem_nil,
   fun e he => absurd (hw ▸ he : e ∈ [].tail) List.not_mem_nil⟩

theorem QS.newKey (n : Nat) : QS (Engine2.newKey n) := .of_nil rfl

/-- `GetWaitLock` would return the raw head -/
def HL (k : Key) : Prop := ∀ e rest, k.wait = e :: rest → k.deadWaiter e.rid = false

theorem HL.of_nil {k : Key} (h : k.wait = []) : HL k := fun e rest he => by rw [h] at he; simp at he

structure W3 (w : W) : Prop where
  wi : WI w
  qs : QS w.k

/-- the queue can only have shrunk; the records of what is left read the same; the holder queue gained nothing that sits behind the head -/
structure QR (k k' : Key) : Prop where
  sub : k'.wait.Sublist k.wait
  emp : k'.waited = false → k'.wait = []
  wp : k'.waitPrio = k.waitPrio
  rcd : ∀ e ∈ k'.wait, k'.hasRec e.rid → k.hasRec e.rid ∧ prOf k' e.rid = prOf k e.rid
  hq : ∀ y ∈ k'.current.toList ++ k'.locks, y ∈ k.current.toList ++ k.locks ∨ y ∉ k'.wait.tail.map (·.rid)

theorem tail_sublist_tail {α : Type} {l' l : List α} (h : l'.Sublist l) : l'.tail.Sublist l.tail := by
  induction h with
  | slnil => exact List.Sublist.refl _
  | cons a h ih =>
    rename_i l1 l2
    cases l1 with
    | nil => exact List.nil_sublist _
    | cons x xs => exact (List.tail_sublist _).trans h
  | cons_cons a h _ => exact h

theorem QS.of_qr {k k' : Key} (h : QS k) (r : QR k k') : QS k' := by
  refine ⟨r.emp, fun hp => ?_, fun hp e he e' he' => ?_, fun e he hh => ?_, fun e he hm => ?_⟩
  · exact (h.srt (r.wp ▸ hp)).sublist (List.Sublist.map _ r.sub)
  · exact h.eqc (r.wp ▸ hp) e (r.sub.subset he) e' (r.sub.subset he')
  · obtain ⟨a, b⟩ := r.rcd e he hh
    rw [b]; exact h.cch e (r.sub.subset he) a
  · rcases r.hq e.rid hm with h1 | h1
    · exact h.dj e ((tail_sublist_tail r.sub).subset he) h1
    · exact h1 (List.mem_map.mpr ⟨e, he, rfl⟩)

theorem QR.trans {a b c : Key} (h1 : QR a b) (h2 : QR b c) : QR a c := by
  refine ⟨h2.sub.trans h1.sub, h2.emp, h2.wp.trans h1.wp, fun e he hh => ?_, fun y hy => ?_⟩
  · obtain ⟨x, y⟩ := h2.rcd e he hh
    obtain ⟨x', y'⟩ := h1.rcd e (h2.sub.subset he) x
    exact ⟨x', y.trans y'⟩
  · rcases h2.hq y hy with h3 | h3
    · rcases h1.hq y h3 with h4 | h4
      · exact Or.inl h4
      · right
        intro hm
        exact h4 ((List.Sublist.map _ (tail_sublist_tail h2.sub)).subset hm)
    · exact Or.inr h3

/-- command of a record: all `QS` reads of it -/
def πCmd (r : Rec) : Engine.Cmd := r.cmd
theorem ins_πCmd : Ins πCmd := ⟨fun _ _ => rfl, fun _ _ => rfl, fun _ _ => rfl, fun _ _ => rfl⟩

theorem QR.of_pk {k k' : Key} (q : k'.queues = k.queues) (hwd : k'.waited = k.waited) (hwp : k'.waitPrio = k.waitPrio)
    (he : k.waited = false → k.wait = []) (p : PKeep πCmd k' k) : QR k k' := by
  obtain ⟨q1, q2, q3⟩ := queues_eq q
  refine ⟨by rw [q3]; exact List.Sublist.refl _, fun h => by rw [q3]; exact he (hwd ▸ h), hwp, fun e _ hh => ?_, fun y hy => Or.inl (by rw [← q1, ← q2]; exact hy)⟩
  exact ⟨p.sub e.rid hh, by unfold prOf; exact congrArg Engine.cmdPriority (p.val e.rid hh)⟩

theorem QR.of_quiet {w w' : W} (d : Quiet w w') (he : w.k.waited = false → w.k.wait = []) : QR w.k w'.k :=
  QR.of_pk d.q d.wd d.wp he (d.p.comp (·.i.cmd))

end Slock.Sim
