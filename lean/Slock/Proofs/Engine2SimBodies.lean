import Slock.Proofs.Engine2Frame
import Slock.Proofs.EngineSimForms
/-! The state-changing branches of the record-level LOCK and UNLOCK as functions of the working state they start from (the entered /
opened key record), up to the wake pass; `applyLock` / `applyUnlock` of a database is the body at `db.enter c.key` / `db.openKey c.key`,
by unfolding. Invariants and the simulation are proved about the bodies at an arbitrary working state. -/
namespace Slock.Sim
open Slock Slock.Engine2
open Slock.Engine (has F_FROM_AOF RESULT_SUCCED RESULT_LOCKED_ERROR RESULT_UNLOCK_ERROR RESULT_TIMEOUT)

/-- `UpdateLockedLock` of hold `h` with the terms `c'`, the journal record (if `b`) -/
def updTail (w : W) (h : Nat) (c' : Cmd) (b : Bool) : W := (w.updateLocked h c').when b (·.journalLock h AOF_UPDATED)

def updLocked (w : W) (c' : Cmd) (data : Option Bytes) (h : Nat) (b : Bool) : W := updTail (w.procData .lock c' (frameOf c' data) h) h c' b

def lockUpdate (w : W) (c' : Cmd) (data : Option Bytes) (h : Nat) : W :=
  (updLocked w c' data h (!has c'.flag F_FROM_AOF)).reply c' RESULT_LOCKED_ERROR ((updLocked w c' data h (!has c'.flag F_FROM_AOF)).k.getR h).depth w.lockData

theorem applyLock_update (db : DB) (c : Cmd) (data : Option Bytes) (h : Nat) :
    applyLock db c data (.update h) = (lockUpdate (db.enter c.key) (lockCmdOf (db.enter c.key).k c (.update h)) data h).wake := rfl

def relockPre (w : W) (h : Nat) : W := (w.modR h (fun r => { r with depth := r.depth + 1 })).modK incLocked

def lockRelock (w : W) (c : Cmd) (data : Option Bytes) (h : Nat) : W :=
  ((updLocked (relockPre w h) c data h true).ctr ctrG).reply c RESULT_SUCCED
    (((updLocked (relockPre w h) c data h true).ctr ctrG).k.getR h).depth w.lockData

theorem updLocked_true (w : W) (c' : Cmd) (data : Option Bytes) (h : Nat) :
    updLocked w c' data h true = ((w.procData .lock c' (frameOf c' data) h).updateLocked h c').journalLock h AOF_UPDATED :=
  when_true ((w.procData .lock c' (frameOf c' data) h).updateLocked h c') (·.journalLock h AOF_UPDATED)

theorem applyLock_relock (db : DB) (c : Cmd) (data : Option Bytes) (h : Nat) :
    applyLock db c data (.relock h) = (lockRelock (db.enter c.key) c data h).wake := by
  unfold lockRelock
  rw [updLocked_true]
  rfl

/-- a lock record for the request, granted at once (Expried > 0) -/
def lockGrant (w : W) (c : Cmd) (data : Option Bytes) : W := (w.newLock c data).1.grant w.db.nextRid

theorem applyLock_grant (db : DB) (c : Cmd) (data : Option Bytes) :
    applyLock db c data .grant = (lockGrant (db.enter c.key) c data).when (db.enter c.key).k.waited (·.wake) := rfl

/-- a lock record for the request, the value operation, the record freed again (Expried = 0), up to the reclaim check -/
def lockFree (w : W) (c : Cmd) (data : Option Bytes) : W := ((w.newLock c data).1.grantNoHold w.db.nextRid).modK (·.free w.db.nextRid)

def lockGrantNoHold (w : W) (c : Cmd) (data : Option Bytes) : W :=
  ((lockFree w c data).removeIfZero.ctr ctrL).reply c RESULT_SUCCED 0 w.lockData

theorem applyLock_grantNoHold (db : DB) (c : Cmd) (data : Option Bytes) :
    applyLock db c data .grantNoHold = (lockGrantNoHold (db.enter c.key) c data).when (db.enter c.key).k.waited (·.wake) := rfl

def queueA (w : W) (c : Cmd) (data : Option Bytes) : W := (w.newLock c data).1.modK (·.addWaitLock w.db.nextRid)
def queueT (w : W) (c : Cmd) (data : Option Bytes) : W := (queueA w c data).addTimeOut w.db.nextRid

def lockQueue (w : W) (c : Cmd) (data : Option Bytes) : W :=
  ((queueT w c data).ref w.db.nextRid).ctr (fun x => { x with waitCount := x.waitCount + 1 })

theorem applyLock_queue (db : DB) (c : Cmd) (data : Option Bytes) : applyLock db c data .queue = lockQueue (db.enter c.key) c data := rfl

/-- the queued request `x` leaves the queue: tombstone, long-table entry, `settleWait` -/
def tombPre (w : W) (x : Nat) : W := ((w.modR x (fun r => { r with timeouted := true })).dropLongT x).modK (·.settleWait)

def cancelPre (w : W) (x : Nat) : W := (((tombPre w x).ctr ctrW).removeIfZero).ctr ctrU

def unlockCancel (w : W) (c : Cmd) (x : Nat) : W :=
  ((cancelPre w x).reply c RESULT_LOCKED_ERROR 0 (cancelPre w x).lockData).reply { (w.k.getR x).cmd with conn := (w.k.getR x).conn }
    RESULT_UNLOCK_ERROR 0 (cancelPre w x).lockData

theorem applyUnlock_cancel (db : DB) (c : Cmd) (data : Option Bytes) (x : Nat) :
    applyUnlock db c data (.cancel x) = (unlockCancel (db.openKey c.key) c x).wake := rfl

def decHead (w : W) (h : Nat) : W := (w.modR h (fun r => { r with depth := r.depth - 1 })).modK (fun k => { k with locked := k.locked - 1 })

/-- one level of a re-entrant hold given back, up to the counters -/
def decPre (w : W) (c' : Cmd) (data : Option Bytes) (h : Nat) : W :=
  ((decHead w h).procData .unlock c' (frameOf c' data) h).journalUnlock h (has c'.flag F_FROM_AOF) true AOF_UPDATED

def unlockDec (w : W) (c' : Cmd) (data : Option Bytes) (h : Nat) : W :=
  ((decPre w c' data h).ctr ctrDec).reply c' RESULT_SUCCED (((decPre w c' data h).ctr ctrDec).k.getR h).depth (decHead w h).lockData

theorem applyUnlock_dec (db : DB) (c : Cmd) (data : Option Bytes) (h : Nat) (c' : Cmd) :
    applyUnlock db c data (.dec h c') = (unlockDec (db.openKey c.key) c' data h).wake := rfl

/-- the hold ends: `expried`, `locked`, the value operation -/
def relHead (w : W) (c' : Cmd) (data : Option Bytes) (h : Nat) : W :=
  ((w.modR h (fun r => { r with expried := true })).modK (fun k => { k with locked := k.locked - (w.k.getR h).depth })).procData .unlock c'
    (frameOf c' data) h

def relMid (w : W) (c' : Cmd) (data : Option Bytes) (h : Nat) : W :=
  ((relHead w c' data h).dropLongE h).journalUnlock h (has c'.flag F_FROM_AOF) false 0

/-- `RemoveLock`, the record freed if nothing refers to it any more -/
def relPre (w : W) (c' : Cmd) (data : Option Bytes) (h : Nat) : W :=
  ((relMid w c' data h).modK (·.removeLock h)).when
    (((relHead w c' data h).k.getR h).eLong && (((relMid w c' data h).modK (·.removeLock h)).k.getR h).refCount == 0) (·.freeCheck h)

def unlockRelease (w : W) (c' : Cmd) (data : Option Bytes) (h : Nat) : W :=
  ((relPre w c' data h).ctr (ctrRel (w.k.getR h).depth)).reply c' RESULT_SUCCED 0 w.lockData

theorem applyUnlock_release (db : DB) (c : Cmd) (data : Option Bytes) (h : Nat) (c' : Cmd) :
    applyUnlock db c data (.release h c') = (unlockRelease (db.openKey c.key) c' data h).wake := rfl

end Slock.Sim
