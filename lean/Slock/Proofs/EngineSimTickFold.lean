import Slock.Proofs.EngineSimTickKTTick
import Slock.Proofs.EngineSimTickI1
import Slock.Proofs.EngineSimTickEntries
/-! Clock-tick simulation: a phase of a sweep is a fold over wheel entries on the record level and over requests / holds at stage 1.
Both run over one list of PAIRS (entry, stage-1 item) — in a collecting pass the stage-1 side of an entry that is not live is `none`, and
stage 1 skips it — with a relation between the two accumulators that may speak of the pairs still to come (`sim_foldl`). What pairs an
entry still to come with its stage-1 item (`Matched`): the identity relation `P` of the wheel, and that stage 1 still HAS that very item
(`at1`); the first survives every sweep step (the record-level frame `WFD`), the second every stage-1 step on another item. -/
namespace Slock.SimTick
open Slock Slock.Sim Slock.Engine2

theorem foldl_collect {σ α : Type} (l : List α) (x : σ × List α) : l.foldl (fun acc v => (acc.1, acc.2 ++ [v])) x = (x.1, x.2 ++ l) := by
  induction l generalizing x with
  | nil => simp
  | cons a as ih => simp [ih]

theorem sim_foldl {σ₂ σ₁ ε ι : Type} (f₂ : σ₂ → ε → σ₂) (f₁ : σ₁ → ι → σ₁) (R : List (ε × ι) → σ₂ → σ₁ → Prop)
    (step : ∀ p rest x₂ x₁, R (p :: rest) x₂ x₁ → R rest (f₂ x₂ p.1) (f₁ x₁ p.2)) :
    ∀ (L : List (ε × ι)) (x₂ : σ₂) (x₁ : σ₁), R L x₂ x₁ → R [] ((L.map (·.1)).foldl f₂ x₂) ((L.map (·.2)).foldl f₁ x₁)
  | [], _, _, h => h
  | p :: rest, x₂, x₁, h => sim_foldl f₂ f₁ R step rest _ _ (step p rest x₂ x₁ h)

/-- stage 1's step on the stage-1 side of a pair of a collecting pass -/
def optStep {σ ι : Type} (f : σ → ι → σ) (x : σ) : Option ι → σ
  | some i => f x i
  | none => x

theorem foldl_optStep {σ ι : Type} (f : σ → ι → σ) (l : List (Option ι)) (x : σ) : l.foldl (optStep f) x = (l.filterMap id).foldl f x := by
  induction l generalizing x with
  | nil => rfl
  | cons o os ih => cases o <;> simp [optStep, ih]

theorem pass_foldl {σ₂ σ₁ ε ι : Type} (f₂ : σ₂ → ε → σ₂) (f₁ : σ₁ → ι → σ₁) (R : List (ε × Option ι) → σ₂ → σ₁ → Prop)
    (step : ∀ p rest x₂ x₁, R (p :: rest) x₂ x₁ → R rest (f₂ x₂ p.1) (optStep f₁ x₁ p.2)) (L : List (ε × Option ι)) (x₂ : σ₂) (x₁ : σ₁)
    (h : R L x₂ x₁) : R [] ((L.map (·.1)).foldl f₂ x₂) (((L.map (·.2)).filterMap id).foldl f₁ x₁) :=
  foldl_optStep f₁ _ x₁ ▸ sim_foldl f₂ (optStep f₁) R step L x₂ x₁ h

/-- the collecting pass over the slot entries, the one over the long-table entries (stage 1 only appends its items), then
the firing phase over what was collected, each carrying its own relation -/
theorem sweep_sim {α : Type} {visit : Bool → DB × List Ent → Ent → DB × List Ent} {visit1 : Engine.DB × List α → α → Engine.DB × List α}
    {fire : DB × List Reply → Ent → DB × List Reply} {fire1 : Engine.DB × List Engine.Reply → α → Engine.DB × List Engine.Reply}
    {R1 R2 : List (Ent × Option α) → DB × List Ent → Engine.DB × List α → Prop}
    {R3 : List (Ent × α) → DB × List Reply → Engine.DB × List Engine.Reply → Prop} {L1 L2 : List (Ent × Option α)} {s : DB} {a : Engine.DB}
    (h1 : ∀ x2 x1, R1 L1 x2 x1 → R1 [] ((L1.map (·.1)).foldl (visit true) x2) (((L1.map (·.2)).filterMap id).foldl visit1 x1))
    (h2 : ∀ x2 x1, R2 L2 x2 x1 → R2 [] ((L2.map (·.1)).foldl (visit false) x2) (x1.1, x1.2 ++ (L2.map (·.2)).filterMap id))
    (h3 : ∀ L x2 x1, R3 L x2 x1 → R3 [] ((L.map (·.1)).foldl fire x2) ((L.map (·.2)).foldl fire1 x1))
    (h12 : ∀ x2 x1, R1 [] x2 x1 → R2 L2 x2 x1)
    (h23 : ∀ x2 x1, R2 [] x2 x1 → x2.2.length = x1.2.length ∧ R3 (x2.2.zip x1.2) (x2.1, []) (x1.1, []))
    (h0 : R1 L1 (s, []) (a, [])) :
    R3 [] (((L2.map (·.1)).foldl (visit false) ((L1.map (·.1)).foldl (visit true) (s, []))).2.foldl fire
        (((L2.map (·.1)).foldl (visit false) ((L1.map (·.1)).foldl (visit true) (s, []))).1, []))
      (((((L1.map (·.2)).filterMap id).foldl visit1 (a, [])).2 ++ (L2.map (·.2)).filterMap id).foldl fire1
        ((((L1.map (·.2)).filterMap id).foldl visit1 (a, [])).1, [])) := by
  obtain ⟨hlen, a3⟩ := h23 _ _ (h2 _ _ (h12 _ _ (h1 _ _ h0)))
  have a4 := h3 _ _ _ a3
  rw [List.map_fst_zip (Nat.le_of_eq hlen), List.map_snd_zip (Nat.le_of_eq hlen.symm)] at a4
  exact a4

variable {α : Type}

/-- the pairs of a collecting pass over `L` that starts in `s` -/
def pairs (live : DB → Ent → Bool) (view : DB → Ent → α) (s : DB) (L : List Ent) : List (Ent × Option α) :=
  L.map fun e => (e, if live s e then some (view s e) else none)

theorem pairs_fst (live : DB → Ent → Bool) (view : DB → Ent → α) (s : DB) (L : List Ent) : (pairs live view s L).map (·.1) = L := by
  unfold pairs; simp [Function.comp_def]

theorem pairs_snd (live : DB → Ent → Bool) (view : DB → Ent → α) (s : DB) (L : List Ent) :
    ((pairs live view s L).map (·.2)).filterMap id = (L.filter (live s)).map (view s) := by
  unfold pairs
  induction L with
  | nil => rfl
  | cons e es ih => cases h : live s e <;> simp_all [List.filter]

variable (P : DB → Ent → α → Prop) (dead : DB → Ent → Prop) (at1 : Engine.DB → α → Prop)

def Matched (s : DB) (a : Engine.DB) (p : Ent × Option α) : Prop :=
  match p.2 with
  | some v => P s p.1 v ∧ at1 a v
  | none => dead s p.1

/-- the accumulators of a collecting pass (database, collected so far), with the pairs still to be visited -/
structure PassR (S : List WId) (todo : List (Ent × Option α)) (x2 : DB × List Ent) (x1 : Engine.DB × List α) : Prop where
  wf : WF x2.1
  i1 : I1 x1.1
  eq : EqL S (Engine2.abs x2.1) x1.1
  len : x2.2.length = x1.2.length
  coll : ∀ p ∈ x2.2.zip x1.2, P x2.1 p.1 p.2
  pend : ∀ p ∈ todo, Matched P dead at1 x2.1 x1.1 p
  nd : (todo.map (eid ·.1)).Nodup

/-- the accumulators of a firing phase (database, replies so far), with the pairs still to be fired -/
structure FireR (S : List WId) (todo : List (Ent × α)) (x2 : DB × List Reply) (x1 : Engine.DB × List Engine.Reply) : Prop where
  wf : WF x2.1
  i1 : I1 x1.1
  eq : EqL S (Engine2.abs x2.1) x1.1
  out : x2.2.map (·.r) = x1.2
  pend : ∀ p ∈ todo, P x2.1 p.1 p.2

variable {P dead at1}

/-- after a step on the first pair that collects nothing -/
theorem PassR.next {S S' : List WId} {p : Ent × Option α} {todo : List (Ent × Option α)} {s s' : DB} {a a' : Engine.DB} {C2 : List Ent} {C1 : List α}
    (h : PassR P dead at1 S (p :: todo) (s, C2) (a, C1)) (sy' : WF s') (i1' : I1 a') (eq' : EqL S' (Engine2.abs s') a')
    (kP : ∀ e w, P s e w → P s' e w) (kD : ∀ e, dead s e → dead s' e) (k1 : ∀ q ∈ todo, ∀ v, q.2 = some v → at1 a v → at1 a' v) :
    PassR P dead at1 S' todo (s', C2) (a', C1) := by
  refine ⟨sy', i1', eq', h.len, fun q hq => kP _ _ (h.coll q hq), fun q hq => ?_, (List.nodup_cons.mp h.nd).2⟩
  have := h.pend q (List.mem_cons_of_mem _ hq)
  unfold Matched at this ⊢
  cases hq2 : q.2 with
  | none => rw [hq2] at this; exact kD _ this
  | some v => rw [hq2] at this; exact ⟨kP _ _ this.1, k1 q hq v hq2 this.2⟩

theorem PassR.collect {S : List WId} {todo : List (Ent × Option α)} {s : DB} {a : Engine.DB} {C2 : List Ent} {C1 : List α} {e : Ent} {v : α}
    (h : PassR P dead at1 S todo (s, C2) (a, C1)) (hp : P s e v) : PassR P dead at1 S todo (s, C2 ++ [e]) (a, C1 ++ [v]) := by
  refine ⟨h.wf, h.i1, h.eq, by simp [h.len], fun q hq => ?_, h.pend, h.nd⟩
  rw [List.zip_append h.len] at hq
  rcases List.mem_append.mp hq with hq | hq
  · exact h.coll q hq
  · simp only [List.zip_cons_cons, List.zip_nil_right, List.mem_singleton] at hq
    rw [hq]; exact hp

end Slock.SimTick
