import Slock.Proofs.EngineHolds
import Slock.Proofs.EngineReplies
import Slock.Proofs.EngineSimWU
/-!
C05 / C06 "not late". The sweep of second `c` leaves nothing scheduled for `c` or earlier, for both wheels through
`Wheel.sweep_good`: each side says why a re-armed or fired record is gone afterwards, and on both it is because identities are
distinct within a key (`WU`: the ids of queued requests; `HU`: lock-record identities). Between operations this gives `HN`
(expiry side, for every operation sequence) and `WLB` (timeout side, while no LOCK bears the id of a request still queued
under its key). `Steady` puts together the invariants that need no premise on the operations, so that one walk along a run
carries them all.
-/
namespace Slock.Engine

/-- every queued request is scheduled for a second that is still ahead -/
def WLB (db : DB) : Prop := ∀ n w, WaitAt db n w → db.now + 1 ≤ w.sched.visit

variable {db0 db d : DB} {s : Src} {n : Nat} {wk : Bool} {k : Key} {out : List Reply}

/-- what is kept all through the timeout sweep of second `c` -/
structure TMid (c : Nat) (d : DB) : Prop where
  now : d.now = c
  tc : d.tCheck = c + 1
  kn : KN d
  kw : KW d
  wu : WU d

theorem TMid.edit {c : Nat} (e : Edit db0 db .sweepT n wk d k out) (h : TMid c db) : TMid c (store wk d k out).1 :=
  ⟨e.clock.1.trans h.now, e.clock.2.1.trans h.tc, KN.edit e h.kn, KW.edit e h.kw, h.wu.edit e fun _ => nofun⟩

theorem rearmWaiter_done {c : Nat} {d : DB} (w : Waiter) (h : TMid c d) (hd : w.timeoutT > d.now) :
    ∀ n x, WaitAt (rearmWaiter d w) n x → (WaitAt d n x ∧ x ≠ w) ∨ c + 1 ≤ x.sched.visit := by
  intro n x hx
  rcases rearmWaiter_waitAt hx with ⟨hn, h3⟩ | ⟨_, ⟨h3, h4⟩ | h3⟩
  · -- under another key than the one `w` names
    exact Or.inl ⟨h3, fun e => hn (by rw [← e]; exact (h.kw n x h3).symm)⟩
  · -- under that key, not matching `w`
    exact Or.inl ⟨waitAt_getKey h3, fun e => by rw [e] at h4; simp at h4⟩
  · -- the re-armed record
    right
    have := (rearmed_ok d w (by rw [h.tc, h.now]) hd).2.2
    rw [h3]; rw [h.now] at this; exact this

theorem fireTimeout_done {c : Nat} {d : DB} (w w' : Waiter) (h : TMid c d) (hm : w' ∈ (d.getKey w.cmd.key).waiters)
    (hsame : (w'.cmd.req == w.cmd.req && w'.conn == w.conn) = true) :
    ∀ n x, WaitAt (fireTimeout d w.cmd.key w').1 n x → (WaitAt d n x ∧ x ≠ w) ∨ c + 1 ≤ x.sched.visit := by
  intro n x hx
  refine Or.inl ⟨fireTimeout_waitAt_sub hx, fun e => ?_⟩
  -- the fired request itself cannot still be queued: not under another key than the one it names, and under that key nothing
  -- that stays bears its id
  rcases fireTimeout_waitAt hx with ⟨hn, h1⟩ | ⟨_, h1⟩
  · exact hn (e ▸ (h.kw n x h1).symm)
  · exact removeWaiter_rc (getKey_wu h.wu _) hm x h1 (e ▸ ((SimTick.rc_match w' w).mp hsame).symm)

theorem waitWheel_laws (c : Nat) (db : DB) : waitWheel.Laws (TMid c) c db where
  home := fun d n w h hw => by
    have hg : w ∈ (d.getKey n).waiters := WaitAt.getKey h.kn hw
    rw [← h.kw n w hw] at hg; exact hg
  same_self := fun w => by simp [waitWheel]
  rearm := fun d w hw h hd => ⟨(h.edit (.rearmW (db0 := db) w hw hd) : TMid c (rearmWaiter d w)), rearmWaiter_done w h hd⟩
  fire := fun d w w' h hm hsame =>
    ⟨(h.edit (.timeout (db0 := db) _ w' hm) : TMid c (fireTimeout d w.cmd.key w').1), fireTimeout_done w w' h hm hsame⟩

theorem sweepTimeout_good (c : Nat) (db : DB) (h : TMid c db) (hlb : ∀ n w, WaitAt db n w → c ≤ w.sched.visit) :
    TMid c (sweepTimeout db c).1 ∧ ∀ n w, WaitAt (sweepTimeout db c).1 n w → c + 1 ≤ w.sched.visit := by
  rw [sweepTimeout_eq_wheel]
  exact Wheel.sweep_good (waitWheel_laws c db) h hlb

/-- what is kept all through the expiry sweep of second `c` -/
structure EMid (c : Nat) (d : DB) : Prop where
  now : d.now = c
  ec : d.eCheck = c + 1
  kn : KN d
  hn : HNs c d

theorem EMid.edit {c : Nat} (e : Edit db0 db s n wk d k out) (h : EMid c db) : EMid c (store wk d k out).1 := by
  have hc := e.clock
  exact ⟨hc.1.trans h.now, hc.2.2.trans h.ec, KN.edit e h.kn, h.hn.edit e⟩

theorem rearmHold_done {c : Nat} {d : DB} (h0 : Hold) (h : EMid c d) (hd : h0.expT > d.now) :
    ∀ n x, HoldAt (rearmHold d h0) n x → (HoldAt d n x ∧ x ≠ h0) ∨ c + 1 ≤ x.sched.visit := by
  intro n x hx
  rcases rearmHold_holdAt hx with ⟨hn, h3⟩ | ⟨hn, h3⟩
  · exact Or.inl ⟨h3, fun e => hn (by rw [← e]; exact ((h.hn.ok n x h3).key).symm)⟩
  · subst hn
    rcases mem_replaceHolder_ne (nodup_of_map _ _ (h.hn.getKey _).hu.1) h3 with ⟨h4, h5⟩ | h4
    · exact Or.inl ⟨holdAt_getKey h4, h5⟩
    · right
      have := (rearmedH_ok d h0 h0.cmd.key h.hn.ec rfl hd).2.1
      rw [h.ec] at this; rw [h4]; exact this

theorem fireExpire_done {c : Nat} {d : DB} (h0 h' : Hold) (h : EMid c d) (hm : h' ∈ (d.getKey h0.cmd.key).holders)
    (hid : h'.hid = h0.hid) :
    ∀ n x, HoldAt (fireExpire d h0.cmd.key h').1 n x → (HoldAt d n x ∧ x ≠ h0) ∨ c + 1 ≤ x.sched.visit := by
  intro n x hx
  have hul := (h.hn.getKey h0.cmd.key).hu
  rw [fireExpire_eq] at hx
  rcases holdAt_of_store (db0 := d) hx rfl (getKey_key d h0.cmd.key) with ⟨hn, h3⟩ | ⟨hn, h3⟩
  · exact Or.inl ⟨h3, fun e => hn (by rw [← e]; exact ((h.hn.ok n x h3).key).symm)⟩
  · subst hn
    rw [if_pos rfl] at h3
    -- what the wake pass that follows grants goes on the wheel relative to the check time `c + 1`
    refine (wake_lb (lo := c + 1) _ _ _ ?_ ?_ _ (fun y hy => Or.inl hy) x h3).elim ?_ Or.inr
    · exact h.hn.ec
    · exact Nat.le_of_eq h.ec.symm
    intro h4
    left
    -- what is left: the fired record is the one found by its identity, and it has been removed
    have hx1 := mem_removeHolder h4
    have hx2 := mem_removeHolder_ne (nodup_of_map _ _ hul.1) h4
    refine ⟨holdAt_getKey hx1, fun e => hx2 ?_⟩
    rw [e] at hx1 ⊢
    exact nodup_map_inj _ _ hul.1 hx1 hm hid.symm

theorem holdWheel_laws (c : Nat) (db : DB) : holdWheel.Laws (EMid c) c db where
  home := fun d n x h hx => by
    have hg : x ∈ (d.getKey n).holders := HoldAt.getKey h.kn hx
    rw [← (h.hn.ok n x hx).key] at hg; exact hg
  same_self := fun x => by simp [holdWheel]
  rearm := fun d x _ h hd => ⟨(h.edit (.rearmH (db0 := db) x hd) : EMid c (rearmHold d x)), rearmHold_done x h hd⟩
  fire := fun d x x' h hm hsame =>
    ⟨(h.edit (.expire (db0 := db) _ x' hm) : EMid c (fireExpire d x.cmd.key x').1),
      fireExpire_done x x' h hm (by simpa [holdWheel] using hsame)⟩

theorem sweepExpire_good (c : Nat) (db : DB) (h : EMid c db) (hlb : ∀ n x, HoldAt db n x → c ≤ x.sched.visit) :
    EMid c (sweepExpire db c).1 ∧ ∀ n x, HoldAt (sweepExpire db c).1 n x → c + 1 ≤ x.sched.visit := by
  rw [sweepExpire_eq_wheel]
  exact Wheel.sweep_good (holdWheel_laws c db) h hlb

theorem sweepTimeout_KW (db : DB) (c : Nat) (h : KW db) : KW (sweepTimeout db c).1 :=
  sweepTimeout_edit (P := fun d _ => KW d) db db c [] rfl (fun _ _ _ _ _ _ _ e => KW.edit e) h

theorem sweepTimeout_hu (db : DB) (c : Nat) (h : HU db) : HU (sweepTimeout db c).1 :=
  sweepTimeout_edit (P := fun d _ => HU d) db db c [] rfl (fun _ _ _ _ _ _ _ e => HU.edit e) h

/-! `HN` is `HNs (now + 1)` as it stands between operations: the expiry check time is one second ahead of the clock and no hold
is scheduled before it. -/

structure HN (db : DB) : Prop where
  ec : db.eCheck = db.now + 1
  hu : HU db
  ok : ∀ n x, HoldAt db n x → HOKs db.now n x
  lb : ∀ n x, HoldAt db n x → db.now + 1 ≤ x.sched.visit

theorem HN.init (now : Nat) : HN (DB.init now) := by
  refine ⟨rfl, ?_, ?_, ?_⟩
  · intro k hk; simp [DB.init] at hk
  · intro n x hx; obtain ⟨k, hk, _⟩ := hx; simp [DB.init] at hk
  · intro n x hx; obtain ⟨k, hk, _⟩ := hx; simp [DB.init] at hk

theorem HN.hinv {db : DB} (h : HN db) : HInv db := fun k hk x hx => (h.ok k.key x ⟨k, hk, rfl, hx⟩).long

theorem HN.of_keys_eq {db db' : DB} (h : HN db) (e : db'.keys = db.keys) (es : db'.seq = db.seq) (en : db'.now = db.now)
    (ee : db'.eCheck = db.eCheck) : HN db' :=
  ⟨by rw [ee, en]; exact h.ec, (h.hu.of_keys_seq e (Nat.le_of_eq es.symm)),
    fun n x hx => en ▸ h.ok n x (hx.of_keys_eq e), fun n x hx => en ▸ h.lb n x (hx.of_keys_eq e)⟩

theorem HN.hns (hw : KW d) (h : HN d) : HNs (d.now + 1) d :=
  ⟨.of_eq (.inr h.ec), Nat.le_of_eq h.ec.symm, fun q hq =>
    ⟨fun w hx => hw q.key w ⟨q, hq, rfl, hx⟩, h.hu q hq, fun x hx => h.ok q.key x ⟨q, hq, rfl, hx⟩,
      fun x hx => h.lb q.key x ⟨q, hq, rfl, hx⟩⟩⟩

theorem HNs.hn (h : HNs (d.now + 1) d) (he : d.eCheck = d.now + 1) : HN d := ⟨he, h.hu, h.ok, h.lb⟩

theorem HN.edit (e : Edit db0 db s n wk d k out) (hw : KW db) (h : HN db) : HN (store wk d k out).1 := by
  have hc := e.clock
  exact HNs.hn (hc.1 ▸ (h.hns hw).edit e) (by rw [hc.2.2, hc.1]; exact h.ec)

theorem opLock_HN (db : DB) (c : Cmd) (hw : KW db) (h : HN db) : HN (opLock db c).1 :=
  opLock_edit db c (Q := fun p => HN p.1) (fun _ _ _ => h) fun _ _ _ _ e => h.edit e hw

theorem opUnlock_HN (db : DB) (c : Cmd) (hw : KW db) (h : HN db) : HN (opUnlock db c).1 :=
  opUnlock_edit db c (Q := fun p => HN p.1) (fun _ _ _ => h.of_keys_eq rfl rfl rfl rfl) fun _ _ _ e => h.edit e hw

/-- One second of server time. The timeout sweep runs while the expiry check time is still the old one: a hold granted by
one of its wake passes goes on the expiry wheel for a second `≥ now`, and the expiry sweep of this very second, which
follows, still sees it. -/
theorem opTick_HN (db : DB) (hk : KN db) (hw : KW db) (h : HN db) :
    HN (opTick db).1 ∧ KW (opTick db).1 ∧ (opTick db).1.now = db.now + 1 := by
  have h0 : HNs (db.now + 1) (tick0 db) :=
    ⟨.of_eq (.inl h.ec), Nat.le_of_eq h.ec.symm, fun q hq =>
      let x := (h.hns hw).keys q hq; ⟨x.kw, x.hu, fun y hy => (x.ok y hy).tick, x.lb⟩⟩
  have hs := sweepTimeout_edit (P := fun x _ => (KN x ∧ HNs (db.now + 1) x) ∧ clock x = clock (tick0 db)) db (tick0 db)
    (db.now + 1) [] rfl
    (fun x _ _ wk d1 k o e hx => ⟨⟨KN.edit e hx.1.1, hx.1.2.edit e⟩, ((clock_store wk d1 k o).trans e.frame.2.1).trans hx.2⟩)
    ⟨⟨hk.of_keys_eq rfl, h0⟩, rfl⟩
  rw [opTick_fst]
  unfold midTick
  generalize (sweepTimeout (tick0 db) (db.now + 1)).1 = x at hs ⊢
  have hf := clock_fields hs.2
  have hm : EMid (db.now + 1) { x with eCheck := db.now + 1 + 1 } :=
    ⟨hf.1, rfl, hs.1.1.of_keys_eq rfl, .of_eq (.inr (congrArg (· + 1) hf.1.symm)), Nat.le_succ _, fun q hq => let y := hs.1.2.keys q hq; ⟨y.kw, y.hu, y.ok, y.lb⟩⟩
  obtain ⟨he, hl⟩ := sweepExpire_good (db.now + 1) _ hm hm.hn.lb
  generalize (sweepExpire { x with eCheck := db.now + 1 + 1 } (db.now + 1)).1 = y at he hl
  refine ⟨⟨by rw [he.ec, he.now], he.hn.hu, fun n z hz => he.now ▸ he.hn.ok n z hz, fun n z hz => he.now ▸ hl n z hz⟩,
    he.hn.kw, he.now⟩

/-- a lower bound on the wheel entries of the queued requests is kept by every edit as long as it is not above the timeout
check time -/
theorem wlo_edit {lo : Nat} (e : Edit db0 db s n wk d k out) (htc : db.tCheck = db.now + 1) (hlo : lo ≤ db.tCheck)
    (h : ∀ m w, WaitAt db m w → lo ≤ w.sched.visit) : ∀ m w, WaitAt (store wk d k out).1 m w → lo ≤ w.sched.visit := by
  intro m w hw
  rcases waitAt_of_store hw e.frame.1 e.frame.2.2.2 with ⟨_, h1⟩ | ⟨_, h1⟩
  · exact h m w h1
  · exact (e.waiters w h1).elim (fun h2 => h n w (waitAt_getKey h2)) fun h2 => Nat.le_trans hlo (h2.ok htc).2.2

theorem WLB.edit (e : Edit db0 db s n wk d k out) (ht : db.tCheck = db.now + 1) (hl : WLB db) : WLB (store wk d k out).1 :=
  fun m w hw => e.clock.1 ▸ wlo_edit e ht (Nat.le_of_eq ht.symm) hl m w hw

theorem opLock_WLB (db : DB) (c : Cmd) (ht : db.tCheck = db.now + 1) (hl : WLB db) : WLB (opLock db c).1 :=
  opLock_edit db c (Q := fun p => WLB p.1) (fun _ _ _ => hl) fun _ _ _ _ e => hl.edit e ht

theorem opUnlock_WLB (db : DB) (c : Cmd) (ht : db.tCheck = db.now + 1) (hl : WLB db) : WLB (opUnlock db c).1 :=
  opUnlock_edit db c (Q := fun p => WLB p.1) (fun _ _ _ m w hw => hl m w (hw.of_keys_eq rfl)) fun _ _ _ e => hl.edit e ht

theorem opTick_WLB (db : DB) (hk : KN db) (hu : WU db) (hw : KW db) (hl : WLB db) : WLB (opTick db).1 := by
  have hs := sweepTimeout_good (db.now + 1) (tick0 db)
    ⟨rfl, rfl, hk.of_keys_eq rfl, hw.of_sub (fun _ _ h => h.of_keys_eq rfl), hu.of_keys_eq rfl⟩ (fun n w h => hl n w (h.of_keys_eq rfl))
  rw [opTick_fst]
  unfold midTick
  generalize (sweepTimeout (tick0 db) (db.now + 1)).1 = x at hs ⊢
  -- the expiry sweep queues nothing
  have he := sweepExpire_edit (P := fun y _ => (y.now = db.now + 1 ∧ y.tCheck = db.now + 1 + 1) ∧
      ∀ m w, WaitAt y m w → db.now + 1 + 1 ≤ w.sched.visit) db { x with eCheck := db.now + 1 + 1 } (db.now + 1) []
    (fun y _ _ wk d1 k o e hy => by
      have hc := e.clock
      exact ⟨⟨hc.1.trans hy.1.1, hc.2.1.trans hy.1.2⟩,
        wlo_edit e (by rw [hy.1.1, hy.1.2]) (Nat.le_of_eq hy.1.2.symm) hy.2⟩)
    ⟨⟨hs.1.now, hs.1.tc⟩, fun m w h => hs.2 m w (h.of_keys_eq rfl)⟩
  generalize (sweepExpire { x with eCheck := db.now + 1 + 1 } (db.now + 1)).1 = y at he ⊢
  exact fun m w h => he.1.1 ▸ he.2 m w h

def NS (n : Nat) (db : DB) : Prop := ∀ x, HoldAt db n x → SOK db.now x

/-- "wheel entry not after the deadline" for the holds of key `m` is kept by every edit but an update or re-lock of `m` that
moves a deadline back -/
theorem NS.edit {m : Nat} (e : Edit db0 db s n wk d k out) (hc : ECk db)
    (hns : n = m → ∀ c, s = .lock c → shortens db c = false) (h : NS m db) : NS m (store wk d k out).1 := by
  have hk := keysAll_edit (P := fun a q => q.key = m → ∀ x ∈ q.holders, SOK a.now x)
    (fun ec _ hq => (clock_fields ec).1 ▸ hq)
    (fun a q a' q' r ec hq hk hm x hx => by
      obtain ⟨w, rest, _, _, ⟨_, rfl, rfl, _⟩ | ⟨_, rfl, rfl, _⟩⟩ := wakeIter_some hk
      · rcases List.mem_append.mp hx with hx | hx
        · exact hq hm x hx
        · rw [List.mem_singleton.mp hx]
          exact (grantedHold_ok { a with ctr := { a.ctr with waitCount := a.ctr.waitCount - 1 } } _ (hc.of_clock ec)).2.2
      · exact hq hm x hx)
    (fun _ _ hq => hq) e (fun q hq hm x hx => h x ⟨q, hq, hm, hx⟩)
    (fun hm x hx => by
      have hnm : n = m := e.frame.2.2.2.symm.trans hm
      have := (e.holders x hx).elim (fun h1 => h x (hnm ▸ holdAt_getKey h1)) fun h1 =>
        h1.sok hc (hns hnm) fun h0 hm0 => h h0 (hnm ▸ holdAt_getKey hm0)
      exact (clock_fields e.frame.2.1).1 ▸ this)
  exact fun x ⟨q, hq, hm, hx⟩ => hk q hq hm x hx

theorem opLock_NS (db : DB) (c : Cmd) (n : Nat) (he : db.eCheck = db.now + 1)
    (hns : c.key = n → shortens db c = false) (h : NS n db) : NS n (opLock db c).1 :=
  opLock_edit db c (Q := fun p => NS n p.1) (fun _ _ _ => h) fun _ _ _ _ e =>
    h.edit e (.of_eq (.inr he)) fun hn _ hc => by cases hc; exact hns hn

theorem opUnlock_NS (db : DB) (c : Cmd) (n : Nat) (he : db.eCheck = db.now + 1) (h : NS n db) : NS n (opUnlock db c).1 :=
  opUnlock_edit db c (Q := fun p => NS n p.1) (fun _ _ _ x hx => h x (hx.of_keys_eq rfl)) fun _ _ _ e =>
    h.edit e (.of_eq (.inr he)) fun _ _ hc => nomatch hc

theorem opTick_NS (db : DB) (n : Nat) (he : db.eCheck = db.now + 1) (h : NS n db) : NS n (opTick db).1 :=
  (opTick_edit (P := fun x _ => (x.now = db.now + 1 ∧ x.eCheck = db.now + 1) ∧ NS n x)
    (Q := fun x _ => (x.now = db.now + 1 ∧ x.eCheck = db.now + 1 + 1) ∧ NS n x) db
    ⟨⟨rfl, he⟩, fun x hx => (h x (hx.of_keys_eq rfl)).tick⟩
    (fun x _ _ wk d1 k o e hx => by
      have hc := e.clock
      exact ⟨⟨hc.1.trans hx.1.1, hc.2.2.trans hx.1.2⟩,
        hx.2.edit e (.of_eq (.inl (hx.1.2.trans hx.1.1.symm))) fun _ _ hc => nomatch hc⟩)
    (fun x _ hx => ⟨⟨hx.1.1, rfl⟩, fun y hy => hx.2 y (hy.of_keys_eq rfl)⟩)
    (fun x _ _ wk d1 k o e hx => by
      have hc := e.clock
      exact ⟨⟨hc.1.trans hx.1.1, hc.2.2.trans hx.1.2⟩,
        hx.2.edit e (.of_eq (.inr (hx.1.2.trans (congrArg (· + 1) hx.1.1.symm)))) fun _ _ hc => nomatch hc⟩)).2

structure Steady (d : DB) : Prop where
  inv : DBInv d
  cnt : CInv d
  winv : WInv d
  kw : KW d
  hn : HN d

theorem Steady.init (now : Nat) : Steady (DB.init now) :=
  ⟨DBInv.init now, ⟨List.nodup_nil, rfl, rfl⟩, ⟨rfl, fun _ hw => nomatch hw⟩, KW.init now, HN.init now⟩

theorem Steady.edit (e : Edit db0 db s n wk d k out) (h : Steady db) : Steady (store wk d k out).1 :=
  ⟨h.inv.edit e, h.cnt.edit e h.inv, h.winv.edit e, h.kw.edit e, h.hn.edit e h.kw⟩

theorem Steady.of_eq {d d' : DB} (h : Steady d) (ek : d'.keys = d.keys) (en : d'.now = d.now) (et : d'.tCheck = d.tCheck)
    (ee : d'.eCheck = d.eCheck) (es : d'.seq = d.seq) (el : d'.ctr.lockedCount = d.ctr.lockedCount)
    (ew : d'.ctr.waitCount = d.ctr.waitCount) : Steady d' :=
  ⟨h.inv.of_keys_eq ek, ⟨h.cnt.kn.of_keys_eq ek, by rw [el, ek]; exact h.cnt.locked, by rw [ew, ek]; exact h.cnt.wait⟩,
    ⟨by rw [et, en]; exact h.winv.1, fun w hw => h.winv.2 w (mem_allW_of_keys_eq ek hw)⟩,
    h.kw.of_sub fun _ _ hx => hx.of_keys_eq ek, h.hn.of_keys_eq ek es en ee⟩

theorem Steady.opLock (c : Cmd) (h : Steady db) : Steady (opLock db c).1 := opLock_keeps Steady.edit db c h

theorem Steady.opUnlock (c : Cmd) (h : Steady db) : Steady (opUnlock db c).1 :=
  opUnlock_keeps Steady.edit db c (h.of_eq rfl rfl rfl rfl rfl rfl rfl) h

theorem Steady.opTick (h : Steady db) : Steady (opTick db).1 :=
  have hc := opTick_keeps (P := fun d => DBInv d ∧ CInv d) (fun e hx => ⟨hx.1.edit e, hx.2.edit e hx.1⟩) db
    ⟨h.inv.of_keys_eq rfl, h.cnt.of_keys_ctr rfl rfl⟩ fun _ hx => ⟨hx.1.of_keys_eq rfl, hx.2.of_keys_ctr rfl rfl⟩
  have ht := opTick_HN db h.cnt.kn h.kw h.hn
  ⟨hc.1, hc.2, opTick_keeps WInv.edit db ⟨rfl, h.winv.2⟩ fun _ hx => ⟨hx.1, hx.2⟩, ht.2.1, ht.1⟩

end Slock.Engine
