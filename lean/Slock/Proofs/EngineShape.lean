import Slock.Proofs.EngineBranch
import Slock.Proofs.EngineSweep
/-!
The shape of the operations. Every state change of M-ENGINE takes the record of one key out of the database, edits it
together with the scalars, runs the wake pass on it where the code does, and stores it back: `store`. `Edit` lists the
twelve edits there are (five of LOCK, three of UNLOCK, `doTimeOut`, `doExpried`, the two re-arms of the sweeps), and an
operation is nothing but such stores between moves of the clock. So an invariant says once what it needs of the twelve
edits (its `X.edit`) and the operations keep it: so `KeyInv` of every key record, at the end.
-/
namespace Slock.Engine

def store (wk : Bool) (d : DB) (k : Key) (out : List Reply) : DB × List Reply :=
  if wk then ((wake d k out).1.setKey (wake d k out).2.1, (wake d k out).2.2) else (d.setKey k, out)

def newWaiter (db : DB) (c : Cmd) : Waiter :=
  { cmd := c, conn := c.conn, timeoutT := (wheelAdd db.tCheck db.seq (timeoutDeadline db.now c) 1).1,
    sched := (wheelAdd db.tCheck db.seq (timeoutDeadline db.now c) 1).2 }

def rearmed (db : DB) (w : Waiter) : Waiter :=
  { w with timeoutT := (wheelAdd db.tCheck db.seq w.timeoutT (w.sched.checked + 1)).1,
           sched := (wheelAdd db.tCheck db.seq w.timeoutT (w.sched.checked + 1)).2 }

theorem rearmWaiter_eq (db : DB) (w : Waiter) :
    rearmWaiter db w = updateWaiter { db with seq := db.seq + 1 } w (rearmed db w) := rfl

def rearmedH (db : DB) (h : Hold) : Hold :=
  { h with expT := (wheelAdd db.eCheck db.seq h.expT (h.sched.checked + 1)).1,
           sched := (wheelAdd db.eCheck db.seq h.expT (h.sched.checked + 1)).2 }

theorem rearmHold_eq (db : DB) (h : Hold) :
    rearmHold db h = updateHoldIn { db with seq := db.seq + 1 } h (rearmedH db h) := rfl

/-- Who asked for an edit: a LOCK or UNLOCK command, or one of the two sweeps of a tick. Premises on the operations are stated through
it: `∀ c, s = .lock c → …` asks something of a LOCK only, and `∀ c, s ≠ .lock c` is used to MEAN "UNLOCK or a sweep" (a further
source would silently widen that reading). -/
inductive Src
  | lock (c : Cmd) | unlock (c : Cmd) | sweepT | sweepE

/-- `Edit db0 db src n wk d k out`: in state `db` (of an operation that began in `db0`) the record of key `n` becomes `k`, the
scalars those of `d`, the replies so far are `out`, and a wake pass follows iff `wk`. The constructors of LOCK and UNLOCK carry
their classifier equation (`hb`), and some `X.edit` read more of it than the membership of the hold (`NewH` → `shortens`,
`KeyPol.edit`): that decides whether a further state change is a new edit or one of these. -/
inductive Edit (db0 db : DB) : Src → Nat → Bool → DB → Key → List Reply → Prop
  | update (c : Cmd) (h : Hold) (hb : classifyLock db c = .update h) :
    Edit db0 db (.lock c) c.key true (updateHold db h { c with lockId := h.cmd.lockId }).1
      { db.getKey c.key with
        holders := replaceHolder (db.getKey c.key).holders h (updateHold db h { c with lockId := h.cmd.lockId }).2 }
      [mkReply { c with lockId := h.cmd.lockId } RESULT_LOCKED_ERROR (db.getKey c.key).locked h.depth]
  | relock (c : Cmd) (h : Hold) (hb : classifyLock db c = .relock h) :
    Edit db0 db (.lock c) c.key true
      { (updateHold db { h with depth := h.depth + 1 } c).1 with
        ctr := { (updateHold db { h with depth := h.depth + 1 } c).1.ctr with
          lockCount := (updateHold db { h with depth := h.depth + 1 } c).1.ctr.lockCount + 1,
          lockedCount := (updateHold db { h with depth := h.depth + 1 } c).1.ctr.lockedCount + 1 } }
      { db.getKey c.key with
        holders := replaceHolder (db.getKey c.key).holders h (updateHold db { h with depth := h.depth + 1 } c).2,
        locked := (db.getKey c.key).locked + 1 }
      [mkReply c RESULT_SUCCED ((db.getKey c.key).locked + 1) (updateHold db { h with depth := h.depth + 1 } c).2.depth]
  | grant (c : Cmd) (hb : classifyLock db c = .grant) :
    Edit db0 db (.lock c) c.key (db.getKey c.key).waited (grantHold db (db.getKey c.key) c).1 (grantHold db (db.getKey c.key) c).2
      [mkReply c RESULT_SUCCED (grantHold db (db.getKey c.key) c).2.locked 1]
  | grantNoHold (c : Cmd) (hb : classifyLock db c = .grantNoHold) :
    Edit db0 db (.lock c) c.key (db.getKey c.key).waited { db with ctr := { db.ctr with lockCount := db.ctr.lockCount + 1 } }
      (db.getKey c.key) [mkReply c RESULT_SUCCED (db.getKey c.key).locked 0]
  | queue (c : Cmd) (hb : classifyLock db c = .queue) :
    Edit db0 db (.lock c) c.key false { db with seq := db.seq + 1, ctr := { db.ctr with waitCount := db.ctr.waitCount + 1 } }
      { db.getKey c.key with waiters := insertWaiter (db.getKey c.key).waiters (newWaiter db c), waited := true } []
  | cancel (c : Cmd) (w : Waiter) (hb : classifyUnlock db c = .cancel w) :
    Edit db0 db (.unlock c) c.key true
      { db with ctr := { db.ctr with waitCount := db.ctr.waitCount - 1, unLockCount := db.ctr.unLockCount + 1 } }
      { db.getKey c.key with
        waiters := removeWaiter (db.getKey c.key).waiters w,
        waited := if (removeWaiter (db.getKey c.key).waiters w).isEmpty then false else (db.getKey c.key).waited }
      [mkReply c RESULT_LOCKED_ERROR (db.getKey c.key).locked 0,
        mkReply { w.cmd with conn := w.conn } RESULT_UNLOCK_ERROR (db.getKey c.key).locked 0]
  | dec (c : Cmd) (h : Hold) (c' : Cmd) (hb : classifyUnlock db c = .dec h c') :
    Edit db0 db (.unlock c) c.key true
      { db with ctr := { db.ctr with unLockCount := db.ctr.unLockCount + 1, lockedCount := db.ctr.lockedCount - 1 } }
      { db.getKey c.key with
        holders := replaceHolder (db.getKey c.key).holders h { h with depth := h.depth - 1 },
        locked := (db.getKey c.key).locked - 1 }
      [mkReply c' RESULT_SUCCED ((db.getKey c.key).locked - 1) (h.depth - 1)]
  | release (c : Cmd) (h : Hold) (c' : Cmd) (hb : classifyUnlock db c = .release h c') :
    Edit db0 db (.unlock c) c.key true
      { db with ctr := { db.ctr with unLockCount := db.ctr.unLockCount + h.depth,
                                     lockedCount := db.ctr.lockedCount - h.depth } }
      { db.getKey c.key with holders := removeHolder (db.getKey c.key).holders h, locked := (db.getKey c.key).locked - h.depth }
      [mkReply c' RESULT_SUCCED ((db.getKey c.key).locked - h.depth) 0]
  | timeout (key : Nat) (w : Waiter) (hm : w ∈ (db.getKey key).waiters) :
    Edit db0 db .sweepT key true
      { db with ctr := { db.ctr with waitCount := db.ctr.waitCount - 1, timeoutedCount := db.ctr.timeoutedCount + 1 } }
      { db.getKey key with
        waiters := removeWaiter (db.getKey key).waiters w,
        waited := if (removeWaiter (db.getKey key).waiters w).isEmpty then false else (db.getKey key).waited }
      [mkReply { w.cmd with conn := w.conn } RESULT_TIMEOUT (db.getKey key).locked 0]
  | expire (key : Nat) (h : Hold) (hm : h ∈ (db.getKey key).holders) :
    Edit db0 db .sweepE key true
      { db with ctr := { db.ctr with lockedCount := db.ctr.lockedCount - h.depth, expriedCount := db.ctr.expriedCount + 1 } }
      { db.getKey key with holders := removeHolder (db.getKey key).holders h, locked := (db.getKey key).locked - h.depth }
      [mkReply { h.cmd with conn := h.conn } RESULT_EXPRIED ((db.getKey key).locked - h.depth) 0]
  /-- the sweep re-arms the copy `w` it collected when the tick began: whatever is queued under `w`'s id now is overwritten -/
  | rearmW (w : Waiter) (hw : w ∈ allW db0) (hd : w.timeoutT > db.now) :
    Edit db0 db .sweepT w.cmd.key false { db with seq := db.seq + 1 }
      { db.getKey w.cmd.key with
        waiters := (db.getKey w.cmd.key).waiters.map fun x => if x.cmd.req == w.cmd.req && x.conn == w.conn then rearmed db w else x }
      []
  | rearmH (h : Hold) (hd : h.expT > db.now) :
    Edit db0 db .sweepE h.cmd.key false { db with seq := db.seq + 1 }
      { db.getKey h.cmd.key with holders := replaceHolder (db.getKey h.cmd.key).holders h (rearmedH db h) } []

section
variable {db0 db d : DB} {s : Src} {n : Nat} {wk : Bool} {k : Key} {out : List Reply}

theorem applyLock_grant (db : DB) (c : Cmd) :
    applyLock db c .grant = store (db.getKey c.key).waited (grantHold db (db.getKey c.key) c).1
      (grantHold db (db.getKey c.key) c).2 [mkReply c RESULT_SUCCED (grantHold db (db.getKey c.key) c).2.locked 1] := by
  unfold store; simp only [applyLock]; split <;> rfl

theorem applyLock_grantNoHold (db : DB) (c : Cmd) :
    applyLock db c .grantNoHold = store (db.getKey c.key).waited
      { db with ctr := { db.ctr with lockCount := db.ctr.lockCount + 1 } } (db.getKey c.key)
      [mkReply c RESULT_SUCCED (db.getKey c.key).locked 0] := by
  unfold store; simp only [applyLock]; split <;> rfl

theorem fireTimeout_eq (db : DB) (key : Nat) (w : Waiter) :
    fireTimeout db key w = store true
      { db with ctr := { db.ctr with waitCount := db.ctr.waitCount - 1, timeoutedCount := db.ctr.timeoutedCount + 1 } }
      { db.getKey key with
        waiters := removeWaiter (db.getKey key).waiters w,
        waited := if (removeWaiter (db.getKey key).waiters w).isEmpty then false else (db.getKey key).waited }
      [mkReply { w.cmd with conn := w.conn } RESULT_TIMEOUT (db.getKey key).locked 0] := rfl

theorem fireExpire_eq (db : DB) (key : Nat) (h : Hold) :
    fireExpire db key h = store true
      { db with ctr := { db.ctr with lockedCount := db.ctr.lockedCount - h.depth, expriedCount := db.ctr.expriedCount + 1 } }
      { db.getKey key with holders := removeHolder (db.getKey key).holders h, locked := (db.getKey key).locked - h.depth }
      [mkReply { h.cmd with conn := h.conn } RESULT_EXPRIED ((db.getKey key).locked - h.depth) 0] := rfl

theorem clock_store (wk : Bool) (d : DB) (k : Key) (out : List Reply) : clock (store wk d k out).1 = clock d := by
  unfold store; split
  · exact clock_wake d k out
  · rfl

theorem Edit.frame (e : Edit db0 db s n wk d k out) :
    d.keys = db.keys ∧ clock d = clock db ∧ db.seq ≤ d.seq ∧ k.key = n := by
  cases e with
  | update | relock => exact ⟨updateHold_db_keys .., clock_updateHold .., updateHold_seq_le .., getKey_key ..⟩
  | grant | queue | rearmW | rearmH => exact ⟨rfl, rfl, Nat.le_succ _, getKey_key ..⟩
  | _ => exact ⟨rfl, rfl, Nat.le_refl _, getKey_key ..⟩

theorem rearmHold_store (db : DB) (h : Hold) :
    rearmHold db h = (store false { db with seq := db.seq + 1 }
      { db.getKey h.cmd.key with holders := replaceHolder (db.getKey h.cmd.key).holders h (rearmedH db h) } []).1 := rfl

theorem Edit.clock (e : Edit db0 db s n wk d k out) :
    (store wk d k out).1.now = db.now ∧ (store wk d k out).1.tCheck = db.tCheck ∧ (store wk d k out).1.eCheck = db.eCheck :=
  clock_fields ((clock_store wk d k out).trans e.frame.2.1)

/-- LOCK is a refusal, which leaves the state as it is and answers the command (`h0`), or the `store` of one edit (`hs`). -/
theorem opLock_edit (db : DB) (c : Cmd) {Q : DB × List Reply → Prop}
    (h0 : ∀ r : Reply, (r.conn, r.req) = (c.conn, c.req) → r.result ≠ RESULT_EXPRIED → Q (db, [r]))
    (hs : ∀ wk d k out, Edit db db (.lock c) c.key wk d k out → Q (store wk d k out)) : Q (opLock db c) := by
  unfold opLock
  cases hb : classifyLock db c with
  | p0a | p0b | stateError | unlockedWaitRefused | timeout | «show» cur | updateEqual h | relockNoHold h | relockRefused h =>
    exact h0 _ rfl (by simp only [mkReply]; decide)
  | update h => exact hs _ _ _ _ (.update c h hb)
  | relock h => exact hs _ _ _ _ (.relock c h hb)
  | grant => exact applyLock_grant db c ▸ hs _ _ _ _ (.grant c hb)
  | grantNoHold => exact applyLock_grantNoHold db c ▸ hs _ _ _ _ (.grantNoHold c hb)
  | queue => exact hs _ _ _ _ (.queue c hb)

/-- UNLOCK likewise, but its refusals count an error: their state is `bumpErr db` (counters only), whence the extra hypothesis `hb` of
`opUnlock_keeps`. -/
theorem opUnlock_edit (db : DB) (c : Cmd) {Q : DB × List Reply → Prop}
    (h0 : ∀ r : Reply, (r.conn, r.req) = (c.conn, c.req) → r.result ≠ RESULT_EXPRIED → Q (bumpErr db, [r]))
    (hs : ∀ d k out, Edit db db (.unlock c) c.key true d k out → Q (store true d k out)) : Q (opUnlock db c) := by
  unfold opUnlock
  cases hb : classifyUnlock db c with
  | stateError | notLocked | unown | cancelNone => exact h0 _ rfl (by simp only [mkReply]; decide)
  | cancel w => exact hs _ _ _ (.cancel c w hb)
  | dec h c' => exact hs _ _ _ (.dec c h c' hb)
  | release h c' => exact hs _ _ _ (.release c h c' hb)

theorem sweepTimeout_edit {P : DB → List Reply → Prop} (db0 db : DB) (c : Nat) (o0 : List Reply) (hs : allW db = allW db0)
    (he : ∀ d out n wk d1 k o, Edit db0 d .sweepT n wk d1 k o → P d out → P (store wk d1 k o).1 (out ++ (store wk d1 k o).2))
    (h : P db o0) : P (sweepTimeout db c).1 (o0 ++ (sweepTimeout db c).2) :=
  sweepTimeout_induct db c o0
    (fun d out w hw hd h => List.append_nil out ▸ (he d out _ _ _ _ _ (.rearmW w (hs ▸ hw) hd) h : P (rearmWaiter d w) (out ++ [])))
    (fun d out key w hm h => he d out _ _ _ _ _ (.timeout key w hm) h) h

theorem sweepExpire_edit {P : DB → List Reply → Prop} (db0 db : DB) (c : Nat) (o0 : List Reply)
    (he : ∀ d out n wk d1 k o, Edit db0 d .sweepE n wk d1 k o → P d out → P (store wk d1 k o).1 (out ++ (store wk d1 k o).2))
    (h : P db o0) : P (sweepExpire db c).1 (o0 ++ (sweepExpire db c).2) :=
  sweepExpire_induct db c o0
    (fun d out x hd h => List.append_nil out ▸ (he d out _ _ _ _ _ (.rearmH x hd) h : P (rearmHold d x) (out ++ [])))
    (fun d out key x hm h => he d out _ _ _ _ _ (.expire key x hm) h) h

/-- One second of server time: the clock moves, the timeout sweep stores its edits (`P`), the expiry check time moves, the
expiry sweep stores its edits (`Q`). -/
theorem opTick_edit {P Q : DB → List Reply → Prop} (db : DB) (h0 : P (tick0 db) [])
    (hT : ∀ d out n wk d1 k o, Edit db d .sweepT n wk d1 k o → P d out → P (store wk d1 k o).1 (out ++ (store wk d1 k o).2))
    (h1 : ∀ d out, P d out → Q { d with eCheck := db.now + 1 + 1 } out)
    (hE : ∀ d out n wk d1 k o, Edit db d .sweepE n wk d1 k o → Q d out → Q (store wk d1 k o).1 (out ++ (store wk d1 k o).2)) :
    Q (opTick db).1 (opTick db).2 := by
  rw [opTick_eq]
  have hs := sweepTimeout_edit db (tick0 db) (db.now + 1) [] rfl hT h0
  unfold midTick
  -- the sweep becomes a variable first: unifying terms that contain it would unfold the model
  generalize sweepTimeout (tick0 db) (db.now + 1) = s1 at hs ⊢
  exact sweepExpire_edit db _ (db.now + 1) _ hE (h1 _ _ hs)

/-- A property of every key record that may read the clock and the sequence counter (which only grows) survives a `store`,
if the stored record has it and a wake iteration (which leaves the clock alone) keeps it. -/
theorem keysAll_store {P : DB → Key → Prop} {db d : DB} {k : Key} (wk : Bool) (out : List Reply)
    (hmono : ∀ {a b : DB} {x : Key}, clock b = clock a → a.seq ≤ b.seq → P a x → P b x)
    (hwake : ∀ a q a' q' r, clock a = clock db → P a q → wakeIter a q = some (a', q', r) → P a' q')
    (hflag : ∀ a q, P a q → P a { q with waited := false })
    (ek : d.keys = db.keys) (ec : clock d = clock db) (es : db.seq ≤ d.seq) (h : ∀ x ∈ db.keys, P db x) (hk : P d k) :
    ∀ x ∈ (store wk d k out).1.keys, P (store wk d k out).1 x := by
  unfold store
  split
  · have f := wake_frame d k out
    intro x hx
    rcases mem_setKey_keys hx with ⟨h1, _⟩ | rfl
    · exact hmono (f.clock.trans ec) (Nat.le_trans es f.seq) (h x (ek ▸ f.keys ▸ h1))
    · refine hmono (a := (wake d k out).1) rfl (Nat.le_refl _) (wake_ind (fun a q => clock a = clock db ∧ P a q) ?_
        (fun a q hq => ⟨hq.1, hflag a q hq.2⟩) d k out ⟨ec, hk⟩).2
      intro a q a' q' r hq hw
      obtain ⟨_, _, _, _, _, _, _, _, hc, _⟩ := wakeIter_spec hw
      exact ⟨hc.trans hq.1, hwake a q a' q' r hq.1 hq.2 hw⟩
  · intro x hx
    rcases mem_setKey_keys hx with ⟨h1, _⟩ | rfl
    · exact hmono ec es (h x (ek ▸ h1))
    · exact hmono (a := d) rfl (Nat.le_refl _) hk

theorem keysAll_edit {P : DB → Key → Prop}
    (hmono : ∀ {a b : DB} {x : Key}, clock b = clock a → a.seq ≤ b.seq → P a x → P b x)
    (hwake : ∀ a q a' q' r, clock a = clock db → P a q → wakeIter a q = some (a', q', r) → P a' q')
    (hflag : ∀ a q, P a q → P a { q with waited := false })
    (e : Edit db0 db s n wk d k out) (h : ∀ x ∈ db.keys, P db x) (hk : P d k) :
    ∀ x ∈ (store wk d k out).1.keys, P (store wk d k out).1 x :=
  keysAll_store wk out hmono hwake hflag e.frame.1 e.frame.2.1 e.frame.2.2.1 h hk

theorem opLock_keeps {P : DB → Prop} (he : ∀ {d0 d s n wk d1 k o}, Edit d0 d s n wk d1 k o → P d → P (store wk d1 k o).1)
    (db : DB) (c : Cmd) (h : P db) : P (opLock db c).1 :=
  opLock_edit db c (Q := fun p => P p.1) (fun _ _ _ => h) fun _ _ _ _ e => he e h

theorem opUnlock_keeps {P : DB → Prop} (he : ∀ {d0 d s n wk d1 k o}, Edit d0 d s n wk d1 k o → P d → P (store wk d1 k o).1)
    (db : DB) (c : Cmd) (hb : P (bumpErr db)) (h : P db) : P (opUnlock db c).1 :=
  opUnlock_edit db c (Q := fun p => P p.1) (fun _ _ _ => hb) fun _ _ _ e => he e h

theorem opTick_keeps {P : DB → Prop} (he : ∀ {d0 d s n wk d1 k o}, Edit d0 d s n wk d1 k o → P d → P (store wk d1 k o).1)
    (db : DB) (h0 : P (tick0 db)) (h1 : ∀ d, P d → P { d with eCheck := db.now + 1 + 1 }) : P (opTick db).1 :=
  opTick_edit (P := fun d _ => P d) (Q := fun d _ => P d) db h0 (fun _ _ _ _ _ _ _ e => he e) (fun d _ => h1 d)
    (fun _ _ _ _ _ _ _ e => he e)

end

def DBInv (db : DB) : Prop := ∀ k ∈ db.keys, KeyInv k

theorem DBInv.init (n : Nat) : DBInv (DB.init n) := KeysAll.init n

theorem getKey_inv {db : DB} (h : DBInv db) (n : Nat) : KeyInv (db.getKey n) := KeysAll.getKey h KeyInv.empty n

theorem DBInv.of_keys_eq {db db' : DB} (h : DBInv db) (e : db'.keys = db.keys) : DBInv db' := KeysAll.of_keys_eq h e

theorem mem_of_update {db : DB} {c : Cmd} {h : Hold} (hb : classifyLock db c = .update h) : h ∈ (db.getKey c.key).holders :=
  classifyLock_mem hb rfl

theorem mem_of_relock {db : DB} {c : Cmd} {h : Hold} (hb : classifyLock db c = .relock h) : h ∈ (db.getKey c.key).holders :=
  classifyLock_mem hb rfl

section
variable {db0 db d : DB} {s : Src} {n : Nat} {wk : Bool} {k : Key} {out : List Reply}

theorem KeyInv.edit (e : Edit db0 db s n wk d k out) (hk : KeyInv (db.getKey n)) : KeyInv k := by
  cases e with
  | update c h hb => exact replace_inv hk (updateHold_depth ..)
  | relock c h hb => exact relock_inv hk (mem_of_relock hb) (updateHold_depth ..)
  | grant => exact grantHold_inv _ _ _ hk
  | grantNoHold => exact hk
  | queue | cancel | timeout | rearmW => exact waiters_inv hk _ _
  | dec c h c' hb => exact dec_inv hk (UnlockFacts.of hb).1.mem (UnlockFacts.of hb).2.1
  | release c h c' hb => exact release_inv hk (UnlockFacts.of hb).mem
  | expire key h hm => exact release_inv hk hm
  | rearmH h => exact replace_inv hk rfl

theorem DBInv.edit (e : Edit db0 db s n wk d k out) (h : DBInv db) : DBInv (store wk d k out).1 :=
  keysAll_edit (P := fun _ k => KeyInv k) (fun _ _ h => h) (fun _ _ _ _ _ _ hk hw => wakeIter_inv hk hw)
    (fun _ _ h => ⟨h.sum, h.pos⟩) e h (KeyInv.edit e (getKey_inv h n))

theorem opLock_inv (db : DB) (c : Cmd) (h : DBInv db) : DBInv (opLock db c).1 := opLock_keeps DBInv.edit db c h

theorem opUnlock_inv (db : DB) (c : Cmd) (h : DBInv db) : DBInv (opUnlock db c).1 :=
  opUnlock_keeps DBInv.edit db c (h.of_keys_eq rfl) h

theorem opTick_inv (db : DB) (h : DBInv db) : DBInv (opTick db).1 :=
  opTick_keeps DBInv.edit db (h.of_keys_eq rfl) fun _ h => h.of_keys_eq rfl

end

end Slock.Engine
