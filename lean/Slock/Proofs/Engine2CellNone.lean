import Slock.Proofs.Engine2Sect
/-! Stage-2 engine: the "no value state" invariant, key-record and working-state level.

A key record is value-free (`KN`) when it has no value cell and none of its lock records carries a pending value frame
(`Rec.data`). The value cell is written in three places only: `W.procData` (the value operation — a no-op without a frame),
`aofLockData` (sets the journalling bit of an EXISTING cell) and `W.removeIfZero` (clears it). A record's `data` is written by
`newRec` (the frame of the command) and cleared by the grants. So every helper keeps `KN`, provided the frames handed to
`procData` / `newLock` are `none`; the frame of a queued request is read back from `Rec.data`, which the invariant says is `none`.

`WN.prim` says this of the primitive steps (`Engine2Chain`); LOCK / UNLOCK, the sweeps and runs follow (`run_dn`). -/
namespace Slock.CellNone
open Slock Slock.Engine2

/-- a key record without value state: no cell, no lock record with a pending frame -/
structure KN (k : Key) : Prop where
  cell : k.cell = none
  data : ∀ r ∈ k.recs, r.data = none

def DN (db : DB) : Prop := ∀ k ∈ db.keys, KN k

structure WN (w : W) : Prop where
  db : DN w.db
  k : KN w.k

theorem KN.newKey (n : Nat) : KN (newKey n) := ⟨rfl, fun r hr => by simp [Engine2.newKey] at hr⟩

namespace KN
variable {k : Key} (h : KN k)
include h

theorem getR (rid : Nat) : (k.getR rid).data = none := by
  unfold Key.getR
  cases hf : k.recs.find? (·.rid == rid) with
  | none => rfl
  | some r => exact h.data r (List.mem_of_find?_eq_some hf)

theorem of_sub {k' : Key} (hc : k'.cell = k.cell) (hr : ∀ r ∈ k'.recs, r ∈ k.recs) : KN k' :=
  ⟨hc.trans h.cell, fun r hm => h.data r (hr r hm)⟩

theorem of_eq {k' : Key} (hc : k'.cell = k.cell) (hr : k'.recs = k.recs) : KN k' := h.of_sub hc fun _ hm => hr ▸ hm

theorem modRec (rid : Nat) (f : Rec → Rec) (hf : ∀ r, r.data = none → (f r).data = none) : KN (k.modRec rid f) := by
  refine ⟨h.cell, fun r hr => ?_⟩
  obtain ⟨x, hx, e⟩ := List.mem_map.mp hr
  rw [← e]; split
  · exact hf x (h.data x hx)
  · exact h.data x hx

theorem free (rid : Nat) : KN (k.free rid) := by
  unfold Key.free
  split
  · exact h.of_sub rfl fun r hm => (List.mem_filter.mp hm).1
  · exact h

theorem addRec (r : Rec) (hr : r.data = none) : KN (k.addRec r) := by
  refine ⟨h.cell, fun x hx => ?_⟩
  rcases List.mem_append.mp hx with hx | hx
  · exact h.data x hx
  · rw [List.mem_singleton.mp hx]; exact hr

end KN

/-- without a cell `AofLockData` can only clear a record's `aofData` mark -/
theorem KN.aofLockData {k : Key} (h : KN k) (b : Bool) (rid : Nat) : KN (aofLockData k b rid).1 := by
  unfold Engine2.aofLockData
  split
  · exact h.modRec rid _ fun _ hd => hd
  · rw [h.cell]; exact h

theorem DN.init (now aofTime : Nat) : DN (DB.init now aofTime) := by intro k hk; simp [DB.init] at hk

theorem DN.of_keys {db db' : DB} (h : DN db) (e : db'.keys = db.keys) : DN db' := by
  intro k hk; rw [e] at hk; exact h k hk

theorem DN.getKey {db : DB} (h : DN db) (n : Nat) : KN (db.getKey n) := all_getKey h n (KN.newKey n)

theorem DN.create {db : DB} (h : DN db) (n : Nat) : DN (db.create n) := all_create h n (KN.newKey n)

theorem DN.dropKey {db : DB} (h : DN db) (n : Nat) : DN (db.dropKey n) := by
  intro k hk
  unfold DB.dropKey at hk
  exact h k (List.mem_filter.mp hk).1

theorem WN.openKey {db : DB} (h : DN db) (n : Nat) : WN (db.openKey n) := ⟨h, h.getKey n⟩

theorem WN.commit {w : W} (h : WN w) : DN w.commit :=
  fun _ hk => (mem_commit hk).elim (fun a => a.2 ▸ h.k) (fun a => h.db _ a.1)

theorem WN.newLock {w : W} (h : WN w) (c : Cmd) : WN (w.newLock c none).1 :=
  ⟨h.db, h.k.addRec _ rfl⟩

theorem _root_.Slock.Engine2.REdit.data_none {b : Bool} {f : Rec → Rec} (hf : REdit b f) {r : Rec} (hd : r.data = none) : (f r).data = none := by
  cases hf
  case data => rfl
  case upd => exact (updF_fields _ _ _ r).data.trans hd
  all_goals exact hd

namespace WN
variable {w : W} (h : WN w)
include h

/-- every primitive step of an operation that came without a value frame: the value operation needs a frame, the journalling bit a cell -/
theorem prim {b q : Bool} {w' : W} : Prim none b q w w' → WN w'
  | .edit _ rid f hf => ⟨h.db, h.k.modRec rid f fun _ => hf.data_none⟩
  | .free _ rid => ⟨h.db, h.k.free rid⟩
  | .shape _ k' hk => ⟨h.db, h.k.of_eq hk.cell hk.recs⟩
  | .cell _ c' hfr => hfr.elim (fun e => nomatch e) fun ⟨x, e⟩ => by rw [h.k.getR x] at e; exact nomatch e
  | .cellAof _ c hc => nomatch h.k.cell.symm.trans hc
  | .newLock _ c => h.newLock c
  | .addTimeOut _ rid => ⟨h.db, h.k.modRec rid _ fun _ hd => hd⟩
  | .schedExpried _ rid => ⟨h.db, h.k.modRec rid _ fun _ hd => hd⟩
  | .reclaim _ hg h0 => by
    unfold W.removeIfZero
    rw [if_pos (by simp [hg, h0])]
    exact ⟨h.db.dropKey _, ⟨rfl, h.k.data⟩⟩
  | .locked .. => ⟨h.db, h.k.of_eq rfl rfl⟩
  | .reply .. | .out .. | .ctr .. | .panic .. | .journal .. => ⟨h.db, h.k⟩

theorem chain {b q : Bool} {w' : W} (c : Chain none b q w w') : WN w' := c.ind (fun _ _ p h => h.prim p) h

end WN

theorem WN.fireTimeout {w : W} (h : WN w) (rid : Nat) : WN (w.fireTimeout rid) := h.chain ((Chain.nil none w).fireTimeout rid)

theorem WN.fireExpire {w : W} (h : WN w) (rid : Nat) : WN (w.fireExpire rid) := h.chain ((Chain.nil none w).fireExpire rid)

theorem DN.sect {db : DB} {key : Nat} {w' : W} (h : DN db) (s : Sect none db key w') : DN w'.commit := by
  obtain ⟨db0, h0, c⟩ := s.chain
  have : DN db0 := h0.elim (· ▸ h) (· ▸ h.create key)
  exact ((WN.openKey this key).chain c).commit

def NoFrame : Op → Prop
  | .lock _ d => d = none
  | .unlock _ d => d = none
  | .tick => True
  | .setLeader _ => True

instance : DecidablePred NoFrame := fun o => by
  cases o <;> (unfold NoFrame; infer_instance)

theorem NoFrame.frame {o : Op} (h : NoFrame o) : o.frame = none := by
  cases o <;> first | exact h | rfl

theorem step_dn {db : DB} (h : DN db) (o : Op) (ho : NoFrame o) : DN (step db o).1 :=
  step_sect (fun _ _ _ s h => h.sect (ho.frame ▸ s)) (fun _ _ _ _ h => h.of_keys rfl) (fun _ _ h => h.of_keys rfl) h

theorem run_dn (ops : List Op) : ∀ {db : DB}, DN db → (∀ o ∈ ops, NoFrame o) → DN (run db ops) :=
  fun {db} h hf => run_inv (I := DN) ops (fun _ o ho h => step_dn h o (hf o ho)) db h

theorem run_init_cell_none (now aofTime : Nat) (ops : List Op) (hf : ∀ o ∈ ops, NoFrame o) (n : Nat) :
    ((run (DB.init now aofTime) ops).getKey n).cell = none ∧ ∀ rid, (((run (DB.init now aofTime) ops).getKey n).getR rid).data = none :=
  have h := (run_dn ops (DN.init now aofTime) hf).getKey n
  ⟨h.cell, h.getR⟩

end Slock.CellNone
