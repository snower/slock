import Slock.Proofs.ValueExact
/-! Refinement for M-VALUE (`processFrame` on canonical frames vs `specApply`): well-formed cells, what they denote
    (`CellWF.kind`), and the two array operations; the scalar operations are proved in `Slock.Properties.C15Value`. -/
namespace Slock.Value

def Frm.ArrOK (f : Frm) : Prop := hasFlag f.flag fARRAY = true → ∃ xs, f.payload = encElems xs ∧ ElemsOK xs

def Frm.val (f : Frm) : Val := if hasFlag f.flag fARRAY then .array (specElems f.payload) else .bytes f.payload

inductive CellWF : Option Cell → Prop
  | none : CellWF none
  | unset (aof : Bool) : CellWF (some (unsetCell aof))
  | data (g : Frm) (ex : Bytes) (ct : Nat) (aof : Bool) :
      g.op = 0 → g.WF → g.ArrOK → ct ≠ UNSET → CellWF (some ⟨encode g, ex, ct, aof⟩)

/-- the length prefix of a cell's frame is its length − 4 (what a reply carrying the cell relies on) -/
def lenPrefixOK (c : Cell) : Bool := readLE (c.data.take 4) == (c.data.length - 4) % 2 ^ 32

/-- a connection's frames one after the other on one key's cell; the first panic ends the run -/
def runAll (cx : Ctx) : Option Cell → List Bytes → M (Option Cell)
  | cur, [] => pure cur
  | cur, f :: fs => do
    let cur' ← processFrame cx cur f
    runAll cx cur' fs

theorem specElems_enc (xs : List Bytes) (h : ElemsOK xs) : specElems (encElems xs) = xs := by
  unfold specElems; rw [parseElems_enc xs h _ (Nat.le_refl _)]

theorem isArray_encode (g : Frm) (ex : Bytes) (ct : Nat) (aof : Bool) :
    Cell.isArray ⟨encode g, ex, ct, aof⟩ = hasFlag g.flag fARRAY := by
  obtain ⟨a, b, c, d, he⟩ := encode_cons g
  simp [Cell.isArray, he]

theorem absCell_none : absCell none = .none := rfl
theorem absCell_unset (aof : Bool) : absCell (some (unsetCell aof)) = .none := by
  simp [absCell, unsetCell, Cell.hasData]

theorem absCell_data (g : Frm) (ex : Bytes) (ct : Nat) (aof : Bool) (hg : g.WF) (ha : g.ArrOK) (hct : ct ≠ UNSET) :
    absCell (some ⟨encode g, ex, ct, aof⟩) = g.val := by
  have hd : Cell.hasData ⟨encode g, ex, ct, aof⟩ = true := by simp [Cell.hasData, hct]
  simp only [absCell, hd, isArray_encode, (encode_shape g hg).cellOff, (encode_shape g hg).dropHdr, Frm.val]
  cases harr : hasFlag g.flag fARRAY with
  | false => simp
  | true =>
    obtain ⟨xs, hp, hok⟩ := ha harr
    rw [hp, parseElems_enc xs hok _ (by rw [encode_length, hp]; omega), specElems_enc xs hok]
    simp

def Val.isArr : Val → Bool
  | .array _ => true
  | _ => false

theorem val_isArr_eq (g : Frm) : g.val.isArr = hasFlag g.flag fARRAY := by
  unfold Frm.val; cases hasFlag g.flag fARRAY <;> rfl

theorem val_isArr (g : Frm) (h : g.val.isArr = true) : hasFlag g.flag fARRAY = true := val_isArr_eq g ▸ h

theorem val_bytes (g : Frm) (h : hasFlag g.flag fARRAY = false) : g.val = .bytes g.payload := by
  simp [Frm.val, h]

theorem arrOK_of_not (g : Frm) (h : hasFlag g.flag fARRAY = false) : g.ArrOK := by
  intro h'; rw [h] at h'; cases h'

theorem encode_toUInt8_zero : (0 : Nat).toUInt8 = 0 := rfl

def img (flag : UInt8) (props : Option Bytes) (payload : Bytes) : Frm := ⟨0, flag, props, payload⟩

theorem img_WF (flag : UInt8) (props : Option Bytes) (payload : Bytes)
    (h1 : hasFlag flag fPROP = props.isSome) (h2 : ∀ p, props = some p → p.length < 65536) : (img flag props payload).WF :=
  ⟨by show (0 : Nat) < 64; decide, h1, h2⟩

variable {x4 : Bytes} {fl : UInt8} {props : Option Bytes} {pl ex : Bytes} {ct : Nat} {aof : Bool}

/-- A cell of the shape the operations write — length prefix, op byte 0, flag, property header, payload — is the canonical
image of `(fl, props, pl)`: well-formed, and it denotes that image's value. -/
theorem cellWF_frame (hx : x4 = le32 (2 + (propHdr props).length + pl.length)) (h1 : hasFlag fl fPROP = props.isSome)
    (h2 : ∀ p, props = some p → p.length < 65536) (ha : (img fl props pl).ArrOK) (hct : ct ≠ UNSET) :
    CellWF (some ⟨x4 ++ 0 :: fl :: (propHdr props ++ pl), ex, ct, aof⟩) ∧
    absCell (some ⟨x4 ++ 0 :: fl :: (propHdr props ++ pl), ex, ct, aof⟩) = (img fl props pl).val := by
  have e : le32 (2 + (propHdr props).length + pl.length) ++ 0 :: fl :: (propHdr props ++ pl) = encode (img fl props pl) :=
    rfl
  rw [hx, e]
  have hw := img_WF fl props pl h1 h2
  exact ⟨CellWF.data (img fl props pl) ex ct aof rfl hw ha hct, absCell_data _ ex ct aof hw ha hct⟩

theorem cellWF_bytes (hx : x4 = le32 (2 + (propHdr props).length + pl.length)) (h1 : hasFlag fl fPROP = props.isSome)
    (h2 : ∀ p, props = some p → p.length < 65536) (hna : hasFlag fl fARRAY = false) (hct : ct ≠ UNSET) :
    CellWF (some ⟨x4 ++ 0 :: fl :: (propHdr props ++ pl), ex, ct, aof⟩) ∧
    absCell (some ⟨x4 ++ 0 :: fl :: (propHdr props ++ pl), ex, ct, aof⟩) = .bytes pl :=
  val_bytes (img fl props pl) hna ▸ cellWF_frame hx h1 h2 (arrOK_of_not _ hna) hct

theorem cellWF_array {xs : List Bytes} (hx : x4 = le32 (2 + (propHdr props).length + (encElems xs).length))
    (h1 : hasFlag fl fPROP = props.isSome) (h2 : ∀ p, props = some p → p.length < 65536)
    (harr : hasFlag fl fARRAY = true) (hok : ElemsOK xs) (hct : ct ≠ UNSET) :
    CellWF (some ⟨x4 ++ 0 :: fl :: (propHdr props ++ encElems xs), ex, ct, aof⟩) ∧
    absCell (some ⟨x4 ++ 0 :: fl :: (propHdr props ++ encElems xs), ex, ct, aof⟩) = .array xs := by
  have hv : (img fl props (encElems xs)).val = .array xs := by
    simp [Frm.val, img, harr, specElems_enc xs hok]
  exact hv ▸ cellWF_frame hx h1 h2 (fun _ => ⟨xs, rfl, hok⟩) hct

theorem unsetCell_shape (aof : Bool) : Shape (unsetCell aof).data 0 [] [] :=
  ⟨⟨2, 0, 0, 0, 1, rfl⟩, Or.inr ⟨by decide, rfl⟩⟩

theorem incrBase_abs {cur : Option Cell} (hcur : CellWF cur) (hna : (absCell cur).isArr = false) :
    incrBase cur = (absCell cur).toNum := by
  cases hcur with
  | none => rfl
  | unset aof => rfl
  | data g ex ct aof h0 hgw ha hct =>
    rw [absCell_data g ex ct aof hgw ha hct] at hna ⊢
    have hd : Cell.hasData ⟨encode g, ex, ct, aof⟩ = true := by simp [Cell.hasData, hct]
    rw [val_bytes g (val_isArr_eq g ▸ hna)]
    simp only [incrBase, hd, if_true, Cell.incrValue, hct, if_false, (encode_shape g hgw).cellOff,
      (encode_shape g hgw).readAt]
    rfl

theorem gate_mkCmd (cx : Ctx) (f : Frm) (h : hasFlag f.flag fFIRSTLAST = false) : gate cx (mkCmd f) = true := by
  simp [gate, mkCmd, h]

theorem processFrame_op (cx : Ctx) (cur : Option Cell) (f : Frm) (hf : f.WF) (hg : gate cx (mkCmd f) = true)
    (hp : f.op ≠ PIPELINE) : processFrame cx cur (encode f) = procOp cx cur (mkCmd f) := by
  have hc : (mkCmd f).ctype = f.op := rfl
  simp [processFrame, parseFrame_encode f hf, proc, hg, hc, hp]

/-- the count operand of SHIFT / POP -/
def Frm.count (f : Frm) : Nat := readLE (f.payload.take 4)

theorem elemsOK_drop (xs : List Bytes) (n : Nat) (h : ElemsOK xs) : ElemsOK (xs.drop n) :=
  fun x hx => h x (List.mem_of_mem_drop hx)

theorem elemsOK_snoc (xs : List Bytes) (b : Bytes) (h : ElemsOK xs) (hb : b.length < 2 ^ 32) : ElemsOK (xs ++ [b]) := by
  intro x hx
  rcases List.mem_append.mp hx with h1 | h1
  · exact h x h1
  · rw [List.mem_singleton.mp h1]; exact hb

/-- A well-formed cell by what it denotes: no value (no cell, or the UNSET marker), or the canonical image of a flag byte,
a property header and a payload that is a scalar or an exact element list. -/
theorem CellWF.kind {cur : Option Cell} (h : CellWF cur) :
    (live cur = false ∧ liveArr cur = false ∧ absCell cur = .none ∧ cellHasProps cur = false) ∨
    ∃ x fl props pl, cur = some x ∧ x.hasData = true ∧ Shape x.data fl (propHdr props) pl ∧ x.data.getD 4 0 = 0 ∧
      hasFlag fl fPROP = props.isSome ∧ (∀ p, props = some p → p.length < 65536) ∧ x.isArray = hasFlag fl fARRAY ∧
      ((hasFlag fl fARRAY = false ∧ absCell cur = .bytes pl) ∨
       (∃ xs, hasFlag fl fARRAY = true ∧ pl = encElems xs ∧ ElemsOK xs ∧ absCell cur = .array xs ∧
          parseElems x.data.length pl = xs)) := by
  cases h with
  | none => exact .inl ⟨rfl, rfl, rfl, rfl⟩
  | unset aof => exact .inl ⟨rfl, rfl, absCell_unset aof, rfl⟩
  | data g ex ct aof h0 hgw ha hct =>
    refine .inr ⟨_, g.flag, g.props, g.payload, rfl, by simp [Cell.hasData, hct], encode_shape g hgw, ?_, hgw.flag_props,
      hgw.props_len, isArray_encode g ex ct aof, ?_⟩
    · obtain ⟨a, b, c, d, he⟩ := encode_cons g
      show (encode g).getD 4 0 = 0
      rw [he, h0]; rfl
    · rw [absCell_data g ex ct aof hgw ha hct]
      cases harr : hasFlag g.flag fARRAY with
      | false => exact .inl ⟨rfl, val_bytes g harr⟩
      | true =>
        obtain ⟨xs, hp, hok⟩ := ha harr
        refine .inr ⟨xs, rfl, hp, hok, by simp [Frm.val, harr, hp, specElems_enc xs hok], ?_⟩
        rw [hp]
        exact parseElems_enc xs hok _ (by show _ ≤ (encode g).length; rw [encode_length, hp]; omega)

theorem pop_refines (cx : Ctx) (cur : Option Cell) (f : Frm) (hcur : CellWF cur) (hf : f.WF) (hop : f.op = POP)
    (hg : gate cx (mkCmd f) = true) (cur' : Option Cell)
    (h : processFrame cx cur (encode f) = .ok cur') :
    CellWF cur' ∧ absCell cur' = specApply (absCell cur) (.pop f.count) := by
  rw [processFrame_op cx cur f hf hg (by rw [hop]; decide), procOp_pop hop] at h
  have sf := mkCmd_shape hf
  have hsame : (liveArr cur && decide (0 < f.count)) = false → specApply (absCell cur) (.pop f.count) = absCell cur →
      CellWF cur' ∧ absCell cur' = specApply (absCell cur) (.pop f.count) := by
    intro hl hs
    rw [opPop_same cx sf hl] at h; cases h
    exact ⟨hcur, hs.symm⟩
  rcases hcur.kind with ⟨_, hl, hv, _⟩ | ⟨x, fl, props, pl, rfl, hd, sg, h4, h1, h2, hia, ⟨hfa, hv⟩ | ⟨xs, harr, rfl, hok, hv, hpe⟩⟩
  · exact hsame (by rw [hl]; rfl) (by rw [hv]; rfl)
  · exact hsame (by simp only [liveArr, hia, hfa, Bool.and_false, Bool.false_and]) (by rw [hv]; rfl)
  · rw [hv] at hsame ⊢
    by_cases hz : 0 < f.count
    · rw [opPop_array cx sf sg (by rw [hd, hia, harr]; rfl) hz, h4, hpe] at h; cases h
      exact cellWF_array rfl h1 h2 harr (elemsOK_drop xs _ hok) (by decide)
    · exact hsame (by simp only [hz, decide_false, Bool.and_false]) (by rw [show f.count = 0 by omega]; rfl)

theorem push_refines (cx : Ctx) (cur : Option Cell) (f : Frm) (hcur : CellWF cur) (hf : f.WF) (hop : f.op = PUSH)
    (hb : f.payload.length < 2 ^ 32)
    (hg : gate cx (mkCmd f) = true) (cur' : Option Cell)
    (h : processFrame cx cur (encode f) = .ok cur') :
    CellWF cur' ∧ absCell cur' = specApply (absCell cur) (.push f.payload) := by
  rw [processFrame_op cx cur f hf hg (by rw [hop]; decide), procOp_push hop] at h
  have sf := mkCmd_shape hf
  have e1 : ∀ b : Bytes, le32 b.length ++ b = encElems [b] := fun b => by simp [encElems]
  have hfresh : liveArr cur = false → (absCell cur).elems = [] →
      CellWF cur' ∧ absCell cur' = specApply (absCell cur) (.push f.payload) := by
    intro hl hv
    rw [opPush_fresh cx sf hl, e1] at h; cases h
    rw [show specApply (absCell cur) (.push f.payload) = .array [f.payload] by simp [specApply, hv]]
    exact cellWF_array rfl (by rw [flag_push_prop]; exact hf.flag_props) hf.props_len (flag_push_arr _)
      (fun x hx => List.mem_singleton.mp hx ▸ hb) (by decide)
  rcases hcur.kind with ⟨_, hl, hv, _⟩ | ⟨x, fl, props, pl, rfl, hd, sg, h4, h1, h2, hia, ⟨hfa, hv⟩ | ⟨xs, harr, rfl, hok, hv, hpe⟩⟩
  · exact hfresh hl (by rw [hv]; rfl)
  · exact hfresh (by simp only [liveArr, hia, hfa, Bool.and_false]) (by rw [hv]; rfl)
  · rw [opPush_array cx sf sg (by rw [hd, hia, harr]; rfl), e1, ← encElems_append] at h
    cases h
    rw [hv]
    exact cellWF_array rfl (by rw [flag_push_prop]; exact h1) h2 (flag_push_arr _)
      (elemsOK_snoc xs f.payload hok hb) (by decide)

/-! PIPELINE with one sub-frame: the reset to the pre-pipeline cell is then the identity. -/

theorem proc_single (fuel : Nat) (cx : Ctx) (cur : Option Cell) (c : Cmd) (hp : c.ctype ≠ PIPELINE) :
    proc (fuel + 1) cx cur c = if !gate cx c then pure cur else procOp cx cur c := by
  simp [proc, hp]

theorem pipeLoop_nil (rec : Option Cell → Cmd → M (Option Cell)) (pre : Option Cell) (extra : Bytes) (fuel : Nat)
    (cur : Option Cell) : pipeLoop rec pre extra fuel [] cur = pure cur := by
  cases fuel <;> simp [pipeLoop]

theorem proc_pipeline (fuel : Nat) (cx : Ctx) (cur : Option Cell) (c : Cmd) (hg : gate cx c = true) (hc : c.ctype = PIPELINE)
    (off : Nat) (hoff : cmdOff c = .ok off) (hle : ¬ off > c.data.length) :
    proc (fuel + 1) cx cur c
      = (pipeLoop (proc fuel cx) cur c.extra (c.data.drop off).length (c.data.drop off) cur >>= fun r => pure (pipeFinish cur r)) := by
  simp only [proc, hg, hc, hoff, bind, Except.bind, Bool.not_true, Bool.false_eq_true, if_false, if_true, if_neg hle]

def pipe1 (fl : UInt8) (s : Frm) : Frm := ⟨PIPELINE, fl, none, encode s⟩

/-- A PIPELINE with ONE (non-PIPELINE) sub-frame does what the sub-frame alone does, then `pipeFinish` (which only
    touches the persisted flag). -/
theorem pipeline_single (cx : Ctx) (cur : Option Cell) (fl : UInt8) (s : Frm) (hs : s.WF) (hsp : s.op ≠ PIPELINE)
    (hfl : hasFlag fl fFIRSTLAST = false) (hp : hasFlag fl fPROP = false)
    (hlen : 2 + s.hdrLen + s.payload.length < 2 ^ 32) :
    processFrame cx cur (encode (pipe1 fl s)) = (processFrame cx cur (encode s) >>= fun r => pure (pipeFinish cur r)) := by
  have hf : (pipe1 fl s).WF := ⟨by show PIPELINE < 64; decide, by simpa [pipe1] using hp, by intro p h; cases h⟩
  have hg := gate_mkCmd cx (pipe1 fl s) hfl
  have hoff : cmdOff (mkCmd (pipe1 fl s)) = .ok 6 := by
    have := (encode_shape _ hf).cmdOff (c := mkCmd (pipe1 fl s)); simpa [pipe1, propHdr] using this
  have hdrop : (mkCmd (pipe1 fl s)).data.drop 6 = encode s := by
    have := (encode_shape _ hf).dropHdr; simpa [pipe1, propHdr, mkCmd] using this
  have hl6 : ¬ (6 > (mkCmd (pipe1 fl s)).data.length) := by simp [mkCmd, encode_length]; omega
  have hsingle : processFrame cx cur (encode s) = if !gate cx (mkCmd s) then pure cur else procOp cx cur (mkCmd s) := by
    simp only [processFrame, parseFrame_encode s hs]
    exact proc_single _ cx cur (mkCmd s) hsp
  obtain ⟨m, hm⟩ : ∃ m, (encode s).length = m + 1 := ⟨5 + s.hdrLen + s.payload.length, by rw [encode_length]; omega⟩
  obtain ⟨L, hL⟩ : ∃ L, (encode (pipe1 fl s)).length = L + 1 := ⟨5 + (pipe1 fl s).hdrLen + (pipe1 fl s).payload.length, by rw [encode_length]; omega⟩
  have h4 : ¬ (encode s).length < 4 := by rw [encode_length]; omega
  have hdl : readLE ((encode s).take 4) = 2 + s.hdrLen + s.payload.length := by
    rw [encode_take4]; exact readLE_le32 _ hlen
  have hov : ¬ (4 + (2 + s.hdrLen + s.payload.length) > (encode s).length) := by rw [encode_length]; omega
  have htake : (encode s).take (4 + (2 + s.hdrLen + s.payload.length)) = encode s := by
    apply List.take_of_length_le; rw [encode_length]; omega
  have hrest : (encode s).drop (4 + (2 + s.hdrLen + s.payload.length)) = [] := by
    apply List.drop_eq_nil_of_le; rw [encode_length]; omega
  have hloop : pipeLoop (proc (L + 1) cx) cur [] (encode s).length (encode s) cur
      = (processFrame cx cur (encode s) >>= fun r => pure r) := by
    rw [hm, pipeLoop, if_neg h4]
    simp only [hdl, if_neg hov, htake, hrest, List.append_nil, parseFrame_encode s hs]
    have hc1 : (if (mkCmd s).ctype ≠ EXECUTE then cur else cur) = cur := by split <;> rfl
    rw [hc1, proc_single L cx cur (mkCmd s) hsp, ← hsingle]
    cases processFrame cx cur (encode s) with
    | error e => rfl
    | ok r => simp [bind, Except.bind, pipeLoop_nil]
  have hP : processFrame cx cur (encode (pipe1 fl s)) = proc ((encode (pipe1 fl s)).length + 1) cx cur (mkCmd (pipe1 fl s)) := by
    simp only [processFrame, parseFrame_encode _ hf]
  rw [hP, proc_pipeline _ cx cur _ hg rfl 6 hoff hl6, hdrop, hL]
  have hex : (mkCmd (pipe1 fl s)).extra = [] := rfl
  rw [hex, hloop]
  cases processFrame cx cur (encode s) with
  | error e => rfl
  | ok r => rfl

theorem absCell_pipeFinish (pre cur : Option Cell) : absCell (pipeFinish pre cur) = absCell cur := by
  unfold pipeFinish
  cases cur with
  | none => rfl
  | some k =>
    simp only
    split <;> (split <;> simp [absCell, Cell.hasData, Cell.isArray])

theorem pipeFinish_some (pre : Option Cell) (k : Cell) : ∃ b, pipeFinish pre (some k) = some { k with isAof := b } := by
  unfold pipeFinish
  simp only
  split <;> (split <;> first | exact ⟨true, rfl⟩ | exact ⟨k.isAof, rfl⟩)

theorem cellWF_pipeFinish (pre cur : Option Cell) (h : CellWF cur) : CellWF (pipeFinish pre cur) := by
  cases h with
  | none => exact CellWF.none
  | unset aof =>
    obtain ⟨b, hb⟩ := pipeFinish_some pre (unsetCell aof)
    rw [hb]; exact CellWF.unset b
  | data g ex ct aof h0 hgw ha hct =>
    obtain ⟨b, hb⟩ := pipeFinish_some pre ⟨encode g, ex, ct, aof⟩
    rw [hb]; exact CellWF.data g ex ct b h0 hgw ha hct

end Slock.Value
