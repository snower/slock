import Slock.Proofs.EngineWake
/-!
The two timer wheels between the sweeps. First what `wheelAdd` computes. Then where records are found: an edit changes one
key record, so what is found under a key id after a `store` was there before or is in the stored record, and that record
holds what it held or one new record (`NewW`, `NewH`). Read off these: a queued request sits under the key its command
names (`KW`), only a tick touches the clock, and the wheel entries of requests and holds stay well-formed (`WInv`, `HInv`),
from which "never early" follows for both sweeps.
-/
namespace Slock.Engine

/-- `AddTimeOut` / `AddExpried`: the record is never scheduled before the wheel's check time; long-table records are
keyed by the (possibly raised) deadline, slot records are looked at within `MAX_WAIT` seconds; a deadline not before the
check time is kept and the record is looked at no later than it; a deadline already behind the check time is served at
the check time (the earliest sweep still to come). -/
theorem wheelAdd_all (check seq d n : Nat) :
    check ≤ (wheelAdd check seq d n).2.visit ∧
    ((wheelAdd check seq d n).2.long = true → (wheelAdd check seq d n).2.visit = (wheelAdd check seq d n).1) ∧
    ((wheelAdd check seq d n).2.long = false → (wheelAdd check seq d n).2.visit ≤ check + MAX_WAIT) ∧
    (check ≤ d → (wheelAdd check seq d n).1 = d ∧ (wheelAdd check seq d n).2.visit ≤ d ∧
      ((wheelAdd check seq d n).2.long = false → (wheelAdd check seq d n).2.visit = min d (check + n))) ∧
    (d < check → (wheelAdd check seq d n).2.visit = check) := by
  unfold wheelAdd
  by_cases hn : n > MAX_WAIT <;> by_cases h1 : d < check <;> by_cases h2 : d < check + n <;>
    simp [hn, h1, h2] <;> omega

theorem wheelAdd_spec (check seq d n : Nat) (h : check ≤ d) :
    (wheelAdd check seq d n).1 = d ∧ check ≤ (wheelAdd check seq d n).2.visit ∧ (wheelAdd check seq d n).2.visit ≤ d ∧
      ((wheelAdd check seq d n).2.long = true → (wheelAdd check seq d n).2.visit = d) ∧
      ((wheelAdd check seq d n).2.long = false → (wheelAdd check seq d n).2.visit = min d (check + n)) := by
  obtain ⟨h1, h2, _, h4, _⟩ := wheelAdd_all check seq d n
  exact ⟨(h4 h).1, h1, (h4 h).2.1, fun hl => (h2 hl).trans (h4 h).1, (h4 h).2.2⟩

theorem wheelAdd_late (check seq d n : Nat) (h : d < check) : (wheelAdd check seq d n).2.visit = check :=
  (wheelAdd_all check seq d n).2.2.2.2 h

def WaitAt (db : DB) (n : Nat) (w : Waiter) : Prop := ∃ k ∈ db.keys, k.key = n ∧ w ∈ k.waiters
def HoldAt (db : DB) (n : Nat) (h : Hold) : Prop := ∃ k ∈ db.keys, k.key = n ∧ h ∈ k.holders

/-! `WaitAt` and `HoldAt` are `waitWheel.At` and `holdWheel.At`: what holds of the records on any wheel found under a key id -/

namespace Wheel
variable {α : Type} {W : Wheel α} {db db' db0 : DB} {k : Key} {n m : Nat} {a : α}

theorem At.of_getKey (h0 : ∀ n, W.recs (emptyKey n) = []) (h : a ∈ W.recs (db.getKey n)) : W.At db n a := by
  rcases getKey_mem_or_empty db n with h1 | h1
  · exact ⟨_, h1, getKey_key db n, h⟩
  · rw [h1, h0] at h; exact nomatch h

theorem At.setKey (h : W.At (db.setKey k) n a) : (n ≠ k.key ∧ W.At db n a) ∨ (n = k.key ∧ a ∈ W.recs k) := by
  obtain ⟨x, hx, hn, hw⟩ := h
  rcases mem_setKey_keys hx with ⟨h1, h2⟩ | h1
  · exact Or.inl ⟨by rw [← hn]; exact h2, x, h1, hn, hw⟩
  · subst h1; exact Or.inr ⟨hn.symm, hw⟩

theorem At.of_keys_eq (e : db'.keys = db.keys) (h : W.At db' n a) : W.At db n a := by
  unfold Wheel.At at *; rw [e] at h; exact h

theorem At.store (h : W.At (db.setKey k) n a) (e : db.keys = db0.keys) (hk : k.key = m) :
    (n ≠ m ∧ W.At db0 n a) ∨ (n = m ∧ a ∈ W.recs k) :=
  hk ▸ h.setKey.imp_left fun ⟨h1, h2⟩ => ⟨h1, h2.of_keys_eq e⟩

end Wheel

theorem waitAt_getKey {db : DB} {n : Nat} {w : Waiter} (h : w ∈ (db.getKey n).waiters) : WaitAt db n w :=
  Wheel.At.of_getKey (W := waitWheel) (fun _ => rfl) h

theorem holdAt_getKey {db : DB} {n : Nat} {x : Hold} (h : x ∈ (db.getKey n).holders) : HoldAt db n x :=
  Wheel.At.of_getKey (W := holdWheel) (fun _ => rfl) h

theorem WaitAt.of_keys_eq {db db' : DB} {n : Nat} {w : Waiter} (e : db'.keys = db.keys) (h : WaitAt db' n w) : WaitAt db n w :=
  Wheel.At.of_keys_eq (W := waitWheel) e h

theorem HoldAt.of_keys_eq {db db' : DB} {n : Nat} {x : Hold} (e : db'.keys = db.keys) (h : HoldAt db' n x) : HoldAt db n x :=
  Wheel.At.of_keys_eq (W := holdWheel) e h

theorem holdAt_store {db0 db : DB} {k : Key} {n m : Nat} {x : Hold}
    (h : HoldAt (db.setKey k) n x) (e : db.keys = db0.keys) (hk : k.key = m) : (n ≠ m ∧ HoldAt db0 n x) ∨ (n = m ∧ x ∈ k.holders) :=
  Wheel.At.store (W := holdWheel) h e hk

theorem waitAt_store {db0 db : DB} {k : Key} {n m : Nat} {w : Waiter}
    (h : WaitAt (db.setKey k) n w) (e : db.keys = db0.keys) (hk : k.key = m) : (n ≠ m ∧ WaitAt db0 n w) ∨ (n = m ∧ w ∈ k.waiters) :=
  Wheel.At.store (W := waitWheel) h e hk

theorem WaitAt.allW {db : DB} {n : Nat} {w : Waiter} (h : WaitAt db n w) : w ∈ allW db := by
  obtain ⟨k, hm, _, hw⟩ := h; exact mem_allW.mpr ⟨k, hm, hw⟩

theorem waitAt_of_allW {db : DB} {w : Waiter} (h : w ∈ allW db) : ∃ n, WaitAt db n w := by
  obtain ⟨k, hm, hw⟩ := mem_allW.mp h; exact ⟨k.key, k, hm, rfl, hw⟩

theorem mem_getKey_waiters {db : DB} {n : Nat} {w : Waiter} (h : w ∈ (db.getKey n).waiters) : w ∈ allW db :=
  (waitAt_getKey h).allW

theorem allW_of_keys_eq {db db' : DB} (e : db'.keys = db.keys) : allW db' = allW db := by unfold allW; rw [e]

theorem mem_allW_of_keys_eq {db db' : DB} {w : Waiter} (e : db'.keys = db.keys) (h : w ∈ allW db') : w ∈ allW db := by
  rw [allW_of_keys_eq e] at h; exact h

theorem mem_insertWaiter {ws : List Waiter} {w x : Waiter} (h : x ∈ insertWaiter ws w) : x = w ∨ x ∈ ws :=
  List.mem_cons.mp ((insertWaiter_perm ws w).mem_iff.mp h)

theorem holdAt_of_store {db0 d : DB} {k : Key} {wk : Bool} {out : List Reply} {n m : Nat} {x : Hold}
    (h : HoldAt (store wk d k out).1 n x) (e : d.keys = db0.keys) (hk : k.key = m) :
    (n ≠ m ∧ HoldAt db0 n x) ∨ (n = m ∧ x ∈ (if wk then (wake d k out).2.1 else k).holders) := by
  cases wk
  · exact holdAt_store (k := k) h e hk
  · exact holdAt_store (db0 := db0) (k := (wake d k out).2.1) h ((wake_keys d k out).trans e) ((wake_key d k out).trans hk)

theorem waitAt_of_store {db0 d : DB} {k : Key} {wk : Bool} {out : List Reply} {n m : Nat} {w : Waiter}
    (h : WaitAt (store wk d k out).1 n w) (e : d.keys = db0.keys) (hk : k.key = m) :
    (n ≠ m ∧ WaitAt db0 n w) ∨ (n = m ∧ w ∈ k.waiters) := by
  unfold store at h
  split at h
  · refine (waitAt_store (db0 := db0) h ((wake_keys d k out).trans e) ((wake_key d k out).trans hk)).imp_right ?_
    exact fun ⟨h1, h2⟩ => ⟨h1, (wake_sub d k out).subset h2⟩
  · exact waitAt_store h e hk

section
variable {db0 db d : DB} {s : Src} {n : Nat} {wk : Bool} {k : Key} {out : List Reply}

/-- `NewW db0 db s n w`: `w` is a request an edit of key `n` asked for by `s` puts into the queue -/
inductive NewW (db0 db : DB) : Src → Nat → Waiter → Prop
  | queue (c : Cmd) (hb : classifyLock db c = .queue) : NewW db0 db (.lock c) c.key (newWaiter db c)
  /-- the re-armed copy of a request that was queued when the tick began -/
  | rearm (s : Src) (n : Nat) (w0 : Waiter) (hw : w0 ∈ allW db0) (hk : w0.cmd.key = n) (hd : w0.timeoutT > db.now) :
    NewW db0 db s n (rearmed db w0)

/-- `NewH db s n x`: `x` is a hold an edit of key `n` asked for by `s` creates or rewrites (the holds a wake pass grants apart) -/
inductive NewH (db : DB) : Src → Nat → Hold → Prop
  | grant (c : Cmd) : NewH db (.lock c) c.key (grantedHold db c)
  | update (c : Cmd) (h0 : Hold) (hb : classifyLock db c = .update h0) :
    NewH db (.lock c) c.key (updateHold db h0 { c with lockId := h0.cmd.lockId }).2
  | relock (c : Cmd) (h0 : Hold) (hb : classifyLock db c = .relock h0) :
    NewH db (.lock c) c.key (updateHold db { h0 with depth := h0.depth + 1 } c).2
  /-- one level taken off -/
  | dec (s : Src) (n : Nat) (h0 : Hold) (hm : h0 ∈ (db.getKey n).holders) : NewH db s n { h0 with depth := h0.depth - 1 }
  /-- the re-armed copy of a hold the expiry sweep collected -/
  | rearm (s : Src) (n : Nat) (h0 : Hold) (hk : h0.cmd.key = n) (hd : h0.expT > db.now) : NewH db s n (rearmedH db h0)

theorem Edit.waiters (e : Edit db0 db s n wk d k out) : ∀ w ∈ k.waiters, w ∈ (db.getKey n).waiters ∨ NewW db0 db s n w := by
  cases e with
  | queue c hb => exact fun w hw => (mem_insertWaiter hw).symm.imp_right fun h => by rw [h]; exact .queue c hb
  | cancel | timeout => exact fun _ hw => Or.inl (mem_removeWaiter hw)
  | rearmW w0 hw0 hd =>
    intro w hw
    obtain ⟨y, hy, e⟩ := List.mem_map.mp hw
    split at e
    · exact Or.inr (e ▸ .rearm _ _ w0 hw0 rfl hd)
    · exact Or.inl (e ▸ hy)
  | _ => exact fun _ hw => Or.inl hw

theorem Edit.holders (e : Edit db0 db s n wk d k out) : ∀ x ∈ k.holders, x ∈ (db.getKey n).holders ∨ NewH db s n x := by
  cases e with
  | update c h hb => exact fun x hx => (mem_replaceHolder hx).imp_right fun h2 => by rw [h2]; exact .update c h hb
  | relock c h hb => exact fun x hx => (mem_replaceHolder hx).imp_right fun h2 => by rw [h2]; exact .relock c h hb
  | grant c => exact fun x hx => (List.mem_append.mp hx).imp_right fun h2 => by rw [List.mem_singleton.mp h2]; exact .grant c
  | dec c h c' hb => exact fun x hx => (mem_replaceHolder hx).imp_right fun h2 => by rw [h2]; exact .dec _ _ h (UnlockFacts.of hb).1.mem
  | release | expire => exact fun _ hx => Or.inl (mem_removeHolder hx)
  | rearmH h hd => exact fun x hx => (mem_replaceHolder hx).imp_right fun h2 => by rw [h2]; exact .rearm _ _ h rfl hd
  | _ => exact fun _ hx => Or.inl hx

theorem NewW.key {w : Waiter} (h : NewW db0 db s n w) : w.cmd.key = n := by cases h <;> first | rfl | assumption

theorem Edit.allW (e : Edit db0 db s n wk d k out) {w : Waiter} (h : w ∈ allW (store wk d k out).1) :
    w ∈ allW db ∨ NewW db0 db s n w := by
  obtain ⟨m, hm⟩ := waitAt_of_allW h
  rcases waitAt_of_store hm e.frame.1 e.frame.2.2.2 with ⟨_, h1⟩ | ⟨_, h1⟩
  · exact Or.inl h1.allW
  · exact (e.waiters w h1).imp_left mem_getKey_waiters

theorem fireTimeout_waitAt {db : DB} {key : Nat} {w0 : Waiter} {n : Nat} {w : Waiter} (h : WaitAt (fireTimeout db key w0).1 n w) :
    (n ≠ key ∧ WaitAt db n w) ∨ (n = key ∧ w ∈ removeWaiter (db.getKey key).waiters w0) := by
  rw [fireTimeout_eq] at h
  exact waitAt_of_store (db0 := db) h rfl (getKey_key db key)

theorem rearmWaiter_waitAt {db : DB} {w0 : Waiter} {n : Nat} {w : Waiter} (h : WaitAt (rearmWaiter db w0) n w) :
    (n ≠ w0.cmd.key ∧ WaitAt db n w) ∨
      (n = w0.cmd.key ∧ ((w ∈ (db.getKey n).waiters ∧ (w.cmd.req == w0.cmd.req && w.conn == w0.conn) = false) ∨ w = rearmed db w0)) := by
  rw [rearmWaiter_eq] at h
  unfold updateWaiter at h
  rcases waitAt_store (db0 := db) (m := w0.cmd.key) h rfl (getKey_key _ _) with h1 | ⟨hn, h1⟩
  · exact Or.inl h1
  · refine Or.inr ⟨hn, ?_⟩
    simp only [List.mem_map] at h1
    obtain ⟨y, hy, e⟩ := h1
    split at e
    · exact Or.inr e.symm
    · rename_i hne
      rw [← e, hn]
      exact Or.inl ⟨hy, by simpa using hne⟩

theorem rearmHold_holdAt {db : DB} {h0 : Hold} {n : Nat} {x : Hold} (h : HoldAt (rearmHold db h0) n x) :
    (n ≠ h0.cmd.key ∧ HoldAt db n x) ∨
      (n = h0.cmd.key ∧ x ∈ replaceHolder (db.getKey h0.cmd.key).holders h0 (rearmedH db h0)) := by
  rw [rearmHold_eq] at h
  unfold updateHoldIn at h
  exact holdAt_store (db0 := db) (m := h0.cmd.key) h rfl (getKey_key _ _)

theorem allW_sub_of_waitAt {db db' : DB} (h : ∀ n w, WaitAt db' n w → WaitAt db n w) : ∀ w ∈ allW db', w ∈ allW db :=
  fun w hw => let ⟨n, hn⟩ := waitAt_of_allW hw; (h n w hn).allW

theorem fireTimeout_waitAt_sub {db : DB} {key : Nat} {w0 : Waiter} {n : Nat} {w : Waiter}
    (h : WaitAt (fireTimeout db key w0).1 n w) : WaitAt db n w := by
  rcases fireTimeout_waitAt h with ⟨_, h1⟩ | ⟨hn, h1⟩
  · exact h1
  · exact hn ▸ waitAt_getKey (mem_removeWaiter h1)

end

/-- a queued request sits under the key its command names; kept by every edit with no premise on the operations (a field of `Steady`) -/
def KW (db : DB) : Prop := ∀ n w, WaitAt db n w → w.cmd.key = n

theorem KW.of_sub {db db' : DB} (h : KW db) (hs : ∀ n w, WaitAt db' n w → WaitAt db n w) : KW db' :=
  fun n w hw => h n w (hs n w hw)

theorem KW.init (now : Nat) : KW (DB.init now) := by
  intro n w hw; obtain ⟨k, hk, _⟩ := hw; simp [DB.init] at hk

section
variable {db0 db d : DB} {s : Src} {n : Nat} {wk : Bool} {k : Key} {out : List Reply}

theorem KW.edit (e : Edit db0 db s n wk d k out) (h : KW db) : KW (store wk d k out).1 := by
  intro m w hw
  rcases waitAt_of_store hw e.frame.1 e.frame.2.2.2 with ⟨_, h1⟩ | ⟨hn, h1⟩
  · exact h m w h1
  · exact hn ▸ (e.waiters w h1).elim (fun h2 => h n w (waitAt_getKey h2)) NewW.key

theorem opLock_KW (db : DB) (c : Cmd) (h : KW db) : KW (opLock db c).1 := opLock_keeps KW.edit db c h

theorem opUnlock_KW (db : DB) (c : Cmd) (h : KW db) : KW (opUnlock db c).1 :=
  opUnlock_keeps KW.edit db c (h.of_sub fun _ _ hx => hx.of_keys_eq rfl) h

end

theorem clock_setKey (db : DB) (k : Key) : clock (db.setKey k) = clock db := rfl

theorem clock_opLock (db : DB) (c : Cmd) : clock (opLock db c).1 = clock db :=
  opLock_edit db c (Q := fun p => clock p.1 = clock db) (fun _ _ _ => rfl)
    fun wk d k out e => (clock_store wk d k out).trans e.frame.2.1

theorem clock_opUnlock (db : DB) (c : Cmd) : clock (opUnlock db c).1 = clock db :=
  opUnlock_edit db c (Q := fun p => clock p.1 = clock db) (fun _ _ _ => rfl)
    fun d k out e => (clock_store true d k out).trans e.frame.2.1

theorem clock_updateWaiter (db : DB) (w w' : Waiter) : clock (updateWaiter db w w') = clock db := rfl

theorem clock_fireTimeout (db : DB) (key : Nat) (w : Waiter) : clock (fireTimeout db key w).1 = clock db :=
  clock_store true _ _ _

theorem clock_sweepTimeout (db : DB) (c : Nat) : clock (sweepTimeout db c).1 = clock db :=
  sweepTimeout_induct (P := fun d _ => clock d = clock db) db c [] (fun _ _ _ _ _ h => h)
    (fun d _ key w _ h => (clock_fireTimeout d key w).trans h) rfl

/-- The timeout-wheel entry of a queued request (C05): scheduled no later than the deadline; long-table entries are keyed by
the deadline. -/
def WOK (w : Waiter) : Prop := w.sched.visit ≤ w.timeoutT ∧ (w.sched.long = true → w.sched.visit = w.timeoutT)

def WInv (db : DB) : Prop := db.tCheck = db.now + 1 ∧ ∀ w ∈ allW db, WOK w

theorem timeoutDeadline_gt (now : Nat) (c : Cmd) : now + 1 ≤ timeoutDeadline now c := by
  unfold timeoutDeadline; split <;> omega

theorem newWaiter_ok (db : DB) (c : Cmd) (h : db.tCheck = db.now + 1) :
    WOK (newWaiter db c) ∧ (newWaiter db c).timeoutT = timeoutDeadline db.now c := by
  have hs := wheelAdd_spec db.tCheck db.seq (timeoutDeadline db.now c) 1 (by rw [h]; exact timeoutDeadline_gt _ _)
  unfold newWaiter WOK
  dsimp only
  rw [hs.1]
  exact ⟨⟨hs.2.2.1, hs.2.2.2.1⟩, rfl⟩

theorem newWaiter_deadline (db : DB) (c : Cmd) (h : db.tCheck = db.now + 1) :
    (newWaiter db c).timeoutT = db.now + c.timeout * (if has c.tflag TF_MINUTE then 60 else 1) + 1 := by
  rw [(newWaiter_ok db c h).2]
  unfold timeoutDeadline
  split <;> simp [*]

theorem rearmed_ok (db : DB) (w : Waiter) (h : db.tCheck = db.now + 1) (hd : w.timeoutT > db.now) :
    WOK (rearmed db w) ∧ (rearmed db w).timeoutT = w.timeoutT ∧ db.now + 1 ≤ (rearmed db w).sched.visit := by
  have hs := wheelAdd_spec db.tCheck db.seq w.timeoutT (w.sched.checked + 1) (by omega)
  unfold rearmed WOK
  dsimp only
  rw [hs.1]
  exact ⟨⟨hs.2.2.1, hs.2.2.2.1⟩, rfl, by rw [← h]; exact hs.2.1⟩

theorem NewW.ok {db0 db : DB} {s : Src} {n : Nat} {w : Waiter} (h : NewW db0 db s n w) (htc : db.tCheck = db.now + 1) :
    WOK w ∧ w.cmd.key = n ∧ db.tCheck ≤ w.sched.visit := by
  cases h with
  | queue c => exact ⟨(newWaiter_ok db c htc).1, rfl, (wheelAdd_all ..).1⟩
  | rearm _ _ w0 _ hk hd => exact ⟨(rearmed_ok db w0 htc hd).1, hk, (wheelAdd_all ..).1⟩

theorem WInv.edit {db0 db d : DB} {s : Src} {n : Nat} {wk : Bool} {k : Key} {out : List Reply}
    (e : Edit db0 db s n wk d k out) (h : WInv db) : WInv (store wk d k out).1 := by
  have hc := e.clock
  exact ⟨by rw [hc.2.1, hc.1]; exact h.1, fun w hw => (e.allW hw).elim (h.2 w) fun hn => (hn.ok h.1).1⟩

theorem timeoutPass1_due (db : DB) (c : Nat) (h : WInv db) (hc : c = db.now) :
    ∀ w ∈ (timeoutPass1 db c).2, w.timeoutT ≤ db.now :=
  Wheel.pass1_due (W := waitWheel) db c (fun w hw => (h.2 w hw).2) (fun _ _ => rfl) hc

/-! The expiry-wheel entry of a hold: long-table entries are keyed by the deadline (C06) -/

def HOK (h : Hold) : Prop := h.sched.long = true → h.sched.visit = h.expT

def KeyHOK (k : Key) : Prop := ∀ h ∈ k.holders, HOK h

def HInv (db : DB) : Prop := ∀ k ∈ db.keys, KeyHOK k

theorem expirePass1_due (db : DB) (c : Nat) (h : HInv db) (hc : c = db.now) :
    ∀ hd ∈ (expirePass1 db c).2, hd.expT ≤ db.now :=
  Wheel.pass1_due (W := holdWheel) db c
    (fun x hx => have ⟨k, hk, hxk⟩ := List.mem_flatMap.mp hx; h k hk x hxk) (fun _ _ => rfl) hc

end Slock.Engine
