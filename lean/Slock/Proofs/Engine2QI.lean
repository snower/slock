import Slock.Proofs.Engine2QK
import Slock.Proofs.Engine2TightRun
/-! Stage-2 engine: tombstoned queue entries cannot outlive the live ones (`QI` = `CurNone` ∧ `WLive`, `Engine2QK`) in every reachable
state (`run_dbq`). Every step of an operation (`OpStep`) keeps `CurNone`, whatever the state. `WLive` is lost where a queued request
is ended (`tomb`, `wakeOne`) and is there again after the next `GetWaitLock` (`settle`, `pop`) — the index of a `Walk`; every other
step keeps it because the reference counts at the step's END say that every wait-queue entry still has its record. So the node an
operation reaches has the queue shape its start had, and the database after every critical section has it. -/
namespace Slock.Engine2
open Slock.Engine (has)

theorem wait_hasRec {w : W} (l : Lv w zero) : ∀ e ∈ w.k.wait, w.k.hasRec e.rid := by
  intro e he
  exact l.has (qRefs_pos_of_wait_mem w.k e.rid (List.mem_map.mpr ⟨e, he, rfl⟩))

theorem QI.of_qk {w w' : W} (h : QI w.k) (d : QK w' w) (l : Lv w' zero) : QI w'.k :=
  ⟨h.cn.of_q d.q, h.wl.of_keep (queues_eq d.q).2.2 d.t (wait_hasRec l)⟩

def QIG (w : W) : Prop := w.gone = false → QI w.k

theorem QIG.step {w w' : W} (h : QIG w) (f : Fr w w') (hs : QI w.k → w'.gone = false → QI w'.k) : QIG w' :=
  fun hg => hs (h (gone_of_fr f hg)) hg

theorem QIG.qk {w w' : W} (h : QIG w) (f : Fr w w') (d : QK w' w) (g : GoodG w') : QIG w' :=
  h.step f (fun q hg => q.of_qk d (g hg).lv)

theorem WLive.newLock {w : W} (h : WLive w.k) (hd : ∀ e ∈ w.k.wait, w.k.hasRec e.rid) (c : Cmd) (d : Option Bytes) : WLive (w.newLock c d).1.k := by
  intro hne
  obtain ⟨e, he, hl⟩ := h hne
  exact ⟨e, he, (congrArg Rec.timeouted (getR_addRec _ _ _ (hd e he))).trans hl⟩

/-- `GetOrNewLock`: a new record, in no queue -/
theorem QI.newLock {w : W} (h : QI w.k) (l : Lv w zero) (c : Cmd) (d : Option Bytes) : QI (w.newLock c d).1.k :=
  ⟨h.cn, h.wl.newLock (wait_hasRec l) c d⟩

theorem QI.of_same {k k' : Key} (h : QI k) (h1 : k'.recs = k.recs) (h2 : k'.queues = k.queues) : QI k' := by
  obtain ⟨q1, q2, q3⟩ := queues_eq h2
  refine ⟨h.cn.of_q h2, ?_⟩
  intro hne
  rw [q3] at hne
  obtain ⟨e, he, hl⟩ := h.wl hne
  refine ⟨e, by rw [q3]; exact he, ?_⟩
  unfold Key.getR at hl ⊢; rw [h1]; exact hl

theorem qi_settleWait_cn {k : Key} (h : CurNone k) : QI k.settleWait := by
  obtain ⟨a, b⟩ := waitSkip_cl k.wait k
  have q : QI k.getWaitLock.1 := ⟨h.of_cl a b, wl_getWaitLock k⟩
  unfold Key.settleWait
  split
  · exact q.of_same rfl rfl
  · exact q

theorem QI.settleWait {k : Key} (h : QI k) : QI k.settleWait := qi_settleWait_cn h.cn

theorem good_getWaitLock {w : W} (g : Good w) : Good (w.modK (·.getWaitLock.1)) := by
  refine ⟨g.lv.modK _ (getWaitLock_rc zero_nonneg g.lv.rc) (RecsLe.getWaitLock _), ?_⟩
  have := nz_getWaitLock g.nz.nd g.nz.nz
  exact ⟨this.1, this.2⟩

theorem qi_getKey {db : DB} (hq : ∀ k ∈ db.keys, QI k) (n : Nat) : QI (db.getKey n) := all_getKey hq n (QI.newKey n)


theorem mem_insertPrio (ws : List WEnt) (e : WEnt) : e ∈ insertPrio ws e := (Sim.insertPrio_mem' ws e e).mpr (Or.inl rfl)

theorem waitPush_spec (k : Key) (e : WEnt) : e ∈ (k.waitPush e).wait ∧ (k.waitPush e).current = k.current ∧ (k.waitPush e).locks = k.locks := by
  refine ⟨?_, (wclosed_current _).waitPush rfl e, (wclosed_locks _).waitPush rfl e⟩
  unfold Key.waitPush
  split
  · exact mem_insertPrio _ _
  · simp only []
    split
    · simp
    · split
      · simp
      · rw [foldl_unrefW_inv (P := fun k' => k'.wait = _) (hclosed_wait _).unref _ rfl]
        split <;> simp

theorem addWaitLock_spec (k : Key) (rid : Nat) :
    (∃ e ∈ (k.addWaitLock rid).wait, e.rid = rid) ∧ (k.addWaitLock rid).current = k.current ∧ (k.addWaitLock rid).locks = k.locks := by
  refine ⟨?_, (wclosed_current _).addWaitLock (fun _ _ h => h) (fun _ _ h => h) rfl rid,
    (wclosed_locks _).addWaitLock (fun _ _ h => h) (fun _ _ h => h) rfl rid⟩
  unfold Key.addWaitLock
  exact ⟨_, (waitPush_spec _ _).1, rfl⟩

theorem timeouted_ref_addTimeOut (w : W) (rid : Nat) (h : w.k.hasRec rid) : (((w.addTimeOut rid).ref rid).k.getR rid).timeouted = false := by
  have a := getR_modRec_proj (·.timeouted) (w.addTimeOut rid).k rid rid (fun r => { r with refCount := r.refCount + 1 }) (by intro _; rfl)
  show (((w.addTimeOut rid).k.modRec rid (fun r => { r with refCount := r.refCount + 1 })).getR rid).timeouted = false
  rw [a]
  unfold W.addTimeOut
  show ((w.k.modRec rid (Rec.armT _)).getR rid).timeouted = false
  rw [getR_modRec_same _ _ _ h]
  rfl

theorem qk_addTimeOut_live (w : W) (rid : Nat) (h : (w.k.getR rid).timeouted = false) : QK (w.addTimeOut rid) w :=
  ⟨rfl, PKeep.modRec_at w.k rid _ (fun _ => rfl) (fun _ => by show false = _; rw [h])⟩

/-- `QK` up to the reclaim of the key record at the end (`freeCheck`, `unrefCheck`) -/
def QKR (w' w : W) : Prop := ∃ m, QK m w ∧ (w' = m ∨ w' = m.removeIfZero)

theorem QK.r {w' w : W} (d : QK w' w) : QKR w' w := ⟨w', d, Or.inl rfl⟩
theorem QKR.trans {a b c : W} (h1 : QKR a b) (h2 : QK b c) : QKR a c := have ⟨m, d, e⟩ := h1; ⟨m, d.trans h2, e⟩

theorem qkr_freeCheck (w : W) (rid : Nat) : QKR (w.freeCheck rid) w := ⟨_, qk_free w rid, Or.inr rfl⟩

theorem qkr_unrefCheck (w : W) (rid : Nat) : QKR (w.unrefCheck rid) w := by
  unfold W.unrefCheck W.when
  simp only []
  split
  · exact (qkr_freeCheck _ rid).trans (qk_unrefOnly w rid)
  · exact (qk_unrefOnly w rid).r

theorem CurNone.removeIfZero {w : W} (h : CurNone w.k) : CurNone w.removeIfZero.k := by
  unfold W.removeIfZero
  split
  · exact fun _ => rfl
  · exact h

theorem QKR.curNone {w' w : W} (d : QKR w' w) (h : CurNone w.k) : CurNone w'.k := by
  obtain ⟨m, d, rfl | rfl⟩ := d
  · exact h.of_q d.q
  · exact (h.of_q d.q).removeIfZero

/-- the wait queue of a key record that is still linked has a live entry or none -/
def WLG (w : W) : Prop := w.gone = false → WLive w.k

theorem QKR.wlg {w' w : W} (d : QKR w' w) (f : Fr w w') (l' : LvG w' zero) (h : WLG w) : WLG w' := by
  intro hg
  have hd := wait_hasRec (l' hg)
  obtain ⟨m, d, rfl | rfl⟩ := d
  · exact (h (gone_of_fr f hg)).of_keep (queues_eq d.q).2.2 d.t hd
  · rcases removeIfZero_cases m with e | ⟨hg', _⟩
    · rw [e] at hd ⊢; exact (h (gone_of_fr f hg)).of_keep (queues_eq d.q).2.2 d.t hd
    · rw [hg'] at hg; exact absurd hg (by simp)

/-- a step that starts with `GetOrNewLock`; `hw`: the rest of it, against the state with the new record -/
theorem wlg_new {w w' : W} (c : Cmd) (d : Option Bytes) (l : LvG w zero) (f : Fr w w') (l' : LvG w' zero)
    (hw : w'.gone = false → w'.k.wait = (w.newLock c d).1.k.wait ∧ PKeep (·.timeouted) w'.k (w.newLock c d).1.k) (h : WLG w) : WLG w' := by
  intro hg
  have hg0 := gone_of_fr f hg
  exact ((h hg0).newLock (wait_hasRec (l hg0)) c d).of_keep (hw hg).1 (hw hg).2 (wait_hasRec (l' hg))

theorem QKR.keep {w' m : W} (d : QKR w' m) (hg : w'.gone = false) : w'.k.wait = m.k.wait ∧ PKeep (·.timeouted) w'.k m.k := by
  obtain ⟨x, d, rfl | rfl⟩ := d
  · exact ⟨(queues_eq d.q).2.2, d.t⟩
  · rcases removeIfZero_cases x with e | ⟨hg', _⟩
    · rw [e]; exact ⟨(queues_eq d.q).2.2, d.t⟩
    · rw [hg'] at hg; exact absurd hg (by simp)

variable {data : Option Bytes} {e : Eff} {w w' : W}

/-- `l'`, the reference counts at the step's end: the live entry's record must have survived the step -/
theorem OpStep.qi (p : OpStep data e w w') (l : LvB w) (l' : LvB w') (hc : CurNone w.k) :
    CurNone w'.k ∧ (e = .est ∨ e ≠ .brk ∧ WLG w → WLG w') := by
  have f := p.fr
  -- the steps that leave the queues and `timeouted` alone, up to a reclaim at the end
  have kr : e ≠ .est → QKR w' w → CurNone w'.k ∧ (e = .est ∨ e ≠ .brk ∧ WLG w → WLG w') := fun he d =>
    ⟨d.curNone hc, fun h => d.wlg f l'.1 (h.elim (fun h => absurd h he) (·.2))⟩
  -- … after `GetOrNewLock`
  have kn : e ≠ .est → ∀ c, QKR w' (w.newLock c data).1 → CurNone w'.k ∧ (e = .est ∨ e ≠ .brk ∧ WLG w → WLG w') := fun he c d =>
    ⟨d.curNone hc, fun h => wlg_new c data l.1 f l'.1 d.keep (h.elim (fun h => absurd h he) (·.2))⟩
  cases p with
  | ctr | reply | out | wheelBroken => exact kr nofun (QK.r (QK.of_k rfl))
  | procData _ ct c fr rid => exact kr nofun (book_procData w ct c fr rid).qk.r
  | journalLock _ rid flag => exact kr nofun (book_journalLock w rid flag).qk.r
  | journalUnlock _ rid fa ia flag => exact kr nofun (book_journalUnlock w rid fa ia flag).qk.r
  | pushUnLockAof _ rid lc fa ia flag => exact kr nofun (qk_pushUnLockAof w rid lc fa ia flag).r
  | locked => exact kr nofun (qk_modK w _ rfl rfl).r
  | dec _ h | inc _ h | ended _ h => exact kr nofun (qk_modR w h _ (by intro _; rfl) (by intro _; rfl)).r
  | collectT _ rid => exact kr nofun (qk_modR w rid _ (by intro _; rfl) (by intro _; rfl)).r
  | updateLocked _ h c => exact kr nofun (qk_updateLocked w h c).r
  | dropLongT _ x => exact kr nofun (qk_dropLongT w x).r
  | dropLongE _ x => exact kr nofun (qk_dropLongE w x).r
  | dropT _ rid | dropE _ rid => exact kr nofun ((qkr_unrefCheck _ rid).trans (qk_modR w rid _ (by intro _; rfl) (by intro _; rfl)))
  | rearmT _ rid gl =>
    refine kr nofun ((qk_addTimeOut_live _ rid ?_).trans (qk_modR w rid _ (by intro _; rfl) (by intro _; rfl))).r
    exact (getR_modRec_proj (·.timeouted) w.k rid rid _ (by intro _; rfl)).trans gl
  | rearmE _ rid | deferE _ rid => exact kr nofun ((qk_addExpried _ rid).trans (qk_modR w rid _ (by intro _; rfl) (by intro _; rfl))).r
  | removeIfZero => exact kr nofun ⟨w, QK.refl w, Or.inr rfl⟩
  | freeCheck _ h => exact kr nofun (qkr_freeCheck w h)
  | tomb _ x => exact ⟨hc, fun h => h.elim nofun (fun h => absurd rfl h.1)⟩
  | settle => have q := qi_settleWait_cn hc; exact ⟨q.cn, fun _ _ => q.wl⟩
  | pop =>
    obtain ⟨a, b⟩ := waitSkip_cl w.k.wait w.k
    exact ⟨hc.of_cl a b, fun _ _ => wl_getWaitLock w.k⟩
  | clearWaited _ g => exact ⟨hc, fun _ _ hne => absurd g hne⟩
  | removeLock _ h =>
    exact ⟨hc.removeLock h, fun t hg => (t.elim nofun (·.2) (gone_of_fr f hg)).of_keep (removeLock_wait w.k h)
      (PKeep.removeLock ins_timeouted (fun _ _ => rfl) w.k h) (wait_hasRec (l'.1 hg))⟩
  | wakeOne _ x => exact ⟨(wakeOne_spec w x.rid).2.2 hc, fun h => h.elim nofun (fun h => absurd rfl h.1)⟩
  | newGrant _ c =>
    obtain ⟨a, b, c'⟩ := grant_wait_t (w.newLock c data).1 (w.newLock c data).2
    exact ⟨fun h0 => absurd h0 c', fun h => wlg_new c data l.1 f l'.1 (fun _ => ⟨a, b⟩) (h.elim nofun (·.2))⟩
  | newNoHold _ c => exact kn nofun c ((qkr_freeCheck _ _).trans (book_grantNoHold _ _).qk)
  | newTimeout _ c => exact kn nofun c (qkr_freeCheck _ _)
  | enqueue _ c =>
    obtain ⟨⟨x, hx, hxr⟩, a2, a3⟩ := addWaitLock_spec (w.newLock c data).1.k (w.newLock c data).2
    refine ⟨fun h0 => a3.trans (hc (a2.symm.trans h0)), fun _ hg _ => ⟨x, hx, ?_⟩⟩
    rw [hxr]
    have hrec := wait_hasRec (l'.1 hg) x hx
    rw [hxr] at hrec
    exact timeouted_ref_addTimeOut _ _ ((hasRec_of_ids (ids_addTimeOut _ _) _).mp
      ((hasRec_modR (((w.newLock c data).1.modK (·.addWaitLock (w.newLock c data).2)).addTimeOut (w.newLock c data).2) _ _ _).mp hrec))

theorem Node.qig {full : Prop} {a b : W} {x : Option Nat} (n : Node data full true a b x) (q : QI a.k) : QIG b :=
  have h := n.walk.indE (C := fun w => CurNone w.k) (T := WLG) (fun _ _ _ l l' p _ hc => p.qi l l' hc) n.lvb q.cn (fun _ => q.wl)
  fun hg => ⟨h.1, h.2 rfl hg⟩

/-- every wait-queue entry has a record (as long as the key record is not reclaimed) -/
def WaitOK (w : W) : Prop := w.gone = false → ∀ e ∈ w.k.wait, w.k.hasRec e.rid

structure DBQ (db : DB) : Prop where
  dbt : DBT db
  qi : ∀ k ∈ db.keys, QI k

theorem DBQ.init (now aofTime : Nat) : DBQ (DB.init now aofTime) := ⟨DBT.init now aofTime, by simp [DB.init]⟩

theorem DBQ.sect {data : Option Bytes} {db : DB} {key : Nat} {w' : W} (h : DBQ db) (s : Sect data db key w') : DBQ w'.commit := by
  obtain ⟨base, b, f, hn⟩ := s.node
  refine ⟨h.dbt.sect s, b.commit f h.dbt.dbi h.qi fun hg => ?_⟩
  exact ((hn True h.dbt.dbi (fun _ => h.dbt.tight)).2 (gone_of_fr f hg)).qig (by rw [b.k]; exact qi_getKey h.qi key) hg

theorem DBQ.of_keys {db db' : DB} (h : DBQ db) (h1 : db'.keys = db.keys) (h2 : db'.keyCount = db.keyCount) (h3 : db'.nextRid = db.nextRid) :
    DBQ db' := ⟨h.dbt.of_keys h1 h2 h3, by rw [h1]; exact h.qi⟩

theorem step_dbq (db : DB) (o : Op) (h : DBQ db) : DBQ (step db o).1 :=
  step_sect (fun _ _ _ s h => h.sect s) (fun _ _ _ _ h => h.of_keys rfl rfl rfl) (fun _ _ h => h.of_keys rfl rfl rfl) h

/-- **every reachable state: no tombstone outlives the live entries of its queue** -/
theorem run_dbq (db : DB) (ops : List Op) (h : DBQ db) : DBQ (run db ops) := run_inv ops (fun d o _ => step_dbq d o) db h

end Slock.Engine2
