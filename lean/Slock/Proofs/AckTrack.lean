import Slock.Proofs.AckBasic
/-! M-ACK: following ONE record through the building blocks. A tracker `T db r` says of a state and of the record `r` it holds under
identity `hid` whatever an invariant needs (the rest of the state is fine, a sum over the other records, …). A property that survives
the four primitive moves — rewriting that record, a change outside records / table / journal, the move to the end of the list, a
journal record of that very record — survives every building block, and the lemma says what the record has become. -/
namespace Slock.Ack

structure Tracker (hid : Nat) (T : DB → Rec → Prop) : Prop where
  modR : ∀ {db : DB} {r : Rec} (f : Rec → Rec), T db r → (∀ r, (f r).hid = r.hid) → T (db.modR hid f) (f r)
  frame : ∀ {db db' : DB} {r : Rec}, T db r → db'.recs = db.recs → db'.env = db.env → T db' r
  toEnd : ∀ {db : DB} {r : Rec} (a : Nat), T db r → T (db.toEnd a) r
  pushJ : ∀ {db : DB} {r : Rec} (r0 : Rec) (b : Bool), T db r → r0.hid = hid → T (db.pushJ r0 b).1 r

/-- the state after a hold was given up (UNLOCK of the last level, or expiry), before the wake pass: `n` off the key's count -/
def released (db : DB) (hid k n : Nat) (f : Counters → Counters) : DB :=
  ((((db.modR hid (fun r => { r with expried := true })).modKey k (fun x => { x with locked := x.locked - n })).journalUnlock hid false).removeLock hid).ctrMod f

/-- … after one level of several was given up -/
def lowered (db : DB) (hid k : Nat) (f : Counters → Counters) : DB :=
  (((db.modR hid (fun r => { r with depth := r.depth - 1 })).modKey k (fun x => { x with locked := x.locked - 1 })).journalUnlock hid true).ctrMod f

theorem lowered_conf (db : DB) (hid k : Nat) (f : Counters → Counters) : (lowered db hid k f).env.toConf = db.env.toConf := by simp [lowered]

/-- the wake pass grants a require-ack request: ack-pending hold, its LOCK record pushed (`applyWake`, branch `ackGrant`) -/
def ackWake (db : DB) (hid : Nat) (f : Counters → Counters) : DB := ((db.ackHold hid).pushLock hid).1.ctrMod f

theorem ackWake_conf (db : DB) (hid : Nat) (f : Counters → Counters) : (ackWake db hid f).env.toConf = db.env.toConf := by simp [ackWake]

def failed (db : DB) (hid : Nat) : DB := (db.modR hid (fun r => { r with timeouted := true })).rollback hid

namespace Tracker
variable {hid : Nat} {T : DB → Rec → Prop} (tr : Tracker hid T) {db : DB} {r : Rec}
include tr

theorem modR' (h : T db r) {db' : DB} (f : Rec → Rec) (e1 : db'.recs = modRecs hid f db.recs) (hf : ∀ r, (f r).hid = r.hid)
    (e2 : db'.env = db.env) : T db' (f r) := tr.frame (tr.modR f h hf) e1 e2

theorem modKey (h : T db r) (k : Nat) (f : Key → Key) : T (db.modKey k f) r := tr.frame h (modKey_recs ..) (modKey_env ..)
theorem ctrMod (h : T db r) (f : Counters → Counters) : T (db.ctrMod f) r := tr.frame h rfl rfl

theorem valueOp (h : T db r) (b : Bool) : ∃ u, T (db.valueOp hid b) { r with undo := u } := by
  unfold DB.valueOp
  simp only []
  split
  · exact ⟨r.undo, h⟩
  · split
    · exact ⟨_, tr.modR _ (tr.modKey h _ _) (fun _ => rfl)⟩
    · exact ⟨r.undo, tr.modKey h _ _⟩

theorem pushLock (h : T db r) : ∃ a, T (db.pushLock hid).1 { r with isAof := a } := by
  have h1 := tr.pushJ (db.getR hid) true h (getR_hid db hid)
  unfold DB.pushLock
  simp only []
  split
  · exact ⟨_, tr.modR _ h1 (fun _ => rfl)⟩
  · exact ⟨r.isAof, h1⟩

theorem journalUnlock (h : T db r) (keep : Bool) : ∃ a, T (db.journalUnlock hid keep) { r with isAof := a } := by
  have h1 := tr.pushJ (db.getR hid) false h (getR_hid db hid)
  unfold DB.journalUnlock
  split
  · simp only []
    split
    · exact ⟨_, tr.modR _ h1 (fun _ => rfl)⟩
    · exact ⟨r.isAof, h1⟩
  · exact ⟨r.isAof, h⟩

theorem addExpried (h : T db r) : ∃ t s, T (db.addExpried hid) { r with expried := false, expT := t, esched := s } := by
  unfold DB.addExpried; exact ⟨_, _, tr.modR' h (fun r => { r with expried := false, expT := _, esched := _ }) rfl (fun _ => rfl) rfl⟩

theorem addTimeOut (h : T db r) : ∃ t s, T (db.addTimeOut hid) { r with timeouted := false, timeoutT := t, tsched := s } := by
  unfold DB.addTimeOut; exact ⟨_, _, tr.modR' h (fun r => { r with timeouted := false, timeoutT := _, tsched := _ }) rfl (fun _ => rfl) rfl⟩

theorem addLock (h : T db r) : T (db.addLock hid) (Rec.addLockF db.now r) := by
  unfold DB.addLock
  exact tr.modKey (tr.toEnd hid (tr.modR (Rec.addLockF db.now) h (fun _ => rfl))) _ _

theorem removeLock (h : T db r) : T (db.removeLock hid) { r with depth := 0, ack := NOACK } :=
  tr.modR (fun r => { r with depth := 0, ack := NOACK }) h (fun _ => rfl)

theorem rollback (h : T db r) : ∃ u a, T (db.rollback hid) { r with undo := u, isAof := a, depth := 0, ack := NOACK } := by
  unfold DB.rollback
  simp only []
  -- the undo step stated by itself, so that `split` sees this `match` and not the `if`s of `journalUnlock` around it
  have h1 : ∃ u, T (match (if (has (db.getR hid).cmd.flag F_DATA && (db.getR hid).pending) = true then (db.getR hid).undo else none) with
      | some u => ((db.modKey (db.getR hid).cmd.key (fun k => { k with locked := k.locked - (db.getR hid).depth })).modKey (db.getR hid).cmd.key
            (fun k => { k with cell := undoCell k.cell u })).modR hid (fun r => { r with undo := none })
      | none => db.modKey (db.getR hid).cmd.key (fun k => { k with locked := k.locked - (db.getR hid).depth })) { r with undo := u } := by
    split
    · exact ⟨_, tr.modR _ (tr.modKey (tr.modKey h _ _) _ _) (fun _ => rfl)⟩
    · exact ⟨r.undo, tr.modKey h _ _⟩
  obtain ⟨u, h1⟩ := h1
  obtain ⟨a, h2⟩ := tr.journalUnlock h1 false
  exact ⟨u, a, tr.ctrMod (tr.removeLock h2) _⟩

theorem grant (h : T db r) : ∃ u t s,
    T (db.grant hid).1 { Rec.addLockF db.now r with timeouted := true, undo := u, expried := false, expT := t, esched := s } := by
  obtain ⟨u, h1⟩ := tr.valueOp (tr.addLock (tr.modR (fun r => { r with timeouted := true }) h (fun _ => rfl))) false
  obtain ⟨t, s, h2⟩ := tr.addExpried h1
  unfold DB.grant
  simp only []
  exact ⟨u, t, s, tr.ctrMod h2 _⟩

theorem ackHold (h : T db r) : ∃ u, T (db.ackHold hid) { Rec.addLockF db.now r with undo := u } := by
  obtain ⟨u, h1⟩ := tr.valueOp (tr.addLock h) true
  unfold DB.ackHold
  exact ⟨u, tr.ctrMod h1 _⟩

theorem ackWake (h : T db r) (f : Counters → Counters) : ∃ u a, T (ackWake db hid f) { Rec.addLockF db.now r with undo := u, isAof := a } := by
  obtain ⟨u, h1⟩ := tr.ackHold h
  obtain ⟨a, h2⟩ := tr.pushLock h1
  exact ⟨u, a, tr.ctrMod h2 f⟩

/-- `UpdateLockedLock`: the record is (re-)entered in the expiry wheel at most -/
theorem updateHold (h : T db r) (c : Cmd) : ∃ e t s,
    T (db.updateHold hid c) { Rec.updateF db.now c r with expried := e, expT := t, esched := s } ∧ (e = false ∨ e = r.expried) := by
  have h1 := tr.modR (Rec.updateF db.now c) h (fun _ => rfl)
  unfold DB.updateHold
  simp only []
  split
  · obtain ⟨t, s, h2⟩ := tr.addExpried h1
    exact ⟨false, t, s, h2, Or.inl rfl⟩
  · exact ⟨r.expried, _, _, h1, Or.inr rfl⟩

theorem relockHold (h : T db r) (c : Cmd) : ∃ e t s,
    T (db.relockHold c hid) { Rec.updateF db.now c { r with depth := r.depth + 1 } with expried := e, expT := t, esched := s } ∧
      (e = false ∨ e = r.expried) := by
  have h1 := tr.modKey (tr.modR (fun r => { r with depth := r.depth + 1 }) h (fun _ => rfl)) c.key (fun k => { k with locked := k.locked + 1 })
  have fin : ∀ d : DB, d.now = db.now → T d { r with depth := r.depth + 1 } → ∃ e t s,
      T ((if ((d.updateHold hid c).getR hid).isAof = true then ((d.updateHold hid c).pushJ ((d.updateHold hid c).getR hid).noAckFlag true).1
          else d.updateHold hid c).ctrMod (fun x => { x with lockCount := x.lockCount + 1, lockedCount := x.lockedCount + 1 }))
        { Rec.updateF db.now c { r with depth := r.depth + 1 } with expried := e, expT := t, esched := s } ∧ (e = false ∨ e = r.expried) := by
    intro d hn hd
    obtain ⟨e, t, s, h2, he⟩ := tr.updateHold hd c
    rw [hn] at h2
    refine ⟨e, t, s, tr.ctrMod ?_ _, he⟩
    split
    · exact tr.pushJ _ true h2 (getR_hid _ hid)
    · exact h2
  unfold DB.relockHold
  simp only []
  split
  · exact fin _ (by simp) (tr.modKey h1 _ _)
  · exact fin _ (by simp) h1

theorem dropWaiter (h : T db r) : T (db.dropWaiter hid) { r with timeouted := true, queued := false } := by
  have h1 := tr.modR (fun r => { r with queued := false }) (tr.modR (fun r => { r with timeouted := true }) h (fun _ => rfl)) (fun _ => rfl)
  unfold DB.dropWaiter
  simp only []
  split
  · exact tr.ctrMod (tr.modKey h1 _ _) _
  · exact tr.ctrMod h1 _

theorem lowered (h : T db r) (k : Nat) (f : Counters → Counters) : ∃ a, T (lowered db hid k f) { r with depth := r.depth - 1, isAof := a } := by
  obtain ⟨a, h1⟩ := tr.journalUnlock (tr.modKey (tr.modR (fun r => { r with depth := r.depth - 1 }) h (fun _ => rfl)) k _) true
  exact ⟨a, tr.ctrMod h1 f⟩

theorem released (h : T db r) (k n : Nat) (f : Counters → Counters) :
    ∃ a, T (released db hid k n f) { r with expried := true, isAof := a, depth := 0, ack := NOACK } := by
  obtain ⟨a, h1⟩ := tr.journalUnlock (tr.modKey (tr.modR (fun r => { r with expried := true }) h (fun _ => rfl)) k _) false
  exact ⟨a, tr.ctrMod (tr.removeLock h1) f⟩

theorem failed (h : T db r) : ∃ u a, T (failed db hid) { r with timeouted := true, undo := u, isAof := a, depth := 0, ack := NOACK } :=
  tr.rollback (tr.modR (fun r => { r with timeouted := true }) h (fun _ => rfl))

end Tracker

theorem found_tracker (hid : Nat) : Tracker hid (fun db r => findR db.recs hid = some r) where
  modR f h hf := by rw [modR_recs, findR_modRecs hid f hf]; simp [h]
  frame h e _ := by rw [e]; exact h
  toEnd a h := by unfold DB.toEnd; simp only []; rw [findR_toEnd]; exact h
  pushJ r0 b h _ := by rw [pushJ_recs]; exact h

end Slock.Ack
