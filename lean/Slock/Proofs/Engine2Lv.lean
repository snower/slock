import Slock.Proofs.Engine2RC
import Slock.Proofs.Engine2Ops
/-! Stage-2 engine: the invariant of the database and of an operation in progress.

* `DBI db` (between operations): key ids distinct; every key record satisfies the reference-count invariant with no surplus, its
  record ids are below `nextRid`, a record that is a live queued request has no expiry-wheel entry; `KeyCount` = number of key records.
* `DBside w` (during an operation): the same for all OTHER key records of `w.db`, plus "reclaimed ⇔ unlinked" for this one.
  Every helper keeps it (`DBside.of_fr`: a consequence of the frame relation).
* `Lv w ex` (during an operation, while the record is not reclaimed): the reference-count invariant of the record being worked on,
  with surplus `ex`. -/
namespace Slock.Engine2

def RecOk (r : Rec) : Prop := r.timeouted = false → r.eSched.isSome = false

structure KeyOK (nextRid : Nat) (k : Key) : Prop where
  rc : RCx k (fun _ => 0)
  fresh : ∀ r ∈ k.recs, r.rid < nextRid
  ok : ∀ r ∈ k.recs, RecOk r

theorem KeyOK.mono {n m : Nat} {k : Key} (h : KeyOK n k) (hnm : n ≤ m) : KeyOK m k :=
  ⟨h.rc, fun r hr => Nat.lt_of_lt_of_le (h.fresh r hr) hnm, h.ok⟩

theorem KeyOK.ofNewKey (n key : Nat) : KeyOK n (newKey key) :=
  ⟨RCx.ofNewKey key, by simp [newKey], by simp [newKey]⟩

structure DBI (db : DB) : Prop where
  kn : (db.keys.map (·.key)).Nodup
  ks : ∀ k ∈ db.keys, KeyOK db.nextRid k
  kc : db.keyCount = db.keys.length

theorem DBI.init (now aofTime : Nat) : DBI (DB.init now aofTime) := ⟨by simp [DB.init], by simp [DB.init], by simp [DB.init]⟩

structure DBside (w : W) : Prop where
  kn : (w.db.keys.map (·.key)).Nodup
  others : ∀ k ∈ w.db.keys, k.key ≠ w.k.key → KeyOK w.db.nextRid k
  kc : w.db.keyCount = w.db.keys.length
  present : w.gone = false → w.db.hasKey w.k.key = true
  absent : w.gone = true → w.db.hasKey w.k.key = false

theorem hasKey_iff (db : DB) (n : Nat) : db.hasKey n = true ↔ ∃ k ∈ db.keys, k.key = n := by
  constructor
  · intro h
    exact ⟨db.getKey n, getKey_mem db n h, getKey_key db n⟩
  · rintro ⟨k, hk, e⟩
    cases hh : db.hasKey n with
    | true => rfl
    | false => exact absurd e ((hasKey_eq_false_iff db n).mp hh k hk)

theorem DBside.of_fr {w w' : W} (h : DBside w) (f : Fr w w') : DBside w' := by
  rcases f.dbk with ⟨a1, a2, a3⟩ | ⟨a1, a2, a3, a4⟩
  · refine ⟨by rw [a1]; exact h.kn, ?_, by rw [a1, a2]; exact h.kc, ?_, ?_⟩
    · intro k hk hne
      rw [a1] at hk; rw [f.key] at hne
      exact (h.others k hk hne).mono f.rid
    · intro hg; rw [hasKey_congr a1, f.key]; exact h.present (by rw [← a3]; exact hg)
    · intro hg; rw [hasKey_congr a1, f.key]; exact h.absent (by rw [← a3]; exact hg)
  · have hpres := (hasKey_iff w.db w.k.key).mp (h.present a1)
    refine ⟨?_, ?_, ?_, fun hg => by rw [a2] at hg; exact absurd hg (by simp), ?_⟩
    · rw [a3]
      have : (w.db.keys.filter (·.key != w.k.key)).map (·.key) = (w.db.keys.map (·.key)).filter (· != w.k.key) := by
        rw [List.filter_map]; rfl
      rw [this]; exact List.Nodup.sublist List.filter_sublist h.kn
    · intro k hk hne
      rw [a3] at hk; rw [f.key] at hne
      exact (h.others k (List.mem_filter.mp hk).1 hne).mono f.rid
    · rw [a4, a3]
      have hl := length_filter_ne Key.key h.kn hpres
      have hc := h.kc
      simp only [decU32]
      have : w.db.keyCount ≠ 0 := by omega
      simp only [this, if_false]; omega
    · intro _
      rw [hasKey_eq_false_iff]
      intro k hk
      rw [a3] at hk
      have := (List.mem_filter.mp hk).2
      rw [f.key]; simpa using this

theorem DBI.create {db : DB} (h : DBI db) (n : Nat) : DBI (db.create n) := by
  have hks := all_create h.ks n (KeyOK.ofNewKey _ _)
  unfold DB.create at hks ⊢
  split
  · exact h
  · rename_i hh
    have hh' : db.hasKey n = false := by simpa using hh
    have hall := (hasKey_eq_false_iff db n).mp hh'
    refine ⟨?_, by rw [if_neg hh] at hks; exact hks, by simp [h.kc]⟩
    simp only [List.map_append, List.map_cons, List.map_nil]
    apply List.nodup_append.mpr
    refine ⟨h.kn, by simp, ?_⟩
    intro a ha b hb
    simp at hb
    obtain ⟨y, hy, e⟩ := List.mem_map.mp ha
    rw [hb, ← e]; exact hall y hy

theorem DBI.getKey_ok {db : DB} (h : DBI db) (n : Nat) : KeyOK db.nextRid (db.getKey n) := all_getKey h.ks n (KeyOK.ofNewKey _ _)

theorem DBI.openKey {db : DB} (h : DBI db) (n : Nat) : DBside (db.openKey n) := by
  refine ⟨h.kn, fun k hk _ => h.ks k hk, h.kc, ?_, ?_⟩
  · intro hg; simpa [DB.openKey, getKey_key] using hg
  · intro hg; simpa [DB.openKey, getKey_key] using hg

theorem DBI.enter {db : DB} (h : DBI db) (n : Nat) : DBside (db.enter n) := (h.create n).openKey n

theorem DBside.mem_commit {w : W} (hs : DBside w) {k : Key} (h : k ∈ w.commit.keys) :
    (w.gone = false ∧ k = w.k) ∨ (k ∈ w.db.keys ∧ k.key ≠ w.k.key) := by
  rcases Engine2.mem_commit h with h | ⟨hm, hne⟩
  · exact Or.inl h
  · cases hg : w.gone with
    | false => exact Or.inr ⟨hm, hne hg⟩
    | true => exact Or.inr ⟨hm, (hasKey_eq_false_iff _ _).mp (hs.absent hg) k hm⟩

theorem mem_commit_open {db : DB} {key : Nat} {w' : W} (f : Fr (db.openKey key) w') (hs : DBside w') {k : Key} (h : k ∈ w'.commit.keys) :
    (k.key = key ∧ w'.gone = false ∧ k = w'.k) ∨ (k.key ≠ key ∧ k ∈ db.keys) := by
  have hkey : w'.k.key = key := f.key.trans (getKey_key db key)
  rcases hs.mem_commit h with ⟨hg, e⟩ | ⟨hm, hne⟩
  · exact Or.inl ⟨e ▸ hkey, hg, e⟩
  · exact Or.inr ⟨hkey ▸ hne, keys_of_fr f hm⟩

theorem commit_p {P : Key → Prop} {w : W} (hs : DBside w) (ho : ∀ k ∈ w.db.keys, k.key ≠ w.k.key → P k) (hk : w.gone = false → P w.k) :
    ∀ k ∈ w.commit.keys, P k := by
  intro k hm
  rcases hs.mem_commit hm with ⟨hg, e⟩ | ⟨hm, hne⟩
  · exact e ▸ hk hg
  · exact ho k hm hne

theorem others_of_fr {P : Key → Prop} {w w' : W} (h : ∀ k ∈ w.db.keys, k.key ≠ w.k.key → P k) (f : Fr w w') :
    ∀ k ∈ w'.db.keys, k.key ≠ w'.k.key → P k :=
  fun k hk hne => h k (keys_of_fr f hk) (f.key ▸ hne)

theorem others_enter_p {P : Key → Prop} {db : DB} (ht : ∀ k ∈ db.keys, P k) (n : Nat) :
    ∀ k ∈ (db.enter n).db.keys, k.key ≠ (db.enter n).k.key → P k := by
  intro k hk hne
  rw [enter_db] at hk
  rw [enter_k, getKey_key] at hne
  unfold DB.create at hk
  split at hk
  · exact ht k hk
  · rcases List.mem_append.mp hk with h1 | h1
    · exact ht k h1
    · simp at h1; rw [h1] at hne; exact absurd rfl hne

theorem commit_keys_map (w : W) (hp : w.gone = false → w.db.hasKey w.k.key = true) :
    w.commit.keys.map (·.key) = w.db.keys.map (·.key) := by
  unfold W.commit
  cases hg : w.gone with
  | true => rfl
  | false =>
    simp only [Bool.false_eq_true, if_false]
    unfold DB.setKey
    simp only [hp hg, if_true, List.map_map]
    apply List.map_congr_left
    intro x _
    simp only [Function.comp]
    split
    · rename_i e; exact (by simpa using e : x.key = w.k.key).symm
    · rfl

theorem commit_counts (w : W) : w.commit.nextRid = w.db.nextRid ∧ w.commit.keyCount = w.db.keyCount := by
  unfold W.commit
  split
  · exact ⟨rfl, rfl⟩
  · exact ⟨(setKey_fields _ _).2.2.2.2.2.2.2.2.2.2, (setKey_fields _ _).2.2.2.2.2.1⟩

theorem DBI.commit {w : W} (hs : DBside w) (hk : w.gone = false → KeyOK w.db.nextRid w.k) : DBI w.commit := by
  have e := commit_keys_map w hs.present
  refine ⟨e ▸ hs.kn, ?_, ?_⟩
  · rw [(commit_counts w).1]; exact commit_p hs hs.others hk
  · rw [(commit_counts w).2, hs.kc, ← List.length_map (·.key), ← e, List.length_map]

/-- the records of `k'` are records of `k`, as far as the side conditions can tell -/
def RecsLe (k' k : Key) : Prop :=
  ∀ r' ∈ k'.recs, ∃ r ∈ k.recs, r'.rid = r.rid ∧ r'.timeouted = r.timeouted ∧ r'.eSched.isSome = r.eSched.isSome

theorem RecsLe.refl (k : Key) : RecsLe k k := fun r hr => ⟨r, hr, rfl, rfl, rfl⟩
theorem RecsLe.trans {a b c : Key} (h1 : RecsLe a b) (h2 : RecsLe b c) : RecsLe a c := by
  intro r hr
  obtain ⟨r1, hr1, e1, e2, e3⟩ := h1 r hr
  obtain ⟨r2, hr2, f1, f2, f3⟩ := h2 r1 hr1
  exact ⟨r2, hr2, e1.trans f1, e2.trans f2, e3.trans f3⟩
theorem RecsLe.of_eq {a b : Key} (h : a.recs = b.recs) : RecsLe a b := by intro r hr; rw [h] at hr; exact ⟨r, hr, rfl, rfl, rfl⟩

theorem RecsLe.modRec (k : Key) (rid : Nat) (f : Rec → Rec) (hf : ∀ r, (f r).rid = r.rid ∧ (f r).timeouted = r.timeouted ∧
    (f r).eSched.isSome = r.eSched.isSome) : RecsLe (k.modRec rid f) k := by
  intro r' hr'
  obtain ⟨r, hr, ⟨_, rfl⟩ | ⟨_, rfl⟩⟩ := mem_modRec hr'
  · exact ⟨r, hr, hf r⟩
  · exact ⟨r', hr, rfl, rfl, rfl⟩

theorem RecsLe.free (k : Key) (rid : Nat) : RecsLe (k.free rid) k := by
  unfold Key.free
  split
  · intro r hr; exact ⟨r, (List.mem_filter.mp hr).1, rfl, rfl, rfl⟩
  · exact RecsLe.refl _

theorem RecsLe.unrefOnly (k : Key) (rid : Nat) : RecsLe (k.unrefOnly rid) k := RecsLe.modRec _ _ _ (fun _ => ⟨rfl, rfl, rfl⟩)

theorem RecsLe.unref (k : Key) (rid : Nat) : RecsLe (k.unref rid) k := by
  unfold Key.unref
  simp only []
  split
  · exact (RecsLe.free _ _).trans (RecsLe.unrefOnly _ _)
  · exact RecsLe.unrefOnly _ _

theorem RecsLe.closed (k0 : Key) : KClosed (RecsLe · k0) :=
  KClosed.below (R := RecsLe) RecsLe.trans RecsLe.unref (fun _ _ _ _ => RecsLe.of_eq rfl) (fun _ _ _ _ _ => RecsLe.of_eq rfl) k0

theorem RecsLe.getWaitLock (k : Key) : RecsLe k.getWaitLock.1 k := (RecsLe.closed k).getWaitLock (RecsLe.refl k)

theorem RecsLe.addWaitLock (k : Key) (rid : Nat) : RecsLe (k.addWaitLock rid) k :=
  (RecsLe.closed k).addWaitLock (fun _ _ h => (RecsLe.of_eq rfl).trans h)
    (fun _ _ h => (RecsLe.modRec _ _ _ (by intro _; exact ⟨rfl, rfl, rfl⟩)).trans h) (RecsLe.refl k) rid

theorem RecsLe.addLock (k : Key) (rid : Nat) (f : Rec → Rec) (hf : ∀ r, (f r).rid = r.rid ∧ (f r).timeouted = r.timeouted ∧
    (f r).eSched.isSome = r.eSched.isSome) : RecsLe (k.addLock rid f) k :=
  (RecsLe.closed k).addLock (fun _ _ h => (RecsLe.of_eq rfl).trans h) rid f (RecsLe.modRec _ _ _ hf)

structure Side (n : Nat) (k : Key) : Prop where
  fresh : ∀ r ∈ k.recs, r.rid < n
  ok : ∀ r ∈ k.recs, RecOk r

theorem Side.of_le {n m : Nat} {k k' : Key} (h : Side n k) (l : RecsLe k' k) (hnm : n ≤ m) : Side m k' := by
  refine ⟨?_, ?_⟩
  · intro r hr
    obtain ⟨r0, hr0, e, _⟩ := l r hr
    rw [e]; exact Nat.lt_of_lt_of_le (h.fresh r0 hr0) hnm
  · intro r hr
    obtain ⟨r0, hr0, _, e2, e3⟩ := l r hr
    unfold RecOk
    rw [e2, e3]; exact h.ok r0 hr0

structure Lv (w : W) (ex : Nat → Int) : Prop where
  rc : RCx w.k ex
  side : Side w.db.nextRid w.k

/-- the surplus between operations: nothing is held in hand -/
def zero : Nat → Int := fun _ => 0

theorem zero_nonneg : ∀ y, 0 ≤ zero y := fun _ => Int.le_refl 0

theorem Lv.ofKeyOK {w : W} (h : KeyOK w.db.nextRid w.k) : Lv w zero := ⟨h.rc, ⟨h.fresh, h.ok⟩⟩
theorem Lv.toKeyOK {w : W} (h : Lv w zero) : KeyOK w.db.nextRid w.k := ⟨h.rc, h.side.fresh, h.side.ok⟩

theorem Lv.has {w : W} (l : Lv w zero) {x : Nat} (h : 0 < w.k.qRefs x) : w.k.hasRec x := l.rc.dang x (by simp only [zero]; omega)

theorem Lv.congr {w : W} {ex ex' : Nat → Int} (h : Lv w ex) (e : ∀ x, ex' x = ex x) : Lv w ex' := ⟨h.rc.congr e, h.side⟩

theorem Lv.modK {w : W} {ex ex' : Nat → Int} (h : Lv w ex) (f : Key → Key) (hrc : RCx (f w.k) ex') (hle : RecsLe (f w.k) w.k) :
    Lv (w.modK f) ex' := ⟨hrc, h.side.of_le hle (Nat.le_refl _)⟩

theorem Lv.db {w w' : W} {ex : Nat → Int} (h : Lv w ex) (hk : w'.k = w.k) (hn : w.db.nextRid ≤ w'.db.nextRid) : Lv w' ex := by
  refine ⟨by rw [hk]; exact h.rc, ?_⟩
  rw [hk]; exact h.side.of_le (RecsLe.refl _) hn

theorem Lv.ctr {w : W} {ex : Nat → Int} (h : Lv w ex) (f : Counters → Counters) : Lv (w.ctr f) ex := h.db rfl (Nat.le_refl _)
theorem Lv.reply {w : W} {ex : Nat → Int} (h : Lv w ex) (c : Cmd) (a b : Nat) (d : Option Bytes) : Lv (w.reply c a b d) ex :=
  h.db rfl (Nat.le_refl _)

theorem Lv.modR {w : W} {ex ex' : Nat → Int} (h : Lv w ex) (rid : Nat) (f : Rec → Rec) (hf : ∀ r, (f r).rid = r.rid)
    (hrc : RCx (w.k.modRec rid f) ex') (hok : ∀ r ∈ w.k.recs, r.rid = rid → RecOk (f r)) : Lv (w.modR rid f) ex' := by
  refine ⟨hrc, ?_, ?_⟩
  · intro r hr
    obtain ⟨r0, hr0, ⟨_, rfl⟩ | ⟨_, rfl⟩⟩ := mem_modRec (k := w.k) hr
    · rw [hf]; exact h.side.fresh r0 hr0
    · exact h.side.fresh r hr0
  · intro r hr
    obtain ⟨r0, hr0, ⟨er, rfl⟩ | ⟨_, rfl⟩⟩ := mem_modRec (k := w.k) hr
    · exact hok r0 hr0 er
    · exact h.side.ok r hr0

/-- an edit of a record that touches none of: id, reference count, wheel memberships, `timeouted`; `{}` proves it for an edit of
other fields (each field is closed by `rfl` unless given) -/
structure Plain (f : Rec → Rec) : Prop where
  rid : ∀ r, (f r).rid = r.rid := by intro _; rfl
  refCount : ∀ r, (f r).refCount = r.refCount := by intro _; rfl
  tSched : ∀ r, (f r).tSched.isSome = r.tSched.isSome := by intro _; rfl
  eSched : ∀ r, (f r).eSched.isSome = r.eSched.isSome := by intro _; rfl
  timeouted : ∀ r, (f r).timeouted = r.timeouted := by intro _; rfl

theorem Lv.modR_plain {w : W} {ex : Nat → Int} (h : Lv w ex) (rid : Nat) (f : Rec → Rec) (p : Plain f := by exact {}) : Lv (w.modR rid f) ex := by
  refine h.modR rid f p.rid (h.rc.modRec_plain rid f p.rid p.refCount (fun r => by simp [Rec.wheelRefs, p.tSched, p.eSched])) ?_
  intro r hr _
  unfold RecOk
  rw [p.timeouted, p.eSched]; exact h.side.ok r hr

theorem Lv.tombstone {w : W} {ex : Nat → Int} (h : Lv w ex) (rid : Nat) : Lv (w.modR rid (fun r => { r with timeouted := true })) ex :=
  h.modR rid _ (fun _ => rfl) (h.rc.modRec_plain rid _ (fun _ => rfl) (fun _ => rfl) (fun _ => rfl)) (by intro r _ _ hf; simp at hf)

theorem Lv.when {w : W} {ex : Nat → Int} (h : Lv w ex) (b : Bool) (f : W → W) (hf : Lv (f w) ex) : Lv (w.when b f) ex := by
  cases b
  · exact h
  · exact hf

theorem DBI.of_keys {db db' : DB} (h : DBI db) (h1 : db'.keys = db.keys) (h2 : db'.keyCount = db.keyCount) (h3 : db'.nextRid = db.nextRid) :
    DBI db' := ⟨by rw [h1]; exact h.kn, by rw [h1, h3]; exact h.ks, by rw [h1, h2]; exact h.kc⟩

end Slock.Engine2
