import Slock.Proofs.TextParse
/-! M-TEXT: when may the chunk-local parser state be forgotten (C14 text part, chunking). -/
namespace Slock.Text

/-- What the chunk-local state always satisfies (a reachability invariant of the automaton): in the block copy the
bytes still to go are exactly `cargLen - cargIndex`; in the trailing LF scan `cargIndex` has reached `cargLen`.
So the chunk-local state carries no information beyond the persistent one (except `prev`, which only matters for a
lone LF) and may be forgotten at any byte position. -/
def Inv (s : PState) (l : Loc) : Prop :=
  s.stage = .s4 →
    match l.phase with
    | .entry => True
    | .scan => s.cargLen - (s.got : Int) ≤ 0
    | .data left => 1 ≤ left ∧ (left : Int) = s.cargLen - (s.got : Int)

theorem Inv_fresh (s : PState) (p : Option UInt8) : Inv s ⟨p, .entry⟩ := by
  intro _; trivial

def Step.good : Step → Bool
  | .cont _ _ => true
  | .emit _ _ _ => true
  | _ => false

/-- `prev` is read only through `lfBad` … -/
theorem step_lfBad_congr (s : PState) {p p' : Option UInt8} (ph : Phase) (b : UInt8) (h : lfBad p = lfBad p') :
    step s ⟨p, ph⟩ b = step s ⟨p', ph⟩ b := by
  unfold step step4 step5 step6 scanByte numStep
  dsimp only
  rw [h]

/-- … and only at a LF -/
theorem step_notLF (s : PState) (p p' : Option UInt8) (ph : Phase) {b : UInt8} (hb : b ≠ 10) :
    step s ⟨p, ph⟩ b = step s ⟨p', ph⟩ b := by
  unfold step step4 step5 step6 scanByte numStep
  simp only [hb, if_false]

theorem step_prev (s : PState) (p : Option UInt8) (ph : Phase) (b : UInt8) (hg : (step s ⟨p, ph⟩ b).good = true) :
    step s ⟨none, ph⟩ b = step s ⟨p, ph⟩ b := by
  cases hp : lfBad p with
  | false => exact step_lfBad_congr s ph b hp.symm
  | true =>
    by_cases hb : b = 10
    · -- a LF after a byte that is not CR is an error wherever `prev` is consulted: only the block copy is left
      subst hb
      unfold step at hg ⊢
      cases hs : s.stage <;> simp only [hs] at hg ⊢
      · rw [show numStep s.num p 10 = .err by simp [numStep, hp]] at hg; cases hg
      · rw [show numStep s.num p 10 = .err by simp [numStep, hp]] at hg; cases hg
      · have hscan : ∀ ph', (scanByte s ⟨p, ph'⟩ 10).good = false := fun _ => by simp [scanByte, hp, Step.good]
        unfold step4 at hg ⊢
        cases ph with
        | data left => rfl
        | scan => rw [hscan] at hg; cases hg
        | entry =>
          dsimp only at hg ⊢
          split
          · rfl
          · rw [if_neg ‹_›, hscan] at hg; cases hg
      · split
        · rw [if_pos ‹_›] at hg
          simp only [step5, if_true, hp] at hg
          split at hg <;> cases hg
        · rfl
      · split
        · rw [if_pos ‹_›] at hg
          simp only [step6, if_true, hp, show ((10 : UInt8) = 32) = False by decide, if_false] at hg
          split at hg <;> cases hg
        · rfl
    · exact step_notLF s none p ph hb

theorem step_reset (s : PState) (l : Loc) (b : UInt8) (hc : Inv s l) (hg : (step s l b).good = true) :
    step s {} b = step s l b := by
  obtain ⟨p, ph⟩ := l
  rw [← step_prev s p ph b hg]
  -- the phase is read in stage 4 only, where `Inv` says it is what the handler's entry computes
  unfold step
  cases hs : s.stage with
  | s4 =>
    have hc := hc hs
    unfold step4
    cases ph with
    | entry => rfl
    | data left =>
      have hr : s.cargLen - (s.got : Int) > 0 := by have := hc.1; have := hc.2; omega
      have e : (s.cargLen - (s.got : Int)).toNat = left := by have := hc.2; omega
      simp only [hr, if_true, e]
    | scan => exact if_neg (Int.not_lt.mpr hc)
  | _ => rfl
/-- `Inv` of the state a step leaves; the `if`/`match` tree of each step function is walked with the four lemmas below -/
def Step.Inv : Step → Prop
  | .cont s l => Slock.Text.Inv s l
  | .emit _ s l => Slock.Text.Inv s l
  | _ => True

theorem Step.Inv_cont (s : PState) (p : Option UInt8) : (Step.cont s ⟨p, .entry⟩).Inv := Inv_fresh s p

theorem Step.Inv_emit (c : List Bytes) (s : PState) (p : Option UInt8) : (Step.emit c s ⟨p, .entry⟩).Inv := Inv_fresh s p

theorem Step.Inv_ite {c : Prop} [Decidable c] {a b : Step} (ha : a.Inv) (hb : b.Inv) : (if c then a else b).Inv := by
  split <;> assumption

theorem Step.Inv_opt (o : Option (List Bytes)) {k : List Bytes → Step} (hk : ∀ a, (k a).Inv) :
    (match o with | none => Step.panic | some a => k a).Inv := by
  cases o with
  | none => trivial
  | some a => exact hk a

theorem dataByte_inv (s : PState) (b : UInt8) (left : Nat)
    (h2 : (left : Int) = s.cargLen - (s.got : Int)) : (dataByte s b left).Inv := by
  unfold dataByte
  apply Step.Inv_opt; intro args'
  by_cases hl : left ≤ 1
  · rw [if_pos hl]
    intro _
    show s.cargLen - ((s.cargLen.toNat : Nat) : Int) ≤ 0
    omega
  · rw [if_neg hl]
    intro _
    show 1 ≤ left - 1 ∧ ((left - 1 : Nat) : Int) = s.cargLen - ((s.got + 1 : Nat) : Int)
    omega

theorem scanByte_inv (s : PState) (l : Loc) (b : UInt8) (hr : s.cargLen - (s.got : Int) ≤ 0) :
    (scanByte s l b).Inv := by
  unfold scanByte
  exact Step.Inv_ite (Step.Inv_ite trivial (Step.Inv_ite (Step.Inv_cont _ _) (Step.Inv_emit _ _ _))) fun _ => hr

/-- outside stage 4 every step leaves the block-copy handler at its entry, where the invariant says nothing -/
theorem step0R_inv (s : PState) (b : UInt8) : (step0R s b).Inv := by
  unfold step0R
  exact Step.Inv_ite (Step.Inv_cont _ _) <| Step.Inv_ite (Step.Inv_cont _ _) <| Step.Inv_ite (Step.Inv_cont _ _) <|
    Step.Inv_ite (Step.Inv_cont _ _) trivial

theorem step5_inv (s : PState) (l : Loc) (b : UInt8) : (step5 s l b).Inv := by
  unfold step5
  apply Step.Inv_ite
  · apply Step.Inv_opt; intro _; exact Step.Inv_ite trivial (Step.Inv_emit _ _ _)
  · apply Step.Inv_opt; intro _; exact Step.Inv_cont _ _

theorem step6_inv (s : PState) (l : Loc) (b : UInt8) : (step6 s l b).Inv := by
  unfold step6
  apply Step.Inv_ite
  · apply Step.Inv_opt; intro _; exact Step.Inv_cont _ _
  apply Step.Inv_ite
  · apply Step.Inv_opt; intro _; exact Step.Inv_ite trivial (Step.Inv_emit _ _ _)
  · apply Step.Inv_opt; intro _; exact Step.Inv_cont _ _

theorem step_inv (s : PState) (l : Loc) (b : UInt8) (hc : Inv s l) : (step s l b).Inv := by
  obtain ⟨p, ph⟩ := l
  unfold step
  cases hs : s.stage with
  | s0 => exact Step.Inv_ite (step0R_inv s b) (Step.Inv_ite (Step.Inv_cont _ _) trivial)
  | s5 => exact Step.Inv_ite (step5_inv s _ b) trivial
  | s6 => exact Step.Inv_ite (step6_inv s _ b) trivial
  | s2 => exact Step.Inv_ite (Step.Inv_cont _ _) trivial
  | s1 => dsimp only; cases numStep s.num p b <;> first | trivial | exact Step.Inv_cont _ _
  | s3 => dsimp only; cases numStep s.num p b <;> first | trivial | exact Step.Inv_cont _ _
  | s4 =>
    have hc := hc hs
    dsimp only [step4]
    cases ph with
    | data left => exact dataByte_inv s b left hc.2
    | entry =>
      dsimp only
      by_cases hr : s.cargLen - (s.got : Int) > 0
      · rw [if_pos hr]; exact dataByte_inv s b _ (by omega)
      · rw [if_neg hr]; exact scanByte_inv s _ b (by omega)
    | scan => exact scanByte_inv s _ b hc

theorem runBytes_inv (ys : Bytes) (s : PState) (l : Loc) (acc : Replies) (hc : Inv s l)
    (c : Replies) (sf : PState) (lf : Loc) (h : runBytes s l acc ys = .ok c sf lf) : Inv sf lf := by
  induction ys generalizing s l acc with
  | nil =>
    simp only [runBytes, Run.ok.injEq] at h
    rw [← h.2.1, ← h.2.2]; exact hc
  | cons b ys ih =>
    rw [runBytes] at h
    have hi := step_inv s l b hc
    cases hst : step s l b with
    | cont s' l' => rw [hst] at h hi; exact ih s' l' acc hi h
    | emit cmd s' l' => rw [hst] at h hi; exact ih s' l' _ hi h
    | err => simp [hst] at h
    | panic => simp [hst] at h

theorem runBytes_reset (s : PState) (l : Loc) (acc : Replies) (ys : Bytes) (hc : Inv s l)
    (c : Replies) (sf : PState) (lf : Loc) (h : runBytes s l acc ys = .ok c sf lf) :
    ∃ lf', runBytes s {} acc ys = .ok c sf lf' := by
  cases ys with
  | nil =>
    simp only [runBytes, Run.ok.injEq] at h
    exact ⟨{}, by simp [runBytes, h.1, h.2.1]⟩
  | cons b ys =>
    have hg : (step s l b).good = true := by
      rw [runBytes] at h
      cases hst : step s l b <;> simp [hst, Step.good] at h ⊢
    refine ⟨lf, ?_⟩
    rw [runBytes, step_reset s l b hc hg, ← h, runBytes]

theorem feed_eq_run (chunks : List Bytes) (s : PState) (acc : Replies) (c : Replies) (sf : PState) (lf : Loc)
    (href : runBytes s {} acc chunks.flatten = .ok c sf lf) :
    ∃ lf', feed s acc chunks = .ok c sf lf' := by
  induction chunks generalizing s acc lf with
  | nil =>
    simp only [List.flatten_nil, runBytes, Run.ok.injEq] at href
    exact ⟨{}, by simp [feed, href.1, href.2.1]⟩
  | cons ch cs ih =>
    simp only [List.flatten_cons] at href
    rw [runBytes_append] at href
    unfold feed
    cases h1 : runBytes s {} acc ch with
    | err a => simp [h1] at href
    | panic a => simp [h1] at href
    | ok acc' s' l' =>
      simp only [h1] at href ⊢
      have hinv : Inv s' l' := runBytes_inv ch s {} acc (Inv_fresh s none) acc' s' l' h1
      obtain ⟨lf', h2⟩ := runBytes_reset s' l' acc' cs.flatten hinv c sf lf href
      exact ih s' acc' lf' h2

theorem feed_of_single (s0 : PState) (chunks : List Bytes) (c : Replies) (sf : PState) (lf : Loc)
    (h : feed s0 [] [chunks.flatten] = .ok c sf lf) : ∃ lf', feed s0 [] chunks = .ok c sf lf' := by
  unfold feed at h
  cases h1 : runBytes s0 {} [] chunks.flatten with
  | err a => simp [h1] at h
  | panic a => simp [h1] at h
  | ok a s l =>
    simp only [h1, feed, Run.ok.injEq] at h
    rw [h.1, h.2.1] at h1
    exact feed_eq_run chunks s0 [] c sf l h1

/-- an argument list `BuildRequest`/the parser can carry: at least one argument, sizes representable as Go `int` -/
def sizeOK (args : List Bytes) : Prop :=
  args ≠ [] ∧ args.length < 9223372036854775808 ∧ ∀ a ∈ args, a.length < 9223372036854775808

theorem buildManyRun (cmds : Cmds) (h : ∀ c ∈ cmds, sizeOK c) (l : Loc) (acc : Replies) :
    ∃ l', runBytes {} l acc (cmds.map buildRequest).flatten = .ok (acc ++ cmds.map (fun c => (0, c))) {} l' := by
  induction cmds generalizing l acc with
  | nil => exact ⟨l, by simp [runBytes]⟩
  | cons c cs ih =>
    have hc := h c (by simp)
    simp only [List.map_cons, List.flatten_cons]
    rw [buildRun c hc.1 hc.2.1 hc.2.2]
    obtain ⟨l', h2⟩ := ih (fun x hx => h x (by simp [hx])) ⟨some 10, .entry⟩ (acc ++ [(0, c)])
    exact ⟨l', by simpa using h2⟩

theorem map_drop_ty (cmds : Cmds) :
    List.map ((fun x : Nat × List Bytes => x.2) ∘ fun c : List Bytes => ((0 : Nat), c)) cmds = cmds := by
  induction cmds with
  | nil => rfl
  | cons c cs ih => simp [ih]

end Slock.Text
