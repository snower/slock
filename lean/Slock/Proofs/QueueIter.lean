import Slock.Proofs.QueueOps
/-! Iteration (`IterNodes` / `IterNodeQueues`) and in-place holes of the segmented deque. -/
namespace Slock.Queue

theorem window_split {α : Type} (g : List α) {S E T : Nat} (h1 : S ≤ E) (h2 : E ≤ T) (hE : E ≤ g.length) :
    (g.take T).drop S = (g.take E).drop S ++ (g.take T).drop E := by
  rw [← List.drop_append_of_le_length (by rw [List.length_take_of_le hE]; exact h1), take_append_window h2]

/-- global start / end position of the part of node `i` that belongs to the deque -/
def segStart (q : Q) (i : Nat) : Nat := if i = q.hni then off q.queues q.hni + q.hqi else off q.queues i
def segEnd (q : Q) (i : Nat) : Nat := if i = q.tni then off q.queues q.tni + q.tqi else off q.queues (i + 1)

/-- the cell range of node `i` exposed by `IterNodeQueues(i - hni)` -/
def segLo (q : Q) (i : Nat) : Nat := if i = q.hni then q.hqi else 0
def segHi (q : Q) (i : Nat) (len : Nat) : Nat := if i = q.tni then q.tqi else len

theorem iterNode_spec {q : Q} (h : QInv q) (i : Nat) (h1 : q.hni ≤ i) (h2 : i ≤ q.tni) :
    ∃ (a : Arr), q.queues[i]? = some (some a) ∧
      iterBounds q (i - q.hni) = .ok (segLo q i, segHi q i a.length) ∧
      segLo q i ≤ segHi q i a.length ∧ segHi q i a.length ≤ a.length ∧
      iterNodeQueues q (i - q.hni) = .ok ((a.take (segHi q i a.length)).drop (segLo q i)) ∧
      (a.take (segHi q i a.length)).drop (segLo q i) = ((F q.queues).take (segEnd q i)).drop (segStart q i) ∧
      segStart q i = off q.queues i + segLo q i ∧ segEnd q i = off q.queues i + segHi q i a.length := by
  obtain ⟨a, ha, hsz, _, _, s2⟩ := h.node (Nat.le_trans h2 h.tle)
  have e : q.hni + (i - q.hni) = i := Nat.add_sub_cancel' h1
  have hlt := h.hlt
  have tlt := h.tlt
  have lenH : i = q.hni → a.length = q.hqs := fun c => Option.some.inj (hsz.symm.trans (c ▸ h.hqs))
  have lenT : i = q.tni → a.length = q.tqs := fun c => Option.some.inj (hsz.symm.trans (c ▸ h.tqs))
  have hlo : segLo q i ≤ segHi q i a.length ∧ segHi q i a.length ≤ a.length := by
    unfold segLo segHi
    by_cases c1 : i = q.hni <;> by_cases c2 : i = q.tni
    · have := lenT c2; have := h.ord (c1 ▸ c2); rw [if_pos c1, if_pos c2]; omega
    · have := lenH c1; rw [if_pos c1, if_neg c2]; omega
    · have := lenT c2; rw [if_neg c1, if_pos c2]; omega
    · rw [if_neg c1, if_neg c2]; omega
  have hS : segStart q i = off q.queues i + segLo q i := by
    unfold segStart segLo
    by_cases c1 : i = q.hni
    · rw [if_pos c1, if_pos c1, ← c1]
    · rw [if_neg c1, if_neg c1]; rfl
  have hE : segEnd q i = off q.queues i + segHi q i a.length := by
    unfold segEnd segHi
    by_cases c2 : i = q.tni
    · rw [if_pos c2, if_pos c2, ← c2]
    · rw [if_neg c2, if_neg c2, s2]
  have hb : iterBounds q (i - q.hni) = .ok (segLo q i, segHi q i a.length) := by
    unfold iterBounds segLo segHi
    simp only [e]
    by_cases c1 : i = q.hni <;> by_cases c2 : i = q.tni
    · rw [if_pos c1, if_pos c2, if_pos c1, if_pos c2]; rfl
    · rw [if_pos c1, if_neg c2, if_pos c1, if_neg c2]; simp only [size, hsz, Res.ok_bind, Res.pure_eq]
    · rw [if_neg c1, if_pos c2, if_neg c1, if_pos c2]; rfl
    · rw [if_neg c1, if_neg c2, if_neg c1, if_neg c2]; simp only [size, hsz, Res.ok_bind, Res.pure_eq]
  refine ⟨a, ha, hb, hlo.1, hlo.2, ?_, ?_, hS, hE⟩
  · unfold iterNodeQueues
    simp only [e, slot, ha, Res.ok_bind, hb, sliceArr, hlo, and_self, if_true]
  · rw [hS, hE]; exact (F_node_slice _ _ _ _ _ ha hlo.2).symm

theorem iterFrom_spec {q : Q} (h : QInv q) (n : Nat) : ∀ i, q.hni ≤ i → i + n = q.tni + 1 → 1 ≤ n →
    ∃ l, iterFrom q (i - q.hni) n = .ok l ∧
      l.flatten = ((F q.queues).take (off q.queues q.tni + q.tqi)).drop (segStart q i) := by
  induction n with
  | zero => intro i _ _ h3; cases h3
  | succ n ih =>
    intro i h1 h2 _
    obtain ⟨a, _, _, _, _, e1, e2, _, _⟩ := iterNode_spec h i h1 (by omega)
    by_cases c : n = 0
    · subst c
      have hi : i = q.tni := Nat.succ.inj h2
      have hT : segEnd q i = off q.queues q.tni + q.tqi := by unfold segEnd; rw [if_pos hi]
      refine ⟨[(a.take (segHi q i a.length)).drop (segLo q i)], by simp only [iterFrom, e1, Res.ok_bind, Res.pure_eq], ?_⟩
      rw [List.flatten_cons, List.flatten_nil, List.append_nil, e2, hT]
    · obtain ⟨l, f1, f2⟩ := ih (i + 1) (Nat.le_succ_of_le h1) (by omega) (Nat.pos_of_ne_zero c)
      have hne : ¬ i = q.tni := by omega
      have hT : segEnd q i = off q.queues (i + 1) := by unfold segEnd; rw [if_neg hne]
      have hS' : segStart q (i + 1) = off q.queues (i + 1) := by
        unfold segStart; rw [if_neg (by omega)]
      have ei : i + 1 - q.hni = i - q.hni + 1 := Nat.succ_sub h1
      rw [ei] at f1
      refine ⟨(a.take (segHi q i a.length)).drop (segLo q i) :: l, by simp only [iterFrom, e1, f1, Res.ok_bind, Res.pure_eq], ?_⟩
      have hm : off q.queues (i + 1) ≤ off q.queues q.tni := off_mono _ (by omega)
      rw [List.flatten_cons, f2, e2, hT, hS']
      exact (window_split _ (by omega) (Nat.le_trans hm (Nat.le_add_right _ _)) (off_le_length _ _)).symm

theorem iterAll_refines {q : Q} (h : QInv q) : ∃ l, iterAll q = .ok l ∧ l.flatten = abs q := by
  have hle := h.hle
  have hc : q.hni ≤ q.tni + 1 ∧ q.tni + 1 ≤ q.queues.length := by
    have := h.tle; have := h.niLt; rw [h.lenQ']; omega
  obtain ⟨l, e1, e2⟩ := iterFrom_spec h (q.tni + 1 - q.hni) q.hni (Nat.le_refl _) (by omega) (by omega)
  refine ⟨l, ?_, ?_⟩
  · simp only [iterAll, iterNodes, hc, and_self, if_true, Res.ok_bind]
    simpa using e1
  · rw [e2]; unfold abs absL segStart; rw [if_pos rfl]

theorem iterAll_nonhole {q : Q} (h : QInv q) :
    ∃ l, iterAll q = .ok l ∧ l.flatten.filterMap id = (abs q).filterMap id :=
  (iterAll_refines h).imp fun _ h => ⟨h.1, by rw [h.2]⟩

theorem holeFrom_spec {q : Q} (h : QInv q) (n : Nat) : ∀ i pos, q.hni ≤ i → i + n = q.tni + 1 → 1 ≤ n →
    ∃ q', holeFrom q (i - q.hni) n pos = .ok (q', decide (segStart q i + pos < off q.queues q.tni + q.tqi)) ∧ QInv q' ∧
      abs q' = (((F q.queues).set (segStart q i + pos) none).take (off q.queues q.tni + q.tqi)).drop
        (off q.queues q.hni + q.hqi) ∧ (HeadClean q → HeadClean q') := by
  induction n with
  | zero => intro i _ _ _ h3; cases h3
  | succ n ih =>
    intro i pos h1 h2 _
    obtain ⟨a, ha, hb, hl1, hl2, e1, _, hS, hE⟩ := iterNode_spec h i h1 (by omega)
    obtain ⟨len, hlh⟩ : ∃ len, segHi q i a.length = segLo q i + len := ⟨_, (Nat.add_sub_cancel' hl1).symm⟩
    have hlen : ((a.take (segHi q i a.length)).drop (segLo q i)).length = len := by
      rw [window_length _ _ hl2, hlh, Nat.add_sub_cancel_left]
    have hSE : segEnd q i = segStart q i + len := by rw [hE, hS, hlh, Nat.add_assoc]
    have eidx : q.hni + (i - q.hni) = i := Nat.add_sub_cancel' h1
    unfold holeFrom
    simp only [e1, Res.ok_bind, hlen]
    by_cases c : pos < len
    · have hi : segLo q i + pos < a.length := Nat.lt_of_lt_of_le (Nat.add_lt_add_left c _) (hlh ▸ hl2)
      have hle : segEnd q i ≤ off q.queues q.tni + q.tqi := by
        unfold segEnd
        by_cases c : i = q.tni
        · rw [if_pos c]; exact Nat.le_refl _
        · rw [if_neg c]
          exact Nat.le_trans (off_mono _ (by omega)) (Nat.le_add_right _ _)
      have hd : decide (segStart q i + pos < off q.queues q.tni + q.tqi) = true :=
        decide_eq_true (Nat.lt_of_lt_of_le (Nat.add_lt_add_left c _) (hSE ▸ hle))
      refine ⟨{ q with queues := q.queues.set i (some (a.set (segLo q i + pos) none)) }, ?_,
        h.setQueues (shape_set_cell _ _ _ _ _ ha), ?_,
        fun hc => (cleanL_set _ _ _ _ _ ha hi q.hni q.hqi).mpr (clean_set (Or.inr rfl) hc)⟩
      · simp only [c, if_true, hb, Res.ok_bind, eidx, ha, Res.pure_eq, hd]
      · show absL (q.queues.set i (some (a.set (segLo q i + pos) none))) q.hni q.hqi q.tni q.tqi = _
        rw [absL_set _ _ _ _ _ ha hi, hS, Nat.add_assoc]
    · obtain ⟨p', rfl⟩ : ∃ p', pos = len + p' := ⟨_, (Nat.add_sub_cancel' (Nat.le_of_not_lt c)).symm⟩
      simp only [c, if_false, Nat.add_sub_cancel_left]
      by_cases cn : n = 0
      · subst cn
        have hT : segEnd q i = off q.queues q.tni + q.tqi := by unfold segEnd; rw [if_pos (Nat.succ.inj h2)]
        have hge : off q.queues q.tni + q.tqi ≤ segStart q i + (len + p') := by
          rw [← hT, hSE, ← Nat.add_assoc]; exact Nat.le_add_right _ _
        refine ⟨q, by simp only [holeFrom, decide_eq_false (Nat.not_lt.mpr hge)], h, ?_, id⟩
        exact (window_set none (Or.inr hge)).symm
      · have hT : segEnd q i = off q.queues (i + 1) := by unfold segEnd; rw [if_neg (by omega)]
        have hS' : segStart q (i + 1) = off q.queues (i + 1) := by unfold segStart; rw [if_neg (by omega)]
        have := ih (i + 1) p' (Nat.le_succ_of_le h1) (by omega) (Nat.pos_of_ne_zero cn)
        rwa [Nat.succ_sub h1, hS', ← hT, hSE, Nat.add_assoc] at this

theorem hole_spec {q : Q} (h : QInv q) (pos : Nat) :
    ∃ q', hole q pos = .ok (q', decide (pos < (abs q).length)) ∧ QInv q' ∧ abs q' = (abs q).set pos none ∧
      (HeadClean q → HeadClean q') := by
  have hle := h.hle
  have hc : q.hni ≤ q.tni + 1 ∧ q.tni + 1 ≤ q.queues.length := by
    have := h.tle; have := h.niLt; rw [h.lenQ']; omega
  obtain ⟨q', e1, e2, e3, e4⟩ := holeFrom_spec h (q.tni + 1 - q.hni) q.hni pos (Nat.le_refl _) (by omega) (by omega)
  have hS : segStart q q.hni = off q.queues q.hni + q.hqi := by unfold segStart; rw [if_pos rfl]
  refine ⟨q', ?_, e2, ?_, e4⟩
  · simp only [hole, iterNodes, hc, and_self, if_true, Res.ok_bind]
    have : decide (pos < (abs q).length) = decide (segStart q q.hni + pos < off q.queues q.tni + q.tqi) := by
      rw [hS, ← h.abs_length]; exact decide_eq_decide.mpr Nat.add_lt_add_iff_left.symm
    rw [this]; simpa using e1
  · rw [e3, hS]; exact window_set_in _ _ _ _ _

end Slock.Queue
