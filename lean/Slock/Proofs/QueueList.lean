/-! Windows `(g.take T).drop H` of a list under `set`, and lists whose first `H` cells are `none`:
the list side of the deque refinement. -/
namespace Slock.Queue
variable {α : Type}

theorem window_snoc {g : List α} {H T : Nat} {y : α} (hHT : H ≤ T) (hy : g[T]? = some y) :
    (g.take (T + 1)).drop H = (g.take T).drop H ++ [y] := by
  have hT : T < g.length := (List.getElem?_eq_some_iff.mp hy).1
  rw [List.take_add_one, hy, List.drop_append_of_le_length (by rw [List.length_take]; omega)]
  rfl

theorem window_cons {g : List α} {H T : Nat} {y : α} (hHT : H < T) (hy : g[H]? = some y) :
    (g.take T).drop H = y :: (g.take T).drop (H + 1) := by
  rw [List.drop_eq_getElem?_toList_append (i := H), List.getElem?_take_of_lt hHT, hy]
  rfl

theorem window_set {g : List α} {H T i : Nat} (x : α) (hi : i < H ∨ T ≤ i) :
    ((g.set i x).take T).drop H = (g.take T).drop H := by
  rcases hi with h | h
  · rw [List.take_set, List.drop_set_of_lt h]
  · rw [List.take_set_of_le h]

theorem window_set_in (g : List α) (H T p : Nat) (x : α) :
    ((g.set (H + p) x).take T).drop H = ((g.take T).drop H).set p x := by
  rw [List.take_set, List.drop_set, if_neg (by omega), Nat.add_sub_cancel_left]

theorem window_length (g : List α) (H : Nat) {T : Nat} (hT : T ≤ g.length) :
    ((g.take T).drop H).length = T - H := by
  rw [List.length_drop, List.length_take_of_le hT]

theorem window_push {g : List α} {H T : Nat} (x : α) (hHT : H ≤ T) (hT : T < g.length) :
    ((g.set T x).take (T + 1)).drop H = (g.take T).drop H ++ [x] := by
  rw [window_snoc hHT (List.getElem?_set_self hT), window_set x (Or.inr (Nat.le_refl T))]

theorem take_append_window {g : List α} {E T : Nat} (h : E ≤ T) : g.take E ++ (g.take T).drop E = g.take T := by
  have := List.take_append_drop E (g.take T)
  rwa [List.take_take, Nat.min_eq_left h] at this

theorem mem_take_iff (l : List α) (n : Nat) (e : α) : e ∈ l.take n ↔ ∃ p, p < n ∧ l[p]? = some e := by
  rw [List.mem_iff_getElem?]
  constructor
  · rintro ⟨i, hi⟩
    rw [List.getElem?_take] at hi
    by_cases c : i < n
    · exact ⟨i, c, by rwa [if_pos c] at hi⟩
    · rw [if_neg c] at hi; cases hi
  · rintro ⟨p, hp, he⟩
    exact ⟨p, by rw [List.getElem?_take_of_lt hp, he]⟩

theorem clean_set {g : List (Option α)} {H P : Nat} {v : Option α} (hP : H ≤ P ∨ v = none)
    (hc : ∀ e ∈ g.take H, e = none) : ∀ e ∈ (g.set P v).take H, e = none := by
  rcases hP with h | h
  · rwa [List.take_set_of_le h]
  · intro e he
    rw [List.take_set] at he
    exact (List.mem_or_eq_of_mem_set he).elim (hc e) (· ▸ h)

theorem clean_set_succ {g : List (Option α)} {H : Nat} (hc : ∀ e ∈ g.take H, e = none) :
    ∀ e ∈ (g.set H none).take (H + 1), e = none := by
  intro e he
  rw [List.take_add_one, List.take_set_of_le (Nat.le_refl H), List.mem_append, List.getElem?_set_self'] at he
  rcases he with h | h
  · exact hc e h
  · cases hg : g[H]? <;> simp [hg] at h
    exact h

theorem set_of_getElem? {l : List α} {i : Nat} {x : α} (h : l[i]? = some x) : l.set i x = l := by
  obtain ⟨hi, rfl⟩ := List.getElem?_eq_some_iff.mp h
  exact List.set_getElem_self hi

theorem set_length_append_cons (A B : List α) (x y : α) : (A ++ x :: B).set A.length y = A ++ y :: B := by
  rw [List.set_append_right _ _ (Nat.le_refl _), Nat.sub_self, List.set_cons_zero]

theorem eq_append_replicate {l A : List α} {k : Nat} {d : α} (hlen : l.length = A.length + k)
    (h1 : ∀ j, j < A.length → l[j]? = A[j]?) (h2 : ∀ j, A.length ≤ j → j < l.length → l[j]? = some d) :
    l = A ++ List.replicate k d := by
  apply List.ext_getElem?
  intro j
  by_cases c : j < A.length
  · rw [List.getElem?_append_left c, h1 j c]
  · rw [List.getElem?_append_right (Nat.le_of_not_lt c), List.getElem?_replicate]
    by_cases c2 : j < l.length
    · rw [h2 j (Nat.le_of_not_lt c) c2, if_pos (by omega)]
    · rw [List.getElem?_eq_none_iff.mpr (Nat.le_of_not_lt c2), if_neg (by omega)]

theorem getElem?_append_replicate_cons (P R : List α) (k : Nat) (d x : α) :
    (P ++ (List.replicate k d ++ x :: R))[P.length + k]? = some x := by
  rw [List.getElem?_append_right (Nat.le_add_right _ _), Nat.add_sub_cancel_left,
    List.getElem?_append_right (by rw [List.length_replicate]; exact Nat.le_refl _), List.length_replicate, Nat.sub_self]
  rfl

theorem move_step (P R : List α) (m : Nat) (x d : α) :
    ((P ++ (List.replicate (m + 1) d ++ x :: R)).set P.length x).set (P.length + (m + 1)) d =
      (P ++ [x]) ++ (List.replicate (m + 1) d ++ R) := by
  rw [List.replicate_succ, List.cons_append, set_length_append_cons]
  have e : P ++ x :: (List.replicate m d ++ x :: R) = (P ++ x :: List.replicate m d) ++ x :: R := by simp
  have l : P.length + (m + 1) = (P ++ x :: List.replicate m d).length := by simp
  have r : List.replicate m d ++ d :: R = d :: (List.replicate m d ++ R) := by
    rw [← List.cons_append, ← List.replicate_succ, List.replicate_succ', List.append_assoc]; rfl
  rw [e, l, set_length_append_cons, List.append_assoc, List.cons_append, r, List.append_assoc]
  rfl

theorem fill_step (X : List α) (a n : Nat) (d : α) (ha : a < X.length) :
    (X.set a d).take (a + 1) ++ (List.replicate n d ++ (X.set a d).drop (a + 1 + n)) =
      X.take a ++ (List.replicate (n + 1) d ++ X.drop (a + (n + 1))) := by
  rw [List.take_add_one, List.take_set_of_le (Nat.le_refl a), List.getElem?_set_self ha,
    List.drop_set_of_lt (by omega), List.replicate_succ, Nat.add_assoc, Nat.add_comm 1 n]
  simp

/-- what `Resize` makes of `A ++ B`: the first `a` entries, the entries of `A` from `H` on, a gap, and `B` -/
theorem resized_append (A B : List α) {a H : Nat} (hH : H ≤ A.length) (ha : a ≤ A.length) (G : List α) :
    ((A ++ B).take a ++ ((A ++ B).drop H).take (A.length - H)) ++ (G ++ (A ++ B).drop A.length) =
      (A.take a ++ A.drop H) ++ (G ++ B) := by
  rw [List.take_append_of_le_length ha, List.drop_append_of_le_length hH, List.take_left' List.length_drop,
    List.drop_left]

theorem exists_map_some {β : Type} {l : List (Option β)} (h : ∀ x ∈ l, x ≠ none) : ∃ M : List β, l = M.map some := by
  induction l with
  | nil => exact ⟨[], rfl⟩
  | cons x l ih =>
    obtain ⟨M, hM⟩ := ih fun y hy => h y (List.mem_cons_of_mem _ hy)
    cases x with
    | none => exact absurd rfl (h none List.mem_cons_self)
    | some b => exact ⟨b :: M, by rw [hM]; rfl⟩

end Slock.Queue
