import Slock.Proofs.ClientQueue
import Slock.Proofs.EngineReplies
/-!
C04 quiescent claim: every step of the engine that can make the head of a wait queue admissible ends with a wake pass. Per
key, `Quiet` says that `waited` is set exactly when something is queued, and that `doLock` refuses the head of the queue —
except a head carrying the wait-when-unlocked flag on an unlocked key: a LOCK with TF_WAIT_UNLOCK on an unlocked key is
queued BY ITS OWN FLAG although `doLock` would let it in (`classifyLock` → `afterHeld true`), and it stays queued until the
next wake pass on the key. The harness monitor `C04:admissible-head-queued` makes exactly this exclusion.

`Quiet` is kept by LOCK and UNLOCK in every state, and by a tick in every state whose queued requests with equal
(connection, RequestId) are equal commands (`IdDet`): the timeout sweep re-arms a copy, and finds it again by that pair.
-/
namespace Slock.Engine

structure Quiet (k : Key) : Prop where
  flag : k.waited = true ↔ k.waiters ≠ []
  head : ∀ w rest, k.waiters = w :: rest →
    doLock k w.cmd = false ∨ (k.locked = 0 ∧ has w.cmd.tflag TF_WAIT_UNLOCK = true)

def QuietDB (db : DB) : Prop := ∀ k ∈ db.keys, Quiet k

theorem Quiet.empty (n : Nat) : Quiet (emptyKey n) :=
  ⟨by simp [emptyKey], by intro w rest h; simp [emptyKey] at h⟩

theorem QuietDB.init (n : Nat) : QuietDB (DB.init n) := KeysAll.init n

theorem getKey_quiet {db : DB} (h : QuietDB db) (n : Nat) : Quiet (db.getKey n) := KeysAll.getKey h Quiet.empty n

theorem QuietDB.of_keys_eq {db db' : DB} (h : QuietDB db) (e : db'.keys = db.keys) : QuietDB db' := KeysAll.of_keys_eq h e

theorem doLock_congr' (k k' : Key) (c : Cmd) (hl : k'.locked = k.locked)
    (hh : k'.holders.head?.map (·.cmd.count) = k.holders.head?.map (·.cmd.count)) : doLock k' c = doLock k c := by
  unfold doLock
  rw [hl]
  cases h1 : k.holders.head? with
  | none =>
    cases h2 : k'.holders.head? with
    | none => rfl
    | some b => rw [h1, h2] at hh; simp at hh
  | some a =>
    cases h2 : k'.holders.head? with
    | none => rw [h1, h2] at hh; simp at hh
    | some b =>
      rw [h1, h2] at hh
      simp only [Option.map_some, Option.some.injEq] at hh
      simp only [hh]

theorem replaceHolder_head_count (hs : List Hold) (h h' : Hold) (e : h'.cmd.count = h.cmd.count) :
    (replaceHolder hs h h').head?.map (·.cmd.count) = hs.head?.map (·.cmd.count) := by
  cases hs with
  | nil => rfl
  | cons x rest =>
    unfold replaceHolder
    split
    · rename_i hx; simp [e, hx]
    · rfl

/-- The pass keeps "something queued ⇒ flag set"; each of its exits then gives `Quiet`. -/
theorem wake_quiet (db : DB) (k : Key) (out : List Reply) (h : k.waiters ≠ [] → k.waited = true) :
    Quiet (wake db k out).2.1 := by
  refine wake_elim (P := fun _ k _ => k.waiters ≠ [] → k.waited = true) (Q := fun _ k _ => Quiet k) ?_ ?_ ?_ ?_ db k out h
  · intro d q _ d' q' r hq hw _
    obtain ⟨w, rest, e, _, ⟨_, _, rfl, _⟩ | ⟨_, _, rfl, _⟩⟩ := wakeIter_some hw <;> exact hq (e ▸ List.cons_ne_nil _ _)
  · intro _ q _ hq hwd
    have hnil : q.waiters = [] := Classical.byContradiction fun hne => by rw [hq hne] at hwd; exact Bool.noConfusion hwd
    exact ⟨by rw [hwd, hnil]; simp, fun w rest e => by rw [hnil] at e; exact nomatch e⟩
  · intro _ q _ _ e
    exact ⟨by simp [e], fun w rest e' => by rw [e] at e'; exact nomatch e'⟩
  · intro _ q _ w rest hq e hd
    refine ⟨⟨fun _ => e ▸ List.cons_ne_nil _ _, hq⟩, fun w' rest' e' => ?_⟩
    rw [e] at e'
    exact Or.inl ((List.cons.inj e').1 ▸ hd)

theorem store_quiet {db0 d : DB} {k : Key} (wk : Bool) (out : List Reply) (h0 : QuietDB db0) (e : d.keys = db0.keys)
    (hw : wk = true → k.waiters ≠ [] → k.waited = true) (hq : wk = false → Quiet k) : QuietDB (store wk d k out).1 := by
  unfold store
  split
  · rename_i hwk; exact KeysAll.setKey h0 ((wake_keys d k out).trans e) (wake_quiet d k out (hw hwk))
  · rename_i hwk; exact KeysAll.setKey h0 e (hq (by simpa using hwk))

theorem queue_quiet (k : Key) (c : Cmd) (w : Waiter) (hw : w.cmd = c) (hq : Quiet k)
    (hf : doLock k c = false ∨ ((has c.tflag TF_PRIORITY && checkWaitPriority k c) = false ∧
      (k.waited = true ∨ (k.locked = 0 ∧ has c.tflag TF_WAIT_UNLOCK = true)))) :
    Quiet { k with waiters := insertWaiter k.waiters w, waited := true } := by
  have hne : insertWaiter k.waiters w ≠ [] := by
    intro e
    have := insertWaiter_length k.waiters w
    rw [e] at this; simp at this
  refine ⟨⟨fun _ => hne, fun _ => rfl⟩, ?_⟩
  intro x rest e
  have hdl : ∀ y : Waiter, doLock { k with waiters := insertWaiter k.waiters w, waited := true } y.cmd = doLock k y.cmd :=
    fun _ => rfl
  rw [hdl]
  show doLock k x.cmd = false ∨ (k.locked = 0 ∧ has x.cmd.tflag TF_WAIT_UNLOCK = true)
  cases hws : k.waiters with
  | nil =>
    simp only [hws, insertWaiter] at e
    injection e with e1 _
    rw [← e1, hw]
    rcases hf with h1 | ⟨_, h1 | h1⟩
    · exact Or.inl h1
    · have := hq.flag.mp h1; rw [hws] at this; exact absurd rfl this
    · exact Or.inr h1
  | cons y ys =>
    simp only [hws] at e
    unfold insertWaiter at e
    by_cases hp : cmdPriority w.cmd > cmdPriority y.cmd
    · simp only [hp, if_true] at e
      injection e with e1 _
      rw [← e1, hw]
      -- the newcomer jumped to the head: it has the priority flag and beats the old head, so it was refused by `doLock`
      rw [hw] at hp
      have hprio : has c.tflag TF_PRIORITY = true := by
        by_cases h1 : has c.tflag TF_PRIORITY = true
        · exact h1
        · have e0 : cmdPriority c = 0 := by unfold cmdPriority; simp [h1]
          rw [e0] at hp; omega
      have hcwp : checkWaitPriority k c = true := by
        have e1 : cmdPriority c = c.rcount := by unfold cmdPriority; simp [hprio]
        rw [e1] at hp
        unfold checkWaitPriority
        simp only [hws, List.head?_cons]
        simpa using hp
      rcases hf with h1 | ⟨h1, _⟩
      · exact Or.inl h1
      · rw [hprio, hcwp] at h1; simp at h1
    · simp only [hp, if_false] at e
      injection e with e1 _
      rw [← e1]
      exact hq.head y ys hws

/-- the queue after one request left it (cancel / timeout), with the flag the code computes -/
theorem remove_flag (k : Key) (w : Waiter) (h : k.waiters ≠ [] → k.waited = true) :
    removeWaiter k.waiters w ≠ [] → (if (removeWaiter k.waiters w).isEmpty then false else k.waited) = true := by
  intro hne
  have h1 : (removeWaiter k.waiters w).isEmpty = false := by
    cases hr : removeWaiter k.waiters w with
    | nil => exact absurd hr hne
    | cons x xs => rfl
  rw [h1]
  simp only [Bool.false_eq_true, if_false]
  apply h
  intro e
  rw [e] at hne
  exact hne (by simp [removeWaiter])

variable {db0 db d : DB} {s : Src} {n : Nat} {wk : Bool} {k : Key} {out : List Reply}

/-- What `store_quiet` needs of an edit. Before a wake pass: the flag is set if something is queued. Without one: `Quiet`
itself (the timeout sweep re-arms a copy: whatever is queued under its id must carry its command). -/
theorem Edit.quiet (e : Edit db0 db s n wk d k out) (ha : s = .sweepT → Agree db db0) (hq : Quiet (db.getKey n)) :
    (wk = true → k.waiters ≠ [] → k.waited = true) ∧ (wk = false → Quiet k) := by
  cases e with
  | update | relock | dec | release | expire => exact ⟨fun _ => hq.flag.mpr, fun h => (nomatch h)⟩
  | grant c =>
    -- a grant without wake pass: the flag is clear, so nothing is queued
    refine ⟨fun _ => hq.flag.mpr, fun hwf => ?_⟩
    have hnil : (db.getKey c.key).waiters = [] :=
      Classical.byContradiction fun hne => by rw [hq.flag.mpr hne] at hwf; exact Bool.noConfusion hwf
    exact ⟨by rw [grantHold_waited, grantHold_waiters, hwf, hnil]; simp,
      fun w rest e => by rw [grantHold_waiters, hnil] at e; exact nomatch e⟩
  | grantNoHold => exact ⟨fun _ => hq.flag.mpr, fun _ => hq⟩
  | queue c hb => exact ⟨fun h => (nomatch h), fun _ => queue_quiet _ c (newWaiter db c) rfl hq (LockFacts.of hb).2⟩
  | cancel c w | timeout _ w => exact ⟨fun _ => remove_flag _ w hq.flag.mpr, fun h => (nomatch h)⟩
  | rearmH h =>
    refine ⟨fun h => (nomatch h), fun _ => ⟨hq.flag, fun w rest e => ?_⟩⟩
    exact (doLock_congr' (db.getKey h.cmd.key) { db.getKey h.cmd.key with
      holders := replaceHolder (db.getKey h.cmd.key).holders h (rearmedH db h) } w.cmd rfl
      (replaceHolder_head_count _ h (rearmedH db h) rfl)) ▸ hq.head w rest e
  | rearmW w hw =>
    refine ⟨fun h => (nomatch h), fun _ => ⟨?_, fun y rest e => ?_⟩⟩
    · simp only [ne_eq, List.map_eq_nil_iff]; exact hq.flag
    · cases hws : (db.getKey w.cmd.key).waiters with
      | nil => simp only [hws, List.map_nil] at e; exact nomatch e
      | cons x xs =>
        simp only [hws, List.map_cons] at e
        rw [← (List.cons.inj e).1, rearm_map_cmd (ha rfl) hw x (hws ▸ List.mem_cons_self ..)]
        exact hq.head x xs hws

theorem QuietDB.edit (e : Edit db0 db s n wk d k out) (ha : s = .sweepT → Agree db db0) (h : QuietDB db) :
    QuietDB (store wk d k out).1 :=
  store_quiet wk out h e.frame.1 (e.quiet ha (getKey_quiet h n)).1 (e.quiet ha (getKey_quiet h n)).2

theorem opLock_quiet (db : DB) (c : Cmd) (h : QuietDB db) : QuietDB (opLock db c).1 :=
  opLock_edit db c (Q := fun p => QuietDB p.1) (fun _ _ _ => h) fun _ _ _ _ e => h.edit e fun hs => nomatch hs

theorem opUnlock_quiet (db : DB) (c : Cmd) (h : QuietDB db) : QuietDB (opUnlock db c).1 :=
  opUnlock_edit db c (Q := fun p => QuietDB p.1) (fun _ _ _ => h.of_keys_eq rfl) fun _ _ _ e => h.edit e fun hs => nomatch hs

/-- what the quiescent claim is carried with through a run: queue order and agreement on ids, which a tick needs -/
def IQ (db : DB) : Prop := QInv db ∧ QuietDB db

/-- A request the timeout sweep re-arms was queued when the tick began; the requests queued during the tick agree with
those on equal ids (`QAgree`), so the re-armed copy replaces requests with its own command. -/
theorem opTick_iq (db : DB) (h : IQ db) : IQ (opTick db).1 := by
  have step : ∀ {s : Src} (x : DB) n wk d1 k o, (∀ c, s ≠ .lock c) → Edit db x s n wk d1 k o → QAgree db x ∧ QuietDB x →
      QAgree db (store wk d1 k o).1 ∧ QuietDB (store wk d1 k o).1 := fun x n wk d1 k o hs e hq =>
    ⟨hq.1.edit e (fun c hc => (hs c hc).elim) h.1.1, hq.2.edit e fun _ => hq.1.2⟩
  exact (opTick_edit (P := fun x _ => QAgree db x ∧ QuietDB x) (Q := fun x _ => QAgree db x ∧ QuietDB x) db
    ⟨⟨h.1.of_keys_eq rfl, h.1.1⟩, h.2.of_keys_eq rfl⟩ (fun x _ n wk d1 k o => step x n wk d1 k o fun _ hc => nomatch hc)
    (fun _ _ hq => ⟨⟨hq.1.1.of_keys_eq rfl, hq.1.2⟩, hq.2.of_keys_eq rfl⟩)
    (fun x _ n wk d1 k o => step x n wk d1 k o fun _ hc => nomatch hc)).imp And.left id

theorem opLock_iq (db : DB) (c : Cmd) (hf : Fresh db c) (h : IQ db) : IQ (opLock db c).1 :=
  ⟨opLock_qinv db c hf h.1, opLock_quiet db c h.2⟩

theorem opUnlock_iq (db : DB) (c : Cmd) (h : IQ db) : IQ (opUnlock db c).1 :=
  ⟨opUnlock_qinv db c h.1, opUnlock_quiet db c h.2⟩

theorem IQ.init (n : Nat) : IQ (DB.init n) := ⟨⟨IdDet.init n, DBSorted.init n⟩, QuietDB.init n⟩

end Slock.Engine
