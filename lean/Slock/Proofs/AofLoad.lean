import Slock.Proofs.AofRead
/-!
`LoadAofFile` over a file written by the writer, for every buffer size: the complete records whose values lie within the
value file are delivered exactly; the load stops quietly (io.EOF) at the first record whose value is missing or cut; a torn
record at the end, a cut inside the header and an empty file all end the load like a clean end of file — never an error.
The start-up repair of a torn two-file tail (`cutLoop` / `startupFiles`) cuts both files at that same record: one induction,
`records_ind`, serves both loops.
-/
namespace Slock.Aof

/-- A record as the writer emits it. -/
def WFRec (r : Rec) : Prop :=
  WFBuf r.buf ∧ match r.data with
    | none => hasData r.buf = false
    | some b => hasData r.buf = true ∧ BlobWF b

/-- the records the loader's expired-record filter lets through at `now` -/
def live (now : Int) (recs : List Rec) : List Rec := recs.filter (fun r => !skipped r.buf now)

/-- How many leading records have their value completely inside the first `dc` bytes of the value file. -/
def valuePrefix : List Rec → Nat → Nat
  | [], _ => 0
  | r :: rs, dc =>
    match r.data with
    | none => 1 + valuePrefix rs dc
    | some b => if b.length ≤ dc then 1 + valuePrefix rs (dc - b.length) else 0

theorem encodeRecs_cons (r : Rec) (rs : List Rec) : encodeRecs (r :: rs) = r.buf ++ encodeRecs rs := by
  simp [encodeRecs]

theorem encodeRecs_append (a b : List Rec) : encodeRecs (a ++ b) = encodeRecs a ++ encodeRecs b := by
  simp [encodeRecs]

theorem encodeData_cons (r : Rec) (rs : List Rec) : encodeData (r :: rs) = r.data.getD [] ++ encodeData rs := by
  simp [encodeData]

theorem encodeData_append (a b : List Rec) : encodeData (a ++ b) = encodeData a ++ encodeData b := by
  simp [encodeData]

theorem headerBytes_length : headerBytes.length = 12 := by decide

theorem encodeRecs_length (recs : List Rec) (h : ∀ r ∈ recs, WFBuf r.buf) : (encodeRecs recs).length = 64 * recs.length := by
  induction recs with
  | nil => rfl
  | cons r rs ih =>
    rw [encodeRecs_cons, List.length_append, (h r (by simp)).length, ih (fun x hx => h x (by simp [hx])), List.length_cons]
    omega

theorem encodeFile_length (recs : List Rec) (hw : ∀ x ∈ recs, WFBuf x.buf) : (encodeFile recs).length = 12 + 64 * recs.length := by
  simp only [encodeFile, List.length_append, headerBytes_length, encodeRecs_length recs hw]

theorem take_records_add (pre : List Rec) (t : Bytes) (k : Nat) (hw : ∀ x ∈ pre, WFBuf x.buf) :
    (headerBytes ++ encodeRecs pre ++ t).take (12 + 64 * pre.length + k) = headerBytes ++ encodeRecs pre ++ t.take k := by
  rw [← encodeFile_length pre hw]; exact List.take_length_add_append k

theorem take_records (pre : List Rec) (tl : Bytes) (j : Nat) (hw : ∀ x ∈ pre, WFBuf x.buf) (hj : j ≤ pre.length) :
    (headerBytes ++ encodeRecs pre ++ tl).take (12 + 64 * j) = encodeFile (pre.take j) := by
  have h := take_records_add (pre.take j) (encodeRecs (pre.drop j) ++ tl) 0 (fun x hx => hw x (List.mem_of_mem_take hx))
  rw [List.length_take_of_le hj, ← List.append_assoc, List.append_assoc headerBytes, ← encodeRecs_append,
    List.take_append_drop, Nat.add_zero, List.take_zero, List.append_nil] at h
  exact h

theorem valuePrefix_none (b : Bytes) (rs : List Rec) (dc : Nat) : valuePrefix (⟨b, none⟩ :: rs) dc = valuePrefix rs dc + 1 :=
  Nat.add_comm _ _

theorem valuePrefix_some {v : Bytes} {dc : Nat} (b : Bytes) (rs : List Rec) (h : v.length ≤ dc) :
    valuePrefix (⟨b, some v⟩ :: rs) dc = valuePrefix rs (dc - v.length) + 1 := by
  simp only [valuePrefix, h, if_true, Nat.add_comm]

theorem valuePrefix_short {v : Bytes} {dc : Nat} (b : Bytes) (rs : List Rec) (h : ¬ v.length ≤ dc) :
    valuePrefix (⟨b, some v⟩ :: rs) dc = 0 := by
  simp only [valuePrefix, h, if_false]

theorem valuePrefix_le : ∀ (l : List Rec) (dc : Nat), valuePrefix l dc ≤ l.length
  | [], _ => Nat.le_refl _
  | ⟨b, none⟩ :: xs, dc => by rw [valuePrefix_none]; exact Nat.succ_le_succ (valuePrefix_le xs dc)
  | ⟨b, some v⟩ :: xs, dc => by
    by_cases h : v.length ≤ dc
    · rw [valuePrefix_some b xs h]; exact Nat.succ_le_succ (valuePrefix_le xs _)
    · rw [valuePrefix_short b xs h]; exact Nat.zero_le _

theorem valuePrefix_fits : ∀ (l : List Rec) (dc : Nat), (encodeData (l.take (valuePrefix l dc))).length ≤ dc
  | [], _ => Nat.zero_le _
  | ⟨b, none⟩ :: xs, dc => by
    rw [valuePrefix_none, List.take_succ_cons, encodeData_cons]; exact valuePrefix_fits xs dc
  | ⟨b, some v⟩ :: xs, dc => by
    by_cases h : v.length ≤ dc
    · have := valuePrefix_fits xs (dc - v.length)
      rw [valuePrefix_some b xs h, List.take_succ_cons, encodeData_cons, List.length_append]
      exact Nat.add_le_of_le_sub' h this
    · rw [valuePrefix_short b xs h]; exact Nat.zero_le _

theorem valuePrefix_full : ∀ (l : List Rec), valuePrefix l (encodeData l).length = l.length
  | [] => rfl
  | ⟨b, none⟩ :: xs => by rw [valuePrefix_none, encodeData_cons]; exact congrArg (· + 1) (valuePrefix_full xs)
  | ⟨b, some v⟩ :: xs => by
    simp only [encodeData_cons, Option.getD_some, List.length_append]
    rw [valuePrefix_some b xs (Nat.le_add_right _ _), Nat.add_sub_cancel_left]
    exact congrArg (· + 1) (valuePrefix_full xs)

theorem take_values (pre : List Rec) (dc : Nat) :
    ((encodeData pre).take dc).take (encodeData (pre.take (valuePrefix pre dc))).length =
      encodeData (pre.take (valuePrefix pre dc)) := by
  have h := List.take_left (l₁ := encodeData (pre.take (valuePrefix pre dc))) (l₂ := encodeData (pre.drop (valuePrefix pre dc)))
  rwa [← encodeData_append, List.take_append_drop, ← Nat.min_eq_left (valuePrefix_fits pre dc), ← List.take_take] at h

theorem live_cons (now : Int) (r : Rec) (rs : List Rec) : live now (r :: rs) = live now [r] ++ live now rs := by
  unfold live
  by_cases h : skipped r.buf now = true <;> simp [h]

theorem deliver_eq (now : Int) (b : Bytes) (data : Option Bytes) (rest : List Rec × Stop × Bytes) :
    deliver now b data rest = (live now [⟨b, data⟩] ++ rest.1, rest.2) := by
  unfold deliver live
  by_cases h : skipped b now = true <;> simp [h]

/-- A loop over `readLock` / `readLockData` on a written file (complete records, then a tail at which `ReadLock` reports end of
file; value file cut at `dc`) is described by what it does at the tail, at a record without value, at a record whose value
lies inside the cut (the walk goes on) and at the first record whose value is missing or short (the walk ends); one unit of
fuel per record. -/
theorem records_ind {P : List Rec → Rd → Rd → Nat → Bytes → Nat → Prop} {tl : Bytes}
    (tail : ∀ {r} dr dc {buf} f, (∃ b, readLock r buf = .eof b) → P [] r dr dc buf (f + 1))
    (plain : ∀ {xb rs r r1 dr dc buf f}, WFBuf xb → readLock r buf = .ok xb r1 → hasData xb = false → P rs r1 dr dc xb f →
      P (⟨xb, none⟩ :: rs) r dr dc buf (f + 1))
    (fits : ∀ {xb v rs r r1 dr dr' dc buf f}, WFBuf xb → readLock r buf = .ok xb r1 → hasData xb = true → v.length ≤ dc →
      readLockData dr = some (v, dr') → P rs r1 dr' (dc - v.length) xb f → P (⟨xb, some v⟩ :: rs) r dr dc buf (f + 1))
    (short : ∀ {xb v rs r r1 dr dc buf f}, WFBuf xb → readLock r buf = .ok xb r1 → hasData xb = true → ¬ v.length ≤ dc →
      readLockData dr = none → P (⟨xb, some v⟩ :: rs) r dr dc buf (f + 1))
    (htl : EofTail tl) :
    ∀ (recs : List Rec) (r dr : Rd) (dc : Nat) (buf : Bytes) (fuel : Nat), (∀ x ∈ recs, WFRec x) → OldOK buf → r.Inv →
      r.s = encodeRecs recs ++ tl → dr.Inv → dr.s = (encodeData recs).take dc → recs.length < fuel → P recs r dr dc buf fuel
  | _, _, _, _, _, 0, _, _, _, _, _, _, hf => nomatch hf
  | [], r, dr, dc, buf, f + 1, _, hb, hi, hs, _, _, _ => tail dr dc f (htl r hs hi buf hb)
  | ⟨xb, xd⟩ :: rs, r, dr, dc, buf, f + 1, hw, hb, hi, hs, hdi, hds, hf => by
    obtain ⟨hxb, hxd⟩ := hw _ List.mem_cons_self
    rw [encodeRecs_cons, List.append_assoc] at hs
    obtain ⟨r1, hs1, _, hi1, hrl⟩ := readLock_complete r xb _ hi hxb hs
    have ih := fun dr' dc' hdi' hds' => records_ind tail plain fits short htl rs r1 dr' dc' xb f
      (fun y hy => hw y (List.mem_cons_of_mem _ hy)) hxb.oldOK hi1 hs1 hdi' hds' (Nat.lt_of_succ_lt_succ hf)
    rw [encodeData_cons] at hds
    cases xd with
    | none => exact plain hxb (hrl buf hb) hxd (ih dr dc hdi hds)
    | some v =>
      rw [Option.getD_some] at hds
      by_cases hle : v.length ≤ dc
      · rw [List.take_append, List.take_of_length_le hle] at hds
        obtain ⟨dr', hrd, hs', _, hi'⟩ := readLockData_complete dr v _ hdi hxd.2 hds
        exact fits hxb (hrl buf hb) hxd.1 hle hrd (ih dr' _ hi' hs')
      · rw [List.take_append_of_le_length (Nat.le_of_lt (Nat.not_le.mp hle))] at hds
        exact short hxb (hrl buf hb) hxd.1 hle
          (readLockData_short dr v dc hdi hxd.2 hds (Nat.not_le.mp hle))

theorem loadLoop_values (now : Int) {tl : Bytes}
    (htl : EofTail tl) :
    ∀ (recs : List Rec) (r dr : Rd) (dc : Nat) (buf : Bytes) (fuel : Nat), (∀ x ∈ recs, WFRec x) → OldOK buf → r.Inv →
      r.s = encodeRecs recs ++ tl → dr.Inv → dr.s = (encodeData recs).take dc → recs.length < fuel →
      (loadLoop now fuel r (some dr) buf).1 = live now (recs.take (valuePrefix recs dc)) ∧
      (loadLoop now fuel r (some dr) buf).2.1 = (if valuePrefix recs dc = recs.length then Stop.fileEnd else Stop.eof) := by
  refine records_ind ?_ ?_ ?_ ?_ htl
  · intro r dr dc buf f ⟨b, hb'⟩
    simp [loadLoop, hb', valuePrefix, live]
  · intro xb rs r r1 dr dc buf f _ hrl hhd ⟨ih1, ih2⟩
    simp only [loadLoop, hrl, hhd, Bool.false_eq_true, if_false, deliver_eq, ih1, ih2, valuePrefix_none,
      List.take_succ_cons, List.length_cons, Nat.add_right_cancel_iff]
    exact ⟨(live_cons now _ _).symm, trivial⟩
  · intro xb v rs r r1 dr dr' dc buf f _ hrl hhd hle hrd ⟨ih1, ih2⟩
    simp only [loadLoop, hrl, hhd, if_true, hrd, deliver_eq, ih1, ih2, valuePrefix_some xb rs hle,
      List.take_succ_cons, List.length_cons, Nat.add_right_cancel_iff]
    exact ⟨(live_cons now _ _).symm, trivial⟩
  · intro xb v rs r r1 dr dc buf f _ hrl hhd hle hrd
    simp [loadLoop, hrl, hhd, hrd, valuePrefix_short xb rs hle, live]

theorem readHeader_ok (cap : Nat) (body : Bytes) :
    ∃ r', readHeader (Rd.open cap (headerBytes ++ body)) = .ok r' ∧ r'.s = body ∧ r'.Inv := by
  obtain ⟨r1, hr1, h1⟩ := read_all (Rd.open cap (headerBytes ++ body)) 12 (Rd.open_inv _ _) (by decide)
    (by simp [Rd.open, headerBytes_length]) (Or.inl rfl)
  have htk : (headerBytes ++ body).take 12 = headerBytes := List.take_left' headerBytes_length
  refine ⟨r1, ?_, by rw [h1.s]; exact List.drop_left' headerBytes_length, h1.inv⟩
  have h8 : List.take 8 headerBytes = magic := by decide
  have hv : le16 headerBytes 8 = 1 := by decide
  have hh : le16 headerBytes 10 = 0 := by decide
  unfold readHeader
  rw [hr1]
  simp [show (Rd.open cap (headerBytes ++ body)).s = headerBytes ++ body from rfl, htk, h8, hv, hh]

theorem readHeader_short (cap : Nat) (f : Bytes) (h0 : 0 < f.length) (h12 : f.length < 12) :
    readHeader (Rd.open cap f) = .error .eof := by
  obtain ⟨m, r1, hr1, _, _, hm, _⟩ := read_some (Rd.open cap f) 12 (Rd.open_inv cap f) (by decide) h0
  have : m ≠ 12 := Nat.ne_of_lt (Nat.lt_of_le_of_lt hm h12)
  unfold readHeader
  simp [hr1, this]

theorem readHeader_empty (cap : Nat) : readHeader (Rd.open cap []) = .error .eof := by
  unfold readHeader
  rw [read_none _ 12 (Rd.open_inv cap []) (by decide) rfl]

theorem loadFile_values (cfg : Nat) (now : Int) (buf0 : Bytes) (pre : List Rec) (tl : Bytes) (dc : Nat)
    (hw : ∀ x ∈ pre, WFRec x) (hb : OldOK buf0)
    (htl : EofTail tl) :
    (loadFile cfg now buf0 ⟨headerBytes ++ encodeRecs pre ++ tl, some ((encodeData pre).take dc)⟩).1 =
      live now (pre.take (valuePrefix pre dc)) ∧
    (loadFile cfg now buf0 ⟨headerBytes ++ encodeRecs pre ++ tl, some ((encodeData pre).take dc)⟩).2.1 =
      (if valuePrefix pre dc = pre.length then Stop.fileEnd else Stop.eof) := by
  unfold loadFile
  simp only [List.append_assoc]
  obtain ⟨r, hr, hs, hi⟩ := readHeader_ok (bufioCap (fileBufSize cfg)) (encodeRecs pre ++ tl)
  simp only [hr, Option.map_some]
  refine loadLoop_values now htl pre r _ dc buf0 _ hw hb hi hs (Rd.open_inv _ _) rfl ?_
  rw [List.length_append, List.length_append, encodeRecs_length pre (fun x hx => (hw x hx).1)]
  omega

theorem loadFile_boundary (cfg : Nat) (now : Int) (buf0 : Bytes) (pre : List Rec) (dc : Nat)
    (hw : ∀ x ∈ pre, WFRec x) (hb : OldOK buf0) :
    (loadFile cfg now buf0 ⟨encodeFile pre, some ((encodeData pre).take dc)⟩).1 = live now (pre.take (valuePrefix pre dc)) ∧
    (loadFile cfg now buf0 ⟨encodeFile pre, some ((encodeData pre).take dc)⟩).2.1 =
      (if valuePrefix pre dc = pre.length then Stop.fileEnd else Stop.eof) := by
  rw [← List.append_nil (encodeFile pre)]
  exact loadFile_values cfg now buf0 pre [] dc hw hb .nil

theorem loadFile_torn_values (cfg : Nat) (now : Int) (buf0 : Bytes) (pre : List Rec) (x : Rec) (res dc : Nat)
    (hw : ∀ y ∈ pre, WFRec y) (hx : WFBuf x.buf) (hb : OldOK buf0) (h64 : res < 64) :
    (loadFile cfg now buf0 ⟨headerBytes ++ encodeRecs pre ++ x.buf.take res, some ((encodeData pre).take dc)⟩).1 =
      live now (pre.take (valuePrefix pre dc)) ∧
    (loadFile cfg now buf0 ⟨headerBytes ++ encodeRecs pre ++ x.buf.take res, some ((encodeData pre).take dc)⟩).2.1 =
        (if valuePrefix pre dc = pre.length then Stop.fileEnd else Stop.eof) :=
  loadFile_values cfg now buf0 pre _ dc hw hb (.torn x.buf res hx h64)

/-- Cut inside the 12-byte header (1–11 bytes left): "no records", quietly — like the empty file. -/
theorem loadFile_header_cut (cfg : Nat) (now : Int) (buf0 f : Bytes) (dat : Option Bytes) (h0 : 0 < f.length) (h12 : f.length < 12) :
    loadFile cfg now buf0 ⟨f, dat⟩ = ([], Stop.eof, buf0) := by
  unfold loadFile
  simp [readHeader_short _ f h0 h12]

/-- Empty record file: nothing is loaded, quietly (io.EOF — `LoadAofFiles` also skips any files after it). -/
theorem loadFile_empty (cfg : Nat) (now : Int) (buf0 : Bytes) (dat : Option Bytes) :
    loadFile cfg now buf0 ⟨[], dat⟩ = ([], Stop.eof, buf0) := by
  unfold loadFile
  simp [readHeader_empty]

theorem load_eq (cfg : Nat) (now : Int) (f d : Bytes) :
    (load cfg now f d).1 = (loadFile cfg now (zeros 64) ⟨f, some d⟩).1 ∧
    ((load cfg now f d).2 = true ↔ (loadFile cfg now (zeros 64) ⟨f, some d⟩).2.1 ≠ Stop.err) := by
  unfold load loadFiles loadFilesFrom
  generalize loadFile cfg now (zeros 64) ⟨f, some d⟩ = res
  obtain ⟨rs, st, b⟩ := res
  cases st <;> simp [loadFilesFrom]

theorem cutLoop_values : ∀ (recs : List Rec) (tl : Bytes) (r dr : Rd) (dc : Nat) (buf : Bytes) (off doff fuel : Nat),
    (∀ x ∈ recs, WFRec x) → OldOK buf → r.Inv → r.s = encodeRecs recs ++ tl →
    (∀ r', r'.s = tl → r'.Inv → ∀ old, OldOK old → ∃ b, readLock r' old = .eof b) →
    dr.Inv → dr.s = (encodeData recs).take dc → recs.length < fuel →
    cutLoop fuel r (some dr) buf off doff =
      (if valuePrefix recs dc = recs.length then none
       else some (off + 64 * valuePrefix recs dc, doff + (encodeData (recs.take (valuePrefix recs dc))).length)) := by
  intro recs tl r dr dc buf off doff fuel hw hb hi hs htl hdi hds hf
  have hoff : ∀ {xb : Bytes} (off : Nat), WFBuf xb → off + 2 + le16 xb 0 = off + 64 := fun off h => by rw [h.le16]
  have hstep : ∀ off k, off + 64 + 64 * k = off + 64 * (k + 1) := fun off k => by omega
  revert off doff
  refine records_ind (P := fun recs r dr dc buf fuel => ∀ off doff,
      cutLoop fuel r (some dr) buf off doff = (if valuePrefix recs dc = recs.length then none
        else some (off + 64 * valuePrefix recs dc, doff + (encodeData (recs.take (valuePrefix recs dc))).length)))
    ?_ ?_ ?_ ?_ htl recs r dr dc buf fuel hw hb hi hs hdi hds hf
  · intro r dr dc buf f ⟨b, hb'⟩ off doff
    simp [cutLoop, hb', valuePrefix]
  · intro xb rs r r1 dr dc buf f hxb hrl hhd ih off doff
    simp only [cutLoop, hrl, hhd, Bool.false_eq_true, if_false, hoff _ hxb, ih, hstep, valuePrefix_none,
      List.take_succ_cons, List.length_cons, Nat.add_right_cancel_iff, encodeData_cons, Option.getD_none, List.nil_append]
  · intro xb v rs r r1 dr dr' dc buf f hxb hrl hhd hle hrd ih off doff
    simp only [cutLoop, hrl, hhd, if_true, hrd, hoff _ hxb, ih, hstep, valuePrefix_some xb rs hle, List.take_succ_cons,
      List.length_cons, Nat.add_right_cancel_iff, encodeData_cons, Option.getD_some, List.length_append, Nat.add_assoc]
  · intro xb v rs r r1 dr dc buf f hxb hrl hhd hle hrd off doff
    simp [cutLoop, hrl, hhd, hxb.le16, hrd, valuePrefix_short xb rs hle, encodeData]

/-- what the start-up leaves on disk: untouched when every value is there; otherwise exactly the records whose values are
complete and exactly their values -/
theorem startupFiles_cut (cfg : Nat) (buf0 : Bytes) (pre : List Rec) (tl : Bytes) (dc : Nat)
    (hw : ∀ x ∈ pre, WFRec x) (hb : OldOK buf0)
    (htl : ∀ r', r'.s = tl → r'.Inv → ∀ old, OldOK old → ∃ b, readLock r' old = .eof b) :
    startupFiles cfg buf0 (headerBytes ++ encodeRecs pre ++ tl) (some ((encodeData pre).take dc)) =
      (if valuePrefix pre dc = pre.length then (headerBytes ++ encodeRecs pre ++ tl, some ((encodeData pre).take dc))
       else (encodeFile (pre.take (valuePrefix pre dc)), some (encodeData (pre.take (valuePrefix pre dc))))) := by
  have hwb : ∀ x ∈ pre, WFBuf x.buf := fun x hx => (hw x hx).1
  have hlen10 : le16 (headerBytes ++ (encodeRecs pre ++ tl)) 10 = 0 := by simp [le16, byteAt, headerBytes, magic]
  obtain ⟨r, hr, hs, hi⟩ := readHeader_ok (bufioCap (fileBufSize cfg)) (encodeRecs pre ++ tl)
  unfold startupFiles
  rw [List.append_assoc, hr, hlen10]
  simp only [Option.map_some]
  rw [cutLoop_values pre tl r _ dc buf0 12 0 _ hw hb hi hs htl (Rd.open_inv _ _) rfl
    (by rw [List.length_append, List.length_append, encodeRecs_length pre hwb]; omega)]
  by_cases hv : valuePrefix pre dc = pre.length
  · rw [if_pos hv, if_pos hv]
  · rw [if_neg hv, if_neg hv]
    show ((headerBytes ++ encodeRecs pre ++ tl).take _, some (((encodeData pre).take dc).take _)) = _
    rw [take_records pre tl _ hwb (valuePrefix_le pre dc), Nat.zero_add, take_values]

end Slock.Aof
