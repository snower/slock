import Slock.Proofs.Engine2SimEnqShape
import Slock.Proofs.Engine2SimShape
import Slock.Proofs.Engine2QI
/-! Simulation stage 2 → stage 1: the filing of a request in the wait queue (`AddWaitLock`) keeps `KI` (the queue stays free of
duplicates) and the queue shape; the raw head afterwards is the filed request or the old head; nothing held is queued. -/
namespace Slock.Sim
open Slock Slock.Engine2
open Slock.Engine (has)

theorem waitPush_nodup (k : Key) (e : WEnt) (hn : (k.wait.map (·.rid)).Nodup) (hr : e.rid ∉ k.wait.map (·.rid)) :
    ((k.waitPush e).wait.map (·.rid)).Nodup := by
  cases hp : k.waitPrio with
  | true => rw [(waitPush_prio k e hp).1]; exact insertPrio_nodup k.wait e hn hr
  | false =>
    have happ : ∀ l : List WEnt, (l.map (·.rid)).Sublist (k.wait.map (·.rid)) → ((l ++ [e]).map (·.rid)).Nodup := by
      intro l hl
      rw [List.map_append]
      exact List.nodup_append.mpr ⟨hl.nodup hn, by simp, by intro a ha b hb; simp at hb; rw [hb]; intro e'; exact hr (hl.subset (e' ▸ ha))⟩
    rcases (waitPush_fifo k e hp).2 with h | h <;> rw [h]
    · exact happ k.wait (List.Sublist.refl _)
    · exact happ _ (List.Sublist.map _ List.filter_sublist)

theorem addWaitLock_nodup (k : Key) (rid : Nat) (hn : (k.wait.map (·.rid)).Nodup) (hr : rid ∉ k.wait.map (·.rid)) :
    ((k.addWaitLock rid).wait.map (·.rid)).Nodup := by
  rw [(addWaitLock_pre k rid).1]
  cases rePushes k rid with
  | true => exact waitPush_nodup k.rePush _ ((rePush_perm k).nodup_iff.mpr hn) (fun hm => hr ((rePush_perm k).mem_iff.mp hm))
  | false => exact waitPush_nodup k _ hn hr

theorem KI.addWaitLock {seq : Nat} {k : Key} (h : KI seq k) (rid : Nat) (hr : rid ∉ k.wait.map (·.rid)) : KI seq (k.addWaitLock rid) := by
  obtain ⟨_, a2, a3⟩ := addWaitLock_spec k rid
  exact h.of_pk_gen (by rw [a2, a3]; exact List.Sublist.refl _) (addWaitLock_nodup k rid h.nd hr) (PKeep.addWaitLock ins_πI k rid)

theorem prOf_dead (k : Key) (y : Nat) (h : ¬ k.hasRec y) : prOf k y = 0 := by
  unfold prOf; rw [getR_of_not_hasRec k y h]
  show Engine.cmdPriority (default : Engine.Cmd) = 0
  decide

theorem fifo_recached_le {k : Key} (h : QS k) (hl : HL k) (hp : k.waitPrio = false) (e0 : WEnt) (rest : List WEnt) (hw : k.wait = e0 :: rest) :
    ∀ x ∈ k.wait, prOf k x.rid ≤ prOf k e0.rid := by
  have h0 : k.hasRec e0.rid := hasRec_of_liveWaiter (hl e0 rest hw)
  have c0 := h.cch e0 (by rw [hw]; simp) h0
  intro x hx
  by_cases hh : k.hasRec x.rid
  · have := h.cch x hx hh
    have e := h.eqc hp x hx e0 (by rw [hw]; simp)
    omega
  · rw [prOf_dead k x.rid hh]; exact Nat.zero_le _

/-- the raw head is live, the rest of the queue is not in the holder queue: nothing held is queued -/
theorem holder_not_waiting {seq : Nat} {k : Key} (ki : KI seq k) (qs : QS k) (hl : HL k) (h : Nat) (hm : h ∈ k.current.toList ++ k.locks) :
    h ∉ k.wait.map (·.rid) := by
  intro hw
  obtain ⟨e, he, her⟩ := List.mem_map.mp hw
  cases hk : k.wait with
  | nil => rw [hk] at he; simp at he
  | cons e0 rest =>
    rw [hk] at he
    rcases List.mem_cons.mp he with h1 | h1
    · have hlive := hl e0 rest hk
      have := ki.ht h hm
      rw [← her, h1] at this
      unfold Key.deadWaiter at hlive
      rw [this] at hlive; exact absurd hlive (by simp)
    · exact qs.dj e (by rw [hk]; exact h1) (her ▸ hm)

theorem fifo_same_prio {k : Key} (h : QS k) (hl : HL k) (rid : Nat) (hr : rePushes k rid = false) (hp : k.waitPrio = false) :
    ∀ y ∈ k.wait, y.prio = Engine.cmdPriority (k.getR rid).cmd := by
  intro y hy
  cases hw : k.wait with
  | nil => rw [hw] at hy; simp at hy
  | cons e0 rest =>
    have hwd : k.waited = true := by
      cases hwd : k.waited with
      | true => rfl
      | false => have := h.emp hwd; rw [hw] at this; simp at this
    unfold rePushes at hr
    rw [hwd, hp, hw] at hr
    simp only [Bool.not_false, Bool.and_self, Bool.true_and, List.head?_cons, bne_eq_false_iff_eq] at hr
    have c0 := h.cch e0 (by rw [hw]; simp) (hasRec_of_liveWaiter (hl e0 rest hw))
    have := h.eqc hp y hy e0 (by rw [hw]; simp)
    unfold prOf at c0
    omega

theorem QS.enqueue {seq : Nat} {k : Key} (h : QS k) (hl : HL k) (ki : KI seq k) (rid : Nat)
    (hnh : rid ∉ k.current.toList ++ k.locks) : QS (k.addWaitLock rid) := by
  obtain ⟨_, a2, a3⟩ := addWaitLock_spec k rid
  have p2 := PKeep.addWaitLock ins_πCmd k rid
  have hold : ∀ y ∈ k.wait, y.rid ∉ k.current.toList ++ k.locks :=
    fun y hy hm => holder_not_waiting ki h hl y.rid hm (List.mem_map.mpr ⟨y, hy, rfl⟩)
  have hse : ((k.addWaitLock rid).waitPrio = true → Srt (k.addWaitLock rid).wait) ∧
      ((k.addWaitLock rid).waitPrio = false → ∀ e ∈ (k.addWaitLock rid).wait, ∀ e' ∈ (k.addWaitLock rid).wait, e.prio = e'.prio) := by
    refine addWaitLock_ind (P := fun l b => (b = true → Srt l) ∧ (b = false → ∀ e ∈ l, ∀ e' ∈ l, e.prio = e'.prio)) k rid
      (fun _ => ⟨fun _ => insertPrio_srt _ _ (foldl_insertPrio_srt _ [] (by unfold Srt; simp)), fun hf => absurd hf (by simp)⟩)
      (fun _ hp => ⟨fun _ => insertPrio_srt _ _ (h.srt hp), fun hf => absurd hf (by simp)⟩)
      (fun hr hp l hl' => ⟨fun hf => absurd hf (by simp), ?_⟩)
    have val : ∀ z ∈ l ++ [(⟨rid, Engine.cmdPriority (k.getR rid).cmd⟩ : WEnt)], z.prio = Engine.cmdPriority (k.getR rid).cmd := by
      intro z hz
      rcases List.mem_append.mp hz with h1 | h1
      · refine fifo_same_prio h hl rid hr hp z ?_
        rcases hl' with e | e <;> rw [e] at h1
        · exact h1
        · exact (List.mem_filter.mp h1).1
      · rw [show z = ⟨rid, Engine.cmdPriority (k.getR rid).cmd⟩ by simpa using h1]
    intro _ x hx x' hx'
    rw [val x hx, val x' hx']
  refine ⟨fun hf => by rw [addWaitLock_waited] at hf; exact absurd hf (by simp), hse.1, hse.2, fun x hx hh => ?_, fun x hx => ?_⟩
  · rw [show prOf (k.addWaitLock rid) x.rid = prOf k x.rid from congrArg Engine.cmdPriority (p2.val x.rid hh)]
    rcases addWaitLock_mem k rid x hx with h1 | ⟨y, hy, h1 | h1⟩
    · rw [h1]; rfl
    · rw [h1]; exact h.cch y hy (by rw [← h1]; exact p2.sub x.rid hh)
    · rw [h1]; rfl
  · rw [a2, a3]
    rcases addWaitLock_mem k rid x (List.mem_of_mem_tail hx) with h1 | ⟨y, hy, h1 | h1⟩
    · rw [h1]; exact hnh
    · rw [h1]; exact hold y hy
    · rw [h1]; exact hold y hy

theorem addWaitLock_head {k : Key} (h : QS k) (hl : HL k) (rid : Nat) (x : WEnt) (rest : List WEnt) (hw : (k.addWaitLock rid).wait = x :: rest) :
    x.rid = rid ∨ k.deadWaiter x.rid = false := by
  revert hw
  refine addWaitLock_ind (P := fun l _ => l = x :: rest → x.rid = rid ∨ k.deadWaiter x.rid = false) k rid
    (fun hr hw => ?_) (fun _ _ hw => ?_) (fun _ _ l hl' hw => ?_)
  · rcases insertPrio_head _ _ x rest hw with h1 | ⟨t, h1⟩
    · left; rw [h1]
    · right
      -- the re-sort keeps the live head in front
      have hm : k.waitPrio = false ∧ ∃ e0 r0, k.wait = e0 :: r0 := by
        unfold rePushes at hr
        cases hp : k.waitPrio with
        | true => rw [hp] at hr; simp at hr
        | false =>
          refine ⟨rfl, ?_⟩
          cases hw0 : k.wait with
          | nil => rw [hw0] at hr; simp at hr
          | cons e0 r0 => exact ⟨e0, r0, rfl⟩
      obtain ⟨hp, e0, r0, hw0⟩ := hm
      rw [hw0] at h1
      simp only [List.map_cons, List.foldl_cons] at h1
      rw [show insertPrio [] (recache k e0) = [recache k e0] from rfl] at h1
      obtain ⟨t', ht'⟩ := foldl_insertPrio_head (r0.map (recache k)) (recache k e0) [] (by
        intro z hz
        obtain ⟨y, hy, e⟩ := List.mem_map.mp hz
        rw [← e]
        exact fifo_recached_le h hl hp e0 r0 hw0 y (by rw [hw0]; exact List.mem_cons_of_mem _ hy))
      rw [ht'] at h1
      injection h1 with a _
      rw [← a]
      exact hl e0 r0 hw0
  · rcases insertPrio_head _ _ x rest hw with h1 | ⟨t, h1⟩
    · left; rw [h1]
    · right; exact hl x t h1
  · cases hl0 : l with
    | nil => rw [hl0] at hw; simp at hw; left; rw [← hw.1]
    | cons y ys =>
      rw [hl0] at hw
      injection hw with a _
      right; rw [← a]
      rcases hl' with e | e
      · exact hl y ys (e ▸ hl0)
      · have : y ∈ k.wait.filter (fun x => !k.deadWaiter x.rid) := by rw [← e, hl0]; simp
        simpa using (List.mem_filter.mp this).2

end Slock.Sim
