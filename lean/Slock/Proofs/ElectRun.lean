import Slock.Proofs.ElectCmp
/-!
`step_members` is the one case analysis of `step`: an event writes at most one entry of the member table, by an acceptor
move (`Acc`: one of the three handlers `handleVote` / `handleProposal` / `handleCommit`, a `Save`, or nothing) followed
by a proposer move (`Rec`: one request of a running phase finishes, or nothing), or by starting or restarting that member.

The central notion is the *pure acceptor*: a member that is never started as a candidate and never restarted in the
execution under consideration. It stays idle, so every step moves it by `AccRel` only: its numbers only grow and its
latch is never cleared.
-/
namespace Slock.Elect

theorem length_setM (ms : List Member) (i : Nat) (x : Member) : (setM ms i x).length = ms.length := by
  induction ms generalizing i with
  | nil => rfl
  | cons m ms ih => cases i with
    | zero => rfl
    | succ i => simp [setM, ih]

theorem getM_setM_eq (ms : List Member) (i : Nat) (x : Member) (h : i < ms.length) : getM (setM ms i x) i = x := by
  induction ms generalizing i with
  | nil => simp at h
  | cons m ms ih => cases i with
    | zero => rfl
    | succ i => simp only [setM, getM]; exact ih i (by simpa using h)

theorem getM_setM_ne (ms : List Member) (i j : Nat) (x : Member) (h : i ≠ j) : getM (setM ms j x) i = getM ms i := by
  induction ms generalizing i j with
  | nil => rfl
  | cons m ms ih =>
    cases j with
    | zero => cases i with
      | zero => exact absurd rfl h
      | succ i => rfl
    | succ j => cases i with
      | zero => rfl
      | succ i => simp only [setM, getM]; exact ih i j (by omega)

theorem getM_mem (ms : List Member) (i : Nat) (h : i < ms.length) : getM ms i ∈ ms := by
  induction ms generalizing i with
  | nil => simp at h
  | cons m ms ih => cases i with
    | zero => simp [getM]
    | succ i => simp only [getM]; exact List.mem_cons_of_mem _ (ih i (by simpa using h))

theorem mem_getM (ms : List Member) (m : Member) (h : m ∈ ms) : ∃ i, i < ms.length ∧ getM ms i = m := by
  induction ms with
  | nil => simp at h
  | cons a ms ih =>
    rcases List.mem_cons.mp h with h | h
    · exact ⟨0, by simp, by simp [getM, h]⟩
    · obtain ⟨i, hi, he⟩ := ih h
      exact ⟨i + 1, by simp; omega, by simp [getM, he]⟩

theorem filter_overlap (l : List Member) (p q : Member → Bool) :
    (l.filter p).length + (l.filter q).length ≤ l.length + (l.filter (fun m => p m && q m)).length := by
  induction l with
  | nil => simp
  | cons a l ih =>
    simp only [List.filter_cons, List.length_cons]
    cases hp : p a <;> cases hq : q a <;> simp <;> omega

inductive Acc (n j : Nat) (m : Member) : Member → Prop
  | none : Acc n j m m
  | save : Acc n j m { m with saved := m.cid }
  | vote : Acc n j m (handleVote j m).2
  | prop (k host aof) : Acc n j m (handleProposal n j m k host aof).2
  | commit (f k host) : Acc n j m (handleCommit n m f k host).2

inductive Rec (n j : Nat) (a : Member) : Member → Prop
  | none : Rec n j a a
  | vote (t r b) : Rec n j a (recordVote n j t a r b).1
  | prop (r b) : Rec n j a (recordProposal n j a r b).1
  | commit (r) : Rec n j a (recordCommit n j a r).1
  | error (msg) (h : a.phase = phaseOfMsg msg) : Rec n j a (recordError n j a).1

/-- what event `e` does to the member `j` whose entry it writes -/
inductive Move (n : Nat) (e : Event) (j : Nat) (m : Member) : Member → Prop
  | start (he : e = .start j) : Move n e j m { m with voteHost := none, voteAof := AofId.zero, phase := .vote, finished := unreachableCount n j m, responses := [], accepts := 0, isReject := false, started := true }
  | restart (he : e = .restart j) : Move n e j m (restartMember m)
  | handle {a x} (ha : Acc n j m a) (hx : Rec n j a x) : Move n e j m x

theorem step_members (s : State) (e : Event) : (step s e).1.members = s.members ∨
    ∃ j x, j < s.n ∧ (step s e).1.members = setM s.members j x ∧ Move s.n e j (getM s.members j) x := by
  cases e with
  | start c =>
    simp only [step]
    by_cases hc : c < s.n
    · rw [if_pos hc]
      by_cases hm : mayStart s.n c (getM s.members c) = true
      · rw [if_pos hm]; exact .inr ⟨c, _, hc, rfl, .start rfl⟩
      · rw [if_neg hm]; exact .inl rfl
    · rw [if_neg hc]; exact .inl rfl
  | restart c =>
    simp only [step]
    by_cases hc : c < s.n
    · rw [if_pos hc]; exact .inr ⟨c, _, hc, rfl, .restart rfl⟩
    · rw [if_neg hc]; exact .inl rfl
  | save c =>
    simp only [step]
    by_cases hc : c < s.n
    · rw [if_pos hc]; exact .inr ⟨c, _, hc, rfl, .handle .save .none⟩
    · rw [if_neg hc]; exact .inl rfl
  | deliverReq c t =>
    simp only [step]
    by_cases hct : c < s.n ∧ t < s.n
    · rw [if_pos hct]
      cases takeMsg true c t s.net with
      | none => exact .inl rfl
      | some p =>
        obtain ⟨msg, rest⟩ := p
        cases msg with
        | voteReq =>
          dsimp only
          by_cases h : t = c
          · subst h; rw [if_pos rfl]; exact .inr ⟨t, _, hct.1, rfl, .handle .vote (.vote ..)⟩
          · rw [if_neg h]; exact .inr ⟨t, _, hct.2, rfl, .handle .vote .none⟩
        | propReq =>
          dsimp only
          by_cases h : t = c
          · subst h; rw [if_pos rfl]; exact .inr ⟨t, _, hct.1, rfl, .handle (.prop ..) (.prop ..)⟩
          · rw [if_neg h]; exact .inr ⟨t, _, hct.2, rfl, .handle (.prop ..) .none⟩
        | commitReq =>
          dsimp only
          by_cases h : t = c
          · subst h; rw [if_pos rfl]; exact .inr ⟨t, _, hct.1, rfl, .handle (.commit ..) (.commit ..)⟩
          · rw [if_neg h]; exact .inr ⟨t, _, hct.2, rfl, .handle (.commit ..) .none⟩
        | _ => exact .inl rfl
    · rw [if_neg hct]; exact .inl rfl
  | deliverRep c t =>
    simp only [step]
    by_cases hct : c < s.n ∧ t < s.n
    · rw [if_pos hct]
      cases takeMsg false c t s.net with
      | none => exact .inl rfl
      | some p =>
        obtain ⟨msg, rest⟩ := p
        cases msg with
        | voteRep => exact .inr ⟨c, _, hct.1, rfl, .handle .none (.vote ..)⟩
        | propRep => exact .inr ⟨c, _, hct.1, rfl, .handle .none (.prop ..)⟩
        | commitRep => exact .inr ⟨c, _, hct.1, rfl, .handle .none (.commit ..)⟩
        | _ => exact .inl rfl
    · rw [if_neg hct]; exact .inl rfl
  | dropReq c t =>
    simp only [step]
    by_cases hct : c < s.n ∧ t < s.n ∧ t ≠ c
    · rw [if_pos hct]
      cases takeMsg true c t s.net with
      | none => exact .inl rfl
      | some p =>
        dsimp only
        by_cases h : (getM s.members c).phase = phaseOfMsg p.1
        · rw [if_pos h]; exact .inr ⟨c, _, hct.1, rfl, .handle .none (.error _ h)⟩
        · rw [if_neg h]; exact .inl rfl
    · rw [if_neg hct]; exact .inl rfl
  | dropRep c t =>
    simp only [step]
    by_cases hct : c < s.n ∧ t < s.n
    · rw [if_pos hct]
      cases takeMsg false c t s.net with
      | none => exact .inl rfl
      | some p =>
        dsimp only
        by_cases h : (getM s.members c).phase = phaseOfMsg p.1
        · rw [if_pos h]; exact .inr ⟨c, _, hct.1, rfl, .handle .none (.error _ h)⟩
        · rw [if_neg h]; exact .inl rfl
    · rw [if_neg hct]; exact .inl rfl

theorem step_length (s : State) (e : Event) : (step s e).1.members.length = s.members.length := by
  rcases step_members s e with h | ⟨j, x, _, h, _⟩ <;> rw [h]
  exact length_setM s.members j x

theorem step_member (s : State) (e : Event) (i : Nat) :
    Move s.n e i (getM s.members i) (getM (step s e).1.members i) := by
  rcases step_members s e with h | ⟨j, x, hj, h, hm⟩ <;> rw [h]
  · exact .handle .none .none
  · by_cases hij : i = j
    · subst hij; rw [getM_setM_eq _ _ _ hj]; exact hm
    · rw [getM_setM_ne _ _ _ _ hij]; exact .handle .none .none

theorem run_length (s : State) (es : List Event) : (run s es).members.length = s.members.length := by
  induction es generalizing s with
  | nil => rfl
  | cons e es ih => simp only [run]; rw [ih, step_length]

def AccRel (m m' : Member) : Prop :=
  m'.phase = m.phase ∧ m'.clears = m.clears ∧ m'.voteHost = m.voteHost ∧
  ( (m'.pid = m.pid ∧ m'.cid = m.cid ∧ m'.latch = m.latch ∧ m'.commits = m.commits)
  ∨ (m.latch = none ∧ m.pid < m'.pid ∧ m.cid < m'.pid ∧ m'.cid = m.cid ∧ m'.latch = none ∧ m'.commits = m.commits)
  ∨ (∃ h, m'.pid = m.pid ∧ m.cid < m.pid ∧ m'.cid = m.pid ∧ m'.latch = some h ∧ m'.commits = (m.pid, h) :: m.commits))

theorem AccRel.refl (m : Member) : AccRel m m := ⟨rfl, rfl, rfl, Or.inl ⟨rfl, rfl, rfl, rfl⟩⟩

theorem accRel_handleVote (self : Nat) (m : Member) : AccRel m (handleVote self m).2 := by
  unfold handleVote currentAof
  simp only []
  split <;> exact ⟨rfl, rfl, rfl, Or.inl ⟨rfl, rfl, rfl, rfl⟩⟩

theorem accRel_handleProposal (n self : Nat) (m : Member) (k host : Nat) (aof : AofId) :
    AccRel m (handleProposal n self m k host aof).2 := by
  rcases handleProposal_snd n self m k host aof with h | ⟨o, ho, h⟩ <;> rw [h]
  · exact AccRel.refl m
  · obtain ⟨h1, h2, h3, _⟩ := classifyProposal_ok ho
    exact ⟨rfl, rfl, rfl, Or.inr (Or.inl ⟨h1, h2, h3, rfl, h1, rfl⟩)⟩

theorem accRel_handleCommit (n : Nat) (m : Member) (f k host : Nat) :
    AccRel m (handleCommit n m f k host).2 := by
  rcases handleCommit_snd n m f k host with h | ⟨ho, h⟩ <;> rw [h]
  · exact AccRel.refl m
  · obtain ⟨_, rfl, h2⟩ := classifyCommit_ok ho
    exact ⟨rfl, rfl, rfl, Or.inr (Or.inr ⟨host, rfl, h2, rfl, rfl, rfl⟩)⟩

theorem phaseOfMsg_ne_idle (msg : Msg) : Phase.idle ≠ phaseOfMsg msg := by
  cases msg <;> simp [phaseOfMsg]

theorem Acc.accRel {n j : Nat} {m a : Member} (h : Acc n j m a) : AccRel m a := by
  cases h with
  | none | save => exact AccRel.refl m
  | vote => exact accRel_handleVote j m
  | prop k host aof => exact accRel_handleProposal n j m k host aof
  | commit f k host => exact accRel_handleCommit n m f k host

theorem Rec.idle {n j : Nat} {a x : Member} (h : Rec n j a x) (hi : a.phase = .idle) : x = a := by
  cases h with
  | none => rfl
  | vote => unfold recordVote; simp [hi]
  | prop => unfold recordProposal; simp [hi]
  | commit => unfold recordCommit; simp [hi]
  | error msg h => exact absurd (hi ▸ h) (phaseOfMsg_ne_idle msg)

theorem Move.accRel {n j : Nat} {e : Event} {m x : Member} (h : Move n e j m x)
    (hidle : m.phase = .idle) (hs : e ≠ .start j) (hr : e ≠ .restart j) : AccRel m x := by
  cases h with
  | start he => exact absurd he hs
  | restart he => exact absurd he hr
  | handle ha hx => rw [hx.idle (ha.accRel.1.trans hidle)]; exact ha.accRel

def PureAcceptor (i : Nat) (es : List Event) : Prop := ∀ e ∈ es, e ≠ .start i ∧ e ≠ .restart i

theorem AccRel.mono {m m' : Member} (h : AccRel m m') : m.pid ≤ m'.pid ∧ m.cid ≤ m'.cid := by
  obtain ⟨_, _, _, h⟩ := h
  rcases h with ⟨h1, h2, _, _⟩ | ⟨_, h2, _, h4, _, _⟩ | ⟨x, h1, h2, h3, _, _⟩ <;> omega

theorem run_pure {P : Member → Prop} (hP : ∀ m m', AccRel m m' → P m → P m') (es : List Event) :
    ∀ (s : State) (i : Nat), PureAcceptor i es → (getM s.members i).phase = .idle → P (getM s.members i) →
    (getM (run s es).members i).phase = .idle ∧ P (getM (run s es).members i) := by
  induction es with
  | nil => intro s i _ h hp; exact ⟨h, hp⟩
  | cons e es ih =>
    intro s i hp hidle h0
    have he := hp e (by simp)
    have hstep := (step_member s e i).accRel hidle he.1 he.2
    exact ih (step s e).1 i (fun x hx => hp x (by simp [hx])) (hstep.1.trans hidle) (hP _ _ hstep h0)

/-- quorum intersection -/
theorem majorities_intersect (ms : List Member) (a b : Nat × Nat)
    (ha : (ms.filter (fun m => m.commits.contains a)).length ≥ voteMajority ms.length)
    (hb : (ms.filter (fun m => m.commits.contains b)).length ≥ voteMajority ms.length) :
    ∃ i, i < ms.length ∧ a ∈ (getM ms i).commits ∧ b ∈ (getM ms i).commits := by
  have h := filter_overlap ms (fun m => m.commits.contains a) (fun m => m.commits.contains b)
  unfold voteMajority at ha hb
  have hpos : 0 < (ms.filter (fun m => m.commits.contains a && m.commits.contains b)).length := by omega
  obtain ⟨m, hm⟩ := List.exists_mem_of_length_pos hpos
  rw [List.mem_filter] at hm
  obtain ⟨hm1, hm2⟩ := hm
  simp only [Bool.and_eq_true, List.contains_iff_mem] at hm2
  obtain ⟨i, hi, hie⟩ := mem_getM ms m hm1
  exact ⟨i, hi, by rw [hie]; exact hm2.1, by rw [hie]; exact hm2.2⟩

end Slock.Elect
