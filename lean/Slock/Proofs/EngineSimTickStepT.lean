import Slock.Proofs.EngineSimTickFold
import Slock.Proofs.EngineSimTickPend
import Slock.Proofs.EngineSimTickCongr
/-! Clock-tick simulation (`sim_tick`): ONE step of each phase of the timeout sweep (`timeoutStep true`, `timeoutStep false`,
`fireTimeoutStep`) on the record level against stage 1's step, as a step of the relation its fold carries. -/
namespace Slock.SimTick
open Slock Slock.Sim Slock.Engine2

/-- stage 1 still has the request `v` queued, under the key its command names -/
def atT (a : Engine.DB) (v : Engine.Waiter) : Prop := v ∈ (a.getKey v.cmd.key).waiters

/-- `PassR` of the timeout wheel: pairing `PT`, a dead entry is one whose record is tombstoned or gone -/
abbrev PassT := PassR PT (fun s e => liveT s e = false) atT

/-- a pending entry whose request stage 1 still has is live, and its view is that request (up to the `long` flag) -/
theorem pend_liveT {s : DB} {a : Engine.DB} {S : List WId} {e : Ent} {v : Engine.Waiter} (sy : WF s) (i1 : I1 a)
    (he : EqL S (Engine2.abs s) a) (pt : PT s e v) (hv : atT a v) : liveT s e = true ∧ viewT s e = clr S e.key v := by
  have ek : Key.abs (s.getKey e.key) = clrK S (a.getKey e.key) := (abs_getKey s sy.dbq.dbt.dbi.kn e.key).symm.trans (he.keys e.key)
  have hm : clr S e.key v ∈ (Key.abs (s.getKey e.key)).waiters := by
    rw [ek, clrK_waiters, Engine.getKey_key]
    exact List.mem_map.mpr ⟨v, pt.key ▸ hv, rfl⟩
  have hrc : rcOf (clr S e.key v) = rcOf v := rcW_clr S e.key v
  cases hl : liveT s e with
  | false => exact absurd hrc (pt.dead hl _ hm)
  | true =>
    exact ⟨rfl, nodup_map_inj rcOf _ (k1_of_eql sy he i1 e.key).wu
      (liveT_mem sy.dbkt hl) hm ((pt.live hl).trans hrc.symm)⟩

theorem rearmWaiter_at {a : Engine.DB} {v w : Engine.Waiter} (hv : atT a v) (hne : v.cmd.key = w.cmd.key → rcOf v ≠ rcOf w) :
    atT (Engine.rearmWaiter a w) v := by
  unfold atT at hv ⊢
  rw [rearmWaiter_eq]
  by_cases e : v.cmd.key = w.cmd.key
  · have hk : (mapW (a.getKey w.cmd.key) w (rearmW a.tCheck a.seq w)).key = v.cmd.key := (Engine.getKey_key a w.cmd.key).trans e.symm
    rw [← hk, Sim.getKey_setKey_same, mapW_eq]
    refine List.mem_map.mpr ⟨v, e ▸ hv, ?_⟩
    unfold replW
    rw [if_neg (mt (rc_match v w).mp (hne e))]
  · rw [Sim.getKey_setKey_other _ _ _ (by show v.cmd.key ≠ (a.getKey w.cmd.key).key; rw [Engine.getKey_key]; exact e)]
    exact hv

theorem pendT_ne {s : DB} {a : Engine.DB} {S : List WId} {e e' : Ent} {v v' : Engine.Waiter} (sy : WF s) (i1 : I1 a)
    (he : EqL S (Engine2.abs s) a) (pt : PT s e v) (hv : atT a v) (pt' : PT s e' v') (hv' : atT a v') (hne : eid e' ≠ eid e) :
    v'.cmd.key = v.cmd.key → rcOf v' ≠ rcOf v := by
  intro hk hrc
  obtain ⟨hl, _⟩ := pend_liveT sy i1 he pt hv
  obtain ⟨hl', _⟩ := pend_liveT sy i1 he pt' hv'
  have hkey : e'.key = e.key := by rw [← pt.key, ← pt'.key]; exact hk
  apply hne
  have hrid : e'.rid = e.rid := by
    refine live_rid_unique (sy.dbkt.getKey e.key) (k1_of_eql sy he i1 e.key).wu (hkey ▸ hasRec_of_liveT hl') (hkey ▸ (liveT_iff s e').mp hl')
      (hasRec_of_liveT hl) ((liveT_iff s e).mp hl) ?_
    have h1 := pt'.live hl'
    unfold viewT at h1
    rw [hkey] at h1
    exact (h1.trans hrc).trans (pt.live hl).symm
  unfold eid; rw [hkey, hrid]

theorem deadT_visit {S : List WId} {e : Ent} {todo : List (Ent × Option Engine.Waiter)} {s : DB} {a : Engine.DB} {C2 : List Ent} {C1 : List Engine.Waiter}
    (h : PassT S ((e, none) :: todo) (s, C2) (a, C1)) (slot : Bool) : PassT S todo (timeoutStep slot (s, C2) e) (a, C1) := by
  have hk1 := k1_of_eql h.wf h.eq h.i1
  have hd : liveT s e = false := h.pend _ (List.mem_cons_self ..)
  obtain ⟨w', hv, e1⟩ := sim_visitT_stutter s h.wf.dbq h.wf.dbk e.key e.rid slot (hk1 e.key) (Or.inr ((liveT_false_iff s e).mp hd))
  have hs' := timeoutStep_wf slot s C2 e h.wf
  have F := timeoutStep_wfd slot s C2 e h.wf.dbq
  have hstep : timeoutStep slot (s, C2) e = (w'.commit, C2) := by unfold timeoutStep; simp only [hv]
  rw [hstep] at hs' F ⊢
  exact h.next hs' h.i1 (EqL.left e1 h.eq) (fun e' w => pt_step F (h.wf.dbkt.getKey e'.key) (hk1 e'.key).wu) (fun _ => deadT_step F)
    (fun _ _ _ _ hv => hv)

/-- **one step of pass 1 (slot entries)**: a tombstoned entry dropped; a live request re-armed in both models, or collected in both -/
theorem slotT_step (p : Ent × Option Engine.Waiter) (todo : List (Ent × Option Engine.Waiter)) (x2 : DB × List Ent) (x1 : Engine.DB × List Engine.Waiter)
    (h : PassT [] (p :: todo) x2 x1) : PassT [] todo (timeoutStep true x2 p.1) (optStep Engine.timeoutStep x1 p.2) := by
  obtain ⟨s, C2⟩ := x2
  obtain ⟨a, C1⟩ := x1
  obtain ⟨e, o⟩ := p
  cases o with
  | none => exact deadT_visit h true
  | some v =>
    have he := h.eq.equiv
    have hk1 := k1_of_eql h.wf h.eq h.i1
    obtain ⟨pt, hv1⟩ : PT s e v ∧ atT a v := h.pend _ (List.mem_cons_self ..)
    obtain ⟨hl, hview⟩ := pend_liveT h.wf h.i1 h.eq pt hv1
    rw [clr_nil] at hview
    subst hview
    have hT := hasT_of_liveT h.wf.dbkt hl
    have hl' := (liveT_iff s e).mp hl
    show PassT [] todo _ (Engine.timeoutStep (a, C1) (viewT s e))
    by_cases hdue : ((s.getKey e.key).getR e.rid).timeoutT > s.now
    · obtain ⟨hv, e1⟩ := sim_rearmT s h.wf.dbq h.wf.dbk h.wf.dbkt e.key e.rid (hk1 e.key) hT hl' hdue
      have h1 : Engine.timeoutStep (a, C1) (viewT s e) = (Engine.rearmWaiter a (viewT s e), C1) := by
        unfold Engine.timeoutStep
        have : (viewT s e).timeoutT > a.now := by rw [← he.now]; exact hdue
        simp only [this, if_true]
      have hs' := timeoutStep_wf true s C2 e h.wf
      have F := timeoutStep_wfd true s C2 e h.wf.dbq
      have hstep : timeoutStep true (s, C2) e = ((((s.openKey e.key).modR e.rid bumpT).addTimeOut e.rid).commit, C2) := by
        unfold timeoutStep; simp only [hv]
      rw [hstep] at hs' F ⊢
      rw [h1]
      refine h.next hs' (h.i1.rearmW (Engine.mem_getKey_waiters hv1) (he.now ▸ hdue))
        (EqL.of_equiv (e1.trans (rearmWaiter_congr he _)))
        (fun e' w => pt_step F (h.wf.dbkt.getKey e'.key) (hk1 e'.key).wu) (fun _ => deadT_step F) fun q hq v' hq2 hv' => ?_
      have hpq := h.pend q (List.mem_cons_of_mem _ hq)
      unfold Matched at hpq
      rw [hq2] at hpq
      refine rearmWaiter_at hv' (pendT_ne h.wf h.i1 h.eq pt hv1 hpq.1 hv' fun hc => ?_)
      exact (List.nodup_cons.mp h.nd).1 (List.mem_map.mpr ⟨q, hq, hc⟩)
    · have hv : (s.openKey e.key).visitTimeout true e.rid = none := by
        rw [visitT_live_cases (s.openKey e.key) true e.rid hT hl']
        have : ¬ (((s.openKey e.key).k.getR e.rid).timeoutT > (s.openKey e.key).db.now) := hdue
        simp [this]
      have h1 : Engine.timeoutStep (a, C1) (viewT s e) = (a, C1 ++ [viewT s e]) := by
        unfold Engine.timeoutStep
        have : ¬ ((viewT s e).timeoutT > a.now) := by rw [← he.now]; exact hdue
        simp only [this, if_false]
      have hstep : timeoutStep true (s, C2) e = (s, C2 ++ [e]) := by unfold timeoutStep; simp only [hv, if_true]
      rw [hstep, h1]
      exact (h.next h.wf h.i1 h.eq (fun _ _ hp => hp) (fun _ hd => hd) (fun _ _ _ _ hv => hv)).collect pt

/-- the collected requests name the requests whose `long` flag only the record level has cleared -/
def Names (S : List WId) (C1 : List Engine.Waiter) : Prop := ∀ i ∈ S, ∃ w ∈ C1, rcId w.cmd.key w = i

/-- the long-table pass and the firing phase: `S` of `EqL S` hidden, every name in it among the collected / the pending requests -/
def PassTN (todo : List (Ent × Option Engine.Waiter)) (x2 : DB × List Ent) (x1 : Engine.DB × List Engine.Waiter) : Prop :=
  ∃ S, PassT S todo x2 x1 ∧ Names S x1.2
def FireTN (todo : List (Ent × Engine.Waiter)) (x2 : DB × List Reply) (x1 : Engine.DB × List Engine.Reply) : Prop :=
  ∃ S, FireR PT S todo x2 x1 ∧ Names S (todo.map (·.2))

/-- **one step of the long-table pass**: a tombstoned entry dropped; a live request taken in hand (`collectT`), stage 1 does nothing -/
theorem longT_step (p : Ent × Option Engine.Waiter) (todo : List (Ent × Option Engine.Waiter)) (x2 : DB × List Ent) (x1 : Engine.DB × List Engine.Waiter)
    (h : PassTN (p :: todo) x2 x1) : PassTN todo (timeoutStep false x2 p.1) (optStep (fun acc v => (acc.1, acc.2 ++ [v])) x1 p.2) := by
  obtain ⟨S, h, hS⟩ := h
  obtain ⟨s, C2⟩ := x2
  obtain ⟨a, C1⟩ := x1
  obtain ⟨e, o⟩ := p
  cases o with
  | none => exact ⟨S, deadT_visit h false, hS⟩
  | some v =>
    have hk1 := k1_of_eql h.wf h.eq h.i1
    obtain ⟨pt, hv1⟩ : PT s e v ∧ atT a v := h.pend _ (List.mem_cons_self ..)
    obtain ⟨hl, hview⟩ := pend_liveT h.wf h.i1 h.eq pt hv1
    have hT := hasT_of_liveT h.wf.dbkt hl
    have hl' := (liveT_iff s e).mp hl
    have hs' := timeoutStep_wf false s C2 e h.wf
    have F := timeoutStep_wfd false s C2 e h.wf.dbq
    have hv : (s.openKey e.key).visitTimeout false e.rid = none := by
      rw [visitT_live_cases (s.openKey e.key) false e.rid hT hl']
      simp
    have e1 := sim_collectT s h.wf.dbq h.wf.dbk h.wf.dbkt e.key e.rid (hk1 e.key) hT hl'
    have hstep : timeoutStep false (s, C2) e = (((s.openKey e.key).collectT e.rid).commit, C2 ++ [e]) := by
      unfold timeoutStep; simp only [hv, Bool.false_eq_true, if_false]
    rw [hstep] at hs' F ⊢
    have hid : rcId e.key (waiterOf (s.getKey e.key) e.rid) = rcId v.cmd.key v := by
      show rcId e.key (viewT s e) = _
      rw [hview, rcId_clr, pt.key]
    rw [hid] at e1
    refine ⟨rcId v.cmd.key v :: S, ((h.next hs' h.i1 (EqL.comp e1 h.eq) (fun e' w => pt_step F (h.wf.dbkt.getKey e'.key) (hk1 e'.key).wu)
      (fun _ => deadT_step F) (fun _ _ _ _ hv => hv)).collect (pt_step F (h.wf.dbkt.getKey e.key) (hk1 e.key).wu pt) : PassT _ todo (_, C2 ++ [e]) (a, C1 ++ [v])), ?_⟩
    intro i hi
    show ∃ w ∈ C1 ++ [v], _
    rcases List.mem_cons.mp hi with hi | hi
    · exact ⟨v, by simp, hi.symm⟩
    · obtain ⟨w, hw, ew⟩ := hS i hi
      exact ⟨w, List.mem_append_left _ hw, ew⟩

theorem fireT_step_abs (s : DB) (o2 : List Reply) (e0 : Ent) (w0 : Engine.Waiter) (sy : WF s) (k1 : K1 (s.getKey e0.key)) (pt : PT s e0 w0) :
    Equiv (Engine2.abs (fireTimeoutStep (s, o2) e0).1) (Engine.fireTimeoutStep (Engine2.abs s, o2.map (·.r)) w0).1 ∧
    (fireTimeoutStep (s, o2) e0).2.map (·.r) = (Engine.fireTimeoutStep (Engine2.abs s, o2.map (·.r)) w0).2 := by
  unfold fireTimeoutStep Engine.fireTimeoutStep
  simp only []
  rw [pt.key, abs_getKey s sy.dbq.dbt.dbi.kn e0.key]
  cases hl : liveT s e0 with
  | true =>
    have hT := hasT_of_liveT sy.dbkt hl
    have hl' := (liveT_iff s e0).mp hl
    have hmem := liveT_mem sy.dbkt hl
    rw [find_unique rcOf _ (rcOf w0) (fun x => rc_match x w0) _ _ hmem k1.wu (pt.live hl)]
    obtain ⟨e1, e2⟩ := sim_fireT_live s sy.dbq sy.dbk sy.dbkt e0.key e0.rid k1 hT hl'
    simp only []
    exact ⟨e1, by rw [List.map_append, e2]; rfl⟩
  | false =>
    have hnone : (Key.abs (s.getKey e0.key)).waiters.find? (fun x => x.cmd.req == w0.cmd.req && x.conn == w0.conn) = none :=
      List.find?_eq_none.mpr fun v hv hc => pt.dead hl v hv ((rc_match v w0).mp hc)
    rw [hnone]
    obtain ⟨e1, e2⟩ := sim_fireT_stutter s sy.dbq sy.dbk e0.key e0.rid k1 (Or.inr ((liveT_false_iff s e0).mp hl))
    simp only []
    exact ⟨e1, by rw [e2]; simp⟩

/-- **one firing step**: the entry of a request that is not queued any more dropped, stage 1 finds no such request either; a live
request timed out in both models -/
theorem fireT_step (p : Ent × Engine.Waiter) (todo : List (Ent × Engine.Waiter)) (x2 : DB × List Reply) (x1 : Engine.DB × List Engine.Reply)
    (h : FireTN (p :: todo) x2 x1) : FireTN todo (fireTimeoutStep x2 p.1) (Engine.fireTimeoutStep x1 p.2) := by
  obtain ⟨S, h, hS⟩ := h
  obtain ⟨s, o2⟩ := x2
  obtain ⟨a, o1⟩ := x1
  obtain ⟨e0, w0⟩ := p
  have hk1 := k1_of_eql h.wf h.eq h.i1
  obtain ⟨a1, a2⟩ := fireT_step_abs s o2 e0 w0 h.wf (hk1 e0.key) (h.pend _ (List.mem_cons_self ..))
  have ho : o2.map (·.r) = o1 := h.out
  rw [ho] at a1 a2
  obtain ⟨b3, b2⟩ := fireTimeoutStep_eqL_shrink (x := (Engine2.abs s, o1)) (y := (a, o1)) h.eq rfl w0 h.i1.s3.wu
  have F := fireTimeoutStep_wfd s o2 e0 h.wf.dbq
  exact ⟨_, ⟨fireTimeoutStep_wf s o2 e0 h.wf, fireTimeoutStep_i1 (a, o1) w0 h.i1, EqL.left a1 b3, a2.trans b2,
    fun q hq => pt_step F (h.wf.dbkt.getKey q.1.key) (hk1 q.1.key).wu (h.pend q (List.mem_cons_of_mem _ hq))⟩, names_tail hS⟩

end Slock.SimTick
