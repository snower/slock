import Slock.Proofs.QueueOps
/-! Maintenance operations of the segmented deque: Reset / Rellac ≙ clear, freeQueue ≙ identity, `Shrink` inside its precondition. -/
namespace Slock.Queue

@[simp] theorem detach_queues (q : Q) (i : Nat) : (detach q i).queues = q.queues := by
  unfold detach; split <;> (try split) <;> rfl
@[simp] theorem detach_sizes (q : Q) (i : Nat) : (detach q i).sizes = q.sizes := by
  unfold detach; split <;> (try split) <;> rfl
@[simp] theorem detach_nodeIndex (q : Q) (i : Nat) : (detach q i).nodeIndex = q.nodeIndex := by
  unfold detach; split <;> (try split) <;> rfl
@[simp] theorem detach_nodeSize (q : Q) (i : Nat) : (detach q i).nodeSize = q.nodeSize := by
  unfold detach; split <;> (try split) <;> rfl
@[simp] theorem detach_baseNodeSize (q : Q) (i : Nat) : (detach q i).baseNodeSize = q.baseNodeSize := by
  unfold detach; split <;> (try split) <;> rfl

theorem detach_eq_self (q : Q) (i : Nat) (h1 : q.headQueue ≠ .node i) (h2 : q.tailQueue ≠ .node i) : detach q i = q := by
  unfold detach; split
  · simp [h1, h2]
  · rfl

theorem freeNode_eq (q : Q) (i : Nat) (hi : i < q.queues.length) (hs : i < q.sizes.length) :
    freeNode q i = .ok { detach q i with queues := q.queues.set i none, sizes := q.sizes.set i 0 } := by
  simp [freeNode, setSlot, setSize, hi, hs]

theorem TInv.freeLast {q q' : Q} (t : TInv q) (h1 : 1 ≤ q.nodeIndex)
    (hQ : q'.queues = q.queues.set q.nodeIndex none) (hS : q'.sizes = q.sizes.set q.nodeIndex 0)
    (hni : q'.nodeIndex = q.nodeIndex - 1) (hns : q'.nodeSize = q.nodeSize) (hb : q'.baseNodeSize = q.baseNodeSize) :
    TInv q' := by
  obtain ⟨ns, k, T⟩ := t
  obtain ⟨ns', n, rfl⟩ : ∃ ns' n, ns = ns' ++ [n] := by
    rcases List.eq_nil_or_concat ns with e | ⟨l, b, e⟩
    · have := T.ni; rw [e] at this; cases this
    · exact ⟨l, b, by rw [e, List.concat_eq_append]⟩
  have hl : ns'.length = q.nodeIndex := by have := T.ni; rw [List.length_append] at this; exact Nat.succ.inj this
  refine ⟨ns', k + 1, ?_, ?_, by rw [hl, hni]; omega, ?_, fun m hm => T.bnd m (List.mem_append_left _ hm), hb ▸ T.base⟩
  · rw [hQ, shape_set, T.shp, ← hl, ← List.length_map (f := some), List.map_append, List.append_assoc]
    exact set_length_append_cons _ _ _ _
  · rw [hS, T.szs, ← hl, List.append_assoc]
    exact set_length_append_cons _ _ _ _
  · rw [hns, T.cap, List.length_append, List.length_singleton, Nat.add_assoc, Nat.add_comm 1 k]

theorem dropLoop_TInv (base : Nat) (hb : 1 ≤ base) (fuel : Nat) (q : Q) (t : TInv q) :
    ∃ q', dropLoop base fuel q = .ok q' ∧ TInv q' := by
  induction fuel generalizing q with
  | zero => exact ⟨q, rfl, t⟩
  | succ fuel ih =>
    unfold dropLoop
    by_cases c : q.nodeIndex ≥ base
    · obtain ⟨a, ha, hsz, _⟩ := t.node (Nat.le_refl q.nodeIndex)
      have hq := (List.getElem?_eq_some_iff.mp ha).1
      have hs := (List.getElem?_eq_some_iff.mp hsz).1
      have h0 : ¬ q.nodeIndex = 0 := by omega
      simp only [c, if_true, freeNode_eq q _ hq hs, Res.ok_bind, detach_nodeIndex, h0, if_false]
      exact ih _ (t.freeLast (by omega) (by simp) (by simp) (by simp) (by simp) (by simp))
    · simp only [c, if_false]; exact ⟨q, rfl, t⟩

theorem TInv.rewound {q : Q} (t : TInv q) (qs : Int) (hq1 : 0 < qs) (hq2 : qs < 1073741824) (r : Nat) :
    ∃ a, q.queues[0]? = some (some a) ∧ q.sizes[0]? = some a.length ∧
      QInv { q with queueSize := qs, hni := 0, hqi := 0, headQueue := .node 0, tailQueue := .node 0, tni := 0, tqi := 0,
                    hqs := a.length, tqs := a.length, rellac := r } := by
  obtain ⟨a, ha, hsz, hpos, _⟩ := t.node (Nat.zero_le q.nodeIndex)
  exact ⟨a, ha, hsz, .of (t.congr rfl rfl rfl rfl rfl) ⟨rfl, hsz, hpos⟩ ⟨rfl, hsz, hpos⟩ (Nat.le_refl _) (Nat.zero_le _)
    (fun _ => Nat.le_refl _) hq1 hq2⟩

theorem abs_rewound (L : List (Option Arr)) : absL L 0 0 0 0 = [] := by
  simp [absL, off, F]

theorem reset_spec {q : Q} (h : QInv q) : ∃ q', reset q = .ok q' ∧ QInv q' ∧ abs q' = [] ∧ HeadClean q' := by
  obtain ⟨q1, e1, t1⟩ := dropLoop_TInv q.baseNodeSize h.base (q.nodeIndex + 1) q h.toTInv
  obtain ⟨b, _, hb, hb1, hb2, _⟩ := t1.node (Nat.le_refl q1.nodeIndex)
  obtain ⟨a, ha, hsz, hq⟩ := t1.rewound (b.length : Int) (by omega) (by omega) 0
  refine ⟨_, ?_, hq, abs_rewound _, HeadClean_origin rfl rfl⟩
  simp only [reset, e1, Res.ok_bind, size, hb, rewind, mkRef, ha, hsz, Res.pure_eq]

theorem rellac_spec {q : Q} (h : QInv q) : ∃ q', rellac q = .ok q' ∧ QInv q' ∧ abs q' = [] ∧ HeadClean q' := by
  unfold rellac
  by_cases c : q.rellac ≥ q.tni
  · simp only [c, if_true]
    generalize hb : (if (q.rellac : Int) + Int.tdiv ((q.nodeIndex : Int) - (q.rellac : Int)) 2 < (q.baseNodeSize : Int)
        then (q.baseNodeSize : Int) else (q.rellac : Int) + Int.tdiv ((q.nodeIndex : Int) - (q.rellac : Int)) 2) = b
    have hb1 : 1 ≤ b.toNat := by
      have := h.base
      rw [← hb]; split <;> omega
    obtain ⟨q1, e1, t1⟩ := dropLoop_TInv b.toNat hb1 (q.nodeIndex + 1) q h.toTInv
    obtain ⟨b, _, hb, hb1, hb2, _⟩ := t1.node (Nat.le_refl q1.nodeIndex)
    obtain ⟨a, ha, hsz, hq⟩ := t1.rewound (b.length : Int) (by omega) (by omega) q1.tni
    refine ⟨_, ?_, hq, abs_rewound _, HeadClean_origin rfl rfl⟩
    simp only [e1, Res.ok_bind, size, hb, rewind, mkRef, ha, hsz, Res.pure_eq]
  · obtain ⟨a, ha, hsz, hq⟩ := h.toTInv.rewound q.queueSize h.qsPos h.qsLt q.tni
    refine ⟨_, ?_, hq, abs_rewound _, HeadClean_origin rfl rfl⟩
    simp only [c, if_false, Res.ok_bind, rewind, mkRef, ha, size, hsz, Res.pure_eq]

theorem QInv.set_behind {q : Q} (h : QInv q) {i : Nat} (hi : q.tni < i) (s : Option Arr) :
    absL (q.queues.set i s) q.hni q.hqi q.tni q.tqi = abs q ∧
      (HeadClean q → cleanL (q.queues.set i s) q.hni q.hqi) := by
  obtain ⟨p1, p2, _⟩ := h.pos
  have hp : (q.queues.set i s).take (q.tni + 1) = q.queues.take (q.tni + 1) := List.take_set_of_le hi
  exact ⟨absL_prefix hp (Nat.le_succ_of_le h.hle) (Nat.le_succ _) (Nat.le_of_lt p2),
    cleanL_prefix hp (Nat.le_succ_of_le h.hle) (Nat.le_trans p1 (Nat.le_of_lt p2))⟩

theorem QInv.freeLast {q : Q} (h : QInv q) (hlt : q.tni < q.nodeIndex) :
    ∃ n : Nat, q.sizes[q.nodeIndex - 1]? = some n ∧
      QInv { q with queues := q.queues.set q.nodeIndex none, sizes := q.sizes.set q.nodeIndex 0,
                    nodeIndex := q.nodeIndex - 1, queueSize := (n : Int) } := by
  obtain ⟨b, _, hb, hb1, hb2, _⟩ := h.node (Nat.sub_le q.nodeIndex 1)
  have hle := h.hle
  exact ⟨b.length, hb, .of (h.toTInv.freeLast (by omega) rfl rfl rfl rfl rfl)
    (h.headCur.congr (List.getElem?_set_ne (by omega))) (h.tailCur.congr (List.getElem?_set_ne (by omega)))
    hle (by show q.tni ≤ q.nodeIndex - 1; omega) h.ord (by show (0 : Int) < b.length; omega)
    (by show (b.length : Int) < 1073741824; omega)⟩

theorem freeLoop_spec (t : Nat) (fuel : Nat) (q : Q) (h : QInv q) (ht : q.tni ≤ t) :
    ∃ q', freeLoop t fuel q = .ok q' ∧ QInv q' ∧ abs q' = abs q ∧ (HeadClean q → HeadClean q') := by
  induction fuel generalizing q with
  | zero => exact ⟨q, rfl, h, rfl, id⟩
  | succ fuel ih =>
    unfold freeLoop
    by_cases c : q.nodeIndex > t
    · have hq : q.nodeIndex < q.queues.length := by rw [h.lenQ']; exact h.niLt
      have hs : q.nodeIndex < q.sizes.length := by rw [h.lenS]; exact h.niLt
      have hd : detach q q.nodeIndex = q := by
        apply detach_eq_self
        · rw [h.hq]; intro e; injection e with e; have := h.hle; omega
        · rw [h.tq]; intro e; injection e; omega
      obtain ⟨n, e1, hq'⟩ := h.freeLast (by omega)
      obtain ⟨ha', hc'⟩ := h.set_behind (i := q.nodeIndex) (by omega) none
      have e2 : (q.sizes.set q.nodeIndex 0)[q.nodeIndex - 1]? = some n := by
        rw [List.getElem?_set_ne (by omega)]; exact e1
      simp only [c, if_true, freeNode_eq q _ hq hs, hd, Res.ok_bind, size, e2]
      obtain ⟨q', f1, f2, f3, f4⟩ := ih _ hq' ht
      exact ⟨q', f1, f2, f3.trans ha', fun hc => f4 (hc' hc)⟩
    · simp only [c, if_false]; exact ⟨q, rfl, h, rfl, id⟩

theorem freeLoop_refines (t : Nat) (fuel : Nat) (q : Q) (h : QInv q) (ht : q.tni ≤ t) :
    ∃ q', freeLoop t fuel q = .ok q' ∧ QInv q' ∧ abs q' = abs q := init3 (freeLoop_spec t fuel q h ht)

theorem freeQueue_spec {q : Q} (h : QInv q) :
    ∃ q', freeQueue q = .ok q' ∧ QInv q' ∧ abs q' = abs q ∧ (HeadClean q → HeadClean q') := by
  unfold freeQueue
  by_cases c : q.nodeSize ≤ q.baseNodeSize
  · simp only [c, if_true]; exact ⟨q, rfl, h, rfl, id⟩
  · simp only [c, if_false]
    apply freeLoop_spec _ _ _ h
    split <;> omega

/-- the states/arguments in which `Shrink` does nothing: a positive size smaller than the head node, or the
(never reached: only Shrink itself increments the counter) `shrinkNodeSize >= nodeSize` -/
def ShrinkNoop (q : Q) (sz : Nat) : Prop := (sz ≠ 0 ∧ sz < q.hqs) ∨ q.shrinkNodeSize ≥ q.nodeSize

instance (q : Q) (sz : Nat) : Decidable (ShrinkNoop q sz) := by unfold ShrinkNoop; exact inferInstance

theorem shrink_noop {q : Q} (h : QInv q) (sz : Nat) (hp : ShrinkNoop q sz) : shrink q sz = .ok (q, 0) := by
  have hqs := h.hqs
  unfold shrink
  rcases hp with ⟨h1, h2⟩ | h3
  · have c : ¬ sz ≥ q.hqs := by omega
    simp only [h1, if_false, Res.pure_eq, Res.ok_bind, shrinkLoop, size, hqs, c]
  · by_cases c0 : sz = 0
    · simp only [c0, if_true, size, hqs, Res.ok_bind, shrinkLoop, Nat.le_refl, ge_iff_le, h3, Res.pure_eq]
    · simp only [c0, if_false, Res.pure_eq, Res.ok_bind, shrinkLoop, size, hqs]
      by_cases c : sz ≥ q.hqs
      · simp [c, show q.nodeSize ≤ q.shrinkNodeSize from h3]
      · simp [c]

end Slock.Queue
