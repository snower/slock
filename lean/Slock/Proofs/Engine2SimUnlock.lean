import Slock.Proofs.Engine2SimLock
/-! Simulation stage 2 → stage 1: UNLOCK, the refusals; one level of a re-entrant hold (`dec`); the edit of one holder record in general. -/
namespace Slock.Sim
open Slock Slock.Engine2
open Slock.Engine (has)

theorem mkReply_mgr (c : Engine.Cmd) (m : Bool) (res lk lr : Nat) : Engine.mkReply { c with mgr := m } res lk lr = Engine.mkReply c res lk lr := rfl

/-- the refusals of UNLOCK: stage 1 stores its key back as it was and counts an error -/
def quietU : Engine2.UnlockBranch → Bool
  | .noManager | .stateError | .notLocked | .unown | .cancelNone => true
  | _ => false

/-- **UNLOCK, the refusals**, for any state with `DBQ` and `KI` of the key (`SimP.sim_unlock_quiet`: for a reachable state) -/
theorem sim_unlock_quiet (s : DB) (hq : DBQ s) (c : Engine.Cmd)
    (hk : KI s.seq (s.getKey c.key)) (hb : quietU (Engine2.classifyUnlock s c) = true) :
    Equiv (Engine2.abs (Engine2.opUnlock s c none).1) (Engine.opUnlock (Engine2.abs s) { c with mgr := s.hasKey c.key }).1 ∧
    (Engine2.opUnlock s c none).2.map (·.r) = (Engine.opUnlock (Engine2.abs s) { c with mgr := s.hasKey c.key }).2 := by
  have hkabs := abs_getKey s hq.dbt.dbi.kn c.key
  unfold Engine.opUnlock
  rw [classify_unlock_refines s hq c]
  unfold opUnlock
  simp only []
  have rb := (rel_openKey s hq c.key hk).ctr (fun x => { x with unlockErrorCount := x.unlockErrorCount + 1 })
  generalize hcls : classifyUnlock s c = b at hb ⊢
  -- a stuttering step of stage 1 but for the error counter
  have fin : ∀ {w : W} {out1 : List Engine.Reply}, Rel w (Engine.bumpErr (Engine2.abs s)) (Key.abs (s.getKey c.key)) out1 →
      applyUnlock s c none b = w →
      Engine.applyUnlock (Engine2.abs s) { c with mgr := s.hasKey c.key } (absUB (s.getKey c.key) c b) = (Engine.bumpErr (Engine2.abs s), out1) →
      Agrees (applyUnlock s c none b) (Engine.applyUnlock (Engine2.abs s) { c with mgr := s.hasKey c.key } (absUB (s.getKey c.key) c b)) := by
    intro w out1 r hw e1
    obtain ⟨h1, h2⟩ := r.stop (sim_unlock_finish s hq c none _ hcls) hw rfl (getKey_key _ _)
    rw [e1]
    exact ⟨h1.trans (by rw [← hkabs]; exact Equiv.setKey_self (Engine.bumpErr (Engine2.abs s)) c.key), h2⟩
  cases b with
  | noManager =>
    have hn : s.getKey c.key = newKey c.key := getKey_of_not_hasKey s c.key (classifyUnlock_noManager s c hcls)
    refine fin (rb.setOut [{ r := Engine.mkReply c Engine.RESULT_UNLOCK_ERROR 0 0, data := none }]) rfl ?_
    by_cases hC : has c.flag Engine.UF_CANCEL = true
    · simp only [absUB, hC, if_true, Engine.applyUnlock, hkabs, hn, abs_newKey]; rfl
    · simp only [absUB, hC, Engine.applyUnlock]; rfl
  | stateError => exact fin (rb.reply c Engine.RESULT_STATE_ERROR 0 _) rfl (by simp only [Engine.applyUnlock, absUB, hkabs]; rfl)
  | notLocked =>
    refine fin (rb.reply c Engine.RESULT_UNLOCK_ERROR 0 _) rfl ?_
    simp only [Engine.applyUnlock, absUB]
    rw [show (Key.abs (s.getKey c.key)).locked = 0 from classifyUnlock_notLocked s c hcls]; rfl
  | unown => exact fin (rb.reply c Engine.RESULT_UNOWN_ERROR 0 _) rfl (by simp only [Engine.applyUnlock, absUB, hkabs]; rfl)
  | cancelNone => exact fin (rb.reply c Engine.RESULT_UNLOCK_ERROR 0 _) rfl (by simp only [Engine.applyUnlock, absUB, hkabs]; rfl)
  | _ => simp [quietU] at hb

/-- **the edit of one live holder record** (a step that keeps the queues and every other record's stage-1 view): stage 1's
`replaceHolder` of that hold, given that the live holds are pairwise distinct -/
theorem abs_edit_holder {k k' : Key} (h : Nat) (hk : k'.key = k.key) (hw : k'.waited = k.waited) (q : k'.queues = k.queues)
    (p : PKeepX πA (· = h) k' k) (pt : PKeep (·.timeouted) k' k)
    (hrec : ∀ y ∈ k.current.toList ++ k.locks ++ k.wait.map (·.rid), k'.hasRec y)
    (hm : h ∈ k.current.toList ++ k.locks) (hl : k.liveHolder h = true) (hl' : k'.liveHolder h = true)
    (sep : ∀ e ∈ k.wait, k.deadWaiter e.rid = false → e.rid ∉ k.current.toList ++ k.locks)
    (hnd : (Key.abs k).holders.Nodup) :
    Key.abs k' = { Key.abs k with holders := Engine.replaceHolder (Key.abs k).holders (holdOf k h) (holdOf k' h), locked := k'.locked } := by
  obtain ⟨q1, q2, q3⟩ := queues_eq q
  have hv : ∀ y ∈ k.current.toList ++ k.locks ++ k.wait.map (·.rid), y ≠ h → πA (k'.getR y) = πA (k.getR y) :=
    fun y hy hne => p.val y hne (hrec y hy)
  refine abs_ext hk (show (Key.abs k').locked = k'.locked from rfl) ?_ ?_ hw
  · show (Key.abs k').holders = Engine.replaceHolder (Key.abs k).holders (holdOf k h) (holdOf k' h)
    rw [abs_holders] at hnd ⊢
    rw [abs_holders, q1, q2]
    have hf : (k.current.toList ++ k.locks).filter (fun x => k'.liveHolder x) = (k.current.toList ++ k.locks).filter (fun x => k.liveHolder x) := by
      apply List.filter_congr
      intro x hx
      by_cases e : x = h
      · rw [e, hl, hl']
      · unfold Key.liveHolder
        have : (k'.getR x).depth = (k.getR x).depth := congrArg (fun t => t.1.depth) (hv x (List.mem_append_left _ hx) e)
        rw [this]
    rw [hf]
    refine (replaceHolder_map _ (holdOf k) (holdOf k') h (List.mem_filter.mpr ⟨hm, hl⟩) hnd ?_).symm
    intro y hy hne
    exact congrArg (fun t => t.1) (hv y (List.mem_append_left _ (List.mem_filter.mp hy).1) hne)
  · refine abs_waiters_eq q3 (fun y hy => ⟨pt.val y (hrec y (List.mem_append_right _ hy)), fun hlive => ?_⟩)
    obtain ⟨x, hx, hxe⟩ := List.mem_map.mp hy
    have hne : y ≠ h := fun e => sep x hx (by rw [hxe]; exact hlive) (by rw [hxe, e]; exact hm)
    exact congrArg (fun t => t.2.1) (hv y (List.mem_append_right _ hy) hne)

theorem mem_abs_holders {k : Key} {h : Nat} (hm : h ∈ k.current.toList ++ k.locks) (hd : 0 < (k.getR h).depth) :
    holdOf k h ∈ (Key.abs k).holders := by
  rw [abs_holders]
  exact List.mem_map.mpr ⟨h, List.mem_filter.mpr ⟨hm, by unfold Key.liveHolder; simpa using hd⟩, rfl⟩

/-- the stage-1 view after a chain in edit normal form on a live hold that stays one: stage 1's `replaceHolder` of that hold -/
theorem Edit.abs {h : Nat} {f : Rec → Rec} {g : Nat → Nat} {n : Nat} {w w' : W} (e : Edit h f g n w w') (l : Lv w zero) (i : WI w)
    (hm : h ∈ w.k.current.toList ++ w.k.locks) (hd : 0 < (w.k.getR h).depth) (hd' : 0 < (f (w.k.getR h)).depth)
    (ht : ∀ r, (f r).timeouted = r.timeouted) :
    Key.abs w'.k = keyRep (Key.abs w.k) (holdOf w.k h) (f (w.k.getR h)).toHold (g w.k.locked) ∧ w'.k.liveHolder h = true := by
  have hh := hasRec_of_holder l h hm
  have sx := e.sx
  have hrec : ∀ y ∈ w.k.current.toList ++ w.k.locks ++ w.k.wait.map (·.rid), w'.k.hasRec y :=
    fun y hy => (e.hasRec y).mpr (hasRec_of_queues l rfl y hy)
  have hl0 : w.k.liveHolder h = true := by unfold Key.liveHolder; simp only [decide_eq_true_eq]; exact hd
  have hl' : w'.k.liveHolder h = true := by
    unfold Key.liveHolder; rw [e.getR hh (·.depth) (fun _ => rfl)]; simp only [decide_eq_true_eq]; exact hd'
  have habs := abs_edit_holder h sx.key sx.waited sx.q sx.p (e.pk (fun _ => rfl) ht) hrec hm hl0 hl' i.wq.sep (nodup_of_map _ _ i.hidNodup)
  rw [show holdOf w'.k h = (f (w.k.getR h)).toHold from e.getR hh Rec.toHold (fun _ => rfl), e.locked] at habs
  exact ⟨habs, hl'⟩

/-- **a live hold is edited** by a chain in edit normal form. The record-level invariants of the end state come from the record-level
walks of the same chain; `a'` is stage 1's database after its side of the step. -/
theorem Rel.edit {w w' : W} {a a' : Engine.DB} {k1 : Engine.Key} {out1 : List Engine.Reply} (r : Rel w a k1 out1) (hg : w.gone = false)
    {h : Nat} {f : Rec → Rec} {g : Nat → Nat} {n : Nat} (e : Edit h f g n w w') (hs : Scal a' w'.db) (hm : h ∈ w.k.current.toList ++ w.k.locks)
    (hd : 0 < (w.k.getR h).depth) (hd' : 0 < (f (w.k.getR h)).depth) (ht : ∀ r, (f r).timeouted = r.timeouted)
    (wk' : Wk True w' none) (wi' : WI w') :
    Rel w' a' (keyRep k1 (holdOf w.k h) (f (w.k.getR h)).toHold (g k1.locked)) out1 := by
  have l := r.live hg
  obtain rfl := l.abs
  obtain ⟨q1, q2, _⟩ := queues_eq e.q
  exact Rel.of_live (e.gone.trans hg) hs (by rw [e.out]; exact r.out)
    ⟨wk', l.cn.of_cl q1 q2, wi', (e.abs l.wk.lv l.wi hm hd hd' ht).1⟩

theorem decPre_edit (w : W) (c' : Engine.Cmd) (data : Option Bytes) (h : Nat) :
    Edit h (fun r => { r with depth := r.depth - 1 }) (· - 1) 0 w (decPre w c' data h) :=
  ((((Edit.refl w).modR (fun r => { r with depth := r.depth - 1 }) (fun _ => rfl) (fun _ => rfl)).modK
    (fun k => { k with locked := k.locked - 1 }) (· - 1) rfl rfl rfl rfl rfl rfl).procData .unlock c' (frameOf c' data) h).journalUnlock h _ true AOF_UPDATED

theorem decPre_rel {w : W} {a : Engine.DB} {k1 : Engine.Key} {out1 : List Engine.Reply} (r : Rel w a k1 out1) (hg : w.gone = false)
    (h : Nat) (hm : h ∈ w.k.current.toList ++ w.k.locks) (hd : 1 < (w.k.getR h).depth) (c' : Engine.Cmd) (data : Option Bytes) :
    Rel (decPre w c' data h) a (keyDec k1 (holdOf w.k h)) out1 ∧ ((decPre w c' data h).k.getR h).depth = (holdOf w.k h).depth - 1 := by
  have l := r.live hg
  have hh := hasRec_of_holder l.wk.lv h hm
  have e := decPre_edit w c' data h
  exact ⟨r.edit hg e (e.sc.scal r.sc) hm (by omega) (by show 0 < (w.k.getR h).depth - 1; omega) (fun _ => rfl) (((l.node data hg).decPre c' h hh hd).1.wk (e.gone.trans hg))
    (l.wi.edit e id id (fun _ => ⟨by omega, rfl⟩) id), e.getR hh (·.depth) (fun _ => rfl)⟩

theorem sim_unlock_dec (s : DB) (hq : DBQ s) (c : Engine.Cmd) (data : Option Bytes) (h : Nat) (c' : Engine.Cmd)
    (hcls : classifyUnlock s c = .dec h c')
    (hk : KI s.seq (s.getKey c.key)) (hki : Engine.KeyInv (Key.abs (s.getKey c.key))) (m m' : Bool) :
    Agrees (applyUnlock s c data (.dec h c')) (Engine.applyUnlock (Engine2.abs s) { c with mgr := m } (.dec (holdOf (s.getKey c.key) h) { c' with mgr := m' })) := by
  have hm : h ∈ (s.openKey c.key).k.current.toList ++ (s.openKey c.key).k.locks := classifyUnlock_holder s c h (by rw [hcls]; rfl)
  have hd : 1 < ((s.openKey c.key).k.getR h).depth := classifyUnlock_dec_depth s c c' h hcls
  have hh := hasRec_of_holder (Good.openKey hq.dbt.dbi hq.dbt.tight c.key).lv h hm
  obtain ⟨r4, hdep⟩ := decPre_rel (rel_openKey s hq c.key hk) (openKey_live s c.key h hh) h hm hd c' data
  have r5 := (r4.ctr ctrDec).reply c' Engine.RESULT_SUCCED (((decPre (s.openKey c.key) c' data h).ctr ctrDec).k.getR h).depth
    (decHead (s.openKey c.key) h).lockData
  have e := r5.wake_end (sim_unlock_finish s hq c data _ hcls) (Engine.dec_inv hki (mem_abs_holders hm (Nat.lt_trans Nat.zero_lt_one hd)) hd) (applyUnlock_dec s c data h c') rfl (getKey_key _ _)
  rw [ctr_k, hdep] at e
  rw [applyUnlock_dec_eq, mkReply_mgr]
  exact (abs_getKey s hq.dbt.dbi.kn c.key).symm ▸ e

end Slock.Sim
