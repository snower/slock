import Slock.Proofs.QueueRestr
/-! `Resize` of the segmented deque: the two loops (free the nodes before the head node, move the live nodes down)
keep the content, in every state without a spare node behind the tail node. -/
namespace Slock.Queue

theorem freeRange_eq : ∀ n a (q : Q), a + n ≤ q.queues.length → a + n ≤ q.sizes.length →
    (∀ i, a ≤ i → i < a + n → q.headQueue ≠ .node i ∧ q.tailQueue ≠ .node i) →
    freeRange a n q = .ok { q with queues := q.queues.take a ++ (List.replicate n none ++ q.queues.drop (a + n)),
                                   sizes := q.sizes.take a ++ (List.replicate n 0 ++ q.sizes.drop (a + n)) } := by
  intro n
  induction n with
  | zero =>
    intro a q _ _ _
    simp only [freeRange, List.replicate_zero, List.nil_append, Nat.add_zero, List.take_append_drop]
  | succ n ih =>
    intro a q h1 h2 hr
    have hd : detach q a = q := detach_eq_self q a (hr a (Nat.le_refl _) (by omega)).1 (hr a (Nat.le_refl _) (by omega)).2
    rw [freeRange, freeNode_eq q a (by omega) (by omega), hd]
    simp only [Res.ok_bind]
    rw [ih (a + 1) { q with queues := q.queues.set a none, sizes := q.sizes.set a 0 } (by simp only [List.length_set]; omega) (by simp only [List.length_set]; omega)
      (fun i hi1 hi2 => hr i (by omega) (by omega))]
    simp only [fill_step _ _ _ _ (show a < q.queues.length by omega), fill_step _ _ _ _ (show a < q.sizes.length by omega)]

theorem moveSlot_eq (q : Q) (i t : Nat) (arr : Arr) (s : Nat) (hi : q.queues[i]? = some (some arr))
    (hs : q.sizes[i]? = some s) (ht1 : t < q.queues.length) (ht2 : t < q.sizes.length) (his : i < q.sizes.length)
    (hd : q.headQueue ≠ .node t ∧ q.tailQueue ≠ .node t) :
    moveSlot q i t = .ok { q with queues := (q.queues.set t (some arr)).set i none,
                                  sizes := (q.sizes.set t s).set i 0,
                                  headQueue := if q.headQueue = .node i then .node t else q.headQueue,
                                  tailQueue := if q.tailQueue = .node i then .node t else q.tailQueue } := by
  have hdt : detach q t = q := detach_eq_self q t hd.1 hd.2
  simp only [moveSlot, slot, hi, size, hs, Res.ok_bind, setSlot, ht1, if_true, hdt, setSize, List.length_set, ht2, his]

/-- where an alias ends up when the nodes from `i` on move down by `m` -/
def shiftRef (i m : Nat) : Ref → Ref
  | .node j => if i ≤ j then .node (j - m) else .node j
  | r => r

/-- the alias `r` points at a node that has already moved, or at one of the `n` nodes from `i` on -/
def RefOK (m i n : Nat) (r : Ref) : Prop := ∀ j, r = .node j → j + m < i ∨ (i ≤ j ∧ j < i + n)

theorem shiftRef_step (i m : Nat) (hm : 0 < m) (r : Ref) :
    shiftRef (i + 1) m (if r = .node i then .node (i - m) else r) = shiftRef i m r := by
  cases r with
  | node j =>
    by_cases c : j = i
    · subst c
      have : ¬ j + 1 ≤ j - m := by omega
      simp [shiftRef, this]
    · have e : (i + 1 ≤ j) = (i ≤ j) := by apply propext; omega
      simp [shiftRef, c, e]
  | nil => simp [shiftRef]
  | dead k => simp [shiftRef]

theorem RefOK.step {m i n : Nat} {r : Ref} (h : RefOK m i (n + 1) r) (hmi : m ≤ i) :
    RefOK m (i + 1) n (if r = .node i then .node (i - m) else r) := by
  intro j hj
  by_cases c : r = .node i
  · rw [if_pos c] at hj; injection hj with hj; omega
  · rw [if_neg c] at hj
    have : j ≠ i := fun e => c (e ▸ hj)
    rcases h j hj with h1 | h1 <;> omega

theorem RefOK.ne {m i n : Nat} {r : Ref} (h : RefOK m i n r) (hm : 0 < m) (hmi : m ≤ i) : r ≠ .node (i - m) := by
  intro e
  rcases h _ e with h1 | h1 <;> omega

/-- `moveRange m i`: behind the prefix `P` and a gap of `m` nil slots come the nodes `M` (from slot `i` on); they move
to the front of the gap, and the aliases follow them -/
theorem moveRange_eq (m : Nat) (hm : 0 < m) : ∀ (M : List Arr) (SM : List Nat) (i : Nat) (q : Q)
    (P R : List (Option Arr)) (SP SR : List Nat), SM.length = M.length → SP.length = P.length → P.length + m = i →
    q.queues = P ++ (List.replicate m none ++ (M.map some ++ R)) →
    q.sizes = SP ++ (List.replicate m 0 ++ (SM ++ SR)) →
    RefOK m i M.length q.headQueue → RefOK m i M.length q.tailQueue →
    moveRange m i M.length q = .ok { q with
      queues := (P ++ M.map some) ++ (List.replicate m none ++ R),
      sizes := (SP ++ SM) ++ (List.replicate m 0 ++ SR),
      headQueue := shiftRef i m q.headQueue, tailQueue := shiftRef i m q.tailQueue } := by
  obtain ⟨m, rfl⟩ : ∃ m', m = m' + 1 := ⟨m - 1, by omega⟩
  intro M
  induction M with
  | nil =>
    intro SM i q P R SP SR hSM _ _ hQ hS hh ht
    cases SM with
    | cons _ _ => cases hSM
    | nil =>
      have eh : shiftRef i (m + 1) q.headQueue = q.headQueue := by
        cases hr : q.headQueue with
        | node j => have := hh j hr; simp only [List.length_nil, Nat.add_zero] at this; simp [shiftRef]; omega
        | _ => rfl
      have et : shiftRef i (m + 1) q.tailQueue = q.tailQueue := by
        cases hr : q.tailQueue with
        | node j => have := ht j hr; simp only [List.length_nil, Nat.add_zero] at this; simp [shiftRef]; omega
        | _ => rfl
      simp only [List.map_nil, List.nil_append] at hQ hS
      simp only [moveRange, List.length_nil, List.map_nil, List.append_nil, eh, et]
      rw [← hQ, ← hS]
  | cons arr M ih =>
    intro SM i q P R SP SR hSM hSP hi hQ hS hh ht
    cases SM with
    | nil => cases hSM
    | cons s SM =>
      have hqi : q.queues[i]? = some (some arr) := by
        rw [hQ, ← hi]; exact getElem?_append_replicate_cons _ _ _ _ _
      have hsi : q.sizes[i]? = some s := by
        rw [hS, ← hi, ← hSP]; exact getElem?_append_replicate_cons _ _ _ _ _
      have hlq := (List.getElem?_eq_some_iff.mp hqi).1
      have hls := (List.getElem?_eq_some_iff.mp hsi).1
      have hmi : m + 1 ≤ i := hi ▸ Nat.le_add_left _ _
      have hiP : i - (m + 1) = P.length := by rw [← hi, Nat.add_sub_cancel]
      have e1 := moveSlot_eq q i (i - (m + 1)) arr s hqi hsi (Nat.lt_of_le_of_lt (Nat.sub_le _ _) hlq)
        (Nat.lt_of_le_of_lt (Nat.sub_le _ _) hls) hls ⟨hh.ne hm hmi, ht.ne hm hmi⟩
      have := ih SM (i + 1)
        { q with queues := (q.queues.set (i - (m + 1)) (some arr)).set i none,
                 sizes := (q.sizes.set (i - (m + 1)) s).set i 0,
                 headQueue := if q.headQueue = .node i then .node (i - (m + 1)) else q.headQueue,
                 tailQueue := if q.tailQueue = .node i then .node (i - (m + 1)) else q.tailQueue }
        (P ++ [some arr]) R (SP ++ [s]) SR (Nat.succ.inj hSM)
        (by rw [List.length_append, List.length_append, hSP]; rfl)
        (by rw [List.length_append, ← hi, Nat.add_right_comm]; rfl)
        (by show (q.queues.set _ _).set _ _ = _; rw [hQ, hiP, ← hi]; exact move_step _ _ _ _ _)
        (by show (q.sizes.set _ _).set _ _ = _; rw [hS, hiP, ← hi, ← hSP]; exact move_step _ _ _ _ _)
        (hh.step hmi) (ht.step hmi)
      simp only [shiftRef_step _ _ hm] at this
      simp only [moveRange, List.length_cons, e1, Res.ok_bind, this, List.map_cons, List.append_assoc, List.cons_append,
        List.nil_append]

/-- `Resize` recomputes `queueSize = baseQueueSize * int32(uint32(1)<<uint32(tailNodeIndex))`: it must stay a sane size -/
def ResizeQs (q : Q) : Prop :=
  0 < wrap32 ((q.baseQueueSize : Int) * shl1 q.tni) ∧ wrap32 ((q.baseQueueSize : Int) * shl1 q.tni) < 1073741824

instance (q : Q) : Decidable (ResizeQs q) := by unfold ResizeQs; exact inferInstance

/-- the moving branch of `Resize` (`hni = baseNodeSize + (m + 1)`, `tni = hni + c`): the nodes `hni..tni` (all
allocated: `M`) end up behind the first `baseNodeSize` nodes, followed by `m + 1` nil slots and the old slots behind the
tail node -/
theorem resize_move {q : Q} (h : QInv q) (hns : NoSpare q) {m c : Nat} (hm : q.hni = q.baseNodeSize + (m + 1))
    (hc : q.tni = q.hni + c) :
    ∃ M : List Arr, M.length = c + 1 ∧ q.queues.drop q.hni = M.map some ++ q.queues.drop (q.tni + 1) ∧
      resize q = .ok { q with
        queues := (q.queues.take q.baseNodeSize ++ M.map some) ++ (List.replicate (m + 1) none ++ q.queues.drop (q.tni + 1)),
        sizes := (q.sizes.take q.baseNodeSize ++ (q.sizes.drop q.hni).take (c + 1)) ++
          (List.replicate (m + 1) 0 ++ q.sizes.drop (q.tni + 1)),
        headQueue := .node q.baseNodeSize, tailQueue := .node (q.baseNodeSize + c),
        nodeIndex := q.baseNodeSize + c, queueSize := wrap32 ((q.baseQueueSize : Int) * shl1 q.tni),
        hni := q.baseNodeSize, tni := q.baseNodeSize + c } := by
  unfold NoSpare at hns
  have hlq : q.tni < q.queues.length := by rw [h.lenQ', ← hns]; exact h.niLt
  have hls : q.tni < q.sizes.length := by rw [h.lenS, ← hns]; exact h.niLt
  have g9 : q.hni + (c + 1) = q.tni + 1 := by rw [hc]; rfl
  have hbH : q.baseNodeSize ≤ q.hni := hm ▸ Nat.le_add_right _ _
  have hla : q.baseNodeSize ≤ q.queues.length := Nat.le_of_lt (Nat.lt_of_le_of_lt (Nat.le_trans hbH h.hle) hlq)
  have hlb : q.baseNodeSize ≤ q.sizes.length := Nat.le_of_lt (Nat.lt_of_le_of_lt (Nat.le_trans hbH h.hle) hls)
  have hlc : c + 1 ≤ (q.queues.drop q.hni).length := by
    rw [List.length_drop]; exact Nat.le_sub_of_add_le' (g9 ▸ hlq)
  have hld : c + 1 ≤ (q.sizes.drop q.hni).length := by
    rw [List.length_drop]; exact Nat.le_sub_of_add_le' (g9 ▸ hls)
  obtain ⟨M, hM⟩ := exists_map_some (l := (q.queues.drop q.hni).take (c + 1)) (by
    intro x hx
    obtain ⟨p, hp, e⟩ := (mem_take_iff _ _ _).mp hx
    rw [List.getElem?_drop] at e
    obtain ⟨a, ha, _⟩ := h.node (j := q.hni + p) (by omega)
    rw [ha] at e
    cases e
    exact Option.some_ne_none _)
  have hMl : M.length = c + 1 := by
    have := congrArg List.length hM
    rwa [List.length_map, List.length_take_of_le hlc, eq_comm] at this
  have hQ : q.queues.drop q.hni = M.map some ++ q.queues.drop (q.tni + 1) := by
    have := (List.take_append_drop (c + 1) (q.queues.drop q.hni)).symm
    rwa [hM, List.drop_drop, g9] at this
  have hS : q.sizes.drop q.hni = (q.sizes.drop q.hni).take (c + 1) ++ q.sizes.drop (q.tni + 1) := by
    have := (List.take_append_drop (c + 1) (q.sizes.drop q.hni)).symm
    rwa [List.drop_drop, g9] at this
  have e1 := freeRange_eq (m + 1) q.baseNodeSize q (hm ▸ Nat.le_of_lt (Nat.lt_of_le_of_lt h.hle hlq))
    (hm ▸ Nat.le_of_lt (Nat.lt_of_le_of_lt h.hle hls)) (by
    intro i _ hi2
    rw [← hm] at hi2
    rw [h.hq, h.tq]
    exact ⟨fun e => Nat.ne_of_gt hi2 (Ref.node.inj e), fun e => Nat.ne_of_gt (Nat.lt_of_lt_of_le hi2 h.hle) (Ref.node.inj e)⟩)
  rw [← hm] at e1
  have e2 := moveRange_eq (m + 1) (Nat.succ_pos m) M ((q.sizes.drop q.hni).take (c + 1)) q.hni
    { q with queues := q.queues.take q.baseNodeSize ++ (List.replicate (m + 1) none ++ q.queues.drop q.hni),
             sizes := q.sizes.take q.baseNodeSize ++ (List.replicate (m + 1) 0 ++ q.sizes.drop q.hni) }
    (q.queues.take q.baseNodeSize) (q.queues.drop (q.tni + 1)) (q.sizes.take q.baseNodeSize) (q.sizes.drop (q.tni + 1))
    (by rw [hMl, List.length_take_of_le hld])
    (by rw [List.length_take_of_le hla, List.length_take_of_le hlb])
    (by rw [List.length_take_of_le hla, hm])
    (by show _ ++ (_ ++ q.queues.drop q.hni) = _; rw [hQ])
    (by show _ ++ (_ ++ q.sizes.drop q.hni) = _; rw [← hS])
    (fun j hj => Or.inr (Ref.node.inj (h.hq.symm.trans hj) ▸ ⟨Nat.le_refl _, Nat.lt_add_of_pos_right (hMl ▸ Nat.succ_pos c)⟩))
    (fun j hj => Or.inr (Ref.node.inj (h.tq.symm.trans hj) ▸ ⟨h.hle, hMl ▸ g9 ▸ Nat.lt_succ_self _⟩))
  have g1 : ¬ q.hni ≤ q.baseNodeSize := by omega
  have g5 : ¬ (q.tni < m + 1) := by omega
  have g2 : q.hni - q.baseNodeSize = m + 1 := by rw [hm, Nat.add_sub_cancel_left]
  have g3 : q.tni + 1 - q.hni = c + 1 := by rw [← g9, Nat.add_sub_cancel_left]
  have g4 : ¬ (q.baseNodeSize + (c + 1) = 0) := Nat.succ_ne_zero _
  have g6 : q.baseNodeSize + (c + 1) - 1 = q.baseNodeSize + c := rfl
  have g7 : q.hni - (m + 1) = q.baseNodeSize := by rw [hm, Nat.add_sub_cancel]
  have g8 : q.tni - (m + 1) = q.baseNodeSize + c := by rw [hc, hm, Nat.add_right_comm, Nat.add_sub_cancel]
  have eh : shiftRef q.hni (m + 1) q.headQueue = .node q.baseNodeSize := by
    rw [h.hq]; simp only [shiftRef, Nat.le_refl, if_true, g7]
  have et : shiftRef q.hni (m + 1) q.tailQueue = .node (q.baseNodeSize + c) := by
    rw [h.tq]; simp only [shiftRef, h.hle, if_true, g8]
  rw [hMl, eh, et] at e2
  refine ⟨M, hMl, hQ, ?_⟩
  simp only [resize, g1, if_false, g2, g3, e1, Res.ok_bind, e2, g4, g5, Res.pure_eq, g6, g7, g8]

theorem QInv.abs_mid {q : Q} (h : QInv q) :
    abs q = absL ((q.queues.take (q.tni + 1)).drop q.hni) 0 q.hqi (q.tni - q.hni) q.tqi := by
  obtain ⟨_, p2, _⟩ := h.pos
  have := absL_drop (q.queues.take (q.tni + 1)) q.hni q.hqi (q.tni - q.hni) q.tqi
  rw [Nat.add_sub_cancel' h.hle] at this
  rw [← this]
  exact (absL_prefix (by rw [List.take_take, Nat.min_self]) (Nat.le_succ_of_le h.hle) (Nat.le_succ _)
    (Nat.le_of_lt p2)).symm

theorem resize_spec {q : Q} (h : QInv q) (hp : q.hni ≤ q.baseNodeSize ∨ (NoSpare q ∧ ResizeQs q)) :
    ∃ q', resize q = .ok q' ∧ QInv q' ∧ abs q' = abs q ∧ (HeadClean q → HeadClean q') := by
  by_cases hgt : q.hni ≤ q.baseNodeSize
  · exact ⟨q, by simp [resize, hgt], h, rfl, id⟩
  · obtain ⟨hns, hqs⟩ := hp.resolve_left hgt
    obtain ⟨m, hm⟩ : ∃ m, q.hni = q.baseNodeSize + (m + 1) := ⟨q.hni - q.baseNodeSize - 1, by omega⟩
    obtain ⟨c, hc⟩ : ∃ c, q.tni = q.hni + c := ⟨q.tni - q.hni, (Nat.add_sub_cancel' h.hle).symm⟩
    obtain ⟨M, hMl, hX, e⟩ := resize_move h hns hm hc
    obtain ⟨ns, k, T⟩ := h.toTInv
    have hnl : ns.length = q.hni + (c + 1) := by rw [T.ni, hns, hc]; rfl
    have hH : q.hni ≤ ns.length := hnl ▸ Nat.le_add_right _ _
    have ha : q.baseNodeSize ≤ ns.length := Nat.le_trans (hm ▸ Nat.le_add_right _ _) hH
    have hcl : c + 1 = ns.length - q.hni := by rw [hnl, Nat.add_sub_cancel_left]
    have hT1 : q.tni + 1 = ns.length := by rw [hnl, hc]; rfl
    have hql : q.baseNodeSize ≤ q.queues.length := by rw [h.lenQ', T.cap]; omega
    have hM : M.map some = (q.queues.drop q.hni).take (c + 1) := by
      rw [hX, List.take_left' (by rw [List.length_map, hMl])]
    have hshp : shape ((q.queues.take q.baseNodeSize ++ M.map some) ++
        (List.replicate (m + 1) none ++ q.queues.drop (q.tni + 1))) =
        (ns.take q.baseNodeSize ++ ns.drop q.hni).map some ++ List.replicate (m + 1 + k) none := by
      have hx := T.shp
      unfold shape at hx ⊢
      rw [hM, List.map_append, List.map_append, List.map_append, List.map_take, List.map_take, List.map_drop,
        List.map_drop, List.map_replicate, hx, hcl, hT1, ← List.length_map (f := some),
        resized_append _ _ (by rw [List.length_map]; exact hH) (by rw [List.length_map]; exact ha), List.map_append,
        List.map_take, List.map_drop, Option.map_none, List.replicate_append_replicate]
    have hszs : (q.sizes.take q.baseNodeSize ++ (q.sizes.drop q.hni).take (c + 1)) ++
        (List.replicate (m + 1) 0 ++ q.sizes.drop (q.tni + 1)) =
        (ns.take q.baseNodeSize ++ ns.drop q.hni) ++ List.replicate (m + 1 + k) 0 := by
      rw [T.szs, hcl, hT1, resized_append _ _ hH ha, List.replicate_append_replicate]
    -- node `baseNodeSize + j` of the new table is node `hni + j` of the old one
    have hidx : ∀ j, j ≤ c →
        ((ns.take q.baseNodeSize ++ ns.drop q.hni) ++ List.replicate (m + 1 + k) 0)[q.baseNodeSize + j]? =
          q.sizes[q.hni + j]? := by
      intro j hj
      rw [List.getElem?_append_left (by rw [List.length_append, List.length_take_of_le ha, List.length_drop]; omega),
        List.getElem?_append_right (by rw [List.length_take_of_le ha]; exact Nat.le_add_right _ _),
        List.length_take_of_le ha, Nat.add_sub_cancel_left, List.getElem?_drop, T.szs,
        List.getElem?_append_left (by omega)]
    have hinv : QInv { q with
        queues := (q.queues.take q.baseNodeSize ++ M.map some) ++ (List.replicate (m + 1) none ++ q.queues.drop (q.tni + 1)),
        sizes := (q.sizes.take q.baseNodeSize ++ (q.sizes.drop q.hni).take (c + 1)) ++
          (List.replicate (m + 1) 0 ++ q.sizes.drop (q.tni + 1)),
        headQueue := .node q.baseNodeSize, tailQueue := .node (q.baseNodeSize + c),
        nodeIndex := q.baseNodeSize + c, queueSize := wrap32 ((q.baseQueueSize : Int) * shl1 q.tni),
        hni := q.baseNodeSize, tni := q.baseNodeSize + c } := by
      refine .of ⟨ns.take q.baseNodeSize ++ ns.drop q.hni, m + 1 + k, hshp, hszs, ?_, ?_, ?_, T.base⟩
        ⟨rfl, ?_, h.hlt⟩ ⟨rfl, ?_, h.tlt⟩ (Nat.le_add_right _ _) (Nat.le_refl _) (fun e => h.ord ?_) hqs.1 hqs.2
      · show _ = q.baseNodeSize + c + 1
        rw [List.length_append, List.length_take_of_le ha, List.length_drop]; omega
      · show q.nodeSize = _
        rw [T.cap, List.length_append, List.length_take_of_le ha, List.length_drop]; omega
      · intro n hn
        exact T.bnd n ((List.mem_append.mp hn).elim List.mem_of_mem_take List.mem_of_mem_drop)
      · exact (congrArg (·[q.baseNodeSize]?) hszs).trans ((hidx 0 (Nat.zero_le c)).trans h.hqs)
      · exact (congrArg (·[q.baseNodeSize + c]?) hszs).trans ((hidx c (Nat.le_refl c)).trans (hc ▸ h.tqs))
      · have : q.baseNodeSize = q.baseNodeSize + c := e
        omega
    refine ⟨_, e, hinv, ?_, fun hc' => ?_⟩
    · rw [hinv.abs_mid, h.abs_mid]
      show absL ((List.take (q.baseNodeSize + c + 1) _).drop q.baseNodeSize) 0 q.hqi (q.baseNodeSize + c - q.baseNodeSize)
        q.tqi = _
      rw [List.take_left' (by rw [List.length_append, List.length_take_of_le hql, List.length_map, hMl]; rfl),
        List.drop_left' (List.length_take_of_le hql), List.drop_take, hM, Nat.add_sub_cancel_left,
        show q.tni + 1 - q.hni = c + 1 by rw [hc, Nat.add_assoc, Nat.add_sub_cancel_left],
        show q.tni - q.hni = c by rw [hc, Nat.add_sub_cancel_left]]
    · have hM1 : 1 ≤ (M.map some).length := by rw [List.length_map, hMl]; exact Nat.le_add_left _ _
      obtain ⟨_, _, _, sh⟩ := h.headNode
      rw [off_add] at sh
      have hlt := h.hlt
      obtain ⟨c1, c2⟩ := (cleanL_iff _ _ _).mp hc'
      refine (cleanL_iff _ q.baseNodeSize q.hqi).mpr ⟨fun e he => c1 e ?_, fun e he => c2 e ?_⟩
      · -- a cell of the nodes before `baseNodeSize`, which stay where they are
        rw [show List.take q.baseNodeSize _ = q.queues.take q.baseNodeSize by
          rw [List.append_assoc, List.take_left' (List.length_take_of_le hql)]] at he
        rw [← List.take_append_drop q.baseNodeSize (q.queues.take q.hni), F_append, List.take_take,
          Nat.min_eq_left (by omega)]
        exact List.mem_append_left _ he
      · -- a cell of the head node before the head cursor
        rw [show List.drop q.baseNodeSize _ = M.map some ++ (List.replicate (m + 1) none ++ q.queues.drop (q.tni + 1)) by
          rw [List.append_assoc, List.drop_left' (List.length_take_of_le hql)]] at he
        rwa [F_take_prefix (m := 1) (L2 := q.queues.drop q.hni)
          (by rw [hX, List.take_append_of_le_length hM1, List.take_append_of_le_length hM1]) (by omega)] at he

end Slock.Queue
