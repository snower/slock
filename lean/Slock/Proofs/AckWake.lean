import Slock.Proofs.AckInvStep
/-! M-ACK: the wake pass settles — when it returns, the head of the queue (if any) is not admissible. -/
namespace Slock.Ack

/-- 1 for a queued request of key `k`; `wN` counts them: the length of the key's queue -/
def wG (k : Nat) (r : Rec) : Int := if (r.cmd.key == k && r.queued) = true then 1 else 0
def wN (k : Nat) (db : DB) : Int := (db.recs.map (wG k)).sum

theorem waiters_length (k : Nat) (db : DB) : ((db.waiters k).length : Int) = wN k db := by
  unfold DB.waiters wN
  induction db.recs with
  | nil => rfl
  | cons r rs ih =>
    simp only [List.filter, List.map_cons, List.sum_cons]
    by_cases e : (r.cmd.key == k && r.queued) = true
    · have : wG k r = 1 := by unfold wG; rw [if_pos e]
      rw [e, this]; simp only [List.length_cons]; push_cast; omega
    · have e' : (r.cmd.key == k && r.queued) = false := by simpa using e
      have : wG k r = 0 := by unfold wG; rw [if_neg e]
      rw [e', this]; simp only []; omega

@[simp] theorem wN_ctrMod (k : Nat) (db : DB) (f : Counters → Counters) : wN k (db.ctrMod f) = wN k db := rfl

/-- following one record: `base` queued requests of key `k` among the OTHER records -/
structure AtW (k : Nat) (db : DB) (hid : Nat) (r : Rec) (base : Int) : Prop where
  fnd : findR db.recs hid = some r
  bal : wN k db = base + wG k r

theorem AtW.tracker (k hid : Nat) (base : Int) : Tracker hid (fun db r => AtW k db hid r base) where
  modR {db r} f h hf := by
    refine ⟨(found_tracker hid).modR f h.fnd hf, ?_⟩
    have := sum_modRecs (wG k) hid f db.recs
    rw [h.fnd] at this; simp only [] at this
    have hb := h.bal
    unfold wN at *; rw [modR_recs]; omega
  frame h e _ := ⟨by rw [e]; exact h.fnd, by unfold wN; rw [e]; exact h.bal⟩
  toEnd {db r} a h := ⟨(found_tracker hid).toEnd a h.fnd, by unfold wN; rw [sum_toEnd]; exact h.bal⟩
  pushJ {db r} r0 b h _ := ⟨by rw [pushJ_recs]; exact h.fnd, by unfold wN; rw [pushJ_recs]; exact h.bal⟩

def KeepQ (r r' : Rec) : Prop := r'.cmd = r.cmd ∧ r'.queued = r.queued

theorem AtW.rollback {k : Nat} {db : DB} {hid : Nat} {r : Rec} {base : Int} (h : AtW k db hid r base) :
    ∃ r', AtW k (db.rollback hid) hid r' base ∧ KeepQ r r' :=
  let ⟨_, _, h'⟩ := (AtW.tracker k hid base).rollback h
  ⟨_, h', rfl, rfl⟩

theorem wG_eq (k : Nat) {r r' : Rec} (e1 : r'.cmd = r.cmd) (e2 : r'.queued = r.queued) : wG k r' = wG k r := by unfold wG; rw [e1, e2]
theorem wG_notq (k : Nat) {r : Rec} (e : r.queued = false) : wG k r = 0 := by unfold wG; simp [e]

theorem applyWake_dec {db : DB} (ha : InvA db) (k : Nat) (hne : classifyWake db k ≠ .stop) :
    wN k (applyWake db k (classifyWake db k)).1 + 1 = wN k db := by
  have key : ∀ {w : Rec}, (db.waiters k).head? = some w → AtW k db w.hid w (wN k db - 1) := by
    intro w hw
    obtain ⟨hf, hk, hq, _⟩ := ha.waiter hw
    exact ⟨hf, by unfold wG; simp [hk, hq]⟩
  revert hne
  fun_cases classifyWake db k <;> intro hne <;> dsimp only [applyWake] <;> try exact absurd rfl hne
  case case3 w hw _ _ _ =>  -- ackFail
    obtain ⟨u, h1⟩ := (AtW.tracker k w.hid _).ackHold (key hw)
    obtain ⟨u', a, h3⟩ := (AtW.tracker k w.hid _).failed ((AtW.tracker k w.hid _).ctrMod h1 _)
    have hb : wN k (((db.ackHold w.hid).ctrMod (fun x => { x with waitCount := x.waitCount - 1 })).modR w.hid (fun r => { r with timeouted := true })
      |>.rollback w.hid) = _ := h3.bal
    rw [wG_notq k rfl] at hb
    omega
  case case4 w hw _ _ _ =>  -- ackGrant
    obtain ⟨u, a, h2⟩ := (AtW.tracker k w.hid _).ackWake (key hw) (fun x => { x with waitCount := x.waitCount - 1 })
    have hb := h2.bal
    rw [wG_notq k rfl] at hb
    unfold ackWake at hb; omega
  case case5 w hw _ _ =>  -- grant
    obtain ⟨u, t, s, h1⟩ := (AtW.tracker k w.hid _).grant ((AtW.tracker k w.hid _).ctrMod (key hw) (fun x => { x with waitCount := x.waitCount - 1 }))
    have hb := h1.bal
    rw [wG_notq k rfl] at hb
    omega

theorem wakeLoop_settles (fuel : Nat) {db : DB} (ha : InvA db) (k : Nat) (out : List Reply) (hf : wN k db < fuel) :
    classifyWake (wakeLoop fuel db k out).1 k = .stop := by
  fun_induction wakeLoop fuel db k out with
  | case1 db k => have := waiters_length k db; omega
  | case2 _ db k _ e =>
    split
    · rename_i hemp
      unfold classifyWake DB.waiters
      simp only [modKey_recs]
      rw [show (db.recs.filter (fun r => r.cmd.key == k && r.queued)).head? = none from by
        have : db.waiters k = [] := List.isEmpty_iff.mp hemp
        unfold DB.waiters at this; rw [this]; rfl]
    · exact e
  | case3 _ db k _ hne r ih => exact ih (ha.applyWake k) (by have := applyWake_dec ha k hne; simp only [r]; omega)

theorem wake_settles {db : DB} (ha : InvA db) (k : Nat) (out : List Reply) (hw : (db.getKey k).waited = true) :
    classifyWake (db.wake k out).1 k = .stop := by
  unfold DB.wake
  rw [if_pos hw]
  exact wakeLoop_settles _ ha k out (by rw [← waiters_length]; omega)

end Slock.Ack
