import Slock.Proofs.Engine2RC
/-! Stage-2 engine: nothing leaks, key-record level. `NZx k x`: every un-freed lock record of `k` — except `x`, which an operation in
progress may hold out of order for a moment — is in order (`RecFine`). -/
namespace Slock.Engine2

/-- a lock record in order: counted at least once; if it is a hold (depth > 0) it has an expiry-wheel entry; if it has been ended
(`expried`) it is not a hold any more; an expiry-wheel entry of a record that is not a hold is a tombstone (`expried` is set: the
sweeper will only drop it) -/
structure RecFine (r : Rec) : Prop where
  pos : 1 ≤ r.refCount
  hold : 0 < r.depth → r.eSched.isSome = true
  ended : r.expried = true → r.depth = 0
  fin : r.depth = 0 → r.eSched.isSome = true → r.expried = true

def NZx (k : Key) (x : Option Nat) : Prop := ∀ r ∈ k.recs, some r.rid ≠ x → RecFine r

theorem NZx.weaken {k : Key} (h : NZx k none) (x : Option Nat) : NZx k x := fun r hr _ => h r hr (by simp)

theorem NZx.of_recs {k k' : Key} {x : Option Nat} (h : NZx k x) (e : k'.recs = k.recs) : NZx k' x := by
  intro r hr; rw [e] at hr; exact h r hr

theorem NZx.modRec {k : Key} {x : Option Nat} (h : NZx k x) (rid : Nat) (f : Rec → Rec) (hf : ∀ r, (f r).rid = r.rid)
    (hc : ∀ r, RecFine r → RecFine (f r)) : NZx (k.modRec rid f) x := by
  intro r hr hx
  obtain ⟨r0, hr0, ⟨_, rfl⟩ | ⟨_, rfl⟩⟩ := mem_modRec hr
  · rw [hf] at hx; exact hc r0 (h r0 hr0 hx)
  · exact h r hr0 hx

theorem NZx.modRec_ex {k : Key} (rid : Nat) (h : NZx k (some rid)) (f : Rec → Rec) (hf : ∀ r, (f r).rid = r.rid) : NZx (k.modRec rid f) (some rid) := by
  intro r hr hx
  obtain ⟨r0, hr0, ⟨er, rfl⟩ | ⟨_, rfl⟩⟩ := mem_modRec hr
  · rw [hf, er] at hx; exact absurd rfl hx
  · exact h r hr0 hx

theorem NZx.modRec_clear {k : Key} (rid : Nat) (h : NZx k (some rid)) (f : Rec → Rec) (hf : ∀ r, (f r).rid = r.rid)
    (hc : ∀ r ∈ k.recs, r.rid = rid → RecFine (f r)) : NZx (k.modRec rid f) none := by
  intro r hr _
  obtain ⟨r0, hr0, ⟨er, rfl⟩ | ⟨hne, rfl⟩⟩ := mem_modRec hr
  · exact hc r0 hr0 er
  · exact h r hr0 (by simpa using hne)

theorem NZx.free {k : Key} {x : Option Nat} (h : NZx k x) (rid : Nat) : NZx (k.free rid) x := by
  unfold Key.free
  split
  · intro r hr; exact h r (List.mem_filter.mp hr).1
  · exact h

theorem NZx.free_clear {k : Key} (rid : Nat) (h : NZx k (some rid)) : NZx (k.free rid) none := by
  unfold Key.free
  split
  · intro r hr _
    have := List.mem_filter.mp hr
    exact h r this.1 (by simpa using this.2)
  · rename_i hn
    intro r hr _
    apply h r hr
    intro e
    have : r.rid = rid := by simpa using e
    have hh : k.recs.any (·.rid == rid) = true := List.any_eq_true.mpr ⟨r, hr, by simp [this]⟩
    exact hn hh

theorem recFine_dec {r : Rec} (h : RecFine r) (hne : decU8 r.refCount ≠ 0) : RecFine { r with refCount := decU8 r.refCount } :=
  ⟨by simp only []; omega, h.hold, h.ended, h.fin⟩

/-- `refCount--; if refCount == 0 { FreeLock }`: the record is gone or still in order; the exemption stays as it is -/
theorem NZx.unref {k : Key} {x : Option Nat} (hn : (k.recs.map (·.rid)).Nodup) (h : NZx k x) (y : Nat) : NZx (k.unref y) x := by
  unfold Key.unref
  simp only []
  have hn1 : ((k.unrefOnly y).recs.map (·.rid)).Nodup := by unfold Key.unrefOnly; rw [map_rid_modRec _ _ _]; exact hn
  have hmem : ∀ r ∈ (k.unrefOnly y).recs, (∃ r0 ∈ k.recs, r0.rid = y ∧ r = { r0 with refCount := decU8 r0.refCount }) ∨ (r ∈ k.recs ∧ r.rid ≠ y) := by
    intro r hr
    obtain ⟨r0, hr0, ⟨er, e⟩ | ⟨hne, rfl⟩⟩ := mem_modRec hr
    · exact Or.inl ⟨r0, hr0, er, e⟩
    · exact Or.inr ⟨hr0, hne⟩
  split
  · unfold Key.free
    split
    · intro r hr hx
      have hm := List.mem_filter.mp hr
      have hne : r.rid ≠ y := by simpa using hm.2
      rcases hmem r hm.1 with ⟨r0, _, e0, e1⟩ | ⟨h1, _⟩
      · rw [e1] at hne; exact absurd e0 hne
      · exact h r h1 hx
    · rename_i hany
      intro r hr hx
      rcases hmem r hr with ⟨r0, hr0, e0, e1⟩ | ⟨h1, _⟩
      · exfalso; apply hany
        exact List.any_eq_true.mpr ⟨r, hr, by rw [e1]; simp [e0]⟩
      · exact h r h1 hx
  · rename_i hz
    intro r hr hx
    rcases hmem r hr with ⟨r0, hr0, e0, e1⟩ | ⟨h1, _⟩
    · have hg : (k.unrefOnly y).getR y = r := by
        have := mem_eq_getR hn1 hr
        rw [e1] at this ⊢; simpa [e0] using this
      rw [hg] at hz
      have hne : r.refCount ≠ 0 := by simpa using hz
      rw [e1] at hx hne ⊢
      exact recFine_dec (h r0 hr0 hx) hne
    · exact h r h1 hx

/-- `refCount--` without the zero check: fine if the count was ≥ 2 -/
theorem NZx.unrefOnly {k : Key} {x : Option Nat} (hn : (k.recs.map (·.rid)).Nodup) (h : NZx k x) (y : Nat)
    (h2 : k.hasRec y → 2 ≤ (k.getR y).refCount) : NZx (k.unrefOnly y) x := by
  intro r hr hx
  obtain ⟨r0, hr0, ⟨hry, rfl⟩ | ⟨_, rfl⟩⟩ := mem_modRec hr
  · have hg : k.getR y = r0 := by rw [← hry]; exact mem_eq_getR hn hr0
    have := h2 ⟨r0, hr0, hry⟩
    rw [hg] at this
    refine recFine_dec (h r0 hr0 hx) ?_
    simp only [decU8]
    have hne : r0.refCount ≠ 0 := by omega
    simp only [hne, if_false]; omega
  · exact h r hr0 hx

theorem NZx.clear {k : Key} (hn : (k.recs.map (·.rid)).Nodup) (y : Nat) (h : NZx k (some y)) (hy : k.hasRec y → RecFine (k.getR y)) : NZx k none := by
  intro r hr _
  by_cases e : r.rid = y
  · have hg : k.getR y = r := by rw [← e]; exact mem_eq_getR hn hr
    have := hy ⟨r, hr, e⟩
    rw [hg] at this; exact this
  · exact h r hr (by simpa using e)

theorem NZx.exempt {k : Key} (h : NZx k none) (y : Nat) : NZx k (some y) := h.weaken _

structure Key.NoDup (k : Key) : Prop where
  nd : (k.recs.map (·.rid)).Nodup

theorem Key.NoDup.modRec {k : Key} (h : k.NoDup) (rid : Nat) (f : Rec → Rec) (hf : ∀ r, (f r).rid = r.rid) : (k.modRec rid f).NoDup :=
  ⟨by rw [map_rid_modRec _ _ _ hf]; exact h.nd⟩

theorem Key.NoDup.free {k : Key} (h : k.NoDup) (rid : Nat) : (k.free rid).NoDup := by
  unfold Key.free
  split
  · have : (k.recs.filter (·.rid != rid)).map (·.rid) = (k.recs.map (·.rid)).filter (· != rid) := by rw [List.filter_map]; rfl
    exact ⟨by simp only []; rw [this]; exact List.Nodup.sublist List.filter_sublist h.nd⟩
  · exact h

theorem Key.NoDup.unref {k : Key} (h : k.NoDup) (y : Nat) : (k.unref y).NoDup := by
  unfold Key.unref
  simp only []
  have h1 : (k.unrefOnly y).NoDup := h.modRec y _ (by intro _; rfl)
  split
  · exact h1.free y
  · exact h1

theorem Key.NoDup.of_recs {k k' : Key} (h : k.NoDup) (e : k'.recs = k.recs) : k'.NoDup := ⟨by rw [e]; exact h.nd⟩

theorem nz_closed (x : Option Nat) : KClosed (fun k => k.NoDup ∧ NZx k x) :=
  { unref := fun _ y h => ⟨h.1.unref y, NZx.unref h.1.nd h.2 y⟩, locks := fun _ _ _ _ h => ⟨h.1.of_recs rfl, h.2.of_recs rfl⟩,
    wait := fun _ _ _ _ _ h => ⟨h.1.of_recs rfl, h.2.of_recs rfl⟩ }

theorem nz_getWaitLock {k : Key} {x : Option Nat} (hn : k.NoDup) (h : NZx k x) : k.getWaitLock.1.NoDup ∧ NZx k.getWaitLock.1 x :=
  (nz_closed x).getWaitLock ⟨hn, h⟩

/-- `AddWaitLock(rid)`: whatever the exemption, it stays (only counts go up, and tombstones are dropped) -/
theorem nz_addWaitLock {k : Key} {x : Option Nat} (hn : k.NoDup) (rid : Nat) (h : NZx k x) : (k.addWaitLock rid).NoDup ∧ NZx (k.addWaitLock rid) x :=
  (nz_closed x).addWaitLock (fun _ _ h => ⟨h.1.of_recs rfl, h.2.of_recs rfl⟩)
    (fun _ rid h => ⟨h.1.modRec rid _ (by intro _; rfl), h.2.modRec rid (fun r => { r with refCount := r.refCount + 1 }) (fun _ => rfl)
      (fun r hr => ⟨Nat.le_add_left 1 r.refCount, hr.hold, hr.ended, hr.fin⟩)⟩) ⟨hn, h⟩ rid

/-- `AddLock(rid)` with the exempt record: it stays exempt (it is a hold without expiry entry until `AddExpried`) -/
theorem nz_addLock_ex {k : Key} (hn : k.NoDup) (rid : Nat) (f : Rec → Rec) (hf : ∀ r, (f r).rid = r.rid)
    (h : NZx k (some rid)) : (k.addLock rid f).NoDup ∧ NZx (k.addLock rid f) (some rid) :=
  (nz_closed (some rid)).addLock (fun _ _ h => ⟨h.1.of_recs rfl, h.2.of_recs rfl⟩) rid f ⟨hn.modRec rid f hf, NZx.modRec_ex rid h f hf⟩

theorem nz_addRec {k : Key} (h : NZx k none) (r : Rec) : NZx (k.addRec r) (some r.rid) := by
  intro r1 hr1 hx
  unfold Key.addRec at hr1
  rcases List.mem_append.mp hr1 with h1 | h1
  · exact h r1 h1 (by simp)
  · simp at h1; subst h1; exact absurd rfl hx

end Slock.Engine2
