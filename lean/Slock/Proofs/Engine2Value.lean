import Slock.Proofs.Engine2Recs
import Slock.Proofs.Engine2Ops
/-! Stage-2 engine: the value cell through a whole LOCK / UNLOCK (for C15, engine part). -/
namespace Slock.Engine2
open Slock.Value (Cell getLockData processFrame)
open Slock.Engine (has mkReply)

theorem applyLock_key (db : DB) (c : Cmd) (data : Option Bytes) (b : LockBranch) : (applyLock db c data b).k.key = c.key := by
  rw [(applyLock_fr db c data b).key, (lockBase_db db c b).2.2.2.1]; exact getKey_key _ _

theorem applyUnlock_key (db : DB) (c : Cmd) (data : Option Bytes) (b : UnlockBranch) : (applyUnlock db c data b).k.key = c.key := by
  rw [(applyUnlock_fr db c data b).key]; exact getKey_key _ _

theorem lockBase_goneOK (db : DB) (c : Cmd) (b : LockBranch) : (lockBase db c b).gone = true → (lockBase db c b).db.hasKey c.key = false := by
  cases b <;> simp [lockBase, enter_gone, DB.openKey]

/-- "gone ⇒ unlinked", which every frame step keeps -/
structure GoneOK (n : Nat) (w : W) : Prop where
  key : w.k.key = n
  ok : w.gone = true → w.db.hasKey n = false

theorem GoneOK.of_fr {n : Nat} {w w' : W} (h : GoneOK n w) (f : Fr w w') : GoneOK n w' := by
  refine ⟨f.key.trans h.key, fun hg => ?_⟩
  rcases f.dbk with ⟨hk, _, e⟩ | ⟨_, _, hk, _⟩
  · rw [hasKey_congr hk]; exact h.ok (e ▸ hg)
  · rw [hasKey_eq_false_iff, hk]
    intro k hk'
    have := (List.mem_filter.mp hk').2
    rw [h.key] at this; simpa using this

theorem GoneOK.commit {n : Nat} {w : W} (h : GoneOK n w) :
    (w.gone = false ∧ w.commit.getKey n = w.k) ∨ (w.gone = true ∧ w.commit.hasKey n = false) := by
  cases hg : w.gone with
  | false => left; exact ⟨rfl, by rw [← h.key]; exact commit_getKey w hg⟩
  | true => right; exact ⟨rfl, by rw [commit_of_gone w hg]; exact h.ok hg⟩

def LockBranch.refuses : LockBranch → Bool
  | .p0a | .p0b | .stateError | .show _ | .updateEqual _ | .relockRefused _ | .unlockedWaitRefused | .timeout => true
  | _ => false

theorem newLock_keys (w : W) (c : Cmd) (d : Option Bytes) : (w.newLock c d).1.db.keys = w.db.keys := rfl

theorem refused_lock_cell (db : DB) (c : Cmd) (data : Option Bytes) (b : LockBranch) (hb : b.refuses = true) :
    ((applyLock db c data b).commit.getKey c.key).cell = (db.getKey c.key).cell ∨ (applyLock db c data b).commit.hasKey c.key = false := by
  have fin : ∀ w : W, GoneOK c.key w → (w.gone = false → w.k.cell = (db.getKey c.key).cell) →
      (w.commit.getKey c.key).cell = (db.getKey c.key).cell ∨ w.commit.hasKey c.key = false := by
    intro w h hc
    rcases h.commit with ⟨hg, e⟩ | ⟨_, e⟩
    · left; rw [e]; exact hc hg
    · right; exact e
  refine fin _ (GoneOK.of_fr ⟨(congrArg Key.key (lockBase_db db c b).2.2.2.1).trans (getKey_key _ _), lockBase_goneOK db c b⟩ (applyLock_fr db c data b)) ?_
  cases b with
  | p0a | p0b => exact fun _ => rfl
  | stateError =>
    intro hg
    simp only [applyLock, reply_k, reply_gone] at hg ⊢
    rw [Sim.removeIfZero_gone_back _ hg, enter_k]
  | «show» _ | updateEqual _ | relockRefused _ | unlockedWaitRefused => exact fun _ => by simp only [applyLock, reply_k]; rw [enter_k]
  | timeout =>
    intro hg
    simp only [applyLock, reply_k, reply_gone, W.freeCheck] at hg ⊢
    rw [Sim.removeIfZero_gone_back _ hg]; simp [W.newLock, enter_k, Key.addRec]
  | updateEqualData _ | update _ | relockNoHold _ | relock _ | grant | grantNoHold | queue => simp [LockBranch.refuses] at hb

def UnlockBranch.refuses : UnlockBranch → Bool
  | .noManager | .stateError | .notLocked | .unown | .cancelNone => true
  | _ => false

theorem refused_unlock_key (db : DB) (c : Cmd) (data : Option Bytes) (b : UnlockBranch) (hb : b.refuses = true) (n : Nat) :
    (applyUnlock db c data b).commit.getKey n = db.getKey n := by
  have fin : ∀ w : W, w.k = db.getKey c.key → w.gone = (!db.hasKey c.key) → w.db.keys = db.keys → w.commit.getKey n = db.getKey n := by
    intro w hk hg hdb
    have hdb' : w.db.getKey n = db.getKey n := by unfold DB.getKey DB.findKey; rw [hdb]
    by_cases e : n = c.key
    · subst e
      cases hh : db.hasKey c.key with
      | false => rw [commit_of_gone w (by rw [hg, hh]; rfl)]; exact hdb'
      | true => have := commit_getKey w (by rw [hg, hh]; rfl); rwa [hk, getKey_key] at this
    · exact (commit_getKey_other w n (by rw [hk, getKey_key]; exact e)).trans hdb'
  cases b with
  | noManager => exact fin _ rfl rfl rfl
  | stateError | notLocked | unown | cancelNone => exact fin _ rfl rfl rfl
  | cancel _ | dec _ _ | release _ _ => simp [UnlockBranch.refuses] at hb

/-- the `Ctx` a call site of `ProcessLockData` has: `locked` as the site has already adjusted it -/
def ctxAt (k : Key) (locked : Nat) (ct : Slock.Value.CmdType) (c : Cmd) : Slock.Value.Ctx :=
  ⟨locked, k.waited, ct, updOrZero c, has c.flag Slock.Engine.F_FROM_AOF, false⟩

theorem value_after (n : Nat) (wf : W) (hk : wf.k.key = n) (hg : wf.gone = false) : wf.commit.getKey n = wf.k :=
  hk ▸ commit_getKey wf hg

theorem wake_of_not_waited (w : W) (h : w.k.waited = false) : w.wake = w := by unfold W.wake; rw [h]; rfl

theorem updateLocked_waited (w : W) (rid : Nat) (c : Cmd) : (w.updateLocked rid c).k.waited = w.k.waited := by
  unfold W.updateLocked
  simp only []
  rw [modR_k, modRec_waited]
  unfold W.when
  split
  · exact (book_addExpried _ rid).waited
  · rfl

/-- re-lock (`L1f`) on a key nobody waits for (a wake pass follows the reply): `locked` already counts the new level -/
theorem relock_value (db : DB) (c : Cmd) (data : Option Bytes) (h : Nat) (f : Bytes) (cell' : Option Cell)
    (hw : (db.getKey c.key).waited = false) (hf : frameOf c data = some f)
    (hp : processFrame (ctxAt (db.getKey c.key) ((db.getKey c.key).locked + 1) .lock c) (db.getKey c.key).cell f = .ok cell') :
    vstrip ((applyLock db c data (.relock h)).commit.getKey c.key).cell = vstrip cell' := by
  have hkey := applyLock_key db c data (.relock h)
  simp only [applyLock] at hkey ⊢
  rw [hf] at hkey ⊢
  have hspec := procData_spec (((db.enter c.key).modR h (fun r => { r with depth := r.depth + 1 })).modK incLocked) .lock c f h cell'
    (by simpa [frameCtx, ctxAt, incLocked, enter_k] using hp)
  rw [← hspec.1]
  have q := ((FQ.updateLocked ((((db.enter c.key).modR h (fun r => { r with depth := r.depth + 1 })).modK incLocked).procData .lock c (some f) h) h c).trans
    (FQ.journalLock _ h AOF_UPDATED)).trans (FQ.ctr _ (fun x => { x with lockCount := x.lockCount + 1, lockedCount := x.lockedCount + 1 }))
  rw [wake_of_not_waited _ (by
    simp only [reply_k, ctr_k]
    rw [(book_journalLock _ h AOF_UPDATED).waited, updateLocked_waited, procData_waited]
    show (db.enter c.key).k.waited = false
    rw [enter_k]; exact hw)] at hkey ⊢
  rw [value_after c.key _ hkey (by simp only [reply_gone]; rw [q.qt.gone]; simp [enter_gone])]
  simp only [reply_k]; exact q.qt.cell

/-- update (`L1d`, answered LOCKED_ERROR, which the reading note of C15 counts as accepted) -/
theorem update_value (db : DB) (c : Cmd) (data : Option Bytes) (h : Nat) (f : Bytes) (cell' : Option Cell)
    (hw : (db.getKey c.key).waited = false) (hf : frameOf (lockCmdOf (db.getKey c.key) c (.update h)) data = some f)
    (hp : processFrame (ctxAt (db.getKey c.key) (db.getKey c.key).locked .lock (lockCmdOf (db.getKey c.key) c (.update h)))
      (db.getKey c.key).cell f = .ok cell') :
    vstrip ((applyLock db c data (.update h)).commit.getKey c.key).cell = vstrip cell' := by
  have hkey := applyLock_key db c data (.update h)
  simp only [applyLock] at hkey ⊢
  rw [enter_k, hf] at hkey ⊢
  have hspec := procData_spec (db.enter c.key) .lock (lockCmdOf (db.getKey c.key) c (.update h)) f h cell'
    (by simpa [frameCtx, ctxAt, enter_k] using hp)
  rw [← hspec.1]
  have q := (FQ.updateLocked ((db.enter c.key).procData .lock (lockCmdOf (db.getKey c.key) c (.update h)) (some f) h) h
    (lockCmdOf (db.getKey c.key) c (.update h))).trans
    (FQ.when _ (!has (lockCmdOf (db.getKey c.key) c (.update h)).flag Slock.Engine.F_FROM_AOF) (·.journalLock h AOF_UPDATED) (FQ.journalLock _ _ _))
  rw [wake_of_not_waited _ (by
    simp only [reply_k]
    have hwhen : ∀ (w : W) (b : Bool), (w.when b (·.journalLock h AOF_UPDATED)).k.waited = w.k.waited := by
      intro w b; cases b
      · rfl
      · exact (book_journalLock w h AOF_UPDATED).waited
    rw [hwhen, updateLocked_waited, procData_waited, enter_k]; exact hw)] at hkey ⊢
  rw [value_after c.key _ hkey (by simp only [reply_gone]; rw [q.qt.gone]; simp [enter_gone])]
  simp only [reply_k]; exact q.qt.cell

/-- unlock of one level (`U4`) on a key nobody waits for: `locked` already lowered -/
theorem dec_value (db : DB) (c : Cmd) (data : Option Bytes) (h : Nat) (c' : Cmd) (f : Bytes) (cell' : Option Cell)
    (hk : db.hasKey c.key = true) (hw : (db.getKey c.key).waited = false) (hf : frameOf c' data = some f)
    (hp : processFrame (ctxAt (db.getKey c.key) ((db.getKey c.key).locked - 1) .unlock c') (db.getKey c.key).cell f = .ok cell') :
    vstrip ((applyUnlock db c data (.dec h c')).commit.getKey c.key).cell = vstrip cell' := by
  have hkey := applyUnlock_key db c data (.dec h c')
  simp only [applyUnlock] at hkey ⊢
  rw [hf] at hkey ⊢
  have hspec := procData_spec (((db.openKey c.key).modR h (fun r => { r with depth := r.depth - 1 })).modK
    (fun k => { k with locked := k.locked - 1 })) .unlock c' f h cell' (by simpa [frameCtx, ctxAt, DB.openKey] using hp)
  rw [← hspec.1]
  have q := (FQ.journalUnlock ((((db.openKey c.key).modR h (fun r => { r with depth := r.depth - 1 })).modK
    (fun k => { k with locked := k.locked - 1 })).procData .unlock c' (some f) h) h (has c'.flag Slock.Engine.F_FROM_AOF) true AOF_UPDATED).trans
    (FQ.ctr _ (fun y => { y with unLockCount := y.unLockCount + 1, lockedCount := y.lockedCount - 1 }))
  have hwt := fun (w : W) rid a b fl => (book_journalUnlock w rid a b fl).waited
  rw [wake_of_not_waited _ (by simp only [reply_k, ctr_k]; rw [hwt]; simpa [DB.openKey] using hw)] at hkey ⊢
  rw [value_after c.key _ hkey (by simp only [reply_gone]; rw [q.qt.gone]; simp [DB.openKey, hk])]
  simp only [reply_k]; exact q.qt.cell

end Slock.Engine2
