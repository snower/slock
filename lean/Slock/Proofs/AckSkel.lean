import Slock.Proofs.AckBasic
/-! M-ACK: one induction principle per control structure of the model (wake pass, the two sweeps, tick, journal delivery, report, demotion). A
property `P db out` of a state and the replies produced so far is carried through the structure once it is carried through its leaves;
every invariant, frame and output fact of the operations is an instance. -/
namespace Slock.Ack

theorem foldl_inv {α β : Type} (P : β → Prop) (f : β → α → β) (hf : ∀ b a, P b → P (f b a)) (l : List α) (b : β) (hb : P b) :
    P (l.foldl f b) :=
  foldl_pending (f := f) (J := fun b _ => P b) (fun b a _ h => hf b a h) l [] b hb

theorem wake_ind (k : Nat) (P : DB → List Reply → Prop)
    (hstep : ∀ db out, P db out → classifyWake db k ≠ .stop →
      P (applyWake db k (classifyWake db k)).1 (out ++ (applyWake db k (classifyWake db k)).2))
    (hstop : ∀ db out, P db out → P (db.modKey k (fun x => { x with waited := false })) out)
    (db : DB) (out : List Reply) (h : P db out) : P (db.wake k out).1 (db.wake k out).2 := by
  unfold DB.wake; split
  · -- `k` varies in the derived principle: every hypothesis about `k` would go into the induction hypothesis, the test of `waited` too
    rename_i hw; clear hw
    generalize (db.waiters k).length + 1 = fuel
    fun_induction wakeLoop fuel db k out with
    | case1 => exact h
    | case2 => split; exact hstop _ _ h; exact h
    | case3 _ _ _ _ hne r ih => exact ih hstep hstop (hstep _ _ h hne)
  · exact h

def Rearm (f : Rec → Rec) : Prop :=
  ∀ r, ∃ tT ts eT es, f r = { r with timeoutT := tT, tsched := ts, expT := eT, esched := es }

theorem sweepTimeout_ind (P : DB → List Reply → Prop)
    (hre : ∀ d o hid f n, P d o → Rearm f → P { d.modR hid f with seq := n } o)
    (hfire : ∀ d o hid, P d o → (d.getR hid).timeouted = false → P (fireTimeout d hid).1 (o ++ (fireTimeout d hid).2))
    (db : DB) (c : Nat) (out : List Reply) (h : P db out) : P (sweepTimeout db c).1 (out ++ (sweepTimeout db c).2) := by
  unfold sweepTimeout
  simp only []
  apply foldl_inv (fun acc : DB × List Reply => P acc.1 (out ++ acc.2)) fireTimeoutStep
  · intro acc hid ha
    unfold fireTimeoutStep
    split
    · exact ha
    · rename_i hnt
      simp only []; rw [← List.append_assoc]
      exact hfire _ _ hid ha (by simpa using hnt)
  · rw [List.append_nil]
    apply foldl_inv (fun acc : DB × List Nat => P acc.1 out) timeoutStep _ _ _ h
    intro acc r0 ha
    unfold timeoutStep
    simp only []
    split
    · exact hre _ _ _ _ _ ha (fun r => ⟨_, _, r.expT, r.esched, rfl⟩)
    · exact ha

theorem sweepExpire_ind (P : DB → List Reply → Prop)
    (hre : ∀ d o hid f n, P d o → Rearm f → P { d.modR hid f with seq := n } o)
    (hfire : ∀ d o hid, P d o → (d.getR hid).expried = false → P (fireExpire d hid).1 (o ++ (fireExpire d hid).2))
    (db : DB) (c : Nat) (out : List Reply) (h : P db out) : P (sweepExpire db c).1 (out ++ (sweepExpire db c).2) := by
  unfold sweepExpire
  simp only []
  apply foldl_inv (fun acc : DB × List Reply => P acc.1 (out ++ acc.2)) fireExpireStep
  · intro acc hid ha
    unfold fireExpireStep
    split
    · exact ha
    · rename_i hne
      simp only []; rw [← List.append_assoc]
      exact hfire _ _ hid ha (by simpa using hne)
  · rw [List.append_nil]
    apply foldl_inv (fun acc : DB × List Nat => P acc.1 out) expireStep _ _ _ h
    intro acc r0 ha
    unfold expireStep
    simp only []
    split
    · exact hre _ _ _ _ _ ha (fun r => ⟨r.timeoutT, r.tsched, _, _, rfl⟩)
    · exact ha

/-- `hclk`: the property does not look at the clock or the wheel positions -/
theorem opTick_ind (P : DB → List Reply → Prop)
    (hclk : ∀ d o n t e, P d o → P { d with now := n, tCheck := t, eCheck := e } o)
    (hre : ∀ d o hid f n, P d o → Rearm f → P { d.modR hid f with seq := n } o)
    (hfT : ∀ d o hid, P d o → (d.getR hid).timeouted = false → P (fireTimeout d hid).1 (o ++ (fireTimeout d hid).2))
    (hfE : ∀ d o hid, P d o → (d.getR hid).expried = false → P (fireExpire d hid).1 (o ++ (fireExpire d hid).2))
    (db : DB) (out : List Reply) (h : P db out) : P (opTick db).1 (out ++ (opTick db).2) := by
  unfold opTick
  dsimp only
  rw [← List.append_assoc]
  apply sweepExpire_ind P hre hfE
  have h1 := sweepTimeout_ind P hre hfT _ (db.now + 1) out (hclk db out (db.now + 1) (db.now + 1 + 1) db.eCheck h)
  generalize sweepTimeout _ (db.now + 1) = r at h1 ⊢
  exact hclk r.1 _ _ _ _ h1

def popJ (db : DB) (k : Nat) : DB := { db with journal := db.journal.eraseP (·.key == k), nextId := db.nextId + 1 }

/-- Journal delivery from ONE state `db`. Its leaves: the record leaves the journal (`hpop`), a table entry goes (`hdrop`), `DoAckLock(lock,
false)` (`hfail`), and `ProcessLeaderPushLock` arming the counter of the lock `hid` the LOCK record `j` points at and registering it (`harm`). -/
theorem opPush_ind (P : DB → List Reply → Prop) {db : DB} {k : Nat} (h : P db [])
    (hpop : P (popJ db k) [])
    (hdrop : ∀ d o id, P d o → P (d.dropEnt id) o)
    (hfail : ∀ d o hid, P d o → P (ackDone d hid false).1 (o ++ (ackDone d hid false).2))
    (harm : ∀ j hid, db.journal.find? (·.key == k) = some j → j.isLock = true → j.hid = some hid → ((popJ db k).getR hid).depth ≠ 0 →
      P { (popJ db k).modR hid (fun r => { r with ack := reqAcks (popJ db k).cfg }) with
          tab := (popJ db k).tab ++ [{ id := (popJ db k).nextId, req := ((popJ db k).getR hid).cmd.req, hid := hid }] } [])
    (werr : Bool) : P (opPush db k werr).1 (opPush db k werr).2 := by
  fun_cases opPush db k werr
  case case1 => exact h
  case case2 => exact hpop
  -- the last two cases differ in the write-error tail only: `r1` = what the leader's tables made of the record, proved once for both
  case' case3 => rename_i r2; simp only [r2]; clear r2
  all_goals
    rename_i j hj db1 hid hh r1 hw
    have h2 : P r1.1 r1.2 := by
      simp only [r1]
      split
      · rename_i hl
        split
        · unfold leaderPushLock
          rw [if_neg (by simp [hl])]
          split
          · exact hfail _ _ hid hpop
          · rename_i hc
            exact harm j hid hj ‹_› hh (by simp only [Bool.or_eq_true, beq_iff_eq, not_or] at hc; exact hc.2)
        · unfold leaderPushUnLock
          split
          · exact hfail _ _ hid (hdrop _ _ _ hpop)
          · exact hpop
      · exact hpop
  · exact hfail _ _ hid h2
  · exact h2

/-- A report for record id `id` from ONE state `db`, `e` the entry it is looked up under. Its leaves: a negative report or one for a settled
lock (`hfail`); a positive one that leaves the counter positive and is noted (`hnote`); the last one, `DoAckLock(lock, true)` (`hlast`). -/
theorem opReport_ind (P : DB → List Reply → Prop) {db : DB} (id : Nat) (who : Option Nat) (ok : Bool) (h : P db [])
    (hfail : ∀ e, db.findId id = some e → (ok = false ∨ (db.getR e.hid).pending = false) →
      P (ackDone (db.dropEnt id) e.hid false).1 (ackDone (db.dropEnt id) e.hid false).2)
    (hnote : ∀ e, db.findId id = some e → ok = true → (db.getR e.hid).pending = true → decU8 (db.getR e.hid).ack > 0 →
      P { db.modR e.hid (fun r => { r with ack := decU8 r.ack }) with tab := noteOk id who db.tab } [])
    (hlast : ∀ e, db.findId id = some e → ok = true → (db.getR e.hid).pending = true → decU8 (db.getR e.hid).ack = 0 →
      P (ackDone ((db.modR e.hid (fun r => { r with ack := decU8 r.ack })).dropEnt id) e.hid true).1
        (ackDone ((db.modR e.hid (fun r => { r with ack := decU8 r.ack })).dropEnt id) e.hid true).2) :
    P (opReport db id who ok).1 (opReport db id who ok).2 := by
  unfold opReport
  split
  · exact h
  · rename_i e he
    simp only []
    split
    · rename_i hc
      exact hfail e he (by simpa using hc)
    · rename_i hc
      simp only [Bool.or_eq_true, Bool.not_eq_eq_eq_not, Bool.not_true, not_or, Bool.not_eq_false] at hc
      split
      · exact hnote e he hc.1 hc.2 ‹_›
      · exact hlast e he hc.1 hc.2 (by omega)

theorem opFailAll_ind (P : DB → List Reply → Prop)
    (hfail : ∀ d o hid, P d o → P (ackDone d hid false).1 (o ++ (ackDone d hid false).2))
    (hclr : ∀ d o, P d o → P { d with tab := [] } o)
    (db : DB) (order : List Nat) (h : P db []) : P (opFailAll db order).1 (opFailAll db order).2 := by
  unfold opFailAll
  simp only []
  apply hclr
  exact foldl_inv (fun acc : DB × List Reply => P acc.1 acc.2) failStep (fun _ hid ha => hfail _ _ hid ha) _ _ h

end Slock.Ack
