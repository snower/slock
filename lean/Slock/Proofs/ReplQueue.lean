import Slock.Model.Repl
/-!
List facts for the replication buffer queue model (C09): the linked items as a segment of the pushed history (`LiveOk`), two
lists related item by item (`Pointwise`), and what the pointer walks `after`, `bumpFrom`, `bumpOne` do.
-/
namespace Slock.Repl

def content (it : Item) : Nat × Nat × Nat := (it.id, it.ord, it.dlen)

/-- the linked items are exactly the records `hist[k], hist[k+1], …, hist[last]`, in order, with `seq` = position -/
def LiveOk : Nat → List Item → List (Nat × Nat × Nat) → Prop
  | k, [], hist => k = hist.length
  | k, it :: l, hist => it.seq = k ∧ hist[k]? = some (content it) ∧ LiveOk (k + 1) l hist

theorem LiveOk.len {k l hist} (h : LiveOk k l hist) : k + l.length = hist.length := by
  induction l generalizing k with
  | nil => exact h
  | cons it l ih => have := ih h.2.2; simp only [List.length_cons]; omega

theorem LiveOk.mem {k l hist it} (h : LiveOk k l hist) (hm : it ∈ l) :
    k ≤ it.seq ∧ it.seq < hist.length ∧ hist[it.seq]? = some (content it) := by
  induction l generalizing k with
  | nil => cases hm
  | cons a l ih =>
    obtain ⟨h1, h2, h3⟩ := h
    have hl := h3.len
    rcases List.mem_cons.mp hm with rfl | hm
    · exact ⟨by omega, by omega, h1 ▸ h2⟩
    · obtain ⟨a1, a2⟩ := ih h3 hm
      exact ⟨by omega, a2⟩

theorem LiveOk.append {k l hist} (new : Item) (h : LiveOk k l hist) (hs : new.seq = hist.length) :
    LiveOk k (l ++ [new]) (hist ++ [content new]) := by
  induction l generalizing k with
  | nil => cases (show k = hist.length from h); simp [LiveOk, hs]
  | cons a l ih =>
    obtain ⟨h1, h2, h3⟩ := h
    have hl := h3.len
    exact ⟨h1, by rw [List.getElem?_append_left (by omega)]; exact h2, ih h3⟩

theorem LiveOk.suffix {k pre l hist} (h : LiveOk k (pre ++ l) hist) : LiveOk (k + pre.length) l hist := by
  induction pre generalizing k with
  | nil => exact h
  | cons a pre ih => rw [List.length_cons, Nat.add_comm pre.length, ← Nat.add_assoc]; exact ih h.2.2

theorem LiveOk.split {k pre it post hist} (h : LiveOk k (pre ++ it :: post) hist) :
    it.seq = k + pre.length ∧ hist[it.seq]? = some (content it) ∧ LiveOk (it.seq + 1) post hist := by
  obtain ⟨h1, h2, h3⟩ := h.suffix
  exact ⟨h1, h1 ▸ h2, h1 ▸ h3⟩

theorem LiveOk.head_seq {k it l hist} (h : LiveOk k (it :: l) hist) : it.seq = k := h.1

theorem LiveOk.seq_inj {k l hist a b} (h : LiveOk k l hist) (ha : a ∈ l) (hb : b ∈ l) (hs : a.seq = b.seq) : a = b := by
  induction l generalizing k with
  | nil => cases ha
  | cons x l ih =>
    obtain ⟨h1, _, h3⟩ := h
    rcases List.mem_cons.mp ha with rfl | ha' <;> rcases List.mem_cons.mp hb with rfl | hb'
    · rfl
    · have := (h3.mem hb').1; omega
    · have := (h3.mem ha').1; omega
    · exact ih h3 ha' hb'

theorem LiveOk.exists_seq {k l hist s} (h : LiveOk k l hist) (h1 : k ≤ s) (h2 : s < hist.length) :
    ∃ it ∈ l, it.seq = s := by
  induction l generalizing k with
  | nil => cases (show k = hist.length from h); omega
  | cons a l ih =>
    by_cases hs : s = k
    · exact ⟨a, List.mem_cons_self .., hs ▸ h.1⟩
    · obtain ⟨x, hx, hxs⟩ := ih h.2.2 (by omega)
      exact ⟨x, List.mem_cons_of_mem _ hx, hxs⟩

theorem after_some {l : List Item} {sid it nxt} (h : after l sid = some (it, nxt)) :
    ∃ pre, l = pre ++ it :: nxt ∧ it.sid = sid := by
  induction l with
  | nil => cases h
  | cons a l ih =>
    unfold after at h
    split at h
    · cases h; exact ⟨[], rfl, ‹_›⟩
    · obtain ⟨pre, rfl, hs⟩ := ih h
      exact ⟨a :: pre, rfl, hs⟩

theorem after_none {l : List Item} {sid} (h : after l sid = none) : ∀ it ∈ l, it.sid ≠ sid := by
  induction l with
  | nil => intro it hm; cases hm
  | cons a l ih =>
    unfold after at h
    split at h
    · cases h
    · intro it hm
      rcases List.mem_cons.mp hm with rfl | hm
      · assumption
      · exact ih h it hm

def Pointwise (R : Item → Item → Prop) : List Item → List Item → Prop
  | [], [] => True
  | a :: l, b :: m => R a b ∧ Pointwise R l m
  | _, _ => False

theorem Pointwise.refl {R : Item → Item → Prop} (hR : ∀ a, R a a) : ∀ l, Pointwise R l l
  | [] => trivial
  | a :: l => ⟨hR a, Pointwise.refl hR l⟩

theorem Pointwise.map {R : Item → Item → Prop} (f : Item → Item) (hR : ∀ a, R a (f a)) : ∀ l, Pointwise R l (l.map f)
  | [] => trivial
  | a :: l => ⟨hR a, Pointwise.map f hR l⟩

theorem Pointwise.imp {R S : Item → Item → Prop} (hrs : ∀ a b, R a b → S a b) : ∀ {l m}, Pointwise R l m → Pointwise S l m
  | [], [], _ => trivial
  | _ :: _, _ :: _, h => ⟨hrs _ _ h.1, Pointwise.imp hrs h.2⟩
  | [], _ :: _, h => h.elim
  | _ :: _, [], h => h.elim

theorem Pointwise.length {R : Item → Item → Prop} : ∀ {l m}, Pointwise R l m → l.length = m.length
  | [], [], _ => rfl
  | _ :: l, _ :: m, h => by simp [Pointwise.length h.2]
  | [], _ :: _, h => h.elim
  | _ :: _, [], h => h.elim

theorem Pointwise.mem_right {R : Item → Item → Prop} : ∀ {l m}, Pointwise R l m → ∀ b ∈ m, ∃ a ∈ l, R a b
  | [], [], _, b, hb => by cases hb
  | a :: l, c :: m, h, b, hb => by
    rcases List.mem_cons.mp hb with rfl | hb
    · exact ⟨a, List.mem_cons_self .., h.1⟩
    · obtain ⟨x, hx, hr⟩ := Pointwise.mem_right h.2 b hb
      exact ⟨x, List.mem_cons_of_mem _ hx, hr⟩
  | [], _ :: _, h, _, _ => h.elim
  | _ :: _, [], h, _, _ => h.elim

theorem Pointwise.mem_left {R : Item → Item → Prop} : ∀ {l m}, Pointwise R l m → ∀ a ∈ l, ∃ b ∈ m, R a b
  | [], [], _, b, hb => by cases hb
  | a :: l, c :: m, h, b, hb => by
    rcases List.mem_cons.mp hb with rfl | hb
    · exact ⟨c, List.mem_cons_self .., h.1⟩
    · obtain ⟨x, hx, hr⟩ := Pointwise.mem_left h.2 b hb
      exact ⟨x, List.mem_cons_of_mem _ hx, hr⟩
  | [], _ :: _, h, _, _ => h.elim
  | _ :: _, [], h, _, _ => h.elim

theorem LiveOk.pointwise {R : Item → Item → Prop} (hR : ∀ a b, R a b → b.seq = a.seq ∧ content b = content a) {k l m hist}
    (hp : Pointwise R l m) (h : LiveOk k l hist) : LiveOk k m hist := by
  induction l generalizing k m with
  | nil => cases m with
    | nil => exact h
    | cons _ _ => exact hp.elim
  | cons a l ih => cases m with
    | nil => exact hp.elim
    | cons b m =>
      obtain ⟨s2, s3⟩ := hR a b hp.1
      exact ⟨s2 ▸ h.1, s3 ▸ h.2.1, ih hp.2 h.2.2⟩

theorem LiveOk.map {k l hist} (f : Item → Item) (hf : ∀ it, (f it).seq = it.seq ∧ content (f it) = content it)
    (h : LiveOk k l hist) : LiveOk k (l.map f) hist :=
  LiveOk.pointwise (R := fun a b => f a = b) (fun a _ e => e ▸ hf a) (Pointwise.map f (fun _ => rfl) l) h

def Same (a b : Item) : Prop := b.sid = a.sid ∧ b.seq = a.seq ∧ content b = content a

theorem same_refl (a : Item) : Same a a := ⟨rfl, rfl, rfl⟩
theorem same_incPollCount (a : Item) : Same a (incPollCount a) := ⟨rfl, rfl, rfl⟩
theorem same_incPollIndex (a : Item) : Same a (incPollIndex a) := ⟨rfl, rfl, rfl⟩

theorem bumpFrom_pointwise {R : Item → Item → Prop} (f : Item → Item) (hr : ∀ a, R a a) (hf : ∀ a, R a (f a))
    {l : List Item} {sid l'} (h : bumpFrom f l sid = some l') : Pointwise R l l' := by
  induction l generalizing l' with
  | nil => cases h
  | cons a l ih =>
    unfold bumpFrom at h
    split at h
    · cases h; exact Pointwise.map f hf (a :: l)
    · cases hb : bumpFrom f l sid with
      | none => rw [hb] at h; cases h
      | some m => rw [hb] at h; cases h; exact ⟨hr a, ih hb⟩

theorem bumpOne_pointwise {R : Item → Item → Prop} (f : Item → Item) (hr : ∀ a, R a a) (hf : ∀ a, R a (f a))
    {l : List Item} {sid l'} (h : bumpOne f l sid = some l') : Pointwise R l l' := by
  induction l generalizing l' with
  | nil => cases h
  | cons a l ih =>
    unfold bumpOne at h
    split at h
    · cases h; exact ⟨hf a, Pointwise.refl hr l⟩
    · cases hb : bumpOne f l sid with
      | none => rw [hb] at h; cases h
      | some m => rw [hb] at h; cases h; exact ⟨hr a, ih hb⟩

theorem bumpFrom_eq_none (f : Item → Item) (l : List Item) (sid : Nat) : bumpFrom f l sid = none ↔ after l sid = none := by
  induction l with
  | nil => exact ⟨fun _ => rfl, fun _ => rfl⟩
  | cons a l ih =>
    unfold bumpFrom after
    split
    · exact ⟨nofun, nofun⟩
    · rw [← ih]; cases bumpFrom f l sid <;> simp

end Slock.Repl
