import Slock.Proofs.EngineSimTickStepT
/-! Clock-tick simulation (`sim_tick`): ONE step of each phase of the expiry sweep (`expireStep true`, `expireStep false`,
`fireExpireStep`) on the record level against stage 1's step, as a step of the relation its fold carries. `S = []` throughout: the
long-table pass of this wheel changes nothing on the record level (`passLE_live`) — the timeout sweeper clears the `long` flag of what it
collects because a wake pass ahead of the firing drops the long-table entry of a request it grants; a wake pass does not touch holds. -/
namespace Slock.SimTick
open Slock Slock.Sim Slock.Engine2

theorem expireStep_leader (slot : Bool) (s : DB) (C : List Ent) (e : Ent) : (expireStep slot (s, C) e).1.leader = s.leader :=
  (expireStep_journal slot (s, C) e).1
theorem fireExpireStep_leader (s : DB) (o : List Reply) (e : Ent) : (fireExpireStep (s, o) e).1.leader = s.leader :=
  (fireExpireStep_journal (s, o) e).1

/-- stage 1 still has the hold `x`, under the key its command names -/
def atE (a : Engine.DB) (x : Engine.Hold) : Prop := x ∈ (a.getKey x.cmd.key).holders

/-- `PassR` of the expiry wheel: pairing `PE`; a dead entry is neither a live hold nor a live queued request — the second conjunct
because a wake pass could make a hold of the latter (`PE.nw`, `deadE_step`) -/
abbrev PassE := PassR PE (fun s e => liveE s e = false ∧ liveT s e = false) atE

theorem pend_liveE {s : DB} {a : Engine.DB} {e : Ent} {x : Engine.Hold} (sy : WF s) (he : Equiv (Engine2.abs s) a) (pe : PE s e x) (hx : atE a x) :
    liveE s e = true ∧ viewE s e = x := by
  have hm : x ∈ (Key.abs (s.getKey e.key)).holders := by
    rw [← abs_getKey s sy.dbq.dbt.dbi.kn e.key, he.keys e.key]
    exact pe.key ▸ hx
  cases hl : liveE s e with
  | false => exact absurd rfl (pe.dead hl _ hm)
  | true => exact ⟨rfl, nodup_map_inj (·.hid) _ (sy.dbk.getKey e.key).hidNodup (liveE_facts sy hl).2.2 hm (pe.live hl)⟩

theorem mem_replaceHolder_of_ne {hs : List Engine.Hold} {h h' x : Engine.Hold} (hx : x ∈ hs) (hne : x ≠ h) : x ∈ Engine.replaceHolder hs h h' := by
  induction hs with
  | nil => simp at hx
  | cons y rest ih =>
    unfold Engine.replaceHolder
    split
    · rename_i e
      rcases List.mem_cons.mp hx with h1 | h1
      · exact absurd (h1.trans e) hne
      · exact List.mem_cons_of_mem _ h1
    · rcases List.mem_cons.mp hx with h1 | h1
      · rw [h1]; exact List.mem_cons_self ..
      · exact List.mem_cons_of_mem _ (ih h1)

theorem rearmHold_at {a : Engine.DB} {x h : Engine.Hold} (hx : atE a x) (hne : x ≠ h) : atE (Engine.rearmHold a h) x := by
  unfold atE at hx ⊢
  rw [rearmHold_eq]
  by_cases e : x.cmd.key = h.cmd.key
  · have hk : (replK (a.getKey h.cmd.key) h (rearmH a.eCheck a.seq h)).key = x.cmd.key := (Engine.getKey_key a h.cmd.key).trans e.symm
    rw [← hk, Sim.getKey_setKey_same]
    exact mem_replaceHolder_of_ne (e ▸ hx) hne
  · rw [Sim.getKey_setKey_other _ _ _ (by show x.cmd.key ≠ (a.getKey h.cmd.key).key; rw [Engine.getKey_key]; exact e)]
    exact hx

theorem deadE_visit {e : Ent} {todo : List (Ent × Option Engine.Hold)} {s : DB} {a : Engine.DB} {C2 : List Ent} {C1 : List Engine.Hold}
    (h : PassE [] ((e, none) :: todo) (s, C2) (a, C1)) (slot : Bool) : PassE [] todo (expireStep slot (s, C2) e) (a, C1) := by
  have he := h.eq.equiv
  have hd : liveE s e = false ∧ liveT s e = false := h.pend _ (List.mem_cons_self ..)
  obtain ⟨w', hv, e1⟩ := sim_visitE_stutter s h.wf.dbq h.wf.dbk e.key e.rid slot (k1_of_equiv h.wf he h.i1 e.key) (liveE_false_cases hd.1)
  have hs' := expireStep_wf slot s C2 e h.wf
  have F := expireStep_wfd slot s C2 e h.wf.dbq
  have hstep : expireStep slot (s, C2) e = (w'.commit, C2) := by unfold expireStep; simp only [hv]
  rw [hstep] at hs' F ⊢
  exact h.next hs' h.i1 (EqL.left e1 h.eq) (fun _ _ => pe_step F F.seq h.wf hs') (fun _ => deadE_step F h.wf hs') (fun _ _ _ _ hv => hv)

/-- **one step of pass 1 (slot entries)**: an ended entry dropped; a live hold re-armed in both models, or collected in both -/
theorem slotE_step (p : Ent × Option Engine.Hold) (todo : List (Ent × Option Engine.Hold)) (x2 : DB × List Ent) (x1 : Engine.DB × List Engine.Hold)
    (h : PassE [] (p :: todo) x2 x1) : PassE [] todo (expireStep true x2 p.1) (optStep Engine.expireStep x1 p.2) := by
  obtain ⟨s, C2⟩ := x2
  obtain ⟨a, C1⟩ := x1
  obtain ⟨e, o⟩ := p
  cases o with
  | none => exact deadE_visit h true
  | some v =>
    have he := h.eq.equiv
    have k1 := k1_of_equiv h.wf he h.i1 e.key
    obtain ⟨pe, hv1⟩ : PE s e v ∧ atE a v := h.pend _ (List.mem_cons_self ..)
    obtain ⟨hl, hview⟩ := pend_liveE h.wf he pe hv1
    subst hview
    obtain ⟨hT, hl'⟩ := liveE_spec hl
    show PassE [] todo _ (Engine.expireStep (a, C1) (viewE s e))
    by_cases hdue : ((s.getKey e.key).getR e.rid).expT > s.now
    · obtain ⟨hv, e1⟩ := sim_rearmE s h.wf.dbq h.wf.dbk h.wf.dbkt e.key e.rid k1 hT hl' hdue
      have h1 : Engine.expireStep (a, C1) (viewE s e) = (Engine.rearmHold a (viewE s e), C1) := by
        unfold Engine.expireStep
        have : (viewE s e).expT > a.now := by rw [← he.now]; exact hdue
        simp only [this, if_true]
      have hs' := expireStep_wf true s C2 e h.wf
      have F := expireStep_wfd true s C2 e h.wf.dbq
      have hstep : expireStep true (s, C2) e = ((((s.openKey e.key).modR e.rid bumpE).addExpried e.rid).commit, C2) := by
        unfold expireStep; simp only [hv]
      rw [hstep] at hs' F ⊢
      rw [h1]
      refine h.next hs' (h.i1.rearmH (he.now ▸ hdue)) (EqL.of_equiv (e1.trans (rearmHold_congr he _)))
        (fun _ _ => pe_step F F.seq h.wf hs') (fun _ => deadE_step F h.wf hs') fun q hq v' hq2 hv' => ?_
      have hpq := h.pend q (List.mem_cons_of_mem _ hq)
      unfold Matched at hpq
      rw [hq2] at hpq
      refine rearmHold_at hv' fun hc => ?_
      -- two pending entries are not paired with the same hold
      obtain ⟨hlq, hvq⟩ := pend_liveE h.wf he hpq.1 hv'
      have hkey : q.1.key = e.key := by rw [← pe.key, ← hpq.1.key, hc]
      have hrid : q.1.rid = e.rid := by
        refine (h.wf.dbk.getKey e.key).hinj _ _ (hkey ▸ (liveE_facts h.wf hlq).1) (liveE_facts h.wf hl).1 (hkey ▸ (liveE_facts h.wf hlq).2.1)
          (liveE_facts h.wf hl).2.1 ?_
        have : (viewE s q.1).hid = (viewE s e).hid := by rw [hvq, hc]
        unfold viewE at this
        rw [hkey] at this
        exact this
      exact (List.nodup_cons.mp h.nd).1 (List.mem_map.mpr ⟨q, hq, by unfold eid; rw [hkey, hrid]⟩)
    · have hv : (s.openKey e.key).visitExpire true e.rid = none := by
        rw [visitE_live_cases (s.openKey e.key) true e.rid hT hl']
        have : ¬ (((s.openKey e.key).k.getR e.rid).expT > (s.openKey e.key).db.now) := hdue
        simp [this]
      have h1 : Engine.expireStep (a, C1) (viewE s e) = (a, C1 ++ [viewE s e]) := by
        unfold Engine.expireStep
        have : ¬ ((viewE s e).expT > a.now) := by rw [← he.now]; exact hdue
        simp only [this, if_false]
      have hstep : expireStep true (s, C2) e = (s, C2 ++ [e]) := by unfold expireStep; simp only [hv]
      rw [hstep, h1]
      exact (h.next h.wf h.i1 h.eq (fun _ _ hp => hp) (fun _ hd => hd) (fun _ _ _ _ hv => hv)).collect pe

theorem passLE_live (s : DB) (C2 : List Ent) (e0 : Ent) (hl : liveE s e0 = true) : expireStep false (s, C2) e0 = (s, C2 ++ [e0]) := by
  obtain ⟨hT, hl'⟩ := liveE_spec hl
  have hv : (s.openKey e0.key).visitExpire false e0.rid = none := by
    rw [visitE_live_cases (s.openKey e0.key) false e0.rid hT hl']
    simp
  unfold expireStep
  simp only [hv]

/-- **one step of the long-table pass**: an ended entry dropped; a live hold collected (no change) -/
theorem longE_step (p : Ent × Option Engine.Hold) (todo : List (Ent × Option Engine.Hold)) (x2 : DB × List Ent) (x1 : Engine.DB × List Engine.Hold)
    (h : PassE [] (p :: todo) x2 x1) : PassE [] todo (expireStep false x2 p.1) (optStep (fun acc v => (acc.1, acc.2 ++ [v])) x1 p.2) := by
  obtain ⟨s, C2⟩ := x2
  obtain ⟨a, C1⟩ := x1
  obtain ⟨e, o⟩ := p
  cases o with
  | none => exact deadE_visit h false
  | some v =>
    obtain ⟨pe, hv1⟩ : PE s e v ∧ atE a v := h.pend _ (List.mem_cons_self ..)
    show PassE [] todo (expireStep false (s, C2) e) (a, C1 ++ [v])
    rw [passLE_live s C2 e (pend_liveE h.wf h.eq.equiv pe hv1).1]
    exact (h.next h.wf h.i1 h.eq (fun _ _ hp => hp) (fun _ hd => hd) (fun _ _ _ _ hv => hv)).collect pe

/-- **one firing step against stage 1's step on `abs`**, exactly (on the leader) -/
theorem fireE_step_abs (s : DB) (o2 : List Reply) (e0 : Ent) (x0 : Engine.Hold) (sy : WF s) (k1 : K1 (s.getKey e0.key)) (pe : PE s e0 x0)
    (hld : s.leader = true) :
    Equiv (Engine2.abs (fireExpireStep (s, o2) e0).1) (Engine.fireExpireStep (Engine2.abs s, o2.map (·.r)) x0).1 ∧
    (fireExpireStep (s, o2) e0).2.map (·.r) = (Engine.fireExpireStep (Engine2.abs s, o2.map (·.r)) x0).2 := by
  unfold fireExpireStep Engine.fireExpireStep
  simp only []
  rw [pe.key, abs_getKey s sy.dbq.dbt.dbi.kn e0.key]
  cases hl : liveE s e0 with
  | true =>
    obtain ⟨hT, hl'⟩ := liveE_spec hl
    obtain ⟨_, _, hmem⟩ := liveE_facts sy hl
    rw [find_unique (·.hid) _ x0.hid (fun x => by simp) _ _ hmem (sy.dbk.getKey e0.key).hidNodup (pe.live hl)]
    have hdf : deferExpiry s ((s.getKey e0.key).getR e0.rid) = false := by
      unfold deferExpiry; rw [hld]; rfl
    obtain ⟨e1, e2⟩ := sim_fireE_live s sy.dbq sy.dbk sy.dbkt e0.key e0.rid k1 hT hl' hdf
    simp only []
    exact ⟨e1, by rw [List.map_append, e2]; rfl⟩
  | false =>
    have hnone : (Key.abs (s.getKey e0.key)).holders.find? (·.hid == x0.hid) = none := by
      apply List.find?_eq_none.mpr
      intro v hv hc
      simp only [beq_iff_eq] at hc
      exact pe.dead hl v hv hc
    rw [hnone]
    obtain ⟨e1, e2⟩ := sim_fireE_stutter s sy.dbq sy.dbk e0.key e0.rid k1 (liveE_false_cases hl)
    simp only []
    exact ⟨e1, by rw [e2]; simp⟩

/-- **one firing step** (on the leader): the entry of a hold that has ended dropped, stage 1 finds no such hold either; a live hold
expired in both models -/
theorem fireE_step (p : Ent × Engine.Hold) (todo : List (Ent × Engine.Hold)) (x2 : DB × List Reply) (x1 : Engine.DB × List Engine.Reply)
    (h : FireR PE [] (p :: todo) x2 x1 ∧ x2.1.leader = true) :
    FireR PE [] todo (fireExpireStep x2 p.1) (Engine.fireExpireStep x1 p.2) ∧ (fireExpireStep x2 p.1).1.leader = true := by
  obtain ⟨h, hld⟩ := h
  obtain ⟨s, o2⟩ := x2
  obtain ⟨a, o1⟩ := x1
  obtain ⟨e0, w0⟩ := p
  have he := h.eq.equiv
  have hk1 := k1_of_equiv h.wf he h.i1 e0.key
  obtain ⟨a1, a2⟩ := fireE_step_abs s o2 e0 w0 h.wf hk1 (h.pend _ (List.mem_cons_self ..)) hld
  have ho : o2.map (·.r) = o1 := h.out
  rw [ho] at a1 a2
  have b := fireExpireStep_congr (x := (Engine2.abs s, o1)) (y := (a, o1)) ⟨he, rfl⟩ w0
  have sy' := fireExpireStep_wf s o2 e0 h.wf
  have F := fireExpireStep_wfd s o2 e0 h.wf.dbq
  exact ⟨⟨sy', fireExpireStep_i1 (a, o1) w0 h.i1, EqL.of_equiv (a1.trans b.1), a2.trans b.2,
    fun q hq => pe_step F F.seq h.wf sy' (h.pend q (List.mem_cons_of_mem _ hq))⟩, (fireExpireStep_leader s o2 e0).trans hld⟩

end Slock.SimTick
