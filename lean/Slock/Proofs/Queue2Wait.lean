import Slock.Proofs.Queue2Prio
import Slock.Proofs.Queue2Fast
/-!
# LockManagerWaitQueue

FIFO mode (`fastIndex ≥ 0`): content = fast part ++ ring.  Priority mode (`fastIndex = -1`): content =
the priority ring.  `RePushPriorityRingQueue` moves FIFO content into stable priority order.
-/
namespace Slock.Queue2

def WRing.abs : WRing → List Slot
  | .nil => []
  | .ring r => r.abs
  | .prio p => p.abs

def WRing.Inv : WRing → Prop
  | .nil => True
  | .ring r => r.Inv
  | .prio p => p.Inv

def WaitQ.fastPart (q : WaitQ) : List Slot :=
  match q.fastActive with
  | some f => f.data.drop q.fastIndex.toNat
  | none => []

def WaitQ.abs (q : WaitQ) : List Slot := q.fastPart ++ q.ring.abs

def WaitQ.Inv (q : WaitQ) : Prop :=
  q.ring.Inv ∧
  (∀ f, q.fast = some f → f.data.length ≤ f.cap ∧ q.fastIndex ≤ f.data.length) ∧
  (q.fast = none → q.fastIndex ≤ 0) ∧
  -1 ≤ q.fastIndex ∧
  (q.fastIndex < 0 ↔ ∃ p, q.ring = .prio p)

theorem WaitQ.new_inv (b : Bool) : (WaitQ.new b).Inv := by
  cases b
  · simp [WaitQ.new, WaitQ.Inv, WRing.Inv]
  · simp only [WaitQ.new, WaitQ.Inv, WRing.Inv, if_true]
    exact ⟨PRing.new_inv 16, by simp, by simp, by simp, by simp⟩

theorem WaitQ.new_abs (b : Bool) : (WaitQ.new b).abs = [] := by
  cases b <;> simp [WaitQ.new, WaitQ.abs, WaitQ.fastPart, WaitQ.fastActive, WRing.abs, PRing.new_abs]

theorem WaitQ.fastPart_eq (q : WaitQ) :
    q.fastPart = if q.fastIndex < 0 then [] else fastAbs q.fast q.fastIndex.toNat := by
  unfold WaitQ.fastPart WaitQ.fastActive fastAbs
  cases q.fast with
  | none => simp
  | some f =>
    by_cases h : q.fastIndex < (f.data.length : Int) ∧ q.fastIndex ≥ 0
    · have : ¬ q.fastIndex < 0 := by omega
      simp only [h, and_self, if_true, this, if_false]
    · simp only [h, if_false]
      split
      · rfl
      · symm; apply List.drop_eq_nil_of_le; omega

theorem WaitQ.abs_fifo (fast : Option FastQ) (n : Nat) (ring : WRing) :
    (WaitQ.mk fast n ring).abs = fastAbs fast n ++ ring.abs := by
  have : ¬ (n : Int) < 0 := by omega
  simp [WaitQ.abs, WaitQ.fastPart_eq, this]

theorem WaitQ.abs_prio (q : WaitQ) (h : q.fastIndex < 0) : q.abs = q.ring.abs := by
  simp [WaitQ.abs, WaitQ.fastPart_eq, h]

theorem WaitQ.fastActive_some (q : WaitQ) (f : FastQ) (hf : q.fast = some f) (n : Nat)
    (hn : q.fastIndex = n) (hlt : n < f.data.length) : q.fastActive = some f := by
  unfold WaitQ.fastActive
  simp only [hf, hn]
  have : ((n : Int) < (f.data.length : Int) ∧ (n : Int) ≥ 0) := by omega
  simp only [this, and_self, if_true]

theorem WaitQ.fastActive_none (q : WaitQ)
    (h : ∀ f, q.fast = some f → ¬ (q.fastIndex < (f.data.length : Int) ∧ q.fastIndex ≥ 0)) :
    q.fastActive = none := by
  unfold WaitQ.fastActive
  cases hf : q.fast with
  | none => rfl
  | some f => simp only [h f hf, if_false]

theorem WaitQ.fastActive_cases (q : WaitQ) :
    (∃ f n ring, q = ⟨some f, (n : Nat), ring⟩ ∧ n < f.data.length ∧ q.fastActive = some f) ∨
    (q.fastActive = none ∧ q.fastPart = []) := by
  obtain ⟨fast, i, ring⟩ := q
  cases fast with
  | none => exact .inr ⟨rfl, rfl⟩
  | some f =>
    by_cases hc : i < (f.data.length : Int) ∧ i ≥ 0
    · obtain ⟨n, rfl⟩ := Int.eq_ofNat_of_zero_le hc.2
      exact .inl ⟨f, n, ring, rfl, by omega, WaitQ.fastActive_some _ f rfl n rfl (by omega)⟩
    · have hfa : (WaitQ.mk (some f) i ring).fastActive = none :=
        WaitQ.fastActive_none _ (fun f' hf' => by cases hf'; exact hc)
      exact .inr ⟨hfa, by simp [WaitQ.fastPart, hfa]⟩

theorem WaitQ.inv_mk (fast : Option FastQ) (i : Int) (ring : WRing) (h1 : ring.Inv)
    (h2 : ∀ f, fast = some f → f.data.length ≤ f.cap ∧ i ≤ f.data.length)
    (h3 : fast = none → i ≤ 0) (h4 : -1 ≤ i) (h5 : i < 0 ↔ ∃ p, ring = .prio p) :
    (WaitQ.mk fast i ring).Inv := ⟨h1, h2, h3, h4, h5⟩

theorem WaitQ.inv_fifo_some (f : FastQ) (n : Nat) (ring : WRing) (h1 : ring.Inv)
    (h2 : f.data.length ≤ f.cap) (h3 : n ≤ f.data.length) (h5 : ∀ p, ring ≠ .prio p) :
    (WaitQ.mk (some f) n ring).Inv := by
  refine WaitQ.inv_mk _ _ _ h1 ?_ (by simp) (by omega) ⟨fun h => by omega, fun ⟨p, hp⟩ => absurd hp (h5 p)⟩
  intro f' hf'; cases hf'
  exact ⟨h2, by omega⟩

theorem WaitQ.push_fast (grow : Nat → Nat) (f : FastQ) (n : Nat) (x : Slot) :
    WaitQ.push grow ⟨some f, n, .nil⟩ x = match fastPush grow waitLive f n x with
      | (some (f', i'), d) => .ok (⟨some f', i', .nil⟩, ⟨d⟩)
      | (none, d) => match (Ring.new 64).push grow x with
        | .ok r => .ok (⟨some f, n, .ring r⟩, ⟨d⟩)
        | .panic => .panic := by
  unfold WaitQ.push
  -- the `fastQueue[-1]` panic cannot happen at a natural index
  fun_cases fastPush grow waitLive f n x <;>
    simp +zetaDelta only [*, if_true, if_false, Int.toNat_natCast, ge_iff_le, Int.ofNat_le,
      Int.not_lt.mpr (Int.natCast_nonneg n)] <;> rfl

/-- As the holder queue, tombstoned = `timeouted || ackCount != 0xff`; covers the fast queue, its compaction
and growth, the switch to a ring of 64 and pushes into that ring. -/
theorem WaitQ.push_fifo_refines (grow : Nat → Nat) (hg : GrowOK grow) (q : WaitQ) (e : Elem)
    (h : q.Inv) (hm : 0 ≤ q.fastIndex) :
    ∃ q' o, q.push grow (some e) = .ok (q', o) ∧ q'.Inv ∧ 0 ≤ q'.fastIndex ∧
      PushSpec waitLive q.abs q'.abs (some e) o.dropped := by
  obtain ⟨fast, i, ring⟩ := q
  obtain ⟨hr, hfast, hnone, hge, hmode⟩ := h
  simp only at hm hr hfast hnone hge hmode
  obtain ⟨n, rfl⟩ := Int.eq_ofNat_of_zero_le hm
  cases ring with
  | prio p => exact absurd (hmode.mpr ⟨p, rfl⟩) (by omega)
  | ring r =>
    obtain ⟨r', hr1, hr2, hr3⟩ := Ring.push_refines grow hg r (some e) hr
    refine ⟨⟨fast, n, .ring r'⟩, {}, by simp [WaitQ.push, WRing.push, hr1],
      ⟨hr2, hfast, hnone, hge, by simp⟩, hm, .inl ⟨?_, rfl⟩⟩
    simp [WaitQ.abs_fifo, WRing.abs, hr3]
  | nil =>
    cases fast with
    | none =>
      have h0 : n = 0 := by have := hnone rfl; omega
      exact ⟨_, _, rfl, WaitQ.inv_fifo_some _ n _ trivial (by simp) (by simp [h0]) (by simp), hm,
        .inl ⟨by rw [WaitQ.abs_fifo, WaitQ.abs_fifo]; simp [fastAbs, WRing.abs, h0], rfl⟩⟩
    | some f =>
      obtain ⟨hcap, hidx⟩ := hfast f rfl
      have sp := fastPush_spec grow hg waitLive f n (some e) hcap (by omega)
      rw [WaitQ.push_fast]
      cases hp : fastPush grow waitLive f n (some e) with
      | mk o d =>
        rw [hp] at sp
        cases o with
        | some fi =>
          exact ⟨_, _, rfl, WaitQ.inv_fifo_some _ _ _ trivial sp.1 sp.2.1 (by simp), by simp,
            by simpa [WaitQ.abs_fifo, fastAbs, WRing.abs] using sp.2.2⟩
        | none =>
          obtain ⟨r', hr1, hr2, hr3⟩ :=
            Ring.push_refines grow hg (Ring.new 64) (some e) (Ring.new_inv 64)
          rw [hr1]
          exact ⟨_, _, rfl, WaitQ.inv_fifo_some _ n _ hr2 hcap (by omega) (by simp), hm,
            .inl ⟨by simp [WaitQ.abs_fifo, fastAbs, WRing.abs, hr3, Ring.new_abs], sp⟩⟩

theorem WaitQ.push_prio_refines (grow : Nat → Nat) (hg : GrowOK grow) (q : WaitQ) (e : Elem)
    (h : q.Inv) (hm : q.fastIndex < 0) :
    ∃ q', q.push grow (some e) = .ok (q', {}) ∧ q'.Inv ∧ q'.fastIndex < 0 ∧
      q'.abs = specPushPrio (some e) q.abs := by
  obtain ⟨hr, hfast, hnone, hge, hmode⟩ := h
  obtain ⟨p, hp⟩ := hmode.mp hm
  rw [hp] at hr
  obtain ⟨p', h1, h2, h3, _⟩ := PRing.push_refines grow hg p e hr
  refine ⟨{ q with ring := .prio p' }, by simp [WaitQ.push, hp, WRing.push, h1],
    ⟨h2, hfast, hnone, hge, fun _ => ⟨p', rfl⟩, fun _ => hm⟩, hm, ?_⟩
  rw [WaitQ.abs_prio q hm, WaitQ.abs_prio ⟨q.fast, q.fastIndex, .prio p'⟩ hm]
  simp only [WRing.abs, hp, h3]

theorem WRing.pop_refines (w : WRing) (h : w.Inv) :
    w.pop.1.Inv ∧ w.pop.1.abs = w.abs.tail ∧ w.pop.2 = w.abs.headD none ∧
      (∀ p, w.pop.1 = .prio p → ∃ p0, w = .prio p0) ∧ (∀ p0, w = .prio p0 → ∃ p, w.pop.1 = .prio p) := by
  cases w with
  | nil => simp [WRing.pop, WRing.Inv, WRing.abs]
  | ring r =>
    obtain ⟨a, b, c⟩ := Ring.pop_refines r h
    exact ⟨a, b, c, by simp [WRing.pop], by simp⟩
  | prio p =>
    obtain ⟨a, b, c⟩ := PRing.pop_refines p h
    exact ⟨a, b, c, by simp [WRing.pop], by simp [WRing.pop]⟩

theorem WaitQ.pop_refines (q : WaitQ) (h : q.Inv) :
    q.pop.1.Inv ∧ q.pop.1.abs = q.abs.tail ∧ q.pop.2 = q.abs.headD none ∧
      (q.pop.1.fastIndex < 0 ↔ q.fastIndex < 0) := by
  unfold WaitQ.pop
  rcases q.fastActive_cases with ⟨f, n, ring, rfl, hlt, hfa⟩ | ⟨hfa, e1⟩
  · obtain ⟨hr, hfast, -, -, hmode⟩ := h
    simp only at hr hfast hmode
    have hnp : ∀ p, ring ≠ .prio p := fun p hp => by have := hmode.mpr ⟨p, hp⟩; omega
    have hidx : (n : Int) + 1 = ((n + 1 : Nat) : Int) := by omega
    rw [hfa]
    simp only [Int.toNat_natCast, hidx]
    refine ⟨WaitQ.inv_fifo_some _ (n + 1) _ hr (by simp; exact (hfast f rfl).1) (by simp; omega) hnp,
      ?_, ?_, by omega⟩
    · simp only [WaitQ.abs_fifo, fastAbs]
      rw [tail_append_drop _ _ _ hlt, List.drop_set_of_lt (by omega)]
    · simp only [WaitQ.abs_fifo, fastAbs]
      rw [headD_append_drop _ _ _ hlt]
  · obtain ⟨hr, hfast, hnone, hge, hmode⟩ := h
    obtain ⟨a, b, c, d1, d2⟩ := WRing.pop_refines q.ring hr
    have hfa' : ({ q with ring := q.ring.pop.1 } : WaitQ).fastActive = none := hfa
    have e2 : ({ q with ring := q.ring.pop.1 } : WaitQ).fastPart = [] := by
      simp [WaitQ.fastPart, hfa']
    rw [hfa]
    refine ⟨⟨a, hfast, hnone, hge, ?_⟩, ?_, ?_, Iff.rfl⟩
    · constructor
      · intro hlt; obtain ⟨p0, hp0⟩ := hmode.mp hlt; exact d2 p0 hp0
      · rintro ⟨p, hp⟩; obtain ⟨p0, hp0⟩ := d1 p hp; exact hmode.mpr ⟨p0, hp0⟩
    · simp only [WaitQ.abs, e1, e2, List.nil_append, b]
    · simp only [WaitQ.abs, e1, List.nil_append, c]

theorem WRing.head_refines (w : WRing) (h : w.Inv) : w.head = w.abs.headD none := by
  cases w with
  | nil => rfl
  | ring r => exact Ring.head_refines r
  | prio p => exact PRing.head_refines p h

theorem WaitQ.head_refines (q : WaitQ) (h : q.Inv) : q.head = q.abs.headD none := by
  unfold WaitQ.head
  rcases q.fastActive_cases with ⟨f, n, ring, rfl, hlt, hfa⟩ | ⟨hfa, e1⟩
  · rw [hfa]
    simp only [Int.toNat_natCast, WaitQ.abs_fifo, fastAbs]
    rw [headD_append_drop _ _ _ hlt]
  · rw [hfa]
    simp only [WaitQ.abs, e1, List.nil_append]
    exact WRing.head_refines q.ring h.1

theorem WRing.len_refines (w : WRing) (h : w.Inv) : w.len = (w.abs.length : Int) := by
  cases w with
  | nil => rfl
  | ring r => exact Ring.len_refines r h
  | prio p => exact PRing.len_refines p h

theorem WaitQ.len_refines (q : WaitQ) (h : q.Inv) : q.len = (q.abs.length : Int) := by
  obtain ⟨hr, hfast, -, -, -⟩ := h
  have hl := WRing.len_refines q.ring hr
  unfold WaitQ.len WaitQ.abs
  rw [WaitQ.fastPart_eq]
  cases hf : q.fast with
  | none => simp [fastAbs, hl]
  | some f =>
    have := (hfast f hf).2
    by_cases hneg : q.fastIndex < 0
    · simp [hneg, hl]
    · simp only [hneg, if_false, fastAbs, List.length_append, List.length_drop, hl]
      omega

theorem WaitQ.reset_refines (q : WaitQ) :
    q.reset.Inv ∧ q.reset.abs = [] ∧ q.reset.fastIndex = 0 := by
  fun_cases WaitQ.reset q <;>
    simp [WaitQ.Inv, WRing.Inv, WaitQ.abs, WaitQ.fastPart, WaitQ.fastActive, WRing.abs, *] <;> omega

theorem WRing.iterNodes_flatten (w : WRing) : w.iterNodes.flatten = w.abs := by
  cases w with
  | nil => rfl
  | ring r => exact Ring.iterNodes_flatten r
  | prio p => exact (PRing.iterNodes_refines p).1

theorem WaitQ.iterNodes_refines (q : WaitQ) : q.iterNodes.flatten = q.abs := by
  unfold WaitQ.iterNodes WaitQ.abs WaitQ.fastPart
  cases q.fastActive <;> simp [WRing.iterNodes_flatten]

/-- MaxPriority: the priority of the FIRST element (0 when empty).  In priority mode that is the
maximum; in FIFO mode it is NOT the maximum in general (see `wait_fifo_maxPriority_not_max`), and a nil
first entry is a Go panic. -/
theorem wait_maxPriority (q : WaitQ) (h : q.Inv) :
    q.maxPriority = match q.abs with
      | [] => .ok 0
      | none :: _ => if q.fastIndex < 0 then .ok 0 else .panic
      | some e :: _ => .ok e.priority := by
  unfold WaitQ.maxPriority
  rcases q.fastActive_cases with ⟨f, n, ring, rfl, hlt, hfa⟩ | ⟨hfa, e1⟩
  · rw [hfa]
    simp only [Int.toNat_natCast, WaitQ.abs_fifo, fastAbs]
    rw [← headD_drop]
    have hneg : ¬ (n : Int) < 0 := by omega
    cases hd : f.data.drop n with
    | nil => have := List.drop_eq_nil_iff.mp hd; omega
    | cons a t => cases a <;> simp [hneg]
  · obtain ⟨hr, -, -, -, hmode⟩ := h
    rw [hfa]
    simp only [WaitQ.abs, e1, List.nil_append]
    cases hw : q.ring with
    | nil => simp [WRing.maxPriority, WRing.abs]
    | ring r =>
      have hneg : ¬ q.fastIndex < 0 := fun hlt => by
        obtain ⟨p, hp⟩ := hmode.mp hlt; rw [hw] at hp; cases hp
      simp only [WRing.maxPriority, WRing.abs, Ring.maxPriority_refines r, hneg, if_false]
      rfl
    | prio p =>
      rw [hw] at hr
      have hneg : q.fastIndex < 0 := hmode.mpr ⟨p, hw⟩
      simp only [WRing.maxPriority, WRing.abs, PRing.maxPriority_refines p hr, hneg, if_true]
      cases hd : p.abs with
      | nil => rfl
      | cons a t => cases a <;> rfl

end Slock.Queue2
