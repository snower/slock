import Slock.Proofs.EngineSimTickSQFresh
import Slock.Proofs.EngineReplies
/-! Stage 1 (M-ENGINE), wheel sequence numbers: every edit is `SeqFresh` on the record it edits (`SeqFresh.edit`), so `SQ` is kept by every
`store` of an edit (`SQ.edit`): by LOCK, UNLOCK and the four critical sections of the timer sweeps. With distinct key ids and distinct
(RequestId, connection) pairs per key: `S3`, through every operation. -/
namespace Slock.SimTick
open Slock Slock.Engine

/-- `updateWaiter`'s map, when at most one queued request bears the (RequestId, connection) pair -/
theorem mapWaiter_freshL {s : Nat} (ws : List Waiter) (w w' : Waiter) (e : seqW w' = s) (hu : (ws.map rcW).Nodup) :
    FreshL s (s + 1) (ws.map seqW)
      ((ws.map (fun x => if x.cmd.req == w.cmd.req && x.conn == w.conn then w' else x)).map seqW) := by
  induction ws with
  | nil => exact FreshL.refl _ _ _
  | cons x xs ih =>
    rw [List.map_cons, List.nodup_cons] at hu
    simp only [List.map_cons]
    by_cases hp : (x.cmd.req == w.cmd.req && x.conn == w.conn) = true
    · -- no other request matches
      have hrest : xs.map (fun y => if y.cmd.req == w.cmd.req && y.conn == w.conn then w' else y) = xs := by
        refine (List.map_congr_left fun y hy => if_neg fun hq => hu.1 ?_).trans (List.map_id _)
        rw [(rc_match x w).mp hp, ← (rc_match y w).mp hq]
        exact List.mem_map.mpr ⟨y, hy, rfl⟩
      rw [hrest, if_pos hp, e]
      exact FreshL.head _ _ _
    · rw [if_neg hp]
      exact (ih hu.2).cons _

section
variable {db0 db d : DB} {s : Src} {n : Nat} {wk : Bool} {k : Key} {out : List Reply}

/-- re-arming a request needs distinct ids in its queue: the copy gets a new number, and it must replace one request only -/
theorem SeqFresh.edit (e : Edit db0 db s n wk d k out) (hu : s = .sweepT → ((db.getKey n).waiters.map rcW).Nodup) :
    SeqFresh db.seq d.seq (db.getKey n) k := by
  cases e with
  | update c h => exact fresh_updateHold db _ _ h h _ rfl rfl rfl
  | relock c h => exact fresh_updateHold db _ _ h { h with depth := h.depth + 1 } c rfl rfl rfl
  | grant c => exact fresh_grantHold db _ c
  | grantNoHold => exact SeqFresh.refl _ _
  | queue c => exact fresh_insertWaiter _ _ (newWaiter db c) (seqW_newWaiter db c) rfl rfl
  | cancel | timeout => exact SeqFresh.of_sublist (removeWaiter_sublist _ _) (List.Sublist.refl _)
  | dec c h => exact fresh_replace_same _ _ h { h with depth := h.depth - 1 } rfl rfl rfl
  | release | expire => exact SeqFresh.of_sublist (List.Sublist.refl _) (removeHolder_sublist _ _)
  | rearmW w => exact ⟨Nat.le_succ _, mapWaiter_freshL _ w _ (seqW_rearmW _ _ w) (hu rfl), FreshL.refl _ _ _⟩
  | rearmH x => exact ⟨Nat.le_succ _, FreshL.refl _ _ _, replaceHolder_freshL _ _ _ (seqH_rearmH _ _ x)⟩

theorem SQ.edit (e : Edit db0 db s n wk d k out) (hu : s = .sweepT → ((db.getKey n).waiters.map rcW).Nodup) (h : SQ db) :
    SQ (Engine.store wk d k out).1 := by
  unfold Engine.store
  split
  · exact SQ.wake_store out h (SeqFresh.edit e hu) e.frame.2.2.2 e.frame.1
  · exact SQ.store h (SeqFresh.edit e hu) e.frame.2.2.2 e.frame.1

theorem opLock_sq (db : DB) (c : Cmd) (_ : KN db) (h : SQ db) : SQ (opLock db c).1 :=
  opLock_edit db c (Q := fun p => SQ p.1) (fun _ _ _ => h) fun _ _ _ _ e => h.edit e fun hs => nomatch hs

theorem opUnlock_sq (db : DB) (c : Cmd) (_ : KN db) (h : SQ db) : SQ (opUnlock db c).1 :=
  opUnlock_edit db c (Q := fun p => SQ p.1) (fun _ _ _ => h.of_keys_eq rfl (Nat.le_refl _)) fun _ _ _ e =>
    h.edit e fun hs => nomatch hs

end

/-- the three facts the entry lists of a sweep rest on: distinct key ids, distinct (RequestId, connection) pairs per key, wheel sequence
numbers below the counter and pairwise distinct -/
structure S3 (db : DB) : Prop where
  kn : KN db
  wu : Engine.WU db
  sq : SQ db

theorem S3.init (now : Nat) : S3 (DB.init now) :=
  ⟨by unfold KN DB.init; exact List.nodup_nil, WU.init now, SQ.init now⟩

theorem S3.of_keys_eq {db db' : DB} (h : S3 db) (e : db'.keys = db.keys) (hs : db.seq ≤ db'.seq) : S3 db' :=
  ⟨h.kn.of_keys_eq e, h.wu.of_keys_eq e, h.sq.of_keys_eq e hs⟩

theorem S3.clockT {db : DB} (h : S3 db) : S3 (tick0 db) := h.of_keys_eq rfl (Nat.le_refl _)
theorem S3.clockE {db : DB} (h : S3 db) (now : Nat) : S3 (clockE db now) := h.of_keys_eq rfl (Nat.le_refl _)

section
variable {db0 db d : DB} {s : Src} {n : Nat} {wk : Bool} {k : Key} {out : List Reply}

/-- every edit of UNLOCK and of the two sweeps keeps `S3` (a LOCK needs a fresh (RequestId, connection): `opLock_s3`) -/
theorem S3.edit (e : Edit db0 db s n wk d k out) (hs : ∀ c, s ≠ .lock c) (h : S3 db) : S3 (store wk d k out).1 :=
  ⟨h.kn.edit e, h.wu.edit e fun c hc => absurd hc (hs c), h.sq.edit e fun _ => getKey_wu h.wu n⟩

theorem opLock_s3 (db : DB) (c : Cmd) (hf : FreshK db c) (h : S3 db) : S3 (opLock db c).1 :=
  ⟨opLock_cinv_kn db c h.kn, opLock_wu db c hf h.wu, opLock_sq db c h.kn h.sq⟩

theorem opUnlock_s3 (db : DB) (c : Cmd) (h : S3 db) : S3 (opUnlock db c).1 :=
  ⟨opUnlock_kn db c h.kn, opUnlock_wu db c h.wu, opUnlock_sq db c h.kn h.sq⟩

theorem sweepTimeout_s3 (db : DB) (c : Nat) (h : S3 db) : S3 (sweepTimeout db c).1 :=
  sweepTimeout_edit (P := fun d _ => S3 d) db db c [] rfl (fun _ _ _ _ _ _ _ e => S3.edit e fun _ => nofun) h

theorem opTick_s3 (db : DB) (h : S3 db) : S3 (opTick db).1 :=
  opTick_edit (P := fun d _ => S3 d) (Q := fun d _ => S3 d) db h.clockT (fun _ _ _ _ _ _ _ e => S3.edit e fun _ => nofun)
    (fun _ _ h => h.of_keys_eq rfl (Nat.le_refl _)) (fun _ _ _ _ _ _ _ e => S3.edit e fun _ => nofun)

end

end Slock.SimTick
