import Slock.Proofs.Queue2Ring
import Slock.Proofs.Lists
/-!
# LockManagerPriorityRingQueue refines a stable priority queue

Abstraction: the concatenation of the node rings in node order.  Invariant: node priorities strictly
descending, every node ring well-formed and holding only (non-nil) locks of the node's priority.
-/
namespace Slock.Queue2

def prioOf : Slot → Nat
  | none => 0
  | some e => e.priority

/-- Stable priority insert: `x` goes behind every element of priority ≥ its own that precedes the
first element of lower priority (for a descending list: behind the LAST element of priority ≥ its own). -/
def specPushPrio (x : Slot) : List Slot → List Slot
  | [] => [x]
  | y :: l => if prioOf y ≥ prioOf x then y :: specPushPrio x l else x :: y :: l

theorem specPushPrio_ord : OrdInsert (fun x y : Slot => prioOf x > prioOf y) (fun l x => specPushPrio x l) :=
  .ofPrio (fun _ => rfl) fun a as x => by
    show (if prioOf a ≥ prioOf x then a :: specPushPrio x as else x :: a :: as) = _
    by_cases h : prioOf x > prioOf a
    · rw [if_neg (by omega), if_pos h]
    · rw [if_pos (by omega), if_neg h]

theorem specPushPrio_append_ge (x : Slot) (a b : List Slot) (h : ∀ y ∈ a, prioOf y ≥ prioOf x) :
    specPushPrio x (a ++ b) = a ++ specPushPrio x b := by
  induction a with
  | nil => rfl
  | cons y a ih =>
    have hy := h y (by simp)
    simp only [List.cons_append, specPushPrio, hy, if_true]
    rw [ih (fun z hz => h z (by simp [hz]))]

theorem specPushPrio_lt (x : Slot) (b : List Slot) (h : ∀ y ∈ b, prioOf y < prioOf x) : specPushPrio x b = x :: b :=
  specPushPrio_ord.eq_of_split [] b x nofun fun y hy => h y (List.mem_of_mem_head? hy)

def absN (ns : List PNode) : List Slot := ns.flatMap (fun n => n.ring.abs)

def PRing.abs (q : PRing) : List Slot := absN q.nodes

def NodeOK (n : PNode) : Prop :=
  n.ring.Inv ∧ ∀ s ∈ n.ring.abs, ∃ e, s = some e ∧ e.priority = n.priority

def InvN (ns : List PNode) : Prop :=
  (∀ n ∈ ns, NodeOK n) ∧ ns.Pairwise (fun a b => a.priority > b.priority)

def PRing.Inv (q : PRing) : Prop := InvN q.nodes

theorem absN_cons (n : PNode) (ns : List PNode) : absN (n :: ns) = n.ring.abs ++ absN ns := by
  simp [absN]

theorem NodeOK.prio {n : PNode} (h : NodeOK n) : ∀ s ∈ n.ring.abs, prioOf s = n.priority := by
  intro s hs
  obtain ⟨e, he, hp⟩ := h.2 s hs
  subst he; exact hp

theorem absN_prio_lt {ns : List PNode} (h : ∀ n ∈ ns, NodeOK n) (p : Nat)
    (hp : ∀ n ∈ ns, n.priority < p) : ∀ y ∈ absN ns, prioOf y < p := by
  intro y hy
  simp only [absN, List.mem_flatMap] at hy
  obtain ⟨n, hn, hyn⟩ := hy
  rw [(h n hn).prio y hyn]; exact hp n hn

theorem InvN_cons {n : PNode} {ns : List PNode} :
    InvN (n :: ns) ↔ NodeOK n ∧ (∀ m ∈ ns, n.priority > m.priority) ∧ InvN ns := by
  simp only [InvN, List.forall_mem_cons, List.pairwise_cons]
  exact ⟨fun ⟨⟨a, b⟩, c, d⟩ => ⟨a, c, b, d⟩, fun ⟨a, c, b, d⟩ => ⟨⟨a, b⟩, c, d⟩⟩

theorem InvN.of_prio {ns ns' : List PNode} (h : InvN ns)
    (hp : ns'.map (·.priority) = ns.map (·.priority)) (hok : ∀ m ∈ ns', NodeOK m) : InvN ns' := by
  have : (ns.map PNode.priority).Pairwise (· > ·) := List.pairwise_map.mpr h.2
  exact ⟨hok, List.pairwise_map.mp (hp ▸ this)⟩

theorem pushExisting_none (grow : Nat → Nat) (p : Nat) (x : Slot) (ns : List PNode)
    (h : ∀ n ∈ ns, n.priority ≠ p) : pushExisting grow p x ns = none := by
  induction ns with
  | nil => rfl
  | cons n ns ih =>
    have hn := h n (by simp)
    simp only [pushExisting, hn, if_false]
    rw [ih (fun m hm => h m (by simp [hm]))]

theorem pushExisting_prio (grow : Nat → Nat) (p : Nat) (x : Slot) (ns ns' : List PNode)
    (h : pushExisting grow p x ns = some (.ok ns')) : ns'.map (·.priority) = ns.map (·.priority) := by
  induction ns generalizing ns' with
  | nil => simp [pushExisting] at h
  | cons n ns ih =>
    simp only [pushExisting] at h
    split at h
    · split at h <;> simp at h
      subst h; rfl
    · split at h <;> simp at h
      subst h; simp [ih _ (by assumption)]

theorem pushExisting_some (grow : Nat → Nat) (hg : GrowOK grow) (e : Elem) (ns : List PNode)
    (hinv : InvN ns) (hex : ∃ n ∈ ns, n.priority = e.priority) :
    ∃ ns', pushExisting grow e.priority (some e) ns = some (.ok ns') ∧ InvN ns' ∧
      absN ns' = specPushPrio (some e) (absN ns) := by
  suffices ∃ ns', pushExisting grow e.priority (some e) ns = some (.ok ns') ∧ (∀ m ∈ ns', NodeOK m) ∧
      absN ns' = specPushPrio (some e) (absN ns) by
    obtain ⟨ns', h1, h2, h3⟩ := this
    exact ⟨ns', h1, hinv.of_prio (pushExisting_prio _ _ _ _ _ h1) h2, h3⟩
  induction ns with
  | nil => obtain ⟨n, hn, _⟩ := hex; cases hn
  | cons n ns ih =>
    obtain ⟨hn, hgt, htl⟩ := InvN_cons.mp hinv
    by_cases hp : n.priority = e.priority
    · obtain ⟨r, hr, hri, hra⟩ := Ring.push_refines grow hg n.ring (some e) hn.1
      refine ⟨{ n with ring := r } :: ns, by simp only [pushExisting, hp, if_true, hr], ?_, ?_⟩
      · refine List.forall_mem_cons.mpr ⟨⟨hri, ?_⟩, htl.1⟩
        intro s hs
        rcases List.mem_append.mp (hra ▸ hs) with hs | hs
        · exact hn.2 s hs
        · exact ⟨e, List.mem_singleton.mp hs, hp.symm⟩
      · -- `e` goes behind its own node's content and before everything of lower priority
        rw [absN_cons, absN_cons, hra, List.append_assoc,
          specPushPrio_append_ge _ _ _ (fun y hy => by rw [hn.prio y hy]; simp [prioOf]; omega),
          specPushPrio_lt _ _ (absN_prio_lt htl.1 _
            (fun m hm => by have := hgt m hm; simp only [prioOf]; omega))]
        rfl
    · obtain ⟨w, hw, hwp⟩ := hex
      have hw' : w ∈ ns := (List.mem_cons.mp hw).resolve_left (fun h => hp (h ▸ hwp))
      obtain ⟨ns', h1, h2, h3⟩ := ih htl ⟨w, hw', hwp⟩
      have hgt' : n.priority > e.priority := hwp ▸ hgt w hw'
      refine ⟨n :: ns', by simp only [pushExisting, hp, if_false, h1],
        List.forall_mem_cons.mpr ⟨hn, h2⟩, ?_⟩
      rw [absN_cons, absN_cons, h3,
        specPushPrio_append_ge _ _ _ (fun y hy => by rw [hn.prio y hy]; simp only [prioOf]; omega)]

theorem mem_insertNode (node m : PNode) (ns : List PNode) :
    m ∈ insertNode node ns ↔ m = node ∨ m ∈ ns := by
  fun_induction insertNode node ns <;> simp_all [or_left_comm]

theorem insertNode_refines (node : PNode) (x : Slot) (ns : List PNode) (hinv : InvN ns)
    (hnode : NodeOK node) (habs : node.ring.abs = [x]) (hpx : prioOf x = node.priority)
    (hne : ∀ n ∈ ns, n.priority ≠ node.priority) :
    InvN (insertNode node ns) ∧ absN (insertNode node ns) = specPushPrio x (absN ns) := by
  induction ns with
  | nil => exact ⟨InvN_cons.mpr ⟨hnode, by simp, by simp [InvN]⟩, by simp [insertNode, absN, habs, specPushPrio]⟩
  | cons n ns ih =>
    obtain ⟨hn, hgtn, htl⟩ := InvN_cons.mp hinv
    have hnn := hne n (by simp)
    unfold insertNode
    by_cases hgt : node.priority > n.priority
    · rw [if_pos hgt]
      have hall : ∀ m ∈ n :: ns, m.priority < prioOf x := by
        rw [hpx]
        exact List.forall_mem_cons.mpr ⟨hgt, fun m hm => by have := hgtn m hm; omega⟩
      refine ⟨InvN_cons.mpr ⟨hnode, hpx ▸ hall, hinv⟩, ?_⟩
      rw [absN_cons, habs, specPushPrio_lt x _ (absN_prio_lt hinv.1 _ hall)]
      rfl
    · rw [if_neg hgt]
      obtain ⟨ih1, ih2⟩ := ih htl (fun m hm => hne m (by simp [hm]))
      refine ⟨InvN_cons.mpr ⟨hn, ?_, ih1⟩, ?_⟩
      · intro m hm
        rcases (mem_insertNode node m ns).mp hm with rfl | hm
        · omega
        · exact hgtn m hm
      · rw [absN_cons, absN_cons, ih2,
          specPushPrio_append_ge _ _ _ (fun y hy => by rw [hn.prio y hy, hpx]; omega)]

theorem PRing.new_inv (size : Nat) : (PRing.new size).Inv := by
  simp [PRing.new, PRing.Inv, InvN]

theorem PRing.new_abs (size : Nat) : (PRing.new size).abs = [] := by
  simp [PRing.new, PRing.abs, absN]

theorem PRing.push_refines (grow : Nat → Nat) (hg : GrowOK grow) (q : PRing) (e : Elem) (h : q.Inv) :
    ∃ q', q.push grow (some e) = .ok q' ∧ q'.Inv ∧ q'.abs = specPushPrio (some e) q.abs ∧
      q'.size = q.size := by
  by_cases hex : ∃ n ∈ q.nodes, n.priority = e.priority
  · obtain ⟨ns', h1, h2, h3⟩ := pushExisting_some grow hg e q.nodes h hex
    exact ⟨{ q with nodes := ns' }, by simp only [PRing.push, h1], h2, h3, rfl⟩
  · have hne : ∀ n ∈ q.nodes, n.priority ≠ e.priority := fun n hn hp => hex ⟨n, hn, hp⟩
    have hnone := pushExisting_none grow e.priority (some e) q.nodes hne
    obtain ⟨r, hr, hri, hra⟩ := Ring.push_refines grow hg (Ring.new q.size) (some e) (Ring.new_inv _)
    rw [Ring.new_abs, List.nil_append] at hra
    have hnode : NodeOK ⟨r, e.priority⟩ := by
      refine ⟨hri, ?_⟩
      intro s hs
      simp only [hra, List.mem_singleton] at hs
      exact ⟨e, hs, rfl⟩
    have key := insertNode_refines ⟨r, e.priority⟩ (some e) q.nodes h hnode hra rfl hne
    have hbranch : ∃ c, q.push grow (some e) =
        .ok { q with nodes := insertNode ⟨r, e.priority⟩ q.nodes, nodesCap := c } := by
      simp only [PRing.push, hnone, hr]
      cases hq : q.nodes with
      | nil => exact ⟨q.nodesCap, by simp [insertNode]⟩
      | cons n0 rest =>
        cases rest with
        | nil =>
          have h0 := hne n0 (by simp [hq])
          by_cases hgt : n0.priority > e.priority
          · refine ⟨q.nodesCap, ?_⟩
            have : ¬ e.priority > n0.priority := by omega
            simp [insertNode, hgt, this]
          · refine ⟨q.nodesCap, ?_⟩
            have : e.priority > n0.priority := by omega
            simp [insertNode, hgt, this]
        | cons n1 rest => exact ⟨_, rfl⟩
    obtain ⟨c, hc⟩ := hbranch
    exact ⟨_, hc, key.1, key.2, rfl⟩

/-- `Push(nil)` is a Go panic (`lock.command` on a nil lock). -/
theorem PRing.push_nil (grow : Nat → Nat) (q : PRing) : q.push grow none = .panic := rfl

theorem popNodes_prio (ns : List PNode) : (popNodes ns).1.map (·.priority) = ns.map (·.priority) := by
  fun_induction popNodes ns <;> simp_all +zetaDelta

theorem popNodes_refines (ns : List PNode) (h : ∀ n ∈ ns, NodeOK n) :
    (∀ m ∈ (popNodes ns).1, NodeOK m) ∧ absN (popNodes ns).1 = (absN ns).tail ∧
      (popNodes ns).2 = (absN ns).headD none := by
  induction ns with
  | nil => simp [popNodes, absN]
  | cons n ns ih =>
    obtain ⟨hn, htl⟩ := List.forall_mem_cons.mp h
    obtain ⟨p1, p2, p3⟩ := Ring.pop_refines n.ring hn.1
    obtain ⟨i1, i2, i3⟩ := ih htl
    cases hpop : n.ring.pop with
    | mk r o =>
      rw [hpop] at p1 p2 p3
      simp only at p1 p2 p3
      have hok : NodeOK { n with ring := r } :=
        ⟨p1, fun s hs => hn.2 s (List.mem_of_mem_tail (by rw [← p2]; exact hs))⟩
      cases hab : n.ring.abs with
      | nil =>
        -- an empty node ring is popped all the same, and the search goes on
        rw [hab] at p2 p3
        simp only [List.headD_nil] at p3
        subst p3
        simp only [popNodes, hpop]
        exact ⟨List.forall_mem_cons.mpr ⟨hok, i1⟩, by rw [absN_cons, absN_cons, hab, i2]; simp [p2],
          by rw [i3, absN_cons, hab]; rfl⟩
      | cons s t =>
        rw [hab] at p2 p3
        obtain ⟨e, rfl, -⟩ := hn.2 s (by simp [hab])
        simp only [List.headD_cons] at p3
        subst p3
        simp only [popNodes, hpop]
        exact ⟨List.forall_mem_cons.mpr ⟨hok, htl⟩, by rw [absN_cons, absN_cons, hab, p2]; rfl,
          by rw [absN_cons, hab]; rfl⟩

theorem PRing.pop_refines (q : PRing) (h : q.Inv) :
    q.pop.1.Inv ∧ q.pop.1.abs = q.abs.tail ∧ q.pop.2 = q.abs.headD none := by
  obtain ⟨a, b, c⟩ := popNodes_refines q.nodes h.1
  exact ⟨h.of_prio (popNodes_prio q.nodes) a, b, c⟩

/-- `Head` and `MaxPriority` stop at the same node: the first whose ring is not empty. -/
theorem headNodes_refines (ns : List PNode) (h : ∀ n ∈ ns, NodeOK n) :
    headNodes ns = (absN ns).headD none ∧ maxPrioNodes ns = prioOf ((absN ns).headD none) := by
  induction ns with
  | nil => exact ⟨rfl, rfl⟩
  | cons n ns ih =>
    obtain ⟨hn, htl⟩ := List.forall_mem_cons.mp h
    have hh := Ring.head_refines n.ring
    cases hab : n.ring.abs with
    | nil =>
      rw [hab] at hh
      simp only [headNodes, maxPrioNodes, hh, List.headD_nil, absN_cons, hab, List.nil_append]
      exact ih htl
    | cons s t =>
      obtain ⟨e, rfl, hp⟩ := hn.2 s (by simp [hab])
      rw [hab] at hh
      simp only [headNodes, maxPrioNodes, hh, List.headD_cons, absN_cons, hab, List.cons_append, prioOf, hp,
        and_self]

theorem PRing.head_refines (q : PRing) (h : q.Inv) : q.head = q.abs.headD none :=
  (headNodes_refines q.nodes h.1).1

theorem PRing.maxPriority_refines (q : PRing) (h : q.Inv) :
    q.maxPriority = prioOf (q.abs.headD none) := (headNodes_refines q.nodes h.1).2

theorem foldl_len (ns : List PNode) (h : ∀ n ∈ ns, n.ring.Inv) (a : Int) :
    (ns.map (fun n => n.ring.len)).foldl (· + ·) a = a + ((absN ns).length : Int) := by
  induction ns generalizing a with
  | nil => simp [absN]
  | cons n ns ih =>
    simp only [List.map_cons, List.foldl_cons]
    rw [ih (fun m hm => h m (by simp [hm])), absN_cons, Ring.len_refines n.ring (h n (by simp))]
    simp only [List.length_append]
    omega

theorem PRing.len_refines (q : PRing) (h : q.Inv) : q.len = (q.abs.length : Int) := by
  unfold PRing.len
  rw [foldl_len q.nodes (fun n hn => (h.1 n hn).1)]
  simp [PRing.abs]

theorem PRing.iterNodes_refines (q : PRing) :
    q.iterNodes.flatten = q.abs ∧ ∀ l ∈ q.iterNodes, l ≠ [] := by
  unfold PRing.iterNodes PRing.abs absN
  constructor
  · induction q.nodes with
    | nil => rfl
    | cons n ns ih =>
      simp only [List.flatMap_cons, List.flatten_append, ih, Ring.iterNodes_flatten]
  · intro l hl
    simp only [List.mem_flatMap] at hl
    obtain ⟨n, _, hl⟩ := hl
    rw [Ring.iterNodes_refines] at hl
    split at hl
    · simp at hl
    · simp only [List.mem_singleton] at hl; subst hl; assumption

/-- Tombstoning a queued lock in place (any mutation that keeps its priority). -/
theorem PRing.mapId_refines (f : Elem → Elem) (hf : ∀ e, (f e).priority = e.priority) (id : Nat)
    (q : PRing) (h : q.Inv) : (q.mapId f id).Inv ∧ (q.mapId f id).abs = q.abs.map (killSlot f id) := by
  unfold PRing.mapId PRing.Inv PRing.abs
  simp only
  constructor
  · constructor
    · intro m hm
      simp only [List.mem_map] at hm
      obtain ⟨n, hn, rfl⟩ := hm
      have hok := h.1 n hn
      refine ⟨Ring.mapId_inv f id n.ring hok.1, ?_⟩
      intro s hs
      rw [Ring.mapId_abs] at hs
      simp only [List.mem_map] at hs
      obtain ⟨s0, hs0, rfl⟩ := hs
      obtain ⟨e, rfl, hp⟩ := hok.2 s0 hs0
      simp only [killSlot]
      split
      · exact ⟨f e, rfl, by rw [hf]; exact hp⟩
      · exact ⟨e, rfl, hp⟩
    · rw [List.pairwise_map]; exact h.2
  · induction q.nodes with
    | nil => rfl
    | cons n ns ih =>
      simp only [List.map_cons, absN_cons, List.map_append, Ring.mapId_abs]
      rw [ih]

end Slock.Queue2
