import Slock.Proofs.TransStep
/-! M-TRANS: a link that is left alone stays up (and a blocked text handler stays blocked on the same RequestId) over
any number of other events — the persistence half of "same outcome from any node". -/
namespace Slock.Trans
open Slock.Gen

variable {s : Node} {x : Conn} {c rid : Nat} {e : Event} {l : Link} {md : TextMode}

/-- events that do not take the link of connection `c` down -/
def QuietB (c : Nat) : Event → Prop
  | .linkDown d => d ≠ c
  | .leader _ => False
  | .close d => d ≠ c
  | .closeCut d _ => d ≠ c
  | _ => True

/-- … nor hand the blocked handler of `c` an answer to `rid` -/
def QuietT (c rid : Nat) : Event → Prop
  | .linkDown d => d ≠ c
  | .leader _ => False
  | .close d => d ≠ c
  | .closeCut d _ => d ≠ c
  | .leaderMsg d (.lockRes r) _ => d ≠ c ∨ r.rid ≠ rid
  | _ => True

def KeepB (x : Conn) : Prop := x.kind = .binary ∧ x.closed = false ∧ x.link.isSome = true

/-- an open text connection with its link up whose handler is blocked on `rid`, the peer still there -/
def KeepT (rid : Nat) (md : TextMode) (x : Conn) : Prop :=
  x.kind = .text ∧ x.closed = false ∧ x.link.isSome = true ∧ x.awaiting = some (rid, md) ∧ x.half = false

theorem keep_step {P : Conn → Prop} (hx : s.conns[c]? = some x) (hp : P x)
    (hl : ∀ a, e ≠ .leader a) (hc : e.target = some c → P (connStep s x e).1) :
    ∃ x', (step s e).1.conns[c]? = some x' ∧ P x' := by
  have hlt := idx_lt hx
  rcases step_cases s e with ⟨k, _, hcs, _⟩ | ⟨a, he, _⟩ | ⟨hcs, _⟩ | ⟨d, y, ht, hy, hcs, _⟩
  · exact ⟨x, by rw [hcs, List.getElem?_append_left hlt]; exact hx, hp⟩
  · exact absurd he (hl a)
  · exact ⟨x, by rw [hcs]; exact hx, hp⟩
  · rw [hcs]
    by_cases hd : d = c
    · subst hd
      cases hx.symm.trans hy
      exact ⟨_, List.getElem?_set_self hlt, hc ht⟩
    · exact ⟨x, by rw [List.getElem?_set_ne hd]; exact hx, hp⟩

theorem keep_run {P : Conn → Prop} {Q : Event → Prop}
    (hstep : ∀ {s x e}, s.conns[c]? = some x → P x → Q e → ∃ x', (step s e).1.conns[c]? = some x' ∧ P x') :
    ∀ (evs : List Event) {s : Node} {x : Conn}, s.conns[c]? = some x → P x → (∀ e ∈ evs, Q e) →
      ∃ x', (runFrom s evs).conns[c]? = some x' ∧ P x'
  | [], _, x, hx, hp, _ => ⟨x, hx, hp⟩
  | e :: es, _, _, hx, hp, hq => by
    obtain ⟨x', hx', hp'⟩ := hstep hx hp (hq e (List.mem_cons_self ..))
    exact keep_run hstep es hx' hp' (fun e' he' => hq e' (List.mem_cons_of_mem _ he'))

theorem KeepB.addGot (h : KeepB x) (m : ToClient) : KeepB (addGot x m) :=
  ⟨(addGot_kind ..).trans h.1, (addGot_closed ..).trans h.2.1, (congrArg Option.isSome (addGot_link ..)).trans h.2.2⟩

theorem applyConn_keepB {rid : Option Nat} (b : Branch) (h : KeepB x) :
    KeepB (applyConn s c x rid b).1 := by
  have hd : KeepB (dispatched s x rid).1 := h
  cases b with
  | ign => exact h
  | busy => exact h
  | loc => exact hd
  | refuse m => exact hd.addGot m
  | probed r => exact hd.addGot _
  | initRefused rid' cid => exact hd
  | _ => exact ⟨h.1, h.2.1, rfl⟩

theorem relay_keepB (msg : LeaderMsg) (early : Bool) (h : KeepB x) :
    KeepB (relay s c x l msg early).1 := by
  obtain ⟨h1, h2, h3⟩ := h
  cases msg with
  | initRes rid res it =>
    obtain ⟨_, _, he, _⟩ := relay_binary_init s c l early h1 rid res it
    rw [he]
    exact ⟨h1, h2, rfl⟩
  | lockRes r => rw [relay_binary_eq h1]; exact KeepB.addGot (x := { x with link := some _ }) ⟨h1, h2, rfl⟩ _
  | callRes rid res ct => rw [relay_binary_eq h1]; exact ⟨h1, h2, rfl⟩
  | other => rw [relay_binary_eq h1]; exact ⟨h1, h2, h3⟩

theorem keepB_step (hx : s.conns[c]? = some x) (hk : KeepB x) (hq : QuietB c e) :
    ∃ x', (step s e).1.conns[c]? = some x' ∧ KeepB x' := by
  refine keep_step hx hk (fun a he => by subst he; exact hq) (fun ht => ?_)
  cases e with
  | request d short q =>
    rcases will_or_not q with ⟨wct, wcmd, rfl⟩ | hq
    · show KeepB (willConn s d x wct wcmd).1
      rcases willConn_conn s d x wct wcmd with h | h <;> rw [h] <;> exact hk
    · rw [connStep_request hq]; exact applyConn_keepB _ hk
  | leaderMsg d msg early =>
    obtain ⟨l, hl⟩ := Option.isSome_iff_exists.mp hk.2.2
    rw [connStep, msgConn, onLink_some hl]
    exact relay_keepB _ _ hk
  | linkDown d => cases ht; exact absurd rfl hq
  | close d => cases ht; exact absurd rfl hq
  | closeCut d k => cases ht; exact absurd rfl hq
  | _ => cases ht

theorem keepT_step (hx : s.conns[c]? = some x)
    (hk : KeepT rid md x) (hq : QuietT c rid e) : ∃ x', (step s e).1.conns[c]? = some x' ∧ KeepT rid md x' := by
  refine keep_step hx hk (fun a he => by subst he; exact hq) (fun ht => ?_)
  obtain ⟨k1, k2, k3, k4, k5⟩ := hk
  cases e with
  | request d short q =>
    -- the handler is blocked: the request is not looked at
    rcases will_or_not q with ⟨wct, wcmd, rfl⟩ | hq
    · simp only [connStep, willConn, k2, k4]
      exact ⟨k1, k2, k3, k4, k5⟩
    · have hb : classify s x short q = .busy := by unfold classify; simp [k2, k4]
      rw [connStep_request hq, hb]
      exact ⟨k1, k2, k3, k4, k5⟩
  | leaderMsg d msg early =>
    cases ht
    obtain ⟨l, hl⟩ := Option.isSome_iff_exists.mp k3
    rw [connStep, msgConn, onLink_some hl, relay_text_eq k1]
    cases msg with
    | lockRes r =>
      have hne : ¬rid = r.rid := fun h => hq.elim (fun h' => h' rfl) (fun h' => h' h.symm)
      simp only [k4, if_neg hne]
      exact ⟨k1, k2, rfl, rfl, k5⟩
    | _ => exact ⟨k1, k2, k3, k4, k5⟩
  | linkDown d => cases ht; exact absurd rfl hq
  | close d => cases ht; exact absurd rfl hq
  | closeCut d k => cases ht; exact absurd rfl hq
  | _ => cases ht

end Slock.Trans
