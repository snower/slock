/-! List facts that more than one model's proofs need; nothing of a model is imported.

A list read as a map: the entry under a key is `l.find? p`, for the three engine models (stage 1, record level, M-ACK) with
`p := (key · == n)` over a numeric key of key records and lock records, for the journal state of M-AOF with a predicate on three
fields. What a lookup finds after an entry is rewritten in place, appended or filtered out is said once, over any entry type.
Distinct images (`(l.map f).Nodup`) make such a lookup unique.

Ordered insertion: stage 1's `insertWaiter`, the record level's `insertPrio`, the queue specification's `specPushPrio` (by descending
priority) and `insertBySeq` (by ascending wheel sequence number, behind both models' `sortBySeq`) are the same recursion: in front of the first entry the new one goes before, behind
everything else. What it does is proved from its two equations and two order facts (`OrdInsert`), so all four are instances.

A fold with the entries still to come (`foldl_pending`): the fold lemmas of stage 1, of the record level's sweeps and of M-ACK are
instances. -/
namespace Slock

/-- `J a X`: in state `a`, with the entries `X` still to be dealt with. What a plain invariant, an invariant that may use membership in
the list, and a work-list argument need are instances. -/
theorem foldl_pending {σ α} {J : σ → List α → Prop} {f : σ → α → σ} (hf : ∀ a e X, J a (e :: X) → J (f a e) X) :
    ∀ (es X : List α) (a : σ), J a (es ++ X) → J (es.foldl f a) X
  | [], _, _, h => h
  | e :: es, X, a, h => foldl_pending hf es X (f a e) (hf a e (es ++ X) h)

variable {α : Type}

theorem find?_map_if (l : List α) (p : α → Bool) (f : α → α) (hp : ∀ y, p y = true → p (f y) = true) :
    (l.map (fun y => if p y then f y else y)).find? p = (l.find? p).map f := by
  induction l with
  | nil => rfl
  | cons a t ih =>
    cases ha : p a with
    | true => simp [List.find?, ha, hp a ha]
    | false => simp [List.find?, ha, ih]

theorem find?_map_if_other (l : List α) (p q : α → Bool) (f : α → α) (hp : ∀ y, p y = true → p (f y) = true)
    (hdis : ∀ y, p y = true → q y = false) :
    (l.map (fun y => if p y then f y else y)).find? q = l.find? q := by
  induction l with
  | nil => rfl
  | cons a t ih =>
    cases ha : p a with
    | true => simp [List.find?, ha, hdis a ha, hdis (f a) (hp a ha), ih]
    | false => simp [List.find?, ha, ih]

theorem find?_filter_not (l : List α) (p : α → Bool) : (l.filter (fun y => !p y)).find? p = none := by
  simp [List.find?_eq_none]

theorem find?_filter_not_other (l : List α) (p q : α → Bool) (hdis : ∀ y, p y = true → q y = false) :
    (l.filter (fun y => !p y)).find? q = l.find? q := by
  induction l with
  | nil => rfl
  | cons a t ih =>
    cases ha : p a with
    | true => simp [List.filter, List.find?, ha, hdis a ha, ih]
    | false => cases hq : q a <;> simp [List.filter, List.find?, ha, hq, ih]

/-! The same for entries looked up by a numeric key: `p` is `key · == n`, and another key is a disjoint predicate. -/

variable (key : α → Nat)

theorem key_disjoint {n m : Nat} (hne : m ≠ n) (y : α) (h : (key y == n) = true) : (key y == m) = false := by
  rw [beq_iff_eq] at h; rw [h]; simpa using fun e : n = m => hne e.symm

/-- what a lookup returns bears the key it was looked up by -/
theorem find_getD_key (l : List α) (n : Nat) (d : α) (hd : key d = n) : key ((l.find? (key · == n)).getD d) = n := by
  cases h : l.find? (key · == n) with
  | none => exact hd
  | some a => simpa using List.find?_some h

theorem find_map_if (l : List α) (n : Nat) (f : α → α) (hf : ∀ a, key a = n → key (f a) = n) :
    (l.map (fun x => if key x == n then f x else x)).find? (key · == n) = (l.find? (key · == n)).map f :=
  find?_map_if l (key · == n) f fun y h => by rw [beq_iff_eq] at h ⊢; exact hf y h

theorem find_map_if_other (l : List α) (n m : Nat) (f : α → α) (hf : ∀ a, key a = n → key (f a) = n) (hne : m ≠ n) :
    (l.map (fun x => if key x == n then f x else x)).find? (key · == m) = l.find? (key · == m) :=
  find?_map_if_other l (key · == n) (key · == m) f (fun y h => by rw [beq_iff_eq] at h ⊢; exact hf y h) (key_disjoint key hne)

theorem find_append_new (l : List α) (n : Nat) (h : ∀ a ∈ l, key a ≠ n) (x : α) (hx : key x = n) :
    (l ++ [x]).find? (key · == n) = some x := by
  rw [List.find?_append, List.find?_eq_none.mpr (fun a ha => by simpa using h a ha)]
  simp [hx]

theorem find_append_other (l : List α) (n m : Nat) (x : α) (hx : key x = n) (hne : m ≠ n) :
    (l ++ [x]).find? (key · == m) = l.find? (key · == m) := by
  have : (key x == m) = false := key_disjoint key hne x (by rw [hx]; exact beq_self_eq_true n)
  rw [List.find?_append, List.find?_cons, this, List.find?_nil, Option.or_none]

theorem find_filter_other (l : List α) (n m : Nat) (hne : m ≠ n) :
    (l.filter (fun a => key a != n)).find? (fun a => key a == m) = l.find? (fun a => key a == m) :=
  find?_filter_not_other l (key · == n) (key · == m) (key_disjoint key hne)

/-! Distinct images: `(l.map f).Nodup` says that `f` is injective on `l`. -/

theorem nodup_of_map {α β : Type} (f : α → β) (l : List α) (h : (l.map f).Nodup) : l.Nodup :=
  List.Pairwise.of_map f (fun a b hne e => hne (by rw [e])) h

theorem nodup_map_inj {α β : Type} (f : α → β) (l : List α) (hn : (l.map f).Nodup) {a b : α} (ha : a ∈ l) (hb : b ∈ l) (e : f a = f b) : a = b := by
  induction l with
  | nil => simp at ha
  | cons x xs ih =>
    simp only [List.map_cons, List.nodup_cons] at hn
    rcases List.mem_cons.mp ha with h1 | h1 <;> rcases List.mem_cons.mp hb with h2 | h2
    · rw [h1, h2]
    · exfalso; apply hn.1; rw [← h1, e]; exact List.mem_map.mpr ⟨b, h2, rfl⟩
    · exfalso; apply hn.1; rw [← h2, ← e]; exact List.mem_map.mpr ⟨a, h1, rfl⟩
    · exact ih hn.2 h1 h2

theorem nodup_map_on {α β : Type} (f : α → β) (l : List α) (hn : l.Nodup) (hinj : ∀ a ∈ l, ∀ b ∈ l, f a = f b → a = b) : (l.map f).Nodup := by
  induction l with
  | nil => simp
  | cons x xs ih =>
    simp only [List.nodup_cons] at hn
    simp only [List.map_cons, List.nodup_cons]
    refine ⟨?_, ih hn.2 (fun a ha b hb => hinj a (List.mem_cons_of_mem _ ha) b (List.mem_cons_of_mem _ hb))⟩
    intro hm
    obtain ⟨y, hy, e⟩ := List.mem_map.mp hm
    have := hinj y (List.mem_cons_of_mem _ hy) x (by simp) e
    exact hn.1 (this ▸ hy)

/-- with distinct images, the entry that bears `b` is the one a search for `b` finds -/
theorem find_unique {α β : Type} (f : α → β) (p : α → Bool) (b : β) (hp : ∀ x, p x = true ↔ f x = b) (l : List α) (v : α) (hv : v ∈ l)
    (hn : (l.map f).Nodup) (e : f v = b) : l.find? p = some v := by
  induction l with
  | nil => simp at hv
  | cons a as ih =>
    simp only [List.map_cons, List.nodup_cons] at hn
    rcases List.mem_cons.mp hv with h1 | h1
    · subst h1
      simp [List.find?, (hp v).mpr e]
    · have hc : p a = false := by
        cases h : p a with
        | false => rfl
        | true => exact absurd (List.mem_map.mpr ⟨v, h1, (e.trans ((hp a).mp h).symm)⟩) hn.1
      simp only [List.find?, hc]
      exact ih h1 hn.2

theorem find_of_mem_nodup {α : Type} (key : α → Nat) (l : List α) (hn : (l.map key).Nodup) {a : α} (ha : a ∈ l) : l.find? (key · == key a) = some a :=
  find_unique key _ (key a) (fun _ => beq_iff_eq) l a ha hn rfl

universe u v

/-- `ins` files a new entry in front of the first entry it goes before (`bf x a`) and behind everything else. `bf` is the strict part of
a total preorder, of which the proofs use two facts. A list is in order when no entry goes before an earlier one. -/
structure OrdInsert {α : Type u} (bf : α → α → Prop) [DecidableRel bf] (ins : List α → α → List α) : Prop where
  nil : ∀ x, ins [] x = [x]
  cons : ∀ a as x, ins (a :: as) x = if bf x a then x :: a :: as else a :: ins as x
  asymm : ∀ {a b}, bf a b → ¬ bf b a
  trans : ∀ {a b c}, bf a b → ¬ bf c b → bf a c

/-- by descending priority, behind equals -/
theorem OrdInsert.ofPrio {α : Type u} {pr : α → Nat} {ins : List α → α → List α} (nil : ∀ x, ins [] x = [x])
    (cons : ∀ a as x, ins (a :: as) x = if pr x > pr a then x :: a :: as else a :: ins as x) : OrdInsert (fun x a => pr x > pr a) ins :=
  ⟨nil, cons, fun h => by omega, fun h1 h2 => by omega⟩

/-- by ascending sequence number, behind equals -/
theorem OrdInsert.ofSeq {α : Type u} {s : α → Nat} {ins : List α → α → List α} (nil : ∀ x, ins [] x = [x])
    (cons : ∀ a as x, ins (a :: as) x = if s x < s a then x :: a :: as else a :: ins as x) : OrdInsert (fun x a => s x < s a) ins :=
  ⟨nil, cons, fun h => by omega, fun h1 h2 => by omega⟩

namespace OrdInsert
variable {α : Type u} {bf : α → α → Prop} [DecidableRel bf] {ins : List α → α → List α} (I : OrdInsert bf ins)
include I

/-- the old list is split into those the new entry stays behind and those it jumps (it goes before the first of them, which is all
a list in order needs) -/
theorem split (l : List α) (x : α) :
    ∃ l1 l2, l = l1 ++ l2 ∧ ins l x = l1 ++ x :: l2 ∧ (∀ y ∈ l1, ¬ bf x y) ∧ (∀ y, l2.head? = some y → bf x y) := by
  induction l with
  | nil => exact ⟨[], [], rfl, I.nil x, by simp, by simp⟩
  | cons a as ih =>
    rw [I.cons]
    by_cases hp : bf x a
    · rw [if_pos hp]
      exact ⟨[], a :: as, rfl, rfl, by simp, fun y hy => by cases hy; exact hp⟩
    · rw [if_neg hp]
      obtain ⟨l1, l2, e1, e2, h1, h2⟩ := ih
      refine ⟨a :: l1, l2, by rw [e1]; rfl, by rw [e2]; rfl, fun y hy => ?_, h2⟩
      rcases List.mem_cons.mp hy with hy | hy
      · rw [hy]; exact hp
      · exact h1 y hy

/-- and such a split is the insertion -/
theorem eq_of_split (l1 l2 : List α) (x : α) (h1 : ∀ y ∈ l1, ¬ bf x y) (h2 : ∀ y, l2.head? = some y → bf x y) :
    ins (l1 ++ l2) x = l1 ++ x :: l2 := by
  induction l1 with
  | nil =>
    cases l2 with
    | nil => exact I.nil x
    | cons y t => rw [List.nil_append, I.cons, if_pos (h2 y rfl)]; rfl
  | cons a as ih =>
    rw [List.cons_append, I.cons, if_neg (h1 a (List.mem_cons_self ..)), ih (fun y hy => h1 y (List.mem_cons_of_mem _ hy))]
    rfl

theorem perm (l : List α) (x : α) : (ins l x).Perm (x :: l) := by
  obtain ⟨l1, l2, e1, e2, _, _⟩ := I.split l x
  rw [e2, e1]; exact List.perm_middle

/-- in a list in order it goes before every entry it jumps -/
theorem split_sorted (l : List α) (x : α) (hs : l.Pairwise (fun a b => ¬ bf b a)) :
    ∃ l1 l2, l = l1 ++ l2 ∧ ins l x = l1 ++ x :: l2 ∧ (∀ y ∈ l1, ¬ bf x y) ∧ (∀ y ∈ l2, bf x y) := by
  obtain ⟨l1, l2, e1, e2, h1, h2⟩ := I.split l x
  refine ⟨l1, l2, e1, e2, h1, fun b hb => ?_⟩
  rw [e1, List.pairwise_append] at hs
  cases l2 with
  | nil => exact nomatch hb
  | cons y t =>
    rcases List.mem_cons.mp hb with e | hb
    · rw [e]; exact h2 y rfl
    · exact I.trans (h2 y rfl) ((List.pairwise_cons.mp hs.2.1).1 b hb)

theorem sorted (l : List α) (x : α) (hs : l.Pairwise (fun a b => ¬ bf b a)) : (ins l x).Pairwise (fun a b => ¬ bf b a) := by
  obtain ⟨l1, l2, e1, e2, h1, h2⟩ := I.split_sorted l x hs
  rw [e1, List.pairwise_append] at hs
  rw [e2, List.pairwise_append]
  refine ⟨hs.1, List.pairwise_cons.mpr ⟨fun b hb => I.asymm (h2 b hb), hs.2.1⟩, fun a ha b hb => ?_⟩
  rcases List.mem_cons.mp hb with e | hb
  · rw [e]; exact h1 a ha
  · exact hs.2.2 a ha b hb

/-- an entry that is not picked does not show -/
theorem filter_skip (P : α → Bool) (l : List α) (x : α) (hx : P x = false) : (ins l x).filter P = l.filter P := by
  obtain ⟨l1, l2, e1, e2, _, _⟩ := I.split l x
  rw [e2, e1, List.filter_append, List.filter_append, List.filter_cons, hx]; rfl

/-- stable: a picked entry that goes before no picked entry of the list comes last among them -/
theorem filter_stable (P : α → Bool) (l : List α) (x : α) (hs : l.Pairwise (fun a b => ¬ bf b a)) (hp : P x = true)
    (hx : ∀ y ∈ l, P y = true → ¬ bf x y) : (ins l x).filter P = l.filter P ++ [x] := by
  obtain ⟨l1, l2, e1, e2, _, h2⟩ := I.split_sorted l x hs
  have : l2.filter P = [] := List.filter_eq_nil_iff.mpr fun y hy hpy => hx y (e1 ▸ List.mem_append_right _ hy) hpy (h2 y hy)
  rw [e2, e1, List.filter_append, List.filter_append, List.filter_cons, if_pos hp, this, List.append_nil]

/-- Mapped to another entry type that compares the same way, the insertion is the insertion there. -/
theorem map {β : Type v} {bf' : β → β → Prop} [DecidableRel bf'] {ins' : List β → β → List β} (J : OrdInsert bf' ins') (f : α → β)
    (l : List α) (x : α) (hc : ∀ y ∈ l, (bf' (f x) (f y) ↔ bf x y)) : (ins l x).map f = ins' (l.map f) (f x) := by
  obtain ⟨l1, l2, e1, e2, h1, h2⟩ := I.split l x
  rw [e2, e1, List.map_append, List.map_append, List.map_cons]
  refine (J.eq_of_split _ _ _ (fun z hz => ?_) (fun z hz => ?_)).symm
  · obtain ⟨y, hy, rfl⟩ := List.mem_map.mp hz
    exact fun h => h1 y hy ((hc y (e1 ▸ List.mem_append_left _ hy)).mp h)
  · cases l2 with
    | nil => exact nomatch hz
    | cons y t => cases hz; exact (hc y (e1 ▸ List.mem_append_right _ (List.mem_cons_self ..))).mpr (h2 y rfl)

/-- The picked entries of a list in order see the insertion of a picked entry as their own. -/
theorem filter_ins (P : α → Bool) (l : List α) (x : α) (hs : l.Pairwise (fun a b => ¬ bf b a)) (hp : P x = true) :
    (ins l x).filter P = ins (l.filter P) x := by
  obtain ⟨l1, l2, e1, e2, h1, h2⟩ := I.split_sorted l x hs
  rw [e2, e1, List.filter_append, List.filter_append, List.filter_cons, if_pos hp]
  exact (I.eq_of_split _ _ _ (fun y hy => h1 y (List.mem_filter.mp hy).1)
    (fun y hy => h2 y (List.mem_filter.mp (List.mem_of_mem_head? hy)).1)).symm

end OrdInsert

end Slock
