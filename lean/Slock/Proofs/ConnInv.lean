import Slock.Proofs.ConnBasic
/-! Invariants of M-CONN and the master lemmas by which every change of the state preserves them.

`Good` (holds while the server process is alive): shape of closed / open records, every proxy reference and every
`clients` entry points to an OPEN connection that announced the id in question, will bookkeeping.
`Safe` (holds unconditionally): no will of an open connection has reached the engine. -/
namespace Slock.Conn

structure Good (s : Server) : Prop where
  closedShape : ∀ (c : Nat) (x : Conn), s.conns[c]? = some x → x.closed = true →
    x.inited = false ∧ x.target ≠ .self ∧ x.wills = []
  openShape : ∀ (c : Nat) (x : Conn), s.conns[c]? = some x → x.closed = false → x.target = .self
  adopted : ∀ (c : Nat) (x : Conn) (d : Nat), s.conns[c]? = some x → x.target = .conn d →
    x.cid ≠ 0 ∧ ∃ y : Conn, s.conns[d]? = some y ∧ y.closed = false ∧ x.cid ∈ y.announced
  clientsOk : ∀ (k d : Nat), aget s.clients k = some d →
    ∃ y : Conn, s.conns[d]? = some y ∧ y.closed = false ∧ y.inited = true ∧ y.cid = k ∧ k ∈ y.announced ∧ y.kind = .binary
  willsOpen : ∀ (c : Nat) (x : Conn), s.conns[c]? = some x → x.closed = false → x.reg = x.wills.map (·.tok)
  willsClosed : ∀ (c : Nat) (x : Conn), s.conns[c]? = some x → x.closed = true → execOf s c = x.reg
  announcedOwn : ∀ (c : Nat) (x : Conn), s.conns[c]? = some x → (x.cid ≠ 0 ∨ x.inited = true) → x.cid ∈ x.announced

structure Safe (s : Server) : Prop where
  engRange : ∀ e ∈ s.willLog, e.1 < s.conns.length
  execOpen : ∀ (c : Nat) (x : Conn), s.conns[c]? = some x → x.closed = false → execOf s c = []

/-- the clauses of `Good` that speak of one record alone -/
structure RecOk (x : Conn) : Prop where
  closedShape : x.closed = true → x.inited = false ∧ x.target ≠ .self ∧ x.wills = []
  openShape : x.closed = false → x.target = .self
  willsOpen : x.closed = false → x.reg = x.wills.map (·.tok)
  announcedOwn : (x.cid ≠ 0 ∨ x.inited = true) → x.cid ∈ x.announced

theorem Good.recOk {s : Server} (hg : Good s) {c : Nat} {x : Conn} (hx : s.conns[c]? = some x) : RecOk x :=
  ⟨hg.closedShape c x hx, hg.openShape c x hx, hg.willsOpen c x hx, hg.announcedOwn c x hx⟩

theorem Good.closed_of_target {s : Server} (hg : Good s) {o : Nat} {x : Conn} (hx : s.conns[o]? = some x)
    (ht : x.target ≠ .self) : x.closed = true := by
  cases hc : x.closed
  · exact absurd (hg.openShape o x hx hc) ht
  · rfl

theorem lt_of_get {l : List Conn} {c : Nat} {x : Conn} (h : l[c]? = some x) : c < l.length :=
  (List.getElem?_eq_some_iff.mp h).1

theorem get_set_self {l : List Conn} {c : Nat} {x : Conn} (h : l[c]? = some x) (x' : Conn) : (l.set c x')[c]? = some x' :=
  List.getElem?_set_self (lt_of_get h)

theorem get_set_ne {l : List Conn} {c j : Nat} (h : j ≠ c) (x' : Conn) : (l.set c x')[j]? = l[j]? :=
  List.getElem?_set_ne (fun e => h e.symm)

theorem get_set_cases {l : List Conn} {c : Nat} {x : Conn} (hx : l[c]? = some x) (x' : Conn) (j : Nat) (y : Conn)
    (h : (l.set c x')[j]? = some y) : (j = c ∧ y = x') ∨ (j ≠ c ∧ l[j]? = some y) := by
  by_cases e : j = c
  · subst e; rw [get_set_self hx] at h; exact .inl ⟨rfl, (Option.some.inj h).symm⟩
  · rw [get_set_ne e] at h; exact .inr ⟨e, h⟩

theorem get_append_cases (l : List Conn) (n : Conn) (j : Nat) (y : Conn) (h : (l ++ [n])[j]? = some y) :
    l[j]? = some y ∨ (j = l.length ∧ y = n) := by
  rw [List.getElem?_append] at h
  split at h
  · exact .inl h
  · obtain ⟨hlt, e⟩ := List.getElem?_eq_some_iff.mp h
    have h0 : j - l.length = 0 := by simpa using hlt
    exact .inr ⟨by omega, by simpa [h0] using e.symm⟩

theorem get_append_old (l : List Conn) (n : Conn) (j : Nat) (y : Conn) (h : l[j]? = some y) : (l ++ [n])[j]? = some y := by
  rw [List.getElem?_append_left (lt_of_get h)]; exact h

/-- Record `c` is replaced by `x'`; `clients`, `owner`, `dead` are arbitrary; the will log changes in
entries of `c` only. `hC`: whoever has adopted a proxy under `c` still finds it open and the id announced — or nobody
has. -/
theorem good_update {s : Server} (hg : Good s) {c : Nat} {x : Conn} (hx : s.conns[c]? = some x) (x' : Conn)
    (cl' ow' wl' : List (Nat × Nat)) (dd : Option Fatal)
    (hR : RecOk x')
    (hB : ∀ d, x'.target = .conn d → d ≠ c ∧ x'.cid ≠ 0 ∧ ∃ y : Conn, s.conns[d]? = some y ∧ y.closed = false ∧ x'.cid ∈ y.announced)
    (hC : (x'.closed = x.closed ∧ ∀ k ∈ x.announced, k ∈ x'.announced) ∨ ∀ (j : Nat) (y : Conn), s.conns[j]? = some y → y.target ≠ .conn c)
    (hD : ∀ k d, aget cl' k = some d →
      (d = c ∧ x'.closed = false ∧ x'.inited = true ∧ x'.cid = k ∧ k ∈ x'.announced ∧ x'.kind = .binary) ∨
      (d ≠ c ∧ aget s.clients k = some d))
    (hE : x'.closed = true → execL wl' c = x'.reg)
    (hW : ∀ j, j ≠ c → execL wl' j = execL s.willLog j) :
    Good { conns := s.conns.set c x', clients := cl', owner := ow', willLog := wl', dead := dd } := by
  have lkc := get_set_self hx x'
  have hr : ∀ j y, (s.conns.set c x')[j]? = some y → RecOk y := fun j y hj => by
    rcases get_set_cases hx x' j y hj with ⟨_, rfl⟩ | ⟨_, h⟩
    · exact hR
    · exact hg.recOk h
  refine ⟨fun j y h => (hr j y h).closedShape, fun j y h => (hr j y h).openShape, fun j y d hj ht => ?_,
    fun k d hk => ?_, fun j y h => (hr j y h).willsOpen, fun j y hj hcl => ?_, fun j y h => (hr j y h).announcedOwn⟩
  · rcases get_set_cases hx x' j y hj with ⟨_, rfl⟩ | ⟨_, h⟩
    · obtain ⟨hd, hnz, z, hz, hzo, hza⟩ := hB d ht
      exact ⟨hnz, z, (get_set_ne hd y).trans hz, hzo, hza⟩
    · obtain ⟨hnz, z, hz, hzo, hza⟩ := hg.adopted j y d h ht
      by_cases hd : d = c
      · subst hd
        cases hx.symm.trans hz
        rcases hC with ⟨c1, c2⟩ | hC
        · exact ⟨hnz, x', lkc, c1.trans hzo, c2 _ hza⟩
        · exact absurd ht (hC j y h)
      · exact ⟨hnz, z, (get_set_ne hd x').trans hz, hzo, hza⟩
  · rcases hD k d hk with ⟨rfl, h⟩ | ⟨hd, h⟩
    · exact ⟨x', lkc, h⟩
    · obtain ⟨z, hz, hrest⟩ := hg.clientsOk k d h
      exact ⟨z, (get_set_ne hd x').trans hz, hrest⟩
  · show execL wl' j = y.reg
    rcases get_set_cases hx x' j y hj with ⟨rfl, rfl⟩ | ⟨e, h⟩
    · exact hE hcl
    · rw [hW j e]; exact hg.willsClosed j y h hcl

/-- a record changed in fields that neither references nor the `clients` map depend on -/
theorem good_update_same {s : Server} (hg : Good s) {c : Nat} {x : Conn} (hx : s.conns[c]? = some x) (x' : Conn)
    (ow' : List (Nat × Nat))
    (h1 : x'.closed = x.closed) (h2 : x'.inited = x.inited) (h3 : x'.cid = x.cid) (h4 : x'.target = x.target)
    (h5 : x'.kind = x.kind) (h6 : x'.announced = x.announced) (hR : RecOk x') (h7 : x.closed = true → x'.reg = x.reg) :
    Good { s with conns := s.conns.set c x', owner := ow' } := by
  refine good_update hg hx x' s.clients ow' s.willLog s.dead hR (fun d ht => ?_) (.inl ⟨h1, fun k hk => h6 ▸ hk⟩)
    (fun k d hk => ?_) (fun hcl => ?_) (fun _ _ => rfl)
  · rw [h4] at ht
    obtain ⟨hnz, y, hy, hyo, hya⟩ := hg.adopted c x d hx ht
    refine ⟨fun e => ?_, h3 ▸ hnz, y, hy, hyo, h3 ▸ hya⟩
    subst e
    cases hx.symm.trans hy
    rw [hg.openShape d x hx hyo] at ht
    cases ht
  · by_cases hd : d = c
    · subst hd
      obtain ⟨y, hy, a, b, e, f, g⟩ := hg.clientsOk k d hk
      cases hx.symm.trans hy
      exact .inl ⟨rfl, h1.trans a, h2.trans b, h3.trans e, h6 ▸ f, h5.trans g⟩
    · exact .inr ⟨hd, hk⟩
  · rw [h1] at hcl
    rw [h7 hcl]
    exact hg.willsClosed c x hx hcl

theorem good_owner {s : Server} (hg : Good s) (ow' : List (Nat × Nat)) : Good { s with owner := ow' } :=
  ⟨hg.closedShape, hg.openShape, hg.adopted, hg.clientsOk, hg.willsOpen, hg.willsClosed, hg.announcedOwn⟩

theorem good_open {s : Server} (hg : Good s) (k : Kind) (o : Option Nat) :
    Good { s with conns := s.conns ++ [{ kind := k, outer := o }] } := by
  have hr : ∀ j y, (s.conns ++ [{ kind := k, outer := o }])[j]? = some y → RecOk y := fun j y hj => by
    rcases get_append_cases _ _ j y hj with h | ⟨_, rfl⟩
    · exact hg.recOk h
    · exact ⟨nofun, fun _ => rfl, fun _ => rfl, fun h => h.elim (absurd rfl) nofun⟩
  refine ⟨fun j y h => (hr j y h).closedShape, fun j y h => (hr j y h).openShape, fun j y d hj ht => ?_,
    fun kk d hk => ?_, fun j y h => (hr j y h).willsOpen, fun j y hj hcl => ?_, fun j y h => (hr j y h).announcedOwn⟩
  · rcases get_append_cases _ _ j y hj with h | ⟨_, rfl⟩
    · obtain ⟨hnz, z, hz, r⟩ := hg.adopted j y d h ht
      exact ⟨hnz, z, get_append_old _ _ d z hz, r⟩
    · cases ht
  · obtain ⟨z, hz, r⟩ := hg.clientsOk kk d hk
    exact ⟨z, get_append_old _ _ d z hz, r⟩
  · rcases get_append_cases _ _ j y hj with h | ⟨_, rfl⟩
    · exact hg.willsClosed j y h hcl
    · cases hcl

/-- no record is added or re-opened, and the will log changes in entries of records that are closed afterwards -/
theorem safe_of {s s' : Server} (hs : Safe s) (hl : s'.conns.length = s.conns.length)
    (hR : ∀ e ∈ s'.willLog, e.1 < s.conns.length)
    (hO : ∀ (j : Nat) (y' : Conn), s'.conns[j]? = some y' → y'.closed = false →
      execL s'.willLog j = execL s.willLog j ∧ ∃ y : Conn, s.conns[j]? = some y ∧ y.closed = false) : Safe s' := by
  refine ⟨fun e h => hl ▸ hR e h, fun j y' hj hop => ?_⟩
  obtain ⟨e, y, hy, hyo⟩ := hO j y' hj hop
  exact e.trans (hs.execOpen j y hy hyo)

theorem safe_set {s : Server} (hs : Safe s) {c : Nat} {x : Conn} (hx : s.conns[c]? = some x) (x' : Conn)
    (cl' ow' : List (Nat × Nat)) (h1 : x'.closed = false → x.closed = false) :
    Safe { s with conns := s.conns.set c x', clients := cl', owner := ow' } := by
  refine safe_of hs (List.length_set ..) hs.engRange fun j y' hj hop => ⟨rfl, ?_⟩
  rcases get_set_cases hx x' j y' hj with ⟨rfl, rfl⟩ | ⟨_, h⟩
  · exact ⟨x, hx, h1 hop⟩
  · exact ⟨y', h, hop⟩

theorem safe_open {s : Server} (hs : Safe s) (k : Kind) (o : Option Nat) :
    Safe { s with conns := s.conns ++ [{ kind := k, outer := o }] } := by
  refine ⟨fun e he => ?_, fun j y hj hop => ?_⟩
  · have := hs.engRange e he
    simp only [List.length_append, List.length_cons, List.length_nil]; omega
  · rcases get_append_cases _ _ j y hj with h | ⟨rfl, _⟩
    · exact hs.execOpen j y h hop
    · exact execL_none _ _ (fun e he => Nat.ne_of_lt (hs.engRange e he))

end Slock.Conn
