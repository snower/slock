import Slock.Proofs.AofDeadline
import Slock.Gen.Kernels
/-!
G3 tie for the journal ↔ deadline conversions (C07, C16): `Aof.GetLockCommandExpriedTime` and `Aof.GetAofLockExpriedTime` are
REGENERATED from /repo's source on every run (`Slock.Gen.K.getLockCommandExpriedTime`, `K.getAofLockExpriedTime`: Go's truncating
signed division, two's-complement narrowing to uint16 and wrapping uint16 arithmetic translated literally) and proved equal to
`loadRemaining` / `writeRemaining`, the functions the C07 deadline theorems and the C16 keep rule are stated over.

The kernels test `Bool`s where the model tests `Prop`s; once the conditions are brought to the same form the two sides differ
only in `Int.tdiv` / `Int.tmod` (applied to non-negative numbers) and in the wrapping subtraction.
-/
namespace Slock.Aof
open Slock.Gen

/-- Go's `uint16(e - u)` under the guard `e > u` is truncated subtraction. -/
theorem wrap_sub {e : Nat} (he : e < 65536) (u : Nat) : (if e > u then (e + 65536 - u) % 65536 else 0) = e - u := by
  by_cases h : e > u
  · rw [if_pos h, Nat.sub_add_comm (Nat.le_of_lt h), Nat.add_mod_right,
      Nat.mod_eq_of_lt (Nat.lt_of_le_of_lt (Nat.sub_le _ _) he)]
  · rw [if_neg h, Nat.sub_eq_zero_of_le (Nat.not_lt.mp h)]

theorem u16_lt (x : Int) : u16 x < 65536 :=
  (Int.toNat_lt (Int.emod_nonneg x (by decide))).mpr (Int.emod_lt_of_pos x (by decide))

theorem loadRemaining_generated (ef e : Nat) (ct now : Int) (he : e < 65536) :
    K.getLockCommandExpriedTime ef e ct now = loadRemaining ef e ct now := by
  unfold K.getLockCommandExpriedTime loadRemaining EXPRIED_FLAG_UNLIMITED_EXPRIED_TIME EXPRIED_FLAG_MILLISECOND_TIME
    EXPRIED_FLAG_MINUTE_TIME u16
  simp only [bne_iff_ne, decide_eq_true_eq, Bool.or_eq_true, ne_eq, wrap_sub he, ite_sub]
  by_cases hel : now - ct ≥ 0
  · rw [Int.tdiv_eq_ediv_of_nonneg hel, Int.tmod_eq_emod_of_nonneg hel]
    -- the kernel subtracts in both branches of the rounding, the model rounds first
    by_cases hc : now - ct < 60 ∨ ¬ (now - ct) % 60 = 0
    · simp only [hc, if_true]
    · simp only [hc, if_false]
  · simp only [hel, if_false]

/-- `GetAofLockExpriedTime`: `dl` is the hold's deadline field (`lock.expriedTime`; 0x7fff…ffff for an unlimited hold, which the
model writes as `none`). -/
theorem writeRemaining_generated (ef e : Nat) (d : Option Int) (ct : Int) :
    K.getAofLockExpriedTime ef e (d.getD 0x7fffffffffffffff) ct = writeRemaining ef e d ct := by
  unfold K.getAofLockExpriedTime writeRemaining EXPRIED_FLAG_UNLIMITED_EXPRIED_TIME EXPRIED_FLAG_MILLISECOND_TIME
    EXPRIED_FLAG_MINUTE_TIME u16
  generalize d.getD 0x7fffffffffffffff = dl
  simp only [bne_iff_ne, beq_iff_eq, decide_eq_true_eq, Bool.and_eq_true, ne_eq]
  by_cases hs : dl - ct > 0
  · rw [Int.tdiv_eq_ediv_of_nonneg (Int.le_of_lt hs), Int.tmod_eq_emod_of_nonneg (Int.le_of_lt hs)]
  · have h60 : ¬ dl - ct ≥ 60 := fun h => hs (Int.lt_of_lt_of_le (by decide) h)
    simp only [h60, false_and, if_false, hs]

end Slock.Aof
