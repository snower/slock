import Slock.Model.Engine
import Slock.Proofs.Lists
/-!
What holds of the parts of M-ENGINE before any operation is looked at. Removing or replacing a record in a list of holds or
of queued requests is a split of the list at that record, and the sums, lengths and memberships are read off the split; the
wake pass is a loop, with an induction principle and a frame (what it does whatever it grants); a timer sweep is a fold
over a work list.
-/
namespace Slock.Engine

def depthSum (hs : List Hold) : Nat := (hs.map (·.depth)).sum

@[simp] theorem depthSum_nil : depthSum [] = 0 := rfl
@[simp] theorem depthSum_cons (h : Hold) (hs : List Hold) : depthSum (h :: hs) = h.depth + depthSum hs := by
  simp [depthSum]
@[simp] theorem depthSum_append (a b : List Hold) : depthSum (a ++ b) = depthSum a + depthSum b := by
  simp [depthSum]

/-- `locked` is a counter the code keeps by hand: it is the sum of the holders' depths, and every holder has depth ≥ 1
(hence `holders = [] ↔ locked = 0`). -/
structure KeyInv (k : Key) : Prop where
  sum : k.locked = depthSum k.holders
  pos : ∀ h ∈ k.holders, 1 ≤ h.depth

theorem KeyInv.empty (n : Nat) : KeyInv (emptyKey n) := ⟨rfl, by simp [emptyKey]⟩

theorem removeHolder_sublist (hs : List Hold) (h : Hold) : (removeHolder hs h).Sublist hs := by
  induction hs with
  | nil => exact List.Sublist.refl _
  | cons x rest ih =>
    unfold removeHolder
    split
    · exact List.sublist_cons_self _ _
    · exact List.Sublist.cons_cons _ ih

theorem mem_removeHolder {hs : List Hold} {h x : Hold} (hx : x ∈ removeHolder hs h) : x ∈ hs :=
  (removeHolder_sublist hs h).subset hx

theorem removeHolder_length_le (hs : List Hold) (h : Hold) : (removeHolder hs h).length ≤ hs.length :=
  (removeHolder_sublist hs h).length_le

theorem removeWaiter_sublist (ws : List Waiter) (w : Waiter) : (removeWaiter ws w).Sublist ws := by
  induction ws with
  | nil => exact List.Sublist.refl _
  | cons x xs ih =>
    unfold removeWaiter
    split
    · exact List.sublist_cons_self x xs
    · exact List.Sublist.cons_cons x ih

theorem mem_removeWaiter {ws : List Waiter} {w x : Waiter} (h : x ∈ removeWaiter ws w) : x ∈ ws :=
  (removeWaiter_sublist ws w).subset h

theorem holders_split {hs : List Hold} {h : Hold} (hm : h ∈ hs) : ∃ l1 l2, hs = l1 ++ h :: l2 ∧ h ∉ l1 ∧
    removeHolder hs h = l1 ++ l2 ∧ ∀ h', replaceHolder hs h h' = l1 ++ h' :: l2 := by
  induction hs with
  | nil => exact nomatch hm
  | cons x rest ih =>
    by_cases hx : x = h
    · exact ⟨[], rest, by rw [hx]; rfl, List.not_mem_nil, by simp [removeHolder, hx], fun h' => by simp [replaceHolder, hx]⟩
    · obtain ⟨l1, l2, e, hn, er, ep⟩ := ih ((List.mem_cons.mp hm).resolve_left fun e => hx e.symm)
      exact ⟨x :: l1, l2, by rw [e]; rfl, fun hm' => (List.mem_cons.mp hm').elim (fun e => hx e.symm) hn,
        by simp [removeHolder, hx, er], fun h' => by simp [replaceHolder, hx, ep]⟩

theorem replaceHolder_not_mem {hs : List Hold} {h h' : Hold} (hn : h ∉ hs) : replaceHolder hs h h' = hs := by
  induction hs with
  | nil => rfl
  | cons x rest ih =>
    unfold replaceHolder
    have hx : x ≠ h := by intro e; apply hn; simp [e]
    simp only [hx, if_false]
    rw [ih (by intro hm; apply hn; exact List.mem_cons_of_mem _ hm)]

theorem depthSum_removeHolder {hs : List Hold} {h : Hold} (hm : h ∈ hs) :
    depthSum (removeHolder hs h) + h.depth = depthSum hs := by
  obtain ⟨l1, l2, e, _, er, _⟩ := holders_split hm
  rw [er, e]; simp only [depthSum_append, depthSum_cons]; omega

theorem depthSum_replaceHolder {hs : List Hold} {h h' : Hold} (hm : h ∈ hs) :
    depthSum (replaceHolder hs h h') + h.depth = depthSum hs + h'.depth := by
  obtain ⟨l1, l2, e, _, _, ep⟩ := holders_split hm
  rw [ep, e]; simp only [depthSum_append, depthSum_cons]; omega

theorem mem_replaceHolder {hs : List Hold} {h h' x : Hold} (hx : x ∈ replaceHolder hs h h') : x ∈ hs ∨ x = h' := by
  by_cases hm : h ∈ hs
  · obtain ⟨l1, l2, e, _, _, ep⟩ := holders_split hm
    rw [ep] at hx; rw [e]
    simp only [List.mem_append, List.mem_cons] at hx ⊢
    rcases hx with h1 | h1 | h1
    · exact Or.inl (Or.inl h1)
    · exact Or.inr h1
    · exact Or.inl (Or.inr (Or.inr h1))
  · exact Or.inl (replaceHolder_not_mem hm ▸ hx)

theorem replaceHolder_hids {hs : List Hold} {h h' : Hold} (e : h'.hid = h.hid) :
    (replaceHolder hs h h').map (·.hid) = hs.map (·.hid) := by
  by_cases hm : h ∈ hs
  · obtain ⟨l1, l2, e1, _, _, ep⟩ := holders_split hm
    rw [ep, e1]; simp [e]
  · rw [replaceHolder_not_mem hm]

theorem insertWaiter_prio : OrdInsert (fun w x : Waiter => cmdPriority w.cmd > cmdPriority x.cmd) insertWaiter :=
  .ofPrio (fun _ => rfl) (fun _ _ _ => rfl)

theorem mem_removeHolder_ne {hs : List Hold} {h x : Hold} (hn : hs.Nodup) (hx : x ∈ removeHolder hs h) : x ≠ h := by
  intro ex
  by_cases hm : h ∈ hs
  · obtain ⟨l1, l2, e, hn1, er, _⟩ := holders_split hm
    rw [er, ex] at hx; rw [e] at hn
    have hd := List.nodup_append.mp hn
    exact (List.mem_append.mp hx).elim hn1 (List.nodup_cons.mp hd.2.1).1
  · exact hm (ex ▸ mem_removeHolder hx)

theorem mem_replaceHolder_ne {hs : List Hold} {h h' x : Hold} (hn : hs.Nodup) (hx : x ∈ replaceHolder hs h h') :
    (x ∈ hs ∧ x ≠ h) ∨ x = h' := by
  by_cases hm : h ∈ hs
  · obtain ⟨l1, l2, e, hn1, _, ep⟩ := holders_split hm
    rw [ep] at hx
    rw [e] at hn ⊢
    have hc := List.nodup_cons.mp (List.nodup_append.mp hn).2.1
    simp only [List.mem_append, List.mem_cons] at hx ⊢
    rcases hx with h1 | h1 | h1
    · exact Or.inl ⟨Or.inl h1, fun e => hn1 (e ▸ h1)⟩
    · exact Or.inr h1
    · exact Or.inl ⟨Or.inr (Or.inr h1), fun e => hc.1 (e ▸ h1)⟩
  · rw [replaceHolder_not_mem hm] at hx
    exact Or.inl ⟨hx, fun e => hm (e ▸ hx)⟩

/-- what `removeWaiter` takes out is the first request with `w`'s (RequestId, connection), which need not be `w` itself -/
theorem removeWaiter_split {ws : List Waiter} {w : Waiter} (hm : w ∈ ws) : ∃ l1 y l2, ws = l1 ++ y :: l2 ∧
    y.cmd.req = w.cmd.req ∧ y.conn = w.conn ∧ removeWaiter ws w = l1 ++ l2 := by
  induction ws with
  | nil => exact nomatch hm
  | cons x xs ih =>
    by_cases hx : (x.cmd.req == w.cmd.req && x.conn == w.conn) = true
    · have hx' : x.cmd.req = w.cmd.req ∧ x.conn = w.conn := by simpa using hx
      exact ⟨[], x, xs, rfl, hx'.1, hx'.2, by simp [removeWaiter, hx]⟩
    · obtain ⟨l1, y, l2, e, e1, e2, er⟩ := ih ((List.mem_cons.mp hm).resolve_left fun e => hx (by simp [e]))
      exact ⟨x :: l1, y, l2, by rw [e]; rfl, e1, e2, by simp [removeWaiter, hx, er]⟩

theorem removeWaiter_length {ws : List Waiter} {w : Waiter} (hm : w ∈ ws) : (removeWaiter ws w).length + 1 = ws.length := by
  obtain ⟨l1, y, l2, e, _, _, er⟩ := removeWaiter_split hm
  rw [er, e]; simp only [List.length_append, List.length_cons]; omega

theorem findHolder_mem {k : Key} {id : Nat} {h : Hold} (hf : findHolder k id = some h) : h ∈ k.holders :=
  List.mem_of_find?_eq_some hf

theorem KeyInv.depth_le {k : Key} (hk : KeyInv k) {h : Hold} (hm : h ∈ k.holders) : h.depth ≤ k.locked := by
  rw [hk.sum]
  have := depthSum_removeHolder hm
  omega

theorem KeyInv.locked_zero_iff {k : Key} (hk : KeyInv k) : k.locked = 0 ↔ k.holders = [] := by
  constructor
  · intro h0
    cases hh : k.holders with
    | nil => rfl
    | cons x xs =>
      have hx : x ∈ k.holders := by simp [hh]
      have h1 := hk.pos x hx
      have h2 := hk.depth_le hx
      omega
  · intro h; rw [hk.sum, h]; rfl

theorem replaceHolder_length (hs : List Hold) (h h' : Hold) : (replaceHolder hs h h').length = hs.length := by
  induction hs with
  | nil => rfl
  | cons x xs ih => unfold replaceHolder; split <;> simp [ih]

theorem length_le_depthSum (hs : List Hold) (hp : ∀ h ∈ hs, 1 ≤ h.depth) : hs.length ≤ depthSum hs := by
  induction hs with
  | nil => exact Nat.le_refl _
  | cons x xs ih =>
    have := hp x (List.mem_cons_self ..)
    have := ih fun h hh => hp h (List.mem_cons_of_mem _ hh)
    simp only [List.length_cons, depthSum_cons]
    omega

theorem KeyInv.length_le {k : Key} (hk : KeyInv k) : k.holders.length ≤ k.locked := by
  rw [hk.sum]; exact length_le_depthSum _ hk.pos

theorem has_zero (f : Nat) : has 0 f = false := by unfold has; simp

/-- what the admission kernel `doLock` (db.go 2530–2562) has checked when it admits `c` -/
theorem doLock_true (k : Key) (c : Cmd) (h : doLock k c = true) :
    k.locked = 0 ∨ (c.count ≠ 0 ∧ ∃ cur, k.holders.head? = some cur ∧
      ((k.locked < 0xffff → k.locked ≤ cur.cmd.count ∧ k.locked ≤ c.count) ∧
       (0xffff ≤ k.locked → cur.cmd.count = 0xffff ∧ c.count = 0xffff))) := by
  unfold doLock at h
  by_cases h0 : k.locked = 0
  · exact Or.inl h0
  · right
    simp only [beq_iff_eq, h0, if_false] at h
    by_cases hc : c.count = 0
    · simp [hc] at h
    · simp only [hc, if_false] at h
      refine ⟨hc, ?_⟩
      cases hh : k.holders.head? with
      | none => simp [hh] at h
      | some cur =>
        simp only [hh] at h
        refine ⟨cur, rfl, ?_⟩
        by_cases hb : k.locked ≥ 0xffff
        · simp only [hb, if_true] at h
          by_cases hb2 : k.locked ≥ 0x7fffffff
          · simp [hb2] at h
          · simp only [hb2, if_false, Bool.and_eq_true, beq_iff_eq] at h
            exact ⟨fun hlt => by omega, fun _ => h⟩
        · simp only [hb, if_false, Bool.and_eq_true, decide_eq_true_eq] at h
          exact ⟨fun _ => h, fun hge => by omega⟩

theorem replaceHolder_inv {k : Key} (hk : KeyInv k) {h h' : Hold} (hm : h ∈ k.holders) (hp : 1 ≤ h'.depth) (l : Nat)
    (hl : l + h.depth = k.locked + h'.depth) :
    KeyInv { k with holders := replaceHolder k.holders h h', locked := l } := by
  constructor
  · have := depthSum_replaceHolder (h' := h') hm
    have := hk.sum
    dsimp only; omega
  · intro x hx
    rcases mem_replaceHolder hx with h1 | h1
    · exact hk.pos x h1
    · exact h1 ▸ hp

/-- also when `h` is gone (the sweep re-arms the copy of a hold it collected): then nothing is replaced -/
theorem replace_inv {k : Key} (hk : KeyInv k) {h h' : Hold} (hd : h'.depth = h.depth) :
    KeyInv { k with holders := replaceHolder k.holders h h' } := by
  by_cases hm : h ∈ k.holders
  · exact replaceHolder_inv hk hm (hd ▸ hk.pos h hm) k.locked (by rw [hd])
  · rw [replaceHolder_not_mem hm]; exact ⟨hk.sum, hk.pos⟩

theorem relock_inv {k : Key} (hk : KeyInv k) {h h' : Hold} (hm : h ∈ k.holders) (hd : h'.depth = h.depth + 1) :
    KeyInv { k with holders := replaceHolder k.holders h h', locked := k.locked + 1 } :=
  replaceHolder_inv hk hm (by omega) _ (by omega)

theorem dec_inv {k : Key} (hk : KeyInv k) {h : Hold} (hm : h ∈ k.holders) (hd : 1 < h.depth) :
    KeyInv { k with holders := replaceHolder k.holders h { h with depth := h.depth - 1 }, locked := k.locked - 1 } :=
  replaceHolder_inv hk hm (by dsimp only; omega) _ (by have := hk.depth_le hm; dsimp only; omega)

theorem release_inv {k : Key} (hk : KeyInv k) {h : Hold} (hm : h ∈ k.holders) :
    KeyInv { k with holders := removeHolder k.holders h, locked := k.locked - h.depth } := by
  constructor
  · have := depthSum_removeHolder hm
    simp only [hk.sum]; omega
  · intro x hx
    exact hk.pos x (mem_removeHolder hx)

theorem waiters_inv {k : Key} (hk : KeyInv k) (ws : List Waiter) (b : Bool) :
    KeyInv { k with waiters := ws, waited := b } := ⟨hk.sum, hk.pos⟩

theorem getKey_mem_or_empty (db : DB) (n : Nat) : db.getKey n ∈ db.keys ∨ db.getKey n = emptyKey n := by
  unfold DB.getKey
  cases hf : db.keys.find? (·.key == n) with
  | none => exact Or.inr rfl
  | some k => exact Or.inl (List.mem_of_find?_eq_some hf)

theorem getKey_key (db : DB) (n : Nat) : (db.getKey n).key = n := find_getD_key Key.key _ n _ rfl

theorem getKey_of_keys_eq {db db' : DB} (e : db'.keys = db.keys) (n : Nat) : db'.getKey n = db.getKey n := by
  unfold DB.getKey; rw [e]

theorem mem_setKey_keys {db : DB} {k x : Key} (h : x ∈ (db.setKey k).keys) : (x ∈ db.keys ∧ x.key ≠ k.key) ∨ x = k := by
  unfold DB.setKey at h
  have hf : ∀ {l : List Key}, x ∈ l.filter (·.key != k.key) → x ∈ l ∧ x.key ≠ k.key :=
    fun h => ⟨(List.mem_filter.mp h).1, by simpa using (List.mem_filter.mp h).2⟩
  dsimp only at h
  split at h
  · exact Or.inl (hf h)
  · rcases List.mem_append.mp h with h1 | h1
    · exact Or.inl (hf h1)
    · exact Or.inr (List.mem_singleton.mp h1)

theorem getKey_setKey (db : DB) (k : Key) : (db.setKey k).getKey k.key = if k.isEmpty then emptyKey k.key else k := by
  unfold DB.setKey DB.getKey
  have hnf : (db.keys.filter (fun x => x.key != k.key)).find? (fun x => x.key == k.key) = none :=
    List.find?_eq_none.mpr fun x hx => by simpa using (List.mem_filter.mp hx).2
  dsimp only
  split
  · rw [hnf]; rfl
  · rw [List.find?_append, hnf]; simp

theorem isEmpty_eq (k : Key) (h : k.isEmpty = true) : k = emptyKey k.key := by
  unfold Key.isEmpty at h
  simp only [Bool.and_eq_true, List.isEmpty_iff, beq_iff_eq, Bool.not_eq_true'] at h
  obtain ⟨⟨⟨h1, h2⟩, h3⟩, h4⟩ := h
  cases k
  simp only [emptyKey] at *
  simp_all

theorem getKey_setKey_other (a : DB) (k : Key) (n : Nat) (hne : n ≠ k.key) : (a.setKey k).getKey n = a.getKey n := by
  unfold DB.setKey DB.getKey
  dsimp only
  split
  · rw [find_filter_other Key.key _ _ _ hne]
  · rw [find_append_other Key.key _ _ _ k rfl hne, find_filter_other Key.key _ _ _ hne]

theorem getKey_setKey_same (a : DB) (k : Key) : (a.setKey k).getKey k.key = k := by
  rw [getKey_setKey]
  split
  · rename_i h; exact (isEmpty_eq k h).symm
  · rfl

def KeysAll (P : Key → Prop) (db : DB) : Prop := ∀ k ∈ db.keys, P k

theorem KeysAll.init {P : Key → Prop} (n : Nat) : KeysAll P (DB.init n) := fun _ hk => nomatch hk

theorem KeysAll.getKey {P : Key → Prop} {db : DB} (h : KeysAll P db) (h0 : ∀ n, P (emptyKey n)) (n : Nat) : P (db.getKey n) := by
  rcases getKey_mem_or_empty db n with h1 | h1
  · exact h _ h1
  · rw [h1]; exact h0 n

theorem KeysAll.of_keys_eq {P : Key → Prop} {db db' : DB} (h : KeysAll P db) (e : db'.keys = db.keys) : KeysAll P db' :=
  fun k hk => h k (e ▸ hk)

theorem KeysAll.setKey {P : Key → Prop} {db0 db : DB} {k : Key} (h : KeysAll P db0) (e : db.keys = db0.keys) (hk : P k) :
    KeysAll P (db.setKey k) := by
  intro x hx
  rcases mem_setKey_keys hx with ⟨h1, _⟩ | h1
  · exact h x (e ▸ h1)
  · exact h1 ▸ hk

/-- the fields only `opTick` (and the role switch) may change -/
def clock (db : DB) : Nat × Nat × Nat × Bool := (db.now, db.tCheck, db.eCheck, db.leader)

theorem clock_fields {a b : DB} (h : clock a = clock b) : a.now = b.now ∧ a.tCheck = b.tCheck ∧ a.eCheck = b.eCheck := by
  unfold clock at h
  simp only [Prod.mk.injEq] at h
  exact ⟨h.1, h.2.1, h.2.2.1⟩

def grantedHold (db : DB) (c : Cmd) : Hold :=
  { hid := db.seq, cmd := c, conn := c.conn, depth := 1, startT := db.now,
    expT := (wheelAdd db.eCheck db.seq (expiryDeadline db.now c) (initChecked c db.now (expiryDeadline db.now c))).1,
    sched := (wheelAdd db.eCheck db.seq (expiryDeadline db.now c) (initChecked c db.now (expiryDeadline db.now c))).2 }

theorem grantHold_holders_eq (db : DB) (k : Key) (c : Cmd) :
    (grantHold db k c).2.holders = k.holders ++ [grantedHold db c] := rfl
theorem grantHold_seq (db : DB) (k : Key) (c : Cmd) : (grantHold db k c).1.seq = db.seq + 1 := rfl
theorem grantHold_waiters (db : DB) (k : Key) (c : Cmd) : (grantHold db k c).2.waiters = k.waiters := rfl
theorem grantHold_waited (db : DB) (k : Key) (c : Cmd) : (grantHold db k c).2.waited = k.waited := rfl
theorem grantHold_locked (db : DB) (k : Key) (c : Cmd) : (grantHold db k c).2.locked = k.locked + 1 := rfl
theorem grantHold_key (db : DB) (k : Key) (c : Cmd) : (grantHold db k c).2.key = k.key := rfl
theorem grantHold_db_keys (db : DB) (k : Key) (c : Cmd) : (grantHold db k c).1.keys = db.keys := rfl

theorem grantHold_inv (db : DB) (k : Key) (c : Cmd) (hk : KeyInv k) : KeyInv (grantHold db k c).2 := by
  constructor
  · simp [grantHold, hk.sum]
  · intro h hm
    rcases List.mem_append.mp hm with hm | hm
    · exact hk.pos h hm
    · rw [List.mem_singleton.mp hm]; exact Nat.le_refl 1

/-- `updateHold` in its three cases, as equations. With the "(unlimited, 0xffff) = leave as is" token only the terms change. Else the
period restarts, and either the record is put on the wheel anew (a long-table entry whose deadline moves), or it stays where it
is with the new deadline (for a long-table entry: the same deadline); `n` is the back-off count, kept or started afresh. -/
theorem updateHold_eq (d : DB) (h : Hold) (c : Cmd) :
    ((has c.eflag EF_UNLIMITED = true ∧ c.expried ≥ 0xffff) ∧ updateHold d h c = (d, { h with cmd := c, conn := c.conn })) ∨
    (¬ (has c.eflag EF_UNLIMITED = true ∧ c.expried ≥ 0xffff) ∧ ∃ n,
      ((h.sched.long = true ∧ expiryDeadline d.now c ≠ h.expT) ∧
        updateHold d h c = ({ d with seq := d.seq + 1 },
          { h with cmd := c, conn := c.conn, startT := d.now, expT := (wheelAdd d.eCheck d.seq (expiryDeadline d.now c) n).1,
                   sched := (wheelAdd d.eCheck d.seq (expiryDeadline d.now c) n).2 })) ∨
      ((h.sched.long = true → expiryDeadline d.now c = h.expT) ∧
        updateHold d h c = (d, { h with cmd := c, conn := c.conn, startT := d.now, expT := expiryDeadline d.now c,
                                        sched := { h.sched with checked := n } }))) := by
  unfold updateHold
  split
  · rename_i ht; simp only [Bool.and_eq_true, decide_eq_true_eq] at ht
    exact Or.inl ⟨ht, rfl⟩
  · rename_i ht; simp only [Bool.and_eq_true, decide_eq_true_eq] at ht
    refine Or.inr ⟨ht, if has c.eflag EF_NO_RESET then h.sched.checked else initChecked c d.now (expiryDeadline d.now c), ?_⟩
    dsimp only
    split
    · split
      · rename_i hl hne; exact Or.inl ⟨⟨hl, by simpa using hne⟩, rfl⟩
      · rename_i hne; exact Or.inr ⟨fun _ => by simpa using hne, rfl⟩
    · rename_i hl; exact Or.inr ⟨fun h => absurd h hl, rfl⟩

theorem updateHold_frame (d : DB) (h : Hold) (c : Cmd) :
    (updateHold d h c).1.keys = d.keys ∧ clock (updateHold d h c).1 = clock d ∧ (updateHold d h c).1.ctr = d.ctr ∧
      d.seq ≤ (updateHold d h c).1.seq ∧ (updateHold d h c).2.depth = h.depth ∧ (updateHold d h c).2.hid = h.hid ∧
      (updateHold d h c).2.cmd = c ∧ (updateHold d h c).2.conn = c.conn := by
  rcases updateHold_eq d h c with ⟨_, e⟩ | ⟨_, n, ⟨_, e⟩ | ⟨_, e⟩⟩ <;> rw [e] <;>
    exact ⟨rfl, rfl, rfl, by dsimp only; omega, rfl, rfl, rfl, rfl⟩

theorem updateHold_db_keys (db : DB) (h : Hold) (c : Cmd) : (updateHold db h c).1.keys = db.keys := (updateHold_frame db h c).1
theorem clock_updateHold (db : DB) (h : Hold) (c : Cmd) : clock (updateHold db h c).1 = clock db := (updateHold_frame db h c).2.1
theorem updateHold_ctr (db : DB) (h : Hold) (c : Cmd) : (updateHold db h c).1.ctr = db.ctr := (updateHold_frame db h c).2.2.1
theorem updateHold_seq_le (d : DB) (h : Hold) (c : Cmd) : d.seq ≤ (updateHold d h c).1.seq := (updateHold_frame d h c).2.2.2.1
theorem updateHold_depth (db : DB) (h : Hold) (c : Cmd) : (updateHold db h c).2.depth = h.depth := (updateHold_frame db h c).2.2.2.2.1
theorem updateHold_hid (d : DB) (h : Hold) (c : Cmd) : (updateHold d h c).2.hid = h.hid := (updateHold_frame d h c).2.2.2.2.2.1
theorem updateHold_cmd (db : DB) (h : Hold) (c : Cmd) : (updateHold db h c).2.cmd = c := (updateHold_frame db h c).2.2.2.2.2.2.1

theorem wakeIter_some {db db' : DB} {k k' : Key} {r : Reply} (h : wakeIter db k = some (db', k', r)) :
    ∃ w rest, k.waiters = w :: rest ∧ doLock k w.cmd = true ∧
      let c : Cmd := { w.cmd with conn := w.conn }
      let d1 : DB := { db with ctr := { db.ctr with waitCount := db.ctr.waitCount - 1 } }
      let k1 : Key := { k with waiters := rest }
      (0 < w.cmd.expried ∧ db' = (grantHold d1 k1 c).1 ∧ k' = (grantHold d1 k1 c).2 ∧
          r = mkReply c RESULT_SUCCED (k.locked + 1) 1) ∨
        (w.cmd.expried = 0 ∧ db' = { d1 with ctr := { d1.ctr with lockCount := d1.ctr.lockCount + 1 } } ∧ k' = k1 ∧
          r = mkReply c RESULT_SUCCED k.locked 0) := by
  unfold wakeIter at h
  split at h
  · exact nomatch h
  · rename_i w rest hw
    refine ⟨w, rest, hw, ?_⟩
    split at h
    · exact nomatch h
    · rename_i hd
      refine ⟨by simpa using hd, ?_⟩
      split at h
      · rename_i he
        injection h with h; injection h with h1 h2; injection h2 with h2 h3
        exact Or.inl ⟨he, h1.symm, h2.symm, h3.symm⟩
      · rename_i he
        injection h with h; injection h with h1 h2; injection h2 with h2 h3
        exact Or.inr ⟨by omega, h1.symm, h2.symm, h3.symm⟩

theorem wakeIter_none {db : DB} {k : Key} (h : wakeIter db k = none) :
    k.waiters = [] ∨ ∃ w rest, k.waiters = w :: rest ∧ doLock k w.cmd = false := by
  unfold wakeIter at h
  split at h
  · rename_i hw; exact Or.inl hw
  · rename_i w rest hw
    refine Or.inr ⟨w, rest, hw, ?_⟩
    split at h
    · rename_i hd; simpa using hd
    · split at h <;> exact nomatch h

/-- The wake pass as a loop: `P` is kept by every granting iteration; `Q` is what holds at its three exits (nothing to
do, queue exhausted, head of the queue not admissible). The fuel `wake` supplies is never used up: every iteration
shortens the queue. -/
theorem wake_elim {P Q : DB → Key → List Reply → Prop}
    (hstep : ∀ db k out db' k' r, P db k out → wakeIter db k = some (db', k', r) → P db' k' (out ++ [r]))
    (hidle : ∀ db k out, P db k out → k.waited = false → Q db k out)
    (hempty : ∀ db k out, P db k out → k.waiters = [] → Q db { k with waited := false } out)
    (hstuck : ∀ db k out w rest, P db k out → k.waiters = w :: rest → doLock k w.cmd = false → Q db k out)
    (db : DB) (k : Key) (out : List Reply) (h : P db k out) :
    Q (wake db k out).1 (wake db k out).2.1 (wake db k out).2.2 := by
  unfold wake
  generalize hf : k.waiters.length + 1 = fuel
  replace hf : k.waiters.length < fuel := by omega
  induction fuel generalizing db k out with
  | zero => omega
  | succ n ih =>
    unfold wakePass
    split
    · rename_i hwd; exact hidle db k out h (by simpa using hwd)
    · cases hw : wakeIter db k with
      | none =>
        dsimp only
        rcases wakeIter_none hw with e | ⟨w, rest, e, hd⟩
        · rw [if_pos (by rw [e]; rfl)]; exact hempty db k out h e
        · rw [if_neg (by rw [e]; exact Bool.false_ne_true)]; exact hstuck db k out w rest h e hd
      | some t =>
        obtain ⟨db', k', r⟩ := t
        dsimp only
        refine ih db' k' _ (hstep db k out db' k' r h hw) ?_
        obtain ⟨w, rest, e, _, ⟨_, _, rfl, _⟩ | ⟨_, _, rfl, _⟩⟩ := wakeIter_some hw <;>
          simp only [e, grantHold, List.length_cons] at hf ⊢ <;> omega

theorem wake_induct {P : DB → Key → List Reply → Prop}
    (hstep : ∀ db k out db' k' r, P db k out → wakeIter db k = some (db', k', r) → P db' k' (out ++ [r]))
    (hflag : ∀ db k out, P db k out → k.waiters = [] → P db { k with waited := false } out)
    (db : DB) (k : Key) (out : List Reply) (h : P db k out) :
    P (wake db k out).1 (wake db k out).2.1 (wake db k out).2.2 :=
  wake_elim hstep (fun _ _ _ h _ => h) hflag (fun _ _ _ _ _ h _ _ => h) db k out h

theorem wake_ind (P : DB → Key → Prop)
    (hstep : ∀ db k db' k' r, P db k → wakeIter db k = some (db', k', r) → P db' k')
    (hflag : ∀ db k, P db k → P db { k with waited := false })
    (db : DB) (k : Key) (out : List Reply) (h : P db k) : P (wake db k out).1 (wake db k out).2.1 :=
  wake_induct (P := fun d q _ => P d q) (fun d q _ d' q' r => hstep d q d' q' r) (fun d q _ h _ => hflag d q h) db k out h

theorem wakeIter_inv {db : DB} {k : Key} (hk : KeyInv k) {db' : DB} {k' : Key} {r : Reply}
    (h : wakeIter db k = some (db', k', r)) : KeyInv k' := by
  obtain ⟨w, rest, _, _, ⟨_, _, rfl, _⟩ | ⟨_, _, rfl, _⟩⟩ := wakeIter_some h
  · exact grantHold_inv _ _ _ (waiters_inv hk rest k.waited)
  · exact waiters_inv hk rest k.waited

theorem wakeIter_spec {db : DB} {k : Key} {db' : DB} {k' : Key} {r : Reply}
    (h : wakeIter db k = some (db', k', r)) :
    ∃ w rest, k.waiters = w :: rest ∧ doLock k w.cmd = true ∧ k'.waiters = rest ∧ k'.key = k.key ∧ k'.waited = k.waited ∧
      db'.keys = db.keys ∧ clock db' = clock db ∧
      ((k'.holders = k.holders ++ [grantedHold db { w.cmd with conn := w.conn }] ∧ k'.locked = k.locked + 1 ∧ db'.seq = db.seq + 1) ∨
       (k'.holders = k.holders ∧ k'.locked = k.locked ∧ db'.seq = db.seq)) := by
  obtain ⟨w, rest, hw, hd, ⟨_, rfl, rfl, _⟩ | ⟨_, rfl, rfl, _⟩⟩ := wakeIter_some h
  · exact ⟨w, rest, hw, hd, rfl, rfl, rfl, rfl, rfl, Or.inl ⟨rfl, rfl, rfl⟩⟩
  · exact ⟨w, rest, hw, hd, rfl, rfl, rfl, rfl, rfl, Or.inr ⟨rfl, rfl, rfl⟩⟩

/-- What a wake pass from `(db, k, out)` to `(db', k', out')` does, whatever it grants: a prefix `gs` of the queue is
granted in order, each grant answered SUCCED to its requester; the counters move with the key record. -/
structure WakeFrame (db : DB) (k : Key) (out : List Reply) (db' : DB) (k' : Key) (out' : List Reply) : Prop where
  keys : db'.keys = db.keys
  clock : clock db' = clock db
  seq : db.seq ≤ db'.seq
  key : k'.key = k.key
  grants : ∃ gs more, k.waiters = gs ++ k'.waiters ∧ out' = out ++ more ∧
    more.map (fun r => (r.conn, r.req, r.result)) = gs.map (fun w => (w.conn, w.cmd.req, RESULT_SUCCED))
  locked : k.locked ≤ k'.locked
  lockedCount : db'.ctr.lockedCount - k'.locked = db.ctr.lockedCount - k.locked
  waitCount : db'.ctr.waitCount - k'.waiters.length = db.ctr.waitCount - k.waiters.length

theorem wake_frame (db : DB) (k : Key) (out : List Reply) :
    WakeFrame db k out (wake db k out).1 (wake db k out).2.1 (wake db k out).2.2 := by
  refine wake_induct (P := WakeFrame db k out) ?_ ?_ db k out
    ⟨rfl, rfl, Nat.le_refl _, rfl, ⟨[], [], rfl, (List.append_nil _).symm, rfl⟩, Nat.le_refl _, rfl, rfl⟩
  · intro d q o d' q' r f h
    obtain ⟨gs, more, e1, e2, e3⟩ := f.grants
    obtain ⟨w, rest, hw, _, hh⟩ := wakeIter_some h
    have hgr : ∀ r : Reply, (r.conn, r.req, r.result) = (w.conn, w.cmd.req, RESULT_SUCCED) →
        ∃ gs' more', k.waiters = gs' ++ rest ∧ o ++ [r] = out ++ more' ∧
          more'.map (fun r => (r.conn, r.req, r.result)) = gs'.map (fun w => (w.conn, w.cmd.req, RESULT_SUCCED)) :=
      fun r hr => ⟨gs ++ [w], more ++ [r], by rw [e1, hw]; simp, by rw [e2]; simp, by simp [e3, hr]⟩
    have hwc : q.waiters.length = rest.length + 1 := by rw [hw]; rfl
    have hlc := f.lockedCount
    have hwt := f.waitCount
    rcases hh with ⟨_, rfl, rfl, rfl⟩ | ⟨_, rfl, rfl, rfl⟩
    · refine ⟨f.keys, f.clock, Nat.le_succ_of_le f.seq, f.key, hgr _ rfl, Nat.le_succ_of_le f.locked, ?_, ?_⟩
      · simp only [grantHold]; omega
      · simp only [grantHold]; omega
    · exact ⟨f.keys, f.clock, f.seq, f.key, hgr _ rfl, f.locked, hlc, by dsimp only; omega⟩
  · intro d q o f _
    exact ⟨f.keys, f.clock, f.seq, f.key, f.grants, f.locked, f.lockedCount, f.waitCount⟩

theorem wake_keys (db : DB) (k : Key) (out : List Reply) : (wake db k out).1.keys = db.keys := (wake_frame db k out).keys

theorem wake_key (db : DB) (k : Key) (out : List Reply) : (wake db k out).2.1.key = k.key := (wake_frame db k out).key

theorem clock_wake (db : DB) (k : Key) (out : List Reply) : clock (wake db k out).1 = clock db := (wake_frame db k out).clock

theorem wake_sub (db : DB) (k : Key) (out : List Reply) : (wake db k out).2.1.waiters.Sublist k.waiters := by
  obtain ⟨gs, _, e, _⟩ := (wake_frame db k out).grants
  rw [e]; exact List.sublist_append_right _ _

theorem wake_out_succed (db : DB) (k : Key) (out : List Reply) :
    ∃ more, (wake db k out).2.2 = out ++ more ∧ ∀ r ∈ more, r.result = RESULT_SUCCED := by
  obtain ⟨gs, more, _, e, hm⟩ := (wake_frame db k out).grants
  refine ⟨more, e, fun r hr => ?_⟩
  have : (r.conn, r.req, r.result) ∈ gs.map (fun w => (w.conn, w.cmd.req, RESULT_SUCCED)) :=
    hm ▸ List.mem_map.mpr ⟨r, hr, rfl⟩
  obtain ⟨w, _, hw⟩ := List.mem_map.mp this
  exact (congrArg (·.2.2) hw).symm

theorem wake_out (db : DB) (k : Key) (out : List Reply) : ∃ more, (wake db k out).2.2 = out ++ more :=
  (wake_out_succed db k out).imp fun _ h => h.1

theorem wake_mono (db : DB) (k : Key) (out : List Reply) : k.locked ≤ (wake db k out).2.1.locked := (wake_frame db k out).locked

def allW (db : DB) : List Waiter := db.keys.flatMap (·.waiters)

theorem mem_allW {db : DB} {w : Waiter} : w ∈ allW db ↔ ∃ k ∈ db.keys, w ∈ k.waiters := by
  unfold allW; simp [List.mem_flatMap]

theorem insertBySeq_ord {α} (s : α → Nat) : OrdInsert (fun x a => s x < s a) (fun l x => insertBySeq s x l) :=
  .ofSeq (fun _ => rfl) (fun _ _ _ => rfl)

theorem perm_insertBySeq {α} (s : α → Nat) (x : α) (acc : List α) : (insertBySeq s x acc).Perm (x :: acc) := (insertBySeq_ord s).perm acc x

theorem perm_foldl_insert {α} (s : α → Nat) (l acc : List α) : (l.foldl (fun acc x => insertBySeq s x acc) acc).Perm (l ++ acc) := by
  induction l generalizing acc with
  | nil => exact List.Perm.refl _
  | cons x xs ih =>
    simp only [List.foldl_cons]
    refine (ih _).trans ?_
    refine (List.Perm.append_left xs (perm_insertBySeq s x acc)).trans ?_
    exact List.perm_middle

theorem perm_sortBySeq {α} (s : α → Nat) (l : List α) : (sortBySeq s l).Perm l := by
  have := perm_foldl_insert s l []
  simpa [sortBySeq] using this

theorem mem_insertBySeq {α} (seqOf : α → Nat) (x y : α) (acc : List α) : x ∈ insertBySeq seqOf y acc ↔ x = y ∨ x ∈ acc :=
  (perm_insertBySeq seqOf y acc).mem_iff.trans List.mem_cons

theorem mem_sortBySeq_iff {α} (seqOf : α → Nat) (l : List α) (x : α) : x ∈ sortBySeq seqOf l ↔ x ∈ l :=
  (perm_sortBySeq seqOf l).mem_iff

theorem foldl_induct {α σ} (I : σ → Prop) (f : σ → α → σ) (l : List α) (hf : ∀ s a, a ∈ l → I s → I (f s a)) (s : σ)
    (h : I s) : I (l.foldl f s) := by
  refine (foldl_pending (f := f) (J := fun (s : σ) (X : List α) => I s ∧ ∀ a ∈ X, a ∈ l) (fun s a X h => ?_) l [] s ⟨h, fun a ha => by simpa using ha⟩).1
  exact ⟨hf s a (h.2 a (List.mem_cons_self ..)) h.1, fun b hb => h.2 b (List.mem_cons_of_mem _ hb)⟩

/-- a fold over a work list: `G s l` says what is left to do in state `s` when `l` is still to be processed -/
theorem foldl_worklist {α σ} (f : σ → α → σ) (I : σ → Prop) (G : σ → List α → Prop)
    (step : ∀ s a rest, I s → G s (a :: rest) → I (f s a) ∧ G (f s a) rest) (l : List α) (s : σ) (hi : I s) (hg : G s l) :
    I (l.foldl f s) ∧ G (l.foldl f s) [] := by
  refine foldl_pending (f := f) (J := fun (s : σ) (X : List α) => I s ∧ G s X) (fun s a X h => ?_) l [] s ?_
  · exact step s a X h.1 h.2
  · rw [List.append_nil]; exact ⟨hi, hg⟩

/-- the two moves of a work list `(a :: rest) ++ acc ++ L`: `a` is done with, or goes to the collected ones -/
theorem mem_worklist_skip {α} {x a : α} {rest acc L : List α} (h : x ∈ (a :: rest) ++ acc ++ L) (hne : x ≠ a) :
    x ∈ rest ++ acc ++ L := by
  simp only [List.mem_append, List.mem_cons] at h ⊢
  rcases h with ((h | h) | h) | h
  · exact absurd h hne
  · exact Or.inl (Or.inl h)
  · exact Or.inl (Or.inr h)
  · exact Or.inr h

theorem mem_worklist_move {α} {x a : α} {rest acc L : List α} (h : x ∈ (a :: rest) ++ acc ++ L) :
    x ∈ rest ++ (acc ++ [a]) ++ L := by
  simp only [List.mem_append, List.mem_cons, List.not_mem_nil, or_false] at h ⊢
  rcases h with ((h | h) | h) | h
  · exact Or.inl (Or.inr (Or.inr h))
  · exact Or.inl (Or.inl h)
  · exact Or.inl (Or.inr (Or.inl h))
  · exact Or.inr h

end Slock.Engine
