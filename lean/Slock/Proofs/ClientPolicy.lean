import Slock.Proofs.EngineWheel
/-!
Per-key *policies* over M-ENGINE (used by C19): a discipline `D` on the LOCK commands addressed to one key `K`, and a
property `HP` of that key's holder list which the engine then maintains through EVERY operation (lock, unlock, the two
sweeps of a tick), for every other traffic on every other key. The client primitives instantiate it
(`Slock/Proofs/ClientPolicies.lean`).
-/
namespace Slock.Engine

/-- The `hp_*` fields mirror the edits of a holder list, one per kind: `hp_grant`, `hp_update`, `hp_relock`; `hp_same` for a replacement
that keeps the command (one level off, a re-armed copy); `hp_remove` for release and expiry. `KeyPol.edit` is where they meet `Edit`,
so a further edit of holds means a further field. -/
structure Policy where
  K : Nat
  D : Cmd → Prop
  HP : List Hold → Prop
  D_conn : ∀ (c : Cmd) (n : Nat), D c → D { c with conn := n }
  hp_nil : HP []
  hp_remove : ∀ (hs : List Hold) (h : Hold), HP hs → HP (removeHolder hs h)
  hp_same : ∀ (hs : List Hold) (h h' : Hold), HP hs → h ∈ hs → h'.cmd = h.cmd → HP (replaceHolder hs h h')
  hp_grant : ∀ (k : Key) (c : Cmd) (h : Hold), KeyInv k → HP k.holders → D c → doLock k c = true → h.cmd = c → h.depth = 1 →
    HP (k.holders ++ [h])
  hp_update : ∀ (k : Key) (c : Cmd) (h h' : Hold), KeyInv k → HP k.holders → h ∈ k.holders → D c → has c.flag F_UPDATE = true →
    h'.cmd = { c with lockId := h.cmd.lockId } → HP (replaceHolder k.holders h h')
  hp_relock : ∀ (k : Key) (c : Cmd) (h h' : Hold), KeyInv k → HP k.holders → h ∈ k.holders → D c → h.cmd.lockId = c.lockId →
    h.depth ≤ c.rcount → h'.cmd = c → HP (replaceHolder k.holders h h')

def KeyPol (P : Policy) (k : Key) : Prop :=
  (∀ w ∈ k.waiters, w.cmd.key = k.key) ∧ (k.key = P.K → (∀ w ∈ k.waiters, P.D w.cmd) ∧ P.HP k.holders)

def DBPol (P : Policy) (db : DB) : Prop := ∀ k ∈ db.keys, KeyPol P k

def PolInv (P : Policy) (db : DB) : Prop := DBInv db ∧ DBPol P db

variable {P : Policy}

theorem KeyPol.empty (n : Nat) : KeyPol P (emptyKey n) :=
  ⟨by intro w hw; simp [emptyKey] at hw, fun _ => ⟨by intro w hw; simp [emptyKey] at hw, P.hp_nil⟩⟩

theorem DBPol.init (n : Nat) : DBPol P (DB.init n) := KeysAll.init n

theorem getKey_pol {db : DB} (h : DBPol P db) (n : Nat) : KeyPol P (db.getKey n) := KeysAll.getKey h KeyPol.empty n

theorem DBPol.of_keys_eq {db db' : DB} (h : DBPol P db) (e : db'.keys = db.keys) : DBPol P db' := KeysAll.of_keys_eq h e

theorem DBPol.allW {db : DB} (h : DBPol P db) {w : Waiter} (hw : w ∈ allW db) : w.cmd.key = P.K → P.D w.cmd := by
  obtain ⟨k, hk, hwk⟩ := mem_allW.mp hw
  intro e
  have hp := h k hk
  exact (hp.2 (by rw [← hp.1 w hwk]; exact e)).1 w hwk

theorem KeyPol.waiters_sub {k : Key} (hk : KeyPol P k) (ws : List Waiter) (b : Bool) (hs : ∀ w ∈ ws, w ∈ k.waiters) :
    KeyPol P { k with waiters := ws, waited := b } :=
  ⟨fun w hw => hk.1 w (hs w hw), fun e => ⟨fun w hw => (hk.2 e).1 w (hs w hw), (hk.2 e).2⟩⟩

theorem KeyPol.holders {k : Key} (hk : KeyPol P k) (hs : List Hold) (l : Nat) (hh : k.key = P.K → P.HP hs) :
    KeyPol P { k with holders := hs, locked := l } :=
  ⟨hk.1, fun e => ⟨(hk.2 e).1, hh e⟩⟩

theorem grantHold_pol (db : DB) (k : Key) (c : Cmd) (hi : KeyInv k) (hk : KeyPol P k) (hd : doLock k c = true)
    (hc : k.key = P.K → P.D c) : KeyPol P (grantHold db k c).2 :=
  ⟨hk.1, fun e => ⟨(hk.2 e).1, P.hp_grant k c _ hi (hk.2 e).2 (hc e) hd rfl rfl⟩⟩

theorem findHolder_lockId {k : Key} {id : Nat} {h : Hold} (hf : findHolder k id = some h) : h.cmd.lockId = id := by
  unfold findHolder at hf
  have := List.find?_some hf
  simpa using this

theorem classifyLock_queue_key (db : DB) (c : Cmd) : (db.getKey c.key).key = c.key := getKey_key db c.key

theorem PolInv.of_keys_eq {db db' : DB} (h : PolInv P db) (e : db'.keys = db.keys) : PolInv P db' :=
  ⟨h.1.of_keys_eq e, h.2.of_keys_eq e⟩

variable {db0 db d : DB} {s : Src} {n : Nat} {wk : Bool} {k : Key} {out : List Reply}

theorem hp_replace' (hs : List Hold) (h h' : Hold) (hh : P.HP hs) (e : h'.cmd = h.cmd) : P.HP (replaceHolder hs h h') := by
  by_cases hm : h ∈ hs
  · exact P.hp_same hs h h' hh hm e
  · rw [replaceHolder_not_mem hm]; exact hh

/-- what a policy needs of the edits: the LOCK it comes from obeys the discipline; so did the requests queued when the tick began -/
theorem KeyPol.edit (e : Edit db0 db s n wk d k out) (hs : ∀ c, s = .lock c → c.key = P.K → P.D c)
    (h0 : ∀ w ∈ allW db0, w.cmd.key = P.K → P.D w.cmd) (hi : KeyInv (db.getKey n)) (hk : KeyPol P (db.getKey n)) :
    KeyPol P k := by
  have hkey : (db.getKey n).key = n := getKey_key db n
  have hkn : k.key = n := e.frame.2.2.2
  -- the queue: what was queued, the request of the LOCK itself, or the copy of a request queued when the tick began
  refine ⟨fun w hw => hkn ▸ (e.waiters w hw).elim (fun h1 => (hk.1 w h1).trans hkey) NewW.key, fun ek => ⟨fun w hw => ?_, ?_⟩⟩
  · rcases e.waiters w hw with h1 | h1
    · exact (hk.2 (hkey.trans (hkn ▸ ek))).1 w h1
    · cases h1 with
      | queue c => exact hs c rfl (hkn ▸ ek)
      | rearm _ _ w0 hw0 hk0 => exact h0 w0 hw0 (hk0.trans (hkn ▸ ek))
  have hp := (hk.2 (hkey.trans (hkn ▸ ek))).2
  have hn : n = P.K := hkn ▸ ek
  cases e with
  | update c h hb =>
    exact P.hp_update _ c h _ hi hp (mem_of_update hb) (hs c rfl hn) (LockFacts.of hb).1 (updateHold_cmd ..)
  | relock c h hb =>
    obtain ⟨hfind, _, _, hdep, _⟩ := LockFacts.of hb
    exact P.hp_relock _ c h _ hi hp (mem_of_relock hb) (hs c rfl hn) (findHolder_lockId hfind) hdep (updateHold_cmd ..)
  | grant c hb => exact P.hp_grant _ c _ hi hp (hs c rfl hn) (LockFacts.of hb).1 rfl rfl
  | grantNoHold | queue | cancel | timeout | rearmW => exact hp
  | dec c h | rearmH h => exact hp_replace' _ h _ hp rfl
  | release c h | expire _ h => exact P.hp_remove _ h hp

theorem PolInv.edit (e : Edit db0 db s n wk d k out) (hs : ∀ c, s = .lock c → c.key = P.K → P.D c) (h0 : PolInv P db0)
    (h : PolInv P db) : PolInv P (store wk d k out).1 :=
  have hi := KeyInv.edit e (getKey_inv h.1 n)
  ⟨DBInv.edit e h.1, fun x hx => (keysAll_edit (P := fun _ x => KeyInv x ∧ KeyPol P x) (fun _ _ h => h)
    (fun _ q _ _ _ _ hq hw => ⟨wakeIter_inv hq.1 hw, by
      obtain ⟨w, rest, hw', hd, hh⟩ := wakeIter_some hw
      have hk1 : KeyPol P { q with waiters := rest } := hq.2.waiters_sub rest q.waited fun x hx => hw' ▸ List.mem_cons_of_mem _ hx
      rcases hh with ⟨_, _, rfl, _⟩ | ⟨_, _, rfl, _⟩
      · exact grantHold_pol _ _ _ (waiters_inv hq.1 rest q.waited) hk1 hd
          fun e => P.D_conn _ _ ((hq.2.2 e).1 w (hw' ▸ List.mem_cons_self ..))
      · exact hk1⟩)
    (fun _ q hq => ⟨⟨hq.1.sum, hq.1.pos⟩, hq.2.waiters_sub q.waiters false fun _ h => h⟩) e
    (fun x hx => ⟨h.1 x hx, h.2 x hx⟩) ⟨hi, KeyPol.edit e hs (fun _ hw => h0.2.allW hw) (getKey_inv h.1 n) (getKey_pol h.2 n)⟩
    x hx).2⟩

theorem opLock_pol (db : DB) (c : Cmd) (hc : c.key = P.K → P.D c) (h : PolInv P db) : PolInv P (opLock db c).1 :=
  opLock_edit db c (Q := fun p => PolInv P p.1) (fun _ _ _ => h) fun _ _ _ _ e =>
    PolInv.edit e (fun _ e' => by cases e'; exact hc) h h

theorem opUnlock_pol (db : DB) (c : Cmd) (h : PolInv P db) : PolInv P (opUnlock db c).1 :=
  opUnlock_edit db c (Q := fun p => PolInv P p.1) (fun _ _ _ => h.of_keys_eq rfl) fun _ _ _ e =>
    PolInv.edit e (fun _ e' => nomatch e') h h

/-- a re-armed request was queued when the tick began, so it obeys the discipline -/
theorem opTick_pol (db : DB) (h : PolInv P db) : PolInv P (opTick db).1 :=
  opTick_edit (P := fun x _ => PolInv P x) (Q := fun x _ => PolInv P x) db (h.of_keys_eq rfl)
    (fun _ _ _ _ _ _ _ e hx => PolInv.edit e (fun _ e' => nomatch e') h hx) (fun _ _ hx => hx.of_keys_eq rfl)
    (fun _ _ _ _ _ _ _ e hx => PolInv.edit e (fun _ e' => nomatch e') h hx)

theorem PolInv.init (n : Nat) : PolInv P (DB.init n) := ⟨DBInv.init n, DBPol.init n⟩

theorem PolInv.holders {db : DB} (h : PolInv P db) : P.HP (db.getKey P.K).holders :=
  ((getKey_pol h.2 P.K).2 (getKey_key db P.K)).2

theorem PolInv.waiters {db : DB} (h : PolInv P db) : ∀ w ∈ (db.getKey P.K).waiters, P.D w.cmd :=
  ((getKey_pol h.2 P.K).2 (getKey_key db P.K)).1

end Slock.Engine
