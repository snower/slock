import Slock.Model.Engine
/-! The decision trees of LOCK and UNLOCK, once each.  `Engine.classifyLock` and the record-level `Engine2.classifyLock` are the same
tree over different readings of the state: they differ in how a hold is named (`H`) and in the leaves (`β`).
`lockTree` is that tree with the readings and the leaves as arguments; what is proved of it (the facts on the path to
each leaf, that a map of the leaves or a renaming of the holds commutes with it) is proved once for both. -/
namespace Slock.Engine

variable {H H' X X' β γ : Type}

def afterHeld (c : Cmd) (cwp dl : Bool) (grant grantNoHold queue timeout : β) (waited : Bool) : β :=
  if (!waited || (has c.tflag TF_PRIORITY && cwp)) && dl then
    (if c.expried > 0 then grant else grantNoHold)
  else if c.timeout > 0 then queue else timeout

/-- The LOCK branch table over what it reads — `head`: the oldest hold, `find`: the hold with the request's LockId,
`cwp`: `checkWaitPriority`, `dl`: `doLock` — and what it answers.  `upd h viaShow` is the leaf of an update of `h`. -/
def lockTree (c : Cmd) (locked : Nat) (waited leader : Bool) (head find : Option H) (depth : H → Nat) (cwp dl : Bool)
    (p0a p0b stateError : β) (sh : H → β) (upd : H → Bool → β) (relockNoHold relock relockRefused : H → β)
    (uwr grant grantNoHold queue timeout : β) : β :=
  if has c.flag F_CONCURRENT && c.timeout == 0 && c.count < 0xffff && locked > c.count then p0a
  else if has c.flag F_CONCURRENT && c.timeout == 0 && locked == 0 && has c.tflag TF_WAIT_UNLOCK then p0b
  else if !leader && !has c.flag F_FROM_AOF then stateError
  else
    if locked > 0 then
      match (if has c.flag F_SHOW then head else none) with
      | some cur => if !has c.flag F_UPDATE then sh cur else upd cur true
      | none =>
        match find with
        | some h =>
          if has c.flag F_UPDATE then upd h false
          else if depth h < 0xff && depth h ≤ c.rcount && !has c.tflag TF_PRIORITY then
            (if c.expried == 0 then relockNoHold h else relock h)
          else relockRefused h
        | none => afterHeld c cwp dl grant grantNoHold queue timeout waited
    else if has c.tflag TF_WAIT_UNLOCK then
      if waited && c.count == 0 then uwr else afterHeld c cwp dl grant grantNoHold queue timeout true
    else afterHeld c cwp dl grant grantNoHold queue timeout false

theorem classifyLock_tree (a : DB) (c : Cmd) :
    classifyLock a c = lockTree c (a.getKey c.key).locked (a.getKey c.key).waited a.leader (a.getKey c.key).holders.head?
      (findHolder (a.getKey c.key) c.lockId) (·.depth) (checkWaitPriority (a.getKey c.key) c) (doLock (a.getKey c.key) c)
      .p0a .p0b .stateError .show
      (fun h _ => if !has c.flag F_CONTAINS_DATA && checkLockedEqual a.now h c then .updateEqual h else .update h)
      .relockNoHold .relock .relockRefused .unlockedWaitRefused .grant .grantNoHold .queue .timeout := by
  unfold classifyLock lockTree afterHeld
  simp only []
  -- the two matchers are different constants: `rfl` only after both discriminants are constructors
  cases (if has c.flag F_SHOW = true then (a.getKey c.key).holders.head? else none) <;>
    cases findHolder (a.getKey c.key) c.lockId <;> rfl

theorem afterHeld_comp (f : β → γ) (c : Cmd) (cwp dl : Bool) (g gn q t : β) (w : Bool) :
    f (afterHeld c cwp dl g gn q t w) = afterHeld c cwp dl (f g) (f gn) (f q) (f t) w := by
  unfold afterHeld; simp only [apply_ite f]

theorem lockTree_comp (f : β → γ) (c : Cmd) (locked : Nat) (waited leader : Bool) (head find : Option H) (depth : H → Nat)
    (cwp dl : Bool) (p0a p0b stateError : β) (sh : H → β) (upd : H → Bool → β) (relockNoHold relock relockRefused : H → β)
    (uwr grant grantNoHold queue timeout : β) :
    f (lockTree c locked waited leader head find depth cwp dl p0a p0b stateError sh upd relockNoHold relock relockRefused
        uwr grant grantNoHold queue timeout) =
      lockTree c locked waited leader head find depth cwp dl (f p0a) (f p0b) (f stateError) (fun h => f (sh h))
        (fun h v => f (upd h v)) (fun h => f (relockNoHold h)) (fun h => f (relock h)) (fun h => f (relockRefused h))
        (f uwr) (f grant) (f grantNoHold) (f queue) (f timeout) := by
  unfold lockTree
  cases (if has c.flag F_SHOW = true then head else none) <;> cases find <;> simp only [apply_ite f, afterHeld_comp f]

theorem lockTree_map (g : H → H') (c : Cmd) (locked : Nat) (waited leader : Bool) (head find : Option H) (depth : H' → Nat)
    (cwp dl : Bool) (p0a p0b stateError : β) (sh : H' → β) (upd : H' → Bool → β) (relockNoHold relock relockRefused : H' → β)
    (uwr grant grantNoHold queue timeout : β) :
    lockTree c locked waited leader (head.map g) (find.map g) depth cwp dl p0a p0b stateError sh upd relockNoHold relock
        relockRefused uwr grant grantNoHold queue timeout =
      lockTree c locked waited leader head find (fun h => depth (g h)) cwp dl p0a p0b stateError (fun h => sh (g h))
        (fun h v => upd (g h) v) (fun h => relockNoHold (g h)) (fun h => relock (g h)) (fun h => relockRefused (g h))
        uwr grant grantNoHold queue timeout := by
  unfold lockTree
  cases head <;> cases find <;> cases has c.flag F_SHOW <;> rfl

theorem lockTree_cwp (c : Cmd) (locked : Nat) (waited leader : Bool) (head find : Option H) (depth : H → Nat)
    (cwp cwp' dl : Bool) (p0a p0b stateError : β) (sh : H → β) (upd : H → Bool → β) (relockNoHold relock relockRefused : H → β)
    (uwr grant grantNoHold queue timeout : β) (h : has c.tflag TF_PRIORITY = true → cwp = cwp') :
    lockTree c locked waited leader head find depth cwp dl p0a p0b stateError sh upd relockNoHold relock relockRefused
        uwr grant grantNoHold queue timeout =
      lockTree c locked waited leader head find depth cwp' dl p0a p0b stateError sh upd relockNoHold relock relockRefused
        uwr grant grantNoHold queue timeout := by
  cases hp : has c.tflag TF_PRIORITY with
  | true => rw [h hp]
  | false => unfold lockTree afterHeld; simp only [hp, Bool.false_and]

/-- The tree read backwards: to prove `P` of the outcome, prove it of each leaf from what was tested on the way there. -/
theorem lockTree_cases (P : β → Prop) (c : Cmd) (locked : Nat) (waited leader : Bool) (head find : Option H) (depth : H → Nat)
    (cwp dl : Bool) (p0a p0b stateError : β) (sh : H → β) (upd : H → Bool → β) (relockNoHold relock relockRefused : H → β)
    (uwr grant grantNoHold queue timeout : β)
    (h1 : c.timeout = 0 → P p0a) (h2 : c.timeout = 0 → P p0b) (h3 : leader = false → P stateError)
    (h4 : ∀ cur, head = some cur → 0 < locked → has c.flag F_UPDATE = false → P (sh cur))
    (h5 : ∀ h, has c.flag F_SHOW = true → head = some h → 0 < locked → has c.flag F_UPDATE = true → P (upd h true))
    (h6 : ∀ h, find = some h → 0 < locked → has c.flag F_UPDATE = true → P (upd h false))
    (h7 : ∀ h, find = some h → 0 < locked → has c.flag F_UPDATE = false → depth h < 0xff → depth h ≤ c.rcount →
      has c.tflag TF_PRIORITY = false → c.expried = 0 → P (relockNoHold h))
    (h8 : ∀ h, find = some h → 0 < locked → has c.flag F_UPDATE = false → depth h < 0xff → depth h ≤ c.rcount →
      has c.tflag TF_PRIORITY = false → c.expried ≠ 0 → P (relock h))
    (h9 : ∀ h, find = some h → 0 < locked → has c.flag F_UPDATE = false → P (relockRefused h))
    (h10 : locked = 0 → waited = true → c.count = 0 → P uwr)
    (h11 : dl = true → 0 < c.expried → P grant) (h12 : dl = true → c.expried = 0 → P grantNoHold)
    (h13 : 0 < c.timeout →
      (dl = false ∨ ((has c.tflag TF_PRIORITY && cwp) = false ∧
        (waited = true ∨ (locked = 0 ∧ has c.tflag TF_WAIT_UNLOCK = true)))) → P queue)
    (h14 : c.timeout = 0 → P timeout) :
    P (lockTree c locked waited leader head find depth cwp dl p0a p0b stateError sh upd relockNoHold relock relockRefused
      uwr grant grantNoHold queue timeout) := by
  have hah : ∀ w, (w = true → waited = true ∨ (locked = 0 ∧ has c.tflag TF_WAIT_UNLOCK = true)) →
      P (afterHeld c cwp dl grant grantNoHold queue timeout w) := by
    intro w hw
    unfold afterHeld
    split
    · rename_i h
      simp only [Bool.and_eq_true] at h
      split
      · exact h11 h.2 ‹_›
      · exact h12 h.2 (by omega)
    · rename_i h
      split
      · refine h13 ‹_› ?_
        cases hd : dl
        · exact Or.inl rfl
        · cases hw' : w
          · simp [hd, hw'] at h
          · exact Or.inr ⟨by simpa [hd, hw'] using h, hw hw'⟩
      · exact h14 (by omega)
  unfold lockTree
  -- `rw [if_pos/if_neg]` with the condition given: `split` would simplify the whole remaining tree at every step
  by_cases c1 : (has c.flag F_CONCURRENT && c.timeout == 0 && decide (c.count < 0xffff) && decide (locked > c.count)) = true
  · rw [if_pos c1]; simp only [Bool.and_eq_true, beq_iff_eq] at c1; exact h1 c1.1.1.2
  rw [if_neg c1]
  by_cases c2 : (has c.flag F_CONCURRENT && c.timeout == 0 && locked == 0 && has c.tflag TF_WAIT_UNLOCK) = true
  · rw [if_pos c2]; simp only [Bool.and_eq_true, beq_iff_eq] at c2; exact h2 c2.1.1.2
  rw [if_neg c2]
  by_cases c3 : (!leader && !has c.flag F_FROM_AOF) = true
  · rw [if_pos c3]; simp only [Bool.and_eq_true, Bool.not_eq_true'] at c3; exact h3 c3.1
  rw [if_neg c3]
  by_cases hl : locked > 0
  · rw [if_pos hl]
    cases hs : (if has c.flag F_SHOW = true then head else none) with
    | some cur =>
      have hs' : has c.flag F_SHOW = true ∧ head = some cur := by
        by_cases hf : has c.flag F_SHOW = true
        · rw [if_pos hf] at hs; exact ⟨hf, hs⟩
        · rw [if_neg hf] at hs; cases hs
      show P (if (!has c.flag F_UPDATE) = true then sh cur else upd cur true)
      cases hu : has c.flag F_UPDATE
      · exact h4 cur hs'.2 hl hu
      · exact h5 cur hs'.1 hs'.2 hl hu
    | none =>
      cases hf : find with
      | some h =>
        show P (if has c.flag F_UPDATE = true then upd h false else
          if (decide (depth h < 0xff) && decide (depth h ≤ c.rcount) && !has c.tflag TF_PRIORITY) = true then
            (if (c.expried == 0) = true then relockNoHold h else relock h)
          else relockRefused h)
        cases hu : has c.flag F_UPDATE
        · rw [if_neg (by simp)]
          by_cases hd : (decide (depth h < 0xff) && decide (depth h ≤ c.rcount) && !has c.tflag TF_PRIORITY) = true
          · rw [if_pos hd]
            simp only [Bool.and_eq_true, decide_eq_true_eq, Bool.not_eq_true'] at hd
            by_cases he : c.expried = 0
            · rw [if_pos (by simpa using he)]; exact h7 h hf hl hu hd.1.1 hd.1.2 hd.2 he
            · rw [if_neg (by simpa using he)]; exact h8 h hf hl hu hd.1.1 hd.1.2 hd.2 he
          · rw [if_neg hd]; exact h9 h hf hl hu
        · rw [if_pos rfl]; exact h6 h hf hl hu
      | none => exact hah _ (fun hw => Or.inl hw)
  · rw [if_neg hl]
    have hl0 : locked = 0 := by omega
    cases hwu : has c.tflag TF_WAIT_UNLOCK
    · rw [if_neg (by simp)]; exact hah _ (fun hw => nomatch hw)
    · rw [if_pos rfl]
      by_cases hw : (waited && c.count == 0) = true
      · rw [if_pos hw]; simp only [Bool.and_eq_true, beq_iff_eq] at hw; exact h10 hl0 hw.1 hw.2
      · rw [if_neg hw]; exact hah _ (fun _ => Or.inr ⟨hl0, hwu⟩)

/-! `Engine.classifyUnlock` and `Engine2.classifyUnlock` are one tree as well; they differ in how a hold / a queued request is named, in what
the state-error gate tests, in the command an unlock-first is answered under, and in the leaves. The hold leaves take the answered
command as an argument, so a map of the leaves may rewrite it (`mgr := true`) without the tree knowing. -/

def cancelLeaf (cancel : Option X) (cancelNone : β) (cancelL : X → β) : β :=
  match cancel with | some w => cancelL w | none => cancelNone

/-- `gate`: the state-error test; `find`: the hold with the request's LockId; `head`: the oldest hold; `cancel`: the queued request a
cancel would hit; `first h`: the command an unlock-first of `h` is answered under -/
def unlockTree (c : Cmd) (gate : Bool) (locked : Nat) (find head : Option H) (cancel : Option X) (depth : H → Nat) (first : H → Cmd)
    (stateError notLocked unown cancelNone : β) (cancelL : X → β) (dec release : H → Cmd → β) : β :=
  if gate then stateError
  else if locked == 0 then
    if has c.flag UF_CANCEL then cancelLeaf cancel cancelNone cancelL else notLocked
  else
    match find with
    | some h => if depth h > 1 && c.rcount > 0 && !has c.tflag TF_PRIORITY then dec h c else release h c
    | none =>
      if has c.flag UF_FIRST then
        match head with
        | some h => if depth h > 1 && (first h).rcount > 0 && !has (first h).tflag TF_PRIORITY then dec h (first h) else release h (first h)
        | none => unown
      else if has c.flag UF_CANCEL then cancelLeaf cancel cancelNone cancelL
      else unown

theorem classifyUnlock_tree (a : DB) (c : Cmd) :
    classifyUnlock a c = unlockTree c (!a.leader && !has c.flag F_FROM_AOF && (c.mgr || !(a.getKey c.key).isEmpty)) (a.getKey c.key).locked
      (findHolder (a.getKey c.key) c.lockId) (a.getKey c.key).holders.head? (findCancel (a.getKey c.key).waiters c.lockId) (·.depth)
      (fun h => { c with lockId := h.cmd.lockId, expried := h.cmd.expried, eflag := h.cmd.eflag, timeout := h.cmd.timeout,
                         tflag := h.cmd.tflag, count := h.cmd.count, rcount := h.cmd.rcount })
      .stateError .notLocked .unown .cancelNone .cancel .dec .release := by
  unfold classifyUnlock unlockTree cancelLeaf
  simp only []
  cases findHolder (a.getKey c.key) c.lockId <;> cases (a.getKey c.key).holders.head? <;>
    cases findCancel (a.getKey c.key).waiters c.lockId <;> rfl

theorem unlockTree_comp (f : β → γ) (c : Cmd) (gate : Bool) (locked : Nat) (find head : Option H) (cancel : Option X) (depth : H → Nat)
    (first : H → Cmd) (se nl un cn : β) (cl : X → β) (dec rel : H → Cmd → β) :
    f (unlockTree c gate locked find head cancel depth first se nl un cn cl dec rel) =
      unlockTree c gate locked find head cancel depth first (f se) (f nl) (f un) (f cn) (fun w => f (cl w)) (fun h c' => f (dec h c'))
        (fun h c' => f (rel h c')) := by
  unfold unlockTree cancelLeaf
  cases find <;> cases head <;> cases cancel <;> simp only [apply_ite f]

theorem unlockTree_map (gH : H → H') (gX : X → X') (c : Cmd) (gate : Bool) (locked : Nat) (find head : Option H) (cancel : Option X)
    (depth : H' → Nat) (first : H' → Cmd) (se nl un cn : β) (cl : X' → β) (dec rel : H' → Cmd → β) :
    unlockTree c gate locked (find.map gH) (head.map gH) (cancel.map gX) depth first se nl un cn cl dec rel =
      unlockTree c gate locked find head cancel (fun h => depth (gH h)) (fun h => first (gH h)) se nl un cn (fun w => cl (gX w))
        (fun h c' => dec (gH h) c') (fun h c' => rel (gH h) c') := by
  unfold unlockTree cancelLeaf
  cases find <;> cases head <;> cases cancel <;> rfl

/-- The tree read backwards. `of h c'`: `h` is the hold found by LockId and `c' = c`, or the oldest hold of an unlock-first. -/
theorem unlockTree_cases (P : β → Prop) (c : Cmd) (gate : Bool) (locked : Nat) (find head : Option H) (cancel : Option X) (depth : H → Nat)
    (first : H → Cmd) (se nl un cn : β) (cl : X → β) (dec rel : H → Cmd → β)
    (h1 : gate = true → P se) (h2 : locked = 0 → P nl) (h3 : locked ≠ 0 → find = none → P un) (h4 : cancel = none → P cn)
    (h5 : ∀ w, cancel = some w → P (cl w))
    (h6 : ∀ h c', (find = some h ∧ c' = c) ∨ (head = some h ∧ c' = first h) → 1 < depth h → 0 < c'.rcount → has c'.tflag TF_PRIORITY = false →
      P (dec h c'))
    (h7 : ∀ h c', (find = some h ∧ c' = c) ∨ (head = some h ∧ c' = first h) → P (rel h c')) :
    P (unlockTree c gate locked find head cancel depth first se nl un cn cl dec rel) := by
  have hgo : ∀ h c', (find = some h ∧ c' = c) ∨ (head = some h ∧ c' = first h) →
      P (if (decide (depth h > 1) && decide (c'.rcount > 0) && !has c'.tflag TF_PRIORITY) = true then dec h c' else rel h c') := by
    intro h c' ho
    split
    · rename_i hc; simp only [Bool.and_eq_true, decide_eq_true_eq, Bool.not_eq_true'] at hc; exact h6 h c' ho hc.1.1 hc.1.2 hc.2
    · exact h7 h c' ho
  have hcan : P (cancelLeaf cancel cn cl) := by
    cases hc : cancel with
    | none => exact h4 hc
    | some w => exact h5 w hc
  unfold unlockTree
  by_cases c1 : gate = true
  · rw [if_pos c1]; exact h1 c1
  rw [if_neg c1]
  by_cases c2 : (locked == 0) = true
  · rw [if_pos c2]
    split
    · exact hcan
    · exact h2 (by simpa using c2)
  rw [if_neg c2]
  cases hf : find with
  | some h => exact hgo h c (Or.inl ⟨hf, rfl⟩)
  | none =>
    show P (if has c.flag UF_FIRST = true then _ else _)
    split
    · cases hh : head with
      | some h => exact hgo h (first h) (Or.inr ⟨hh, rfl⟩)
      | none => exact h3 (by simpa using c2) hf
    · split
      · exact hcan
      · exact h3 (by simpa using c2) hf

end Slock.Engine
