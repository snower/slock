import Slock.Proofs.AckBasic
/-! M-ACK: the branch tables of `classifyAck`, `classifyLock`, `classifyUnlock` read backwards — what the chosen branch says about the
state and the command. Each table is proved by the one case analysis of its classifier; every "this branch, hence …" fact is a
projection of it. `classifyWake` needs no table: its users walk all its branches, by the case principle Lean derives from its definition
(`fun_cases classifyWake db k`: `case3` = `ackFail`, `case4` = `ackGrant`, `case5` = `grant`, the first two = `stop`). -/
namespace Slock.Ack

theorem mem_waiters {db : DB} {k : Nat} {w : Rec} (h : w ∈ db.waiters k) : w ∈ db.recs ∧ w.cmd.key = k ∧ w.queued = true := by
  have := List.mem_filter.mp h
  exact ⟨this.1, by simpa using this.2⟩

theorem mem_holders {db : DB} {k : Nat} {r : Rec} (h : r ∈ db.holders k) : r ∈ db.recs ∧ r.depth > 0 := by
  have := List.mem_filter.mp h
  exact ⟨this.1, by have := this.2; simp at this; exact this.2⟩

theorem findHolder_mem {db : DB} {k l : Nat} {r : Rec} (h : findHolder db k l = some r) : r ∈ db.recs ∧ r.depth > 0 :=
  mem_holders (List.mem_of_find?_eq_some h)

theorem classifyWake_stop_iff (db : DB) (k : Nat) :
    classifyWake db k = .stop ↔ (db.waiters k).head? = none ∨ ∃ w, (db.waiters k).head? = some w ∧ doLock db k w.cmd = false := by
  fun_cases classifyWake db k <;> simp_all

def AckFacts (db : DB) (hid : Nat) (ok : Bool) : AckBranch → Prop
  | .settled => (db.getR hid).pending = false
  | .update => (db.getR hid).pending = true ∧ ((db.getR hid).expried = false ∨ (db.getR hid).depth = 0)
  | .succeed => (db.getR hid).pending = true ∧ (db.getR hid).expried = true ∧ (db.getR hid).depth ≠ 0 ∧ ok = true
  | .fail => (db.getR hid).pending = true ∧ (db.getR hid).expried = true ∧ (db.getR hid).depth ≠ 0 ∧ ok = false

theorem classifyAck_facts (db : DB) (hid : Nat) (ok : Bool) : AckFacts db hid ok (classifyAck db hid ok) := by
  unfold classifyAck
  cases hp : (db.getR hid).pending <;> cases he : (db.getR hid).expried <;> cases ok <;>
    by_cases hd : (db.getR hid).depth = 0 <;> simp [AckFacts, hp, he, hd]

theorem AckFacts.of {db : DB} {hid : Nat} {ok : Bool} {b : AckBranch} (hb : classifyAck db hid ok = b) : AckFacts db hid ok b :=
  hb ▸ classifyAck_facts db hid ok

def LockFacts (db : DB) (c : Cmd) : LockBranch → Prop
  | .stateError => db.leader = false
  | .ackWaiting h => ∃ r, findHolder db c.key c.lockId = some r ∧ r.hid = h ∧ r.pending = true
  | .relock h => ∃ r, findHolder db c.key c.lockId = some r ∧ r.hid = h ∧ r.pending = false ∧ r.depth < 0xff ∧ r.depth ≤ c.rcount
  | .relockRefused h => ∃ r, findHolder db c.key c.lockId = some r ∧ r.hid = h ∧ r.pending = false
  | .grant => doLock db c.key c = true ∧ c.ack = false
  | .ackGrant => doLock db c.key c = true ∧ c.ack = true
  | .queue => c.timeout > 0
  | .timeout => c.timeout = 0

theorem classifyLock_facts (db : DB) (c : Cmd) : LockFacts db c (classifyLock db c) := by
  unfold classifyLock
  simp only []
  repeat' split
  all_goals simp_all [LockFacts]

theorem LockFacts.of {db : DB} {c : Cmd} {b : LockBranch} (hb : classifyLock db c = b) : LockFacts db c b :=
  hb ▸ classifyLock_facts db c

/-- The hold an UNLOCK acts on: the one with the request's LockId, or — with the unlock-first flag, when no hold has that LockId —
`currentLock`, the oldest hold of the key. -/
def UnlockOf (db : DB) (c : Cmd) (r : Rec) : Prop :=
  findHolder db c.key c.lockId = some r ∨
    (findHolder db c.key c.lockId = none ∧ has c.flag UF_FIRST = true ∧ (db.holders c.key).head? = some r)

theorem UnlockOf.mem {db : DB} {c : Cmd} {r : Rec} (u : UnlockOf db c r) : r ∈ db.recs ∧ r.depth > 0 :=
  u.elim findHolder_mem (fun u => mem_holders (List.mem_of_head? u.2.2))

def UnlockFacts (db : DB) (c : Cmd) : UnlockBranch → Prop
  | .stateError => db.leader = false
  | .notLocked => (db.getKey c.key).locked = 0
  | .unown => findHolder db c.key c.lockId = none
  | .ackWaiting h => ∃ r, UnlockOf db c r ∧ r.hid = h ∧ r.pending = true
  | .dec h => ∃ r, UnlockOf db c r ∧ r.hid = h ∧ r.pending = false ∧ r.depth > 1
  | .release h => ∃ r, UnlockOf db c r ∧ r.hid = h ∧ r.pending = false

theorem classifyUnlock_facts (db : DB) (c : Cmd) : UnlockFacts db c (classifyUnlock db c) := by
  unfold classifyUnlock
  simp only []
  repeat' split
  all_goals simp_all [UnlockFacts, UnlockOf]

theorem UnlockFacts.of {db : DB} {c : Cmd} {b : UnlockBranch} (hb : classifyUnlock db c = b) : UnlockFacts db c b :=
  hb ▸ classifyUnlock_facts db c

end Slock.Ack
