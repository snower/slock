import Slock.Proofs.EngineSimTickSQ
import Slock.Proofs.EngineSimWU
import Slock.Proofs.EngineSimTickClock
/-! Stage 1 (M-ENGINE), wheel sequence numbers: the "fresh" relation between the state of ONE key before and after a step while the
database's counter goes `s ↦ s'` — every sequence number found afterwards was there before or lies in `[s, s')`, and distinctness is kept —
and the generic closing lemma `SQ.store`. Sequence numbers, not records, are compared: `updateHold` keeps a hold's number while changing
the record. -/
namespace Slock.SimTick
open Slock Slock.Engine

structure FreshL (s s' : Nat) (l l' : List Nat) : Prop where
  mem : ∀ a ∈ l', a ∈ l ∨ (s ≤ a ∧ a < s')
  nd : l.Nodup → (∀ a ∈ l, a < s) → l'.Nodup

theorem FreshL.refl (s s' : Nat) (l : List Nat) : FreshL s s' l l := ⟨fun _ h => Or.inl h, fun h _ => h⟩

theorem FreshL.of_eq {s s' : Nat} {l l' : List Nat} (e : l' = l) : FreshL s s' l l' := e ▸ FreshL.refl s s' l

theorem FreshL.of_sublist {s s' : Nat} {l l' : List Nat} (h : l'.Sublist l) : FreshL s s' l l' :=
  ⟨fun _ ha => Or.inl (h.subset ha), fun hn _ => h.nodup hn⟩

theorem FreshL.trans {s s' s'' : Nat} {l l' l'' : List Nat} (h1 : FreshL s s' l l') (h2 : FreshL s' s'' l' l'')
    (le1 : s ≤ s') (le2 : s' ≤ s'') : FreshL s s'' l l'' := by
  refine ⟨?_, ?_⟩
  · intro a ha
    rcases h2.mem a ha with h | ⟨h, h'⟩
    · rcases h1.mem a h with g | ⟨g, g'⟩
      · exact Or.inl g
      · exact Or.inr ⟨g, by omega⟩
    · exact Or.inr ⟨by omega, h'⟩
  · intro hn hlt
    apply h2.nd (h1.nd hn hlt)
    intro a ha
    rcases h1.mem a ha with g | ⟨_, g'⟩
    · have := hlt a g; omega
    · exact g'

theorem FreshL.snoc (s : Nat) (l : List Nat) : FreshL s (s + 1) l (l ++ [s]) := by
  refine ⟨?_, ?_⟩
  · intro a ha
    rcases List.mem_append.mp ha with h | h
    · exact Or.inl h
    · simp at h; exact Or.inr ⟨by omega, by omega⟩
  · intro hn hlt
    rw [List.nodup_append]
    refine ⟨hn, by simp, ?_⟩
    intro a ha b hb
    simp at hb; have := hlt a ha; omega

theorem FreshL.of_perm {s : Nat} {l l' : List Nat} (h : l'.Perm (s :: l)) : FreshL s (s + 1) l l' := by
  refine ⟨?_, ?_⟩
  · intro a ha
    rcases List.mem_cons.mp (h.mem_iff.mp ha) with e | e
    · exact Or.inr ⟨by omega, by omega⟩
    · exact Or.inl e
  · intro hn hlt
    rw [h.nodup_iff, List.nodup_cons]
    refine ⟨fun hm => ?_, hn⟩
    have := hlt s hm; omega

theorem FreshL.head (s a : Nat) (l : List Nat) : FreshL s (s + 1) (a :: l) (s :: l) :=
  (FreshL.of_sublist (List.sublist_cons_self a l)).trans (FreshL.of_perm (List.Perm.refl _)) (Nat.le_refl _) (Nat.le_succ _)

theorem FreshL.cons {s s' : Nat} {l l' : List Nat} (h : FreshL s s' l l') (a : Nat) : FreshL s s' (a :: l) (a :: l') := by
  refine ⟨?_, ?_⟩
  · intro b hb
    rcases List.mem_cons.mp hb with e | hb
    · exact Or.inl (e ▸ List.mem_cons_self)
    · exact (h.mem b hb).imp (List.mem_cons_of_mem _) id
  · intro hn hlt
    rw [List.nodup_cons] at hn ⊢
    refine ⟨fun hm => ?_, h.nd hn.2 (fun b hb => hlt b (List.mem_cons_of_mem _ hb))⟩
    rcases h.mem a hm with h1 | h1
    · exact hn.1 h1
    · have := hlt a List.mem_cons_self; omega

structure SeqFresh (s s' : Nat) (k k' : Key) : Prop where
  le : s ≤ s'
  w : FreshL s s' (k.waiters.map seqW) (k'.waiters.map seqW)
  h : FreshL s s' (k.holders.map seqH) (k'.holders.map seqH)

theorem SeqFresh.refl (s : Nat) (k : Key) : SeqFresh s s k k := ⟨Nat.le_refl _, FreshL.refl _ _ _, FreshL.refl _ _ _⟩

theorem SeqFresh.trans {s s' s'' : Nat} {k k' k'' : Key} (h1 : SeqFresh s s' k k') (h2 : SeqFresh s' s'' k' k'') : SeqFresh s s'' k k'' :=
  ⟨Nat.le_trans h1.le h2.le, h1.w.trans h2.w h1.le h2.le, h1.h.trans h2.h h1.le h2.le⟩

theorem SeqFresh.of_sublist {s : Nat} {k k' : Key} (hw : k'.waiters.Sublist k.waiters) (hh : k'.holders.Sublist k.holders) : SeqFresh s s k k' :=
  ⟨Nat.le_refl _, FreshL.of_sublist (hw.map _), FreshL.of_sublist (hh.map _)⟩

theorem SQ.store {db db1 : DB} {k' : Key} {m : Nat} (h : SQ db) (hf : SeqFresh db.seq db1.seq (db.getKey m) k')
    (hm : k'.key = m) (e : db1.keys = db.keys) : SQ (db1.setKey k') := by
  have pw : ∀ n w, WaitAt (db1.setKey k') n w →
      (∃ w0, WaitAt db n w0 ∧ seqW w0 = seqW w) ∨ (n = m ∧ db.seq ≤ seqW w ∧ seqW w < db1.seq) := by
    intro n w hw
    rcases waitAt_store (db0 := db) (m := m) hw e hm with ⟨_, h1⟩ | ⟨hn, h1⟩
    · exact Or.inl ⟨w, h1, rfl⟩
    · rcases hf.w.mem (seqW w) (List.mem_map.mpr ⟨w, h1, rfl⟩) with h2 | h2
      · obtain ⟨w0, hw0, e0⟩ := List.mem_map.mp h2
        exact Or.inl ⟨w0, hn ▸ waitAt_getKey hw0, e0⟩
      · exact Or.inr ⟨hn, h2⟩
  have ph : ∀ n x, HoldAt (db1.setKey k') n x →
      (∃ x0, HoldAt db n x0 ∧ seqH x0 = seqH x) ∨ (n = m ∧ db.seq ≤ seqH x ∧ seqH x < db1.seq) := by
    intro n x hx
    rcases holdAt_store (db0 := db) (m := m) hx e hm with ⟨_, h1⟩ | ⟨hn, h1⟩
    · exact Or.inl ⟨x, h1, rfl⟩
    · rcases hf.h.mem (seqH x) (List.mem_map.mpr ⟨x, h1, rfl⟩) with h2 | h2
      · obtain ⟨x0, hx0, e0⟩ := List.mem_map.mp h2
        exact Or.inl ⟨x0, hn ▸ holdAt_getKey hx0, e0⟩
      · exact Or.inr ⟨hn, h2⟩
  have hle := hf.le
  have es : (db1.setKey k').seq = db1.seq := rfl
  refine ⟨?_, ?_, ?_, ?_, ?_, ?_⟩
  · intro n w hw
    rw [es]
    rcases pw n w hw with ⟨w0, h0, e0⟩ | ⟨_, _, h2⟩
    · have := h.wlt n w0 h0; omega
    · exact h2
  · intro n x hx
    rw [es]
    rcases ph n x hx with ⟨x0, h0, e0⟩ | ⟨_, _, h2⟩
    · have := h.hlt n x0 h0; omega
    · exact h2
  · intro k hkm
    rcases mem_setKey_keys hkm with ⟨h1, _⟩ | h1
    · rw [e] at h1; exact h.wnd k h1
    · rw [h1]
      apply hf.w.nd
      · rcases getKey_mem_or_empty db m with h2 | h2
        · exact h.wnd _ h2
        · rw [h2]; simp [emptyKey]
      · intro a ha
        obtain ⟨w0, hw0, e0⟩ := List.mem_map.mp ha
        rw [← e0]; exact h.wlt m w0 (waitAt_getKey hw0)
  · intro k hkm
    rcases mem_setKey_keys hkm with ⟨h1, _⟩ | h1
    · rw [e] at h1; exact h.hnd k h1
    · rw [h1]
      apply hf.h.nd
      · rcases getKey_mem_or_empty db m with h2 | h2
        · exact h.hnd _ h2
        · rw [h2]; simp [emptyKey]
      · intro a ha
        obtain ⟨x0, hx0, e0⟩ := List.mem_map.mp ha
        rw [← e0]; exact h.hlt m x0 (holdAt_getKey hx0)
  · intro n n' w w' hne hw hw'
    rcases pw n w hw with ⟨w0, h0, e0⟩ | ⟨hn, h1, _⟩ <;> rcases pw n' w' hw' with ⟨w0', h0', e0'⟩ | ⟨hn', h1', _⟩
    · rw [← e0, ← e0']; exact h.wx n n' w0 w0' hne h0 h0'
    · have := h.wlt n w0 h0; omega
    · have := h.wlt n' w0' h0'; omega
    · exact absurd (hn.trans hn'.symm) hne
  · intro n n' x x' hne hx hx'
    rcases ph n x hx with ⟨x0, h0, e0⟩ | ⟨hn, h1, _⟩ <;> rcases ph n' x' hx' with ⟨x0', h0', e0'⟩ | ⟨hn', h1', _⟩
    · rw [← e0, ← e0']; exact h.hx n n' x0 x0' hne h0 h0'
    · have := h.hlt n x0 h0; omega
    · have := h.hlt n' x0' h0'; omega
    · exact absurd (hn.trans hn'.symm) hne

theorem wheelAdd_seq (check seq d n : Nat) : (wheelAdd check seq d n).2.seq = seq := by
  unfold wheelAdd; split <;> rfl

theorem seqH_grantedHold (db : DB) (c : Cmd) : seqH (grantedHold db c) = db.seq := by
  unfold seqH grantedHold; exact wheelAdd_seq _ _ _ _

theorem seqW_newWaiter (db : DB) (c : Cmd) : seqW (newWaiter db c) = db.seq := by
  unfold seqW newWaiter; exact wheelAdd_seq _ _ _ _

theorem seqW_rearmW (tc sq : Nat) (w : Waiter) : seqW (rearmW tc sq w) = sq := wheelAdd_seq _ _ _ _
theorem seqH_rearmH (ec sq : Nat) (x : Hold) : seqH (rearmH ec sq x) = sq := wheelAdd_seq _ _ _ _

theorem fresh_grantHold (db : DB) (k : Key) (c : Cmd) : SeqFresh db.seq (grantHold db k c).1.seq k (grantHold db k c).2 := by
  refine ⟨by rw [grantHold_seq]; omega, FreshL.refl _ _ _, ?_⟩
  rw [grantHold_holders_eq, grantHold_seq, List.map_append, List.map_singleton, seqH_grantedHold]
  exact FreshL.snoc _ _

theorem replaceHolder_map_same {β : Type} {f : Hold → β} {hs : List Hold} {h h' : Hold} (e : f h' = f h) :
    (replaceHolder hs h h').map f = hs.map f := by
  induction hs with
  | nil => rfl
  | cons x rest ih =>
    unfold replaceHolder
    split
    · rename_i hx; rw [hx, List.map_cons, List.map_cons, e]
    · rw [List.map_cons, List.map_cons, ih]

theorem replaceHolder_freshL {s : Nat} (hs : List Hold) (h h' : Hold) (e : seqH h' = s) :
    FreshL s (s + 1) (hs.map seqH) ((replaceHolder hs h h').map seqH) := by
  induction hs with
  | nil => exact FreshL.refl _ _ _
  | cons x rest ih =>
    unfold replaceHolder
    split
    · rw [List.map_cons, List.map_cons, e]; exact FreshL.head _ _ _
    · exact ih.cons _

theorem fresh_replace_same {s : Nat} (k k' : Key) (h h' : Hold) (e : seqH h' = seqH h)
    (hw : k'.waiters = k.waiters) (hh : k'.holders = replaceHolder k.holders h h') : SeqFresh s s k k' :=
  ⟨Nat.le_refl _, FreshL.of_eq (by rw [hw]), FreshL.of_eq (by rw [hh, replaceHolder_map_same e])⟩

/-- the `update` / `relock` branches: hold `h` of `k` replaced by `updateHold` of (a copy with the same number of) `h`, which keeps
the record's number, or gives it the current counter and increments the counter -/
theorem fresh_updateHold (db : DB) (k k' : Key) (h h0 : Hold) (c : Cmd) (e : seqH h0 = seqH h)
    (hw : k'.waiters = k.waiters) (hh : k'.holders = replaceHolder k.holders h (updateHold db h0 c).2) :
    SeqFresh db.seq (updateHold db h0 c).1.seq k k' := by
  rcases updateHold_eq db h0 c with ⟨_, u⟩ | ⟨_, n, ⟨_, u⟩ | ⟨_, u⟩⟩ <;> rw [u] at hh ⊢
  · exact fresh_replace_same k k' h _ (by exact e) hw hh
  · exact ⟨Nat.le_succ _, FreshL.of_eq (by rw [hw]), by rw [hh]; exact replaceHolder_freshL _ _ _ (wheelAdd_seq _ _ _ _)⟩
  · exact fresh_replace_same k k' h _ (by exact e) hw hh

theorem fresh_insertWaiter {s : Nat} (k k' : Key) (w : Waiter) (e : seqW w = s)
    (hw : k'.waiters = insertWaiter k.waiters w) (hh : k'.holders = k.holders) : SeqFresh s (s + 1) k k' := by
  refine ⟨Nat.le_succ _, ?_, FreshL.of_eq (by rw [hh])⟩
  rw [hw]
  apply FreshL.of_perm
  have := (insertWaiter_perm k.waiters w).map seqW
  rw [List.map_cons, e] at this
  exact this

theorem fresh_wakeIter {db : DB} {k : Key} {db' : DB} {k' : Key} {r : Reply} (h : wakeIter db k = some (db', k', r)) :
    SeqFresh db.seq db'.seq k k' := by
  obtain ⟨w, rest, e1, _, e2, _, _, _, _, hh⟩ := wakeIter_spec h
  have hw : ∀ s', FreshL db.seq s' (k.waiters.map seqW) (k'.waiters.map seqW) := by
    intro s'
    apply FreshL.of_sublist
    rw [e1, e2]; exact (List.sublist_cons_self _ _).map _
  rcases hh with ⟨h1, _, h2⟩ | ⟨h1, _, h2⟩
  · rw [h2]
    refine ⟨Nat.le_succ _, hw _, ?_⟩
    rw [h1, List.map_append, List.map_singleton, seqH_grantedHold]
    exact FreshL.snoc _ _
  · rw [h2]
    exact ⟨Nat.le_refl _, hw _, FreshL.of_eq (by rw [h1])⟩

theorem fresh_wake (db : DB) (k : Key) (out : List Reply) : SeqFresh db.seq (wake db k out).1.seq k (wake db k out).2.1 := by
  apply wake_ind (fun d q => SeqFresh db.seq d.seq k q)
  · intro d q d' q' r hp hw
    exact hp.trans (fresh_wakeIter hw)
  · intro d q hp; exact ⟨hp.le, hp.w, hp.h⟩
  · exact SeqFresh.refl _ _

theorem SQ.wake_store {db db1 : DB} {k1 : Key} {m : Nat} (out : List Reply) (h : SQ db)
    (hf : SeqFresh db.seq db1.seq (db.getKey m) k1) (hm : k1.key = m) (e : db1.keys = db.keys) :
    SQ ((wake db1 k1 out).1.setKey (wake db1 k1 out).2.1) :=
  SQ.store h (hf.trans (fresh_wake db1 k1 out)) (by rw [wake_key, hm]) (by rw [wake_keys, e])

end Slock.SimTick
