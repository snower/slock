import Slock.Proofs.Engine2SimInvSteps
import Slock.Proofs.Engine2SimWakeLoop
/-! Simulation stage 2 → stage 1: `KI` through the grant (`AddLock` … `AddExpried`), `GetWaitLock` and `settleWait`. -/
namespace Slock.Sim
open Slock Slock.Engine2
open Slock.Engine (has)

theorem addLock_nodup (k : Key) (rid : Nat) (f : Rec → Rec) (hn : (k.current.toList ++ k.locks).Nodup) (hr : rid ∉ k.current.toList ++ k.locks) :
    ((k.addLock rid f).current.toList ++ (k.addLock rid f).locks).Nodup := by
  rcases addLock_holders k rid f with ⟨hc, e⟩ | ⟨l, hl, e⟩ <;> rw [e]
  · rw [hc] at hn hr; exact List.nodup_cons.mpr ⟨hr, hn⟩
  · have hs : (k.current.toList ++ l).Sublist (k.current.toList ++ k.locks) :=
      List.Sublist.append (.refl _) (by rcases hl with rfl | rfl; exact .refl _; exact List.filter_sublist)
    exact List.nodup_append.mpr ⟨hs.nodup hn, by simp, fun a ha b hb e' => hr (hs.subset (by rw [List.mem_singleton.mp hb] at e'; exact e' ▸ ha))⟩

theorem grant_recI (w : W) (rid : Nat) (hh : w.k.hasRec rid) :
    ((w.grant rid).k.getR rid).hid = w.db.seq ∧ ((w.grant rid).k.getR rid).depth = 1 ∧
    ((w.grant rid).k.getR rid).conn = (w.k.getR rid).conn ∧ ((w.grant rid).k.getR rid).cmd = (w.k.getR rid).cmd ∧
    (∀ sc, ((w.grant rid).k.getR rid).eSched = some sc → sc.checked = ((w.grant rid).k.getR rid).eChecked) := by
  have hf := addLockF_fields w.db w.k
  obtain ⟨g0, hh0⟩ := keep_addLock w.k rid (addLockF w.db w.k) (fun r => (hf r).rid) (fun r => (hf r).depth) hh
  have hh0' : ((w.addLock rid).modK incLocked).k.hasRec rid := hh0
  have g0' : ((w.addLock rid).modK incLocked).k.getR rid = addLockF w.db w.k (w.k.getR rid) := g0
  -- the granted record through any projection that ignores the book-keeping fields: `AddLock`'s record, armed on the expiry wheel
  have R : ∀ {α : Type} (π : Rec → α), (∀ r, π r = π r.vis) → π ((grantTail ((w.addLock rid).modK incLocked) rid).k.getR rid) =
      π (Rec.armE (Engine.wheelAdd ((w.addLock rid).modK incLocked).db.eCheck ((w.addLock rid).modK incLocked).db.seq
        (addLockF w.db w.k (w.k.getR rid)).expT (addLockF w.db w.k (w.k.getR rid)).eChecked) (addLockF w.db w.k (w.k.getR rid))) := by
    intro α π hπ
    have := (grantTail_edit ((w.addLock rid).modK incLocked) rid).getR hh0' π hπ
    rw [g0'] at this
    exact this
  rw [grant_eq]
  refine ⟨(R (·.hid) (fun _ => rfl)).trans (hf (w.k.getR rid)).hid, (R (·.depth) (fun _ => rfl)).trans (hf (w.k.getR rid)).depth,
    (R (·.conn) (fun _ => rfl)).trans (hf (w.k.getR rid)).conn, (R (·.cmd) (fun _ => rfl)).trans (hf (w.k.getR rid)).cmd, ?_⟩
  intro sc hsc
  rw [R (·.eSched) (fun _ => rfl)] at hsc
  rw [R (·.eChecked) (fun _ => rfl), ← Option.some.inj hsc]
  exact wheelAdd_checked _ _ _ _

theorem WI.grant {w : W} (h : WI w) (rid : Nat) (g : Grantable w.k rid) (hnot : rid ∉ w.k.current.toList ++ w.k.locks) : WI (w.grant rid) := by
  have s1 := grant_seq w rid
  obtain ⟨r1, r2, r3, r4, r5⟩ := grant_recI w rid g.has
  obtain ⟨_, _, r6⟩ := grant_rec w rid g.has
  obtain ⟨w1, _, _⟩ := grant_wait_t w rid
  refine KI.step_rec (k := w.k) h rid (by rw [s1]; exact Nat.le_succ _) (grant_others ins_πI w rid) (grant_sub w rid)
    (by rw [grant_queue]; exact addLock_nodup w.k rid _ h.ln hnot) (by rw [w1]; exact h.nd) ?_ ?_ ?_ ?_ ?_
  · intro _; rw [r3, r4]; exact h.cs rid g.has
  · intro _; exact r5
  · intro _ _; rw [r1, s1]; exact Nat.lt_succ_self _
  · intro _ _ y _ hy hd e
    have := h.hlt y hy hd
    rw [r1] at e
    omega
  · intro _; rw [r6]; exact g.tomb

theorem KI.getWaitLock {seq : Nat} {k : Key} (h : KI seq k) : KI seq k.getWaitLock.1 := by
  obtain ⟨pre, hp⟩ := waitSkip_suffix k.wait k rfl
  obtain ⟨c1, c2⟩ := waitSkip_cl k.wait k
  refine h.of_pk_sub ?_ ?_ (PKeep.getWaitLock ins_πI k)
  · show (k.getWaitLock.1.current.toList ++ k.getWaitLock.1.locks).Sublist _
    have e1 : k.getWaitLock.1.current = k.current := c1
    have e2 : k.getWaitLock.1.locks = k.locks := c2
    rw [e1, e2]; exact List.Sublist.refl _
  · have : (k.wait.map (·.rid)) = pre.map (·.rid) ++ k.getWaitLock.1.wait.map (·.rid) := by
      show (k.wait.map (·.rid)) = pre.map (·.rid) ++ (waitSkip k.wait k).1.wait.map (·.rid)
      rw [← List.map_append, ← hp]
    rw [this]
    exact List.sublist_append_right _ _

theorem KI.settleWait {seq : Nat} {k : Key} (h : KI seq k) : KI seq k.settleWait := by
  have h1 := h.getWaitLock
  unfold Key.settleWait
  split
  · exact h1.of_pk rfl (PKeep.of_eq rfl)
  · exact h1

end Slock.Sim
