import Slock.Proofs.Engine2SimFrames
/-! Simulation stage 2 → stage 1: the record-level facts the branch simulations assume (`WQ`, distinct hold identities, wheel entries that cache the back-off counter) as ONE
invariant `KI` of a key record, and the helper steps that touch nothing `KI`, the queue shape `QS` or `SimTick.KT` read (`Quiet`). -/
namespace Slock.Sim
open Slock Slock.Engine2
open Slock.Engine (has)

/-- what `KI` reads of a lock record -/
structure RI where
  conn : Nat
  cmd : Engine.Cmd
  depth : Nat
  eSched : Option Engine.Sched
  eChecked : Nat
  hid : Nat
  timeouted : Bool

def πI (r : Rec) : RI := ⟨r.conn, r.cmd, r.depth, r.eSched, r.eChecked, r.hid, r.timeouted⟩

theorem ins_πI : Ins πI := ⟨fun _ _ => rfl, fun _ _ => rfl, fun _ _ => rfl, fun _ _ => rfl⟩

theorem πI_inj {r' r : Rec} (h : πI r' = πI r) : r'.conn = r.conn ∧ r'.cmd = r.cmd ∧ r'.depth = r.depth ∧ r'.eSched = r.eSched ∧
    r'.eChecked = r.eChecked ∧ r'.hid = r.hid ∧ r'.timeouted = r.timeouted := RI.mk.inj h

/-- the simulation's invariant of one key record (`seq` = the database's wheel sequence counter) -/
structure KI (seq : Nat) (k : Key) : Prop where
  /-- `lock.protocol` is the connection of `lock.command` -/
  cs : ∀ y, k.hasRec y → (k.getR y).conn = (k.getR y).cmd.conn
  /-- an expiry-wheel entry caches its record's back-off counter -/
  ck : ∀ y, k.hasRec y → ∀ sc, (k.getR y).eSched = some sc → sc.checked = (k.getR y).eChecked
  /-- a hold's identity is a sequence number already spent … -/
  hlt : ∀ y, k.hasRec y → 0 < (k.getR y).depth → (k.getR y).hid < seq
  /-- … and no two holds share it -/
  hinj : ∀ y y', k.hasRec y → k.hasRec y' → 0 < (k.getR y).depth → 0 < (k.getR y').depth → (k.getR y).hid = (k.getR y').hid → y = y'
  /-- what sits in `currentLock` / the holder queue is not a live queued request -/
  ht : ∀ y ∈ k.current.toList ++ k.locks, (k.getR y).timeouted = true
  nd : (k.wait.map (·.rid)).Nodup
  ln : (k.current.toList ++ k.locks).Nodup

theorem KI.newKey (seq n : Nat) : KI seq (Engine2.newKey n) := by
  have hno : ∀ y, ¬ (Engine2.newKey n).hasRec y := by intro y ⟨r, hr, _⟩; simp [Slock.Engine2.newKey] at hr
  exact ⟨fun y h => absurd h (hno y), fun y h => absurd h (hno y), fun y h => absurd h (hno y), fun y _ h => absurd h (hno y),
    by intro y hy; simp [Slock.Engine2.newKey] at hy, by simp [Slock.Engine2.newKey], by simp [Slock.Engine2.newKey]⟩

theorem KI.mono {seq seq' : Nat} {k : Key} (h : KI seq k) (hs : seq ≤ seq') : KI seq' k :=
  ⟨h.cs, h.ck, fun y hy hd => Nat.lt_of_lt_of_le (h.hlt y hy hd) hs, h.hinj, h.ht, h.nd, h.ln⟩

theorem timeouted_dead (k : Key) (y : Nat) (h : ¬ k.hasRec y) : (k.getR y).timeouted = true := by
  rw [getR_of_not_hasRec k y h]; rfl

theorem KI.of_pk_gen {seq : Nat} {k k' : Key} (h : KI seq k) (hl : (k'.current.toList ++ k'.locks).Sublist (k.current.toList ++ k.locks))
    (hw : (k'.wait.map (·.rid)).Nodup) (p : PKeep πI k' k) : KI seq k' := by
  have e : ∀ y, k'.hasRec y → _ := fun y hy => πI_inj (p.val y hy)
  refine ⟨?_, ?_, ?_, ?_, ?_, hw, hl.nodup h.ln⟩
  · intro y hy; rw [(e y hy).1, (e y hy).2.1]; exact h.cs y (p.sub y hy)
  · intro y hy sc hsc; rw [(e y hy).2.2.2.2.1]; exact h.ck y (p.sub y hy) sc (by rw [← (e y hy).2.2.2.1]; exact hsc)
  · intro y hy hd; rw [(e y hy).2.2.2.2.2.1]; exact h.hlt y (p.sub y hy) (by rw [← (e y hy).2.2.1]; exact hd)
  · intro y y' hy hy' hd hd' he
    exact h.hinj y y' (p.sub y hy) (p.sub y' hy') (by rw [← (e y hy).2.2.1]; exact hd) (by rw [← (e y' hy').2.2.1]; exact hd')
      (by rw [← (e y hy).2.2.2.2.2.1, ← (e y' hy').2.2.2.2.2.1]; exact he)
  · intro y hy
    by_cases hh : k'.hasRec y
    · rw [(e y hh).2.2.2.2.2.2]; exact h.ht y (hl.subset hy)
    · exact timeouted_dead k' y hh

theorem KI.of_pk_sub {seq : Nat} {k k' : Key} (h : KI seq k) (hl : (k'.current.toList ++ k'.locks).Sublist (k.current.toList ++ k.locks))
    (hw : (k'.wait.map (·.rid)).Sublist (k.wait.map (·.rid))) (p : PKeep πI k' k) : KI seq k' := h.of_pk_gen hl (hw.nodup h.nd) p

theorem KI.of_pk {seq : Nat} {k k' : Key} (h : KI seq k) (q : k'.queues = k.queues) (p : PKeep πI k' k) : KI seq k' := by
  obtain ⟨q1, q2, q3⟩ := queues_eq q
  exact h.of_pk_sub (by rw [q1, q2]; exact List.Sublist.refl _) (by rw [q3]; exact List.Sublist.refl _) p

theorem KI.step_rec {seq seq' : Nat} {k k' : Key} (h : KI seq k) (rid : Nat) (hs : seq ≤ seq')
    (px : PKeepX πI (· = rid) k' k)
    (hsub : ∀ y, y ∈ k'.current.toList ++ k'.locks → y ∈ k.current.toList ++ k.locks ∨ y = rid)
    (hln : (k'.current.toList ++ k'.locks).Nodup) (hnd : (k'.wait.map (·.rid)).Nodup)
    (cs' : k'.hasRec rid → (k'.getR rid).conn = (k'.getR rid).cmd.conn)
    (ck' : k'.hasRec rid → ∀ sc, (k'.getR rid).eSched = some sc → sc.checked = (k'.getR rid).eChecked)
    (hl' : k'.hasRec rid → 0 < (k'.getR rid).depth → (k'.getR rid).hid < seq')
    (hi' : k'.hasRec rid → 0 < (k'.getR rid).depth → ∀ y, y ≠ rid → k.hasRec y → 0 < (k.getR y).depth → (k.getR y).hid ≠ (k'.getR rid).hid)
    (ht' : rid ∈ k'.current.toList ++ k'.locks → (k'.getR rid).timeouted = true) : KI seq' k' := by
  have e : ∀ y, y ≠ rid → k'.hasRec y → _ := fun y hn hy => πI_inj (px.val y hn hy)
  have e1 := fun y hn hy => (e y hn hy).1
  have e2 := fun y hn hy => (e y hn hy).2.1
  have e3 := fun y hn hy => (e y hn hy).2.2.1
  have e4 := fun y hn hy => (e y hn hy).2.2.2.1
  have e5 := fun y hn hy => (e y hn hy).2.2.2.2.1
  have e6 := fun y hn hy => (e y hn hy).2.2.2.2.2.1
  have e7 := fun y hn hy => (e y hn hy).2.2.2.2.2.2
  refine ⟨?_, ?_, ?_, ?_, ?_, hnd, hln⟩
  · intro y hy
    by_cases e : y = rid
    · subst e; exact cs' hy
    · rw [e1 y e hy, e2 y e hy]; exact h.cs y (px.sub y e hy)
  · intro y hy sc hsc
    by_cases e : y = rid
    · subst e; exact ck' hy sc hsc
    · rw [e5 y e hy]; exact h.ck y (px.sub y e hy) sc (by rw [← e4 y e hy]; exact hsc)
  · intro y hy hd
    by_cases e : y = rid
    · subst e; exact hl' hy hd
    · rw [e6 y e hy]; exact Nat.lt_of_lt_of_le (h.hlt y (px.sub y e hy) (by rw [← e3 y e hy]; exact hd)) hs
  · intro y y' hy hy' hd hd' he
    by_cases e : y = rid
    · by_cases e' : y' = rid
      · rw [e, e']
      · exfalso
        subst e
        exact hi' hy hd y' e' (px.sub y' e' hy') (by rw [← e3 y' e' hy']; exact hd') (by rw [← e6 y' e' hy']; exact he.symm)
    · by_cases e' : y' = rid
      · exfalso
        subst e'
        exact hi' hy' hd' y e (px.sub y e hy) (by rw [← e3 y e hy]; exact hd) (by rw [← e6 y e hy]; exact he)
      · exact h.hinj y y' (px.sub y e hy) (px.sub y' e' hy') (by rw [← e3 y e hy]; exact hd) (by rw [← e3 y' e' hy']; exact hd')
          (by rw [← e6 y e hy, ← e6 y' e' hy']; exact he)
  · intro y hy
    by_cases e : y = rid
    · subst e; exact ht' hy
    · by_cases hh : k'.hasRec y
      · rw [e7 y e hh]
        rcases hsub y hy with h1 | h1
        · exact h.ht y h1
        · exact absurd h1 e
      · exact timeouted_dead k' y hh

/-- the changed record keeps its identity and does not come to life: the two hid clauses follow -/
theorem KI.step_rec_same {seq seq' : Nat} {k k' : Key} (h : KI seq k) (rid : Nat) (hs : seq ≤ seq')
    (px : PKeepX πI (· = rid) k' k)
    (hsub : ∀ y, y ∈ k'.current.toList ++ k'.locks → y ∈ k.current.toList ++ k.locks ∨ y = rid)
    (hln : (k'.current.toList ++ k'.locks).Nodup) (hnd : (k'.wait.map (·.rid)).Nodup)
    (cs' : k'.hasRec rid → (k'.getR rid).conn = (k'.getR rid).cmd.conn)
    (ck' : k'.hasRec rid → ∀ sc, (k'.getR rid).eSched = some sc → sc.checked = (k'.getR rid).eChecked)
    (hid' : k'.hasRec rid → 0 < (k'.getR rid).depth → k.hasRec rid ∧ 0 < (k.getR rid).depth ∧ (k'.getR rid).hid = (k.getR rid).hid)
    (ht' : rid ∈ k'.current.toList ++ k'.locks → (k'.getR rid).timeouted = true) : KI seq' k' := by
  refine h.step_rec rid hs px hsub hln hnd cs' ck' ?_ ?_ ht'
  · intro hy hd
    obtain ⟨a, b, c⟩ := hid' hy hd
    rw [c]; exact Nat.lt_of_lt_of_le (h.hlt rid a b) hs
  · intro hy hd y hne hyk hdy he
    obtain ⟨a, b, c⟩ := hid' hy hd
    exact hne (h.hinj y rid hyk a hdy b (he.trans c))

def WI (w : W) : Prop := KI w.db.seq w.k

/-- (stated for a variable state: `(w.modK f).db.seq` against `w.db.seq` for a `w` that is a long chain is slow to unify) -/
theorem WI.modK {w : W} (f : Key → Key) (h : KI w.db.seq (f w.k)) : WI (w.modK f) := h

/-- all that `KI`, `QS`, `HL` and `SimTick.KT` read of a lock record: `tck` is the back-off counter cached in the timeout-wheel entry -/
structure RQ where
  i : RI
  tck : Option Nat
  tChecked : Nat

def πQ (r : Rec) : RQ := ⟨πI r, r.tSched.map (·.checked), r.tChecked⟩

theorem ins_πQ : Ins πQ := ⟨fun _ _ => rfl, fun _ _ => rfl, fun _ _ => rfl, fun _ _ => rfl⟩

theorem _root_.Slock.Engine2.PKeep.comp {α β : Type} {π : Rec → α} (g : α → β) {k' k : Key} (p : PKeep π k' k) : PKeep (fun r => g (π r)) k' k :=
  ⟨p.sub, fun y hy => congrArg g (p.val y hy)⟩

/-- a helper step none of these invariants sees: queues, `waited`, the queue mode and every record's `πQ` kept, the key record reclaimed or
not as before, the sequence counter does not go back -/
structure Quiet (w w' : W) : Prop where
  g : w'.gone = w.gone
  q : w'.k.queues = w.k.queues
  p : PKeep πQ w'.k w.k
  s : w.db.seq ≤ w'.db.seq
  wd : w'.k.waited = w.k.waited
  wp : w'.k.waitPrio = w.k.waitPrio

theorem WI.quiet {w w' : W} (h : WI w) (d : Quiet w w') : WI w' := (KI.of_pk h d.q (d.p.comp (·.i))).mono d.s

namespace Quiet
theorem refl (w : W) : Quiet w w := ⟨rfl, rfl, PKeep.refl _, Nat.le_refl _, rfl, rfl⟩
theorem of_k {w w' : W} (e : w'.k = w.k) (g : w'.gone = w.gone) (s : w.db.seq ≤ w'.db.seq) : Quiet w w' :=
  ⟨g, by rw [e], by rw [e]; exact PKeep.refl _, s, by rw [e], by rw [e]⟩
theorem reply (w : W) (c : Engine.Cmd) (a b : Nat) (d : Option Bytes) : Quiet w (w.reply c a b d) := of_k rfl rfl (Nat.le_refl _)
theorem ctr (w : W) (f : Engine.Counters → Engine.Counters) : Quiet w (w.ctr f) := of_k rfl rfl (Nat.le_refl _)
theorem wheelBroken (w : W) : Quiet w w.wheelBroken := of_k rfl rfl (Nat.le_refl _)
theorem when (w : W) (b : Bool) (f : W → W) (h : Quiet w (f w)) : Quiet w (w.when b f) := by
  cases b
  · exact refl w
  · exact h
theorem modR (w : W) (rid : Nat) (f : Rec → Rec) (hf : ∀ r, (f r).rid = r.rid) (hp : ∀ r, πQ (f r) = πQ r) : Quiet w (w.modR rid f) :=
  ⟨rfl, rfl, pk_modR w rid f hf hp, Nat.le_refl _, rfl, rfl⟩
theorem modK (w : W) (f : Key → Key) (h1 : (f w.k).recs = w.k.recs) (h2 : (f w.k).queues = w.k.queues)
    (h3 : (f w.k).waited = w.k.waited) (h4 : (f w.k).waitPrio = w.k.waitPrio) : Quiet w (w.modK f) :=
  ⟨rfl, h2, PKeep.of_eq h1, Nat.le_refl _, h3, h4⟩
theorem of_book {data : Option Bytes} {q : Bool} {w w' : W} (c : Chain data true q w w') : Quiet w w' :=
  ⟨c.gone, c.queues, c.pk ins_πQ,
   Nat.le_of_eq (c.book (J := fun x => x.db.seq = w.db.seq) (fun _ _ _ _ j => j) (fun _ _ _ j => j) (fun _ _ _ _ j => j) (fun _ _ j => j) rfl).symm,
   c.waited, c.book (J := fun x => x.k.waitPrio = w.k.waitPrio) (fun _ _ _ _ j => j) (fun _ _ _ j => j) (fun _ _ _ _ j => j) (fun _ _ j => j) rfl⟩
theorem procData (w : W) (t : Slock.Value.CmdType) (c : Engine.Cmd) (f : Option Bytes) (rid : Nat) : Quiet w (w.procData t c f rid) :=
  of_book (book_procData w t c f rid)
theorem pushLockAofN (n : Nat) (w : W) (rid : Nat) : Quiet w (W.pushLockAofN n w rid) := of_book (book_pushLockAofN n w rid)
theorem pushUnLockAof (w : W) (rid : Nat) (lc : Engine.Cmd) (fa ia : Bool) (flag : Nat) : Quiet w (w.pushUnLockAof rid lc fa ia flag) :=
  of_book (book_pushUnLockAof w rid lc fa ia flag)
theorem journalLock (w : W) (rid flag : Nat) : Quiet w (w.journalLock rid flag) := of_book (book_journalLock w rid flag)
theorem journalUnlock (w : W) (rid : Nat) (fa ia : Bool) (flag : Nat) : Quiet w (w.journalUnlock rid fa ia flag) :=
  of_book (book_journalUnlock w rid fa ia flag)
theorem grantNoHold (w : W) (rid : Nat) : Quiet w (w.grantNoHold rid) := of_book (book_grantNoHold w rid)
theorem ref (w : W) (rid : Nat) : Quiet w (w.ref rid) := modR w rid _ (fun _ => rfl) (fun _ => rfl)
theorem free (w : W) (rid : Nat) : Quiet w (w.modK (·.free rid)) := by
  obtain ⟨a, b, c, d, e, _⟩ := free_queues w.k rid
  exact ⟨rfl, queues_mk c a b, PKeep.free _ _, Nat.le_refl _, d, e⟩
theorem unrefOnly (w : W) (rid : Nat) : Quiet w (w.modK (·.unrefOnly rid)) := ⟨rfl, rfl, PKeep.unrefOnly ins_πQ _ _, Nat.le_refl _, rfl, rfl⟩
/-- the sweeper collects a long-table entry: the cached counter stays -/
theorem collectT (w : W) (rid : Nat) : Quiet w (w.collectT rid) := by
  refine modR w rid _ (fun _ => rfl) (fun r => ?_)
  show (⟨πI r, (r.tSched.map (fun s => { s with long := false })).map (·.checked), r.tChecked⟩ : RQ) = ⟨πI r, r.tSched.map (·.checked), r.tChecked⟩
  generalize r.tSched = o
  cases o <;> rfl
end Quiet

end Slock.Sim
