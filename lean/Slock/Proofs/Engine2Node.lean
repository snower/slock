import Slock.Proofs.Engine2Sect
import Slock.Proofs.Engine2TightSteps
import Slock.Proofs.Engine2SimBodies
/-! Stage-2 engine: the walk of an operation with the reference counts known at every state on the way.

`Node data full s a b x`: a walk from `a` to `b` at each of whose states the counts are exact (`LvB`), and at `b` itself `Wk full b x` —
counts exact and, if `full`, no record but `x` at count 0 and `currentLock` a hold. `x` is the record the operation has in hand: the new
one until it is referenced or freed, a hold from `expried := true` until `RemoveLock` has brought its depth to 0. What other invariants
need at the states in between they read off the walk (`Walk.indE`).

The statements name the bodies of the LOCK / UNLOCK branches and the states inside them as `Engine2SimBodies` does (namespace `Slock.Sim`:
`unlockCancel`, `decPre`, `relMid` …, plain definitions over the model; written `Sim.X` where a lemma `Node.X` walks the body `X`). -/
namespace Slock.Engine2
open Slock.Sim
open Slock.Engine (has)
open Slock.SimTick (visitTimeout_dead visitExpire_dead fireTimeout_live_eq fireExpire_live_eq)

/-- the `B` of the walk: what is known at every state on the way -/
abbrev LvB (w : W) : Prop := LvG w zero ∧ GW w

structure Node (data : Option Bytes) (full : Prop) (s : Bool) (a b : W) (x : Option Nat) : Prop where
  walk : Walk data LvB s a b
  wk : b.gone = false → Wk full b x
  gw : GW b

/-- "settled", graded: a key record that is still linked has a lock record -/
abbrev Set (full : Prop) (w : W) : Prop := full → SettledG w

namespace Node
variable {data : Option Bytes} {full : Prop} {s : Bool} {e : Eff} {a b c : W} {x x' : Option Nat}

theorem lvb (n : Node data full s a b x) : LvB b := ⟨fun hg => (n.wk hg).lv, n.gw⟩
theorem start (k : a.gone = false → Wk full a x) (g : GW a) : Node data full true a a x := ⟨.nil a, k, g⟩
theorem step (n : Node data full s a b x) (p : OpStep data e b c) (hr : e = .req → s = true) (hs : Wk full b x → Wk full c x') :
    Node data full (e.ap s) a c x' :=
  ⟨n.walk.snoc n.lvb p hr, fun hg => hs (n.wk (gone_of_fr p.fr hg)), p.gw n.gw⟩
theorem keep (n : Node data full s a b x) (p : OpStep data .keep b c) (hs : Wk full b x → Wk full c x') : Node data full s a c x' := n.step p nofun hs
theorem est (n : Node data full s a b x) (p : OpStep data .est b c) (hs : Wk full b x → Wk full c x') : Node data full true a c x' := n.step p nofun hs
theorem brk (n : Node data full s a b x) (p : OpStep data .brk b c) (hs : Wk full b x → Wk full c x') : Node data full false a c x' := n.step p nofun hs
/-- a step after which the key record may have been reclaimed -/
theorem keepT (n : Node data full s a b x) (p : OpStep data .keep b c) (t : TightF full c) : Node data full s a c none :=
  ⟨n.walk.snoc n.lvb p nofun, t.1, p.gw n.gw⟩
theorem ghost (n : Node data full s a b x) (hs : Wk full b x → Wk full b x') : Node data full s a b x' := ⟨n.walk, fun hg => hs (n.wk hg), n.gw⟩
theorem tight (n : Node data full s a b none) (hs : Set full b) : TightF full b := ⟨n.wk, hs⟩

theorem ctr (n : Node data full s a b x) (f : Counters → Counters) : Node data full s a (b.ctr f) x := n.keep (.ctr b f) (·.ctr f)
theorem reply (n : Node data full s a b x) (c : Cmd) (p q : Nat) (d : Option Bytes) : Node data full s a (b.reply c p q d) x :=
  n.keep (.reply b c p q d) (·.reply c p q d)

theorem when (n : Node data full s a b x) (v : Bool) (f : W → W) (hf : Node data full s a (f b) x) : Node data full s a (b.when v f) x := by
  cases v
  · exact n
  · exact hf

/-- On the way a pop may free the last lock record of the key record; at both ends of the pass it has one again: the reclaim check has
run, or the request that could not be granted is there. -/
theorem wake (n : Node data full true a b none) (hs : Set full b) : Node data full true a b.wake none ∧ Set full b.wake := by
  refine wake_idx (I := fun s w => Node data full s a w none) (R := fun w => Node data full true a w none ∧ Set full w)
    (fun _ w n => n.est (.pop w) (·.getWaitLock)) (fun w e rest n hw hd _ => ?_) (fun w n hw => ?_) (fun w e rest n hw _ _ => ?_) n ⟨n, hs⟩
  · exact n.brk (.wakeOne w e rest hw hd) (fun k => (k.wakeOne e.rid e rest hw rfl hd).1)
  · have n2 := n.est (.clearWaited w hw) (·.modK clearWaited rfl rfl rfl)
    have t := TightF.removeIfZero_guard n2.wk
    exact ⟨n2.keepT (.removeIfZero _) t, fun f => t.2 f⟩
  · exact ⟨n, fun _ hg => recs_ne_of_hasRec ((n.wk hg).lv.has (qRefs_pos_of_wait_mem _ _ (by rw [hw]; exact .head _)))⟩

theorem when_wake (n : Node data full true a b none) (hs : Set full b) (v : Bool) : Node data full true a (b.when v (·.wake)) none ∧ Set full (b.when v (·.wake)) := by
  cases v
  · exact ⟨n, hs⟩
  · exact n.wake hs

theorem cancel (n : Node data full s a b none) (hg : b.gone = false) (c : Cmd) (x : Nat) (hx : x ∈ b.k.wait.map (·.rid)) :
    Node data full true a (unlockCancel b c x) none ∧ Set full (unlockCancel b c x) := by
  have hq : 0 < b.k.qRefs x := qRefs_pos_of_wait_mem _ x hx
  have hh1 : (b.modR x (fun r => { r with timeouted := true })).k.hasRec x :=
    (hasRec_modR _ x x _).mpr ((n.wk hg).lv.has hq)
  have n4 := (((n.brk (.tomb b x) (·.tombstone x)).keep (.dropLongT _ x (tombed _ x)) (·.dropLongT x hh1 (fun _ => hq))).est (.settle _) (·.settleWait)).ctr ctrW
  have t := TightF.removeIfZero_guard n4.wk
  exact ⟨(((n4.keepT (.removeIfZero _) t).ctr ctrU).reply _ _ _ _).reply _ _ _ _, fun f => (((t.2 f).ctr ctrU).reply _ _ _ _).reply _ _ _ _⟩

theorem decPre (n : Node data full s a b none) (c' : Cmd) (h : Nat) (hh : b.k.hasRec h) (hd : 1 < (b.k.getR h).depth) :
    Node data full s a (decPre b c' data h) none ∧ (decPre b c' data h).k.hasRec h := by
  have hh4 : (Sim.decPre b c' data h).k.hasRec h :=
    (hasRec_of_ids (ids_journalUnlock _ h (has c'.flag Slock.Engine.F_FROM_AOF) true AOF_UPDATED) h).mpr
      ((keep_procData ((b.modR h (fun r => { r with depth := r.depth - 1 })).modK (fun k => { k with locked := k.locked - 1 })) .unlock c' (frameOf c' data) h h).1.mpr
        ((hasRec_modR _ h h _).mpr hh))
  have n1 : Node data full s a _ none := n.keep (.dec b h hd) (fun k => k.modDepth h (fun r => { r with depth := r.depth - 1 }) hh
    (fun _ hf => ⟨hf.pos, fun _ => hf.hold (by omega), fun hx => by have := hf.ended hx; simp only []; omega, fun hz => by simp only [] at hz; omega⟩)
    (fun _ => by simp only []; omega))
  have n2 : Node data full s a (decHead b h) none := n1.keep (.locked _ (· - 1)) (·.locked (· - 1))
  exact ⟨(n2.keep (.procData _ .unlock c' (frameOf c' data) h (fun hs => Or.inl (frameOf_isSome hs))) (·.procData _ _ _ _)).keep
    (.journalUnlock _ h (has c'.flag Slock.Engine.F_FROM_AOF) true AOF_UPDATED) (·.journalUnlock _ _ _ _), hh4⟩

theorem dec (n : Node data full s a b none) (c' : Cmd) (h : Nat) (hh : b.k.hasRec h) (hd : 1 < (b.k.getR h).depth) :
    Node data full s a (unlockDec b c' data h) none ∧ Set full (unlockDec b c' data h) :=
  have r := n.decPre c' h hh hd
  ⟨(r.1.ctr ctrDec).reply c' Slock.Engine.RESULT_SUCCED (((Sim.decPre b c' data h).ctr ctrDec).k.getR h).depth (decHead b h).lockData,
    fun _ => (SettledG.ctr (w := Sim.decPre b c' data h) (fun _ => recs_ne_of_hasRec r.2) ctrDec).reply _ _ _ _⟩

/-- from `expried := true` on the record `h` is exempt from `RecFine`, until `RemoveLock` has set its depth to 0 (or it has been freed) -/
theorem relMid (n : Node data full s a b none) (c' : Cmd) (h : Nat) (hh : b.k.hasRec h) :
    Node data full s a (Sim.relMid b c' data h) (some h) ∧ (Sim.relMid b c' data h).k.hasRec h := by
  have kp := keep_procData ((b.modR h (fun r => { r with expried := true })).modK (fun k => { k with locked := k.locked - (b.k.getR h).depth })) .unlock c'
    (frameOf c' data) h h
  have hh3 : (relHead b c' data h).k.hasRec h := kp.1.mpr ((hasRec_modR _ h h _).mpr hh)
  have hh4 : (Sim.relMid b c' data h).k.hasRec h := by
    unfold Sim.relMid
    rw [hasRec_of_ids (ids_journalUnlock _ h _ false 0)]
    unfold W.dropLongE W.when
    split
    · exact (getR_removeLongE _ h hh3).1
    · exact hh3
  have n3 : Node data full s a (relHead b c' data h) (some h) :=
    ((n.keep (.ended b h) (fun k => (k.exempt h).modR_ex (fun r => { r with expried := true }))).keep (.locked _ (· - (b.k.getR h).depth))
        (·.locked (· - (b.k.getR h).depth))).keep (.procData _ .unlock c' (frameOf c' data) h (fun hs => Or.inl (frameOf_isSome hs)))
          (fun k => k.procData _ _ _ _)
  exact ⟨(n3.keep (.dropLongE _ h) (fun k => k.dropLongE_ex hh3)).keep (.journalUnlock _ h (has c'.flag Slock.Engine.F_FROM_AOF) false 0)
    (fun k => k.journalUnlock _ _ _ _), hh4⟩

/-- `RemoveLock` of the record in hand `h`, ended (`expried`) and, unless it sat in the long table (`L`), still on the expiry wheel:
freed if nothing refers to it any more, else in order again — still counted (by its wheel entry, if by nothing else), depth 0 -/
theorem endHold {w : W} {h : Nat} (n : Node data full s a w (some h)) (hg : w.gone = false) (hh : w.k.hasRec h) (L : Bool)
    (hE : full → L = false → (w.k.getR h).eSched.isSome = true) (hX : (w.k.getR h).expried = true) :
    Node data full s a ((w.modK (·.removeLock h)).when (L && ((w.modK (·.removeLock h)).k.getR h).refCount == 0) (·.freeCheck h)) none ∧
      Set full ((w.modK (·.removeLock h)).when (L && ((w.modK (·.removeLock h)).k.getR h).refCount == 0) (·.freeCheck h)) := by
  have n5 : Node data full s a (w.modK (·.removeLock h)) (some h) := n.keep (.removeLock _ h) (fun k => k.removeLock)
  have hg5 : (w.modK (·.removeLock h)).gone = false := by rw [modK_gone]; exact hg
  have k5 := n5.wk hg5
  unfold W.when
  split
  · rename_i hcnd
    have hz : ((w.modK (·.removeLock h)).k.getR h).refCount = 0 := by
      simp only [Bool.and_eq_true, beq_iff_eq] at hcnd; exact hcnd.2
    have t := TightF.freeCheck_clear k5 (k5.lv.unreferenced h hz)
    exact ⟨n5.keepT (.freeCheck _ h) t, fun f => t.2 f⟩
  · rename_i hcnd
    have hfine : full → (w.modK (·.removeLock h)).k.hasRec h ∧ RecFine ((w.modK (·.removeLock h)).k.getR h) := by
      intro f
      have hpos : (w.modK (·.removeLock h)).k.hasRec h ∧ 1 ≤ ((w.modK (·.removeLock h)).k.getR h).refCount := by
        cases hl : L with
        | true =>
          have hne : ((w.modK (·.removeLock h)).k.getR h).refCount ≠ 0 := by
            intro hz; apply hcnd; rw [hl, hz]; rfl
          exact ⟨hasRec_of_refCount _ _ hne, Nat.pos_of_ne_zero hne⟩
        | false =>
          have e4 := hE f hl
          obtain ⟨k1, k2, _⟩ := removeLock_keep zero_nonneg (n.wk hg).lv.rc h h hh (wheel_of_e e4)
          refine ⟨k1, ?_⟩
          have hrc := k5.lv.rc.refCount_of k1
          have hw : 1 ≤ ((w.modK (·.removeLock h)).k.getR h).wheelRefs := by
            apply wheel_of_e
            show ((w.k.removeLock h).getR h).eSched.isSome = true
            rw [k2]; exact e4
          simp only [zero] at hrc; omega
      have hexp : ((w.modK (·.removeLock h)).k.getR h).expried = true :=
        ((PKeep.removeLock ins_expried (fun _ _ => rfl) w.k h).val h hpos.1).trans hX
      have hdep := removeLock_depth w.k h hpos.1
      exact ⟨hpos.1, hpos.2, fun hp => by have : ((w.modK (·.removeLock h)).k.getR h).depth = 0 := hdep; omega, fun _ => hdep, fun _ _ => hexp⟩
    exact ⟨n5.ghost (fun k => k.clear (fun f _ => (hfine f).2)), fun f _ => recs_ne_of_hasRec (hfine f).1⟩

theorem relPre (n : Node data full s a b none) (hg : b.gone = false) (c' : Cmd) (h : Nat) (hh : b.k.hasRec h)
    (hd : full → 0 < (b.k.getR h).depth) : Node data full s a (relPre b c' data h) none ∧ Set full (relPre b c' data h) := by
  obtain ⟨n4, hh4⟩ := n.relMid c' h hh
  have hg4 : (Sim.relMid b c' data h).gone = false := by
    unfold Sim.relMid relHead
    rw [(book_journalUnlock _ _ _ _ _).gone, (FQ.dropLongE _ _).qt.gone, procData_gone]
    exact hg
  -- the expiry entry of the hold survives the value operation and, unless it is a long-table entry, the rest
  have hE : full → ((relHead b c' data h).k.getR h).eLong = false → ((Sim.relMid b c' data h).k.getR h).eSched.isSome = true := by
    intro f hl
    unfold Sim.relMid
    rw [(book_journalUnlock _ h _ false 0).proj ins_eSched h, dropLongE_of_not_long _ h hl]
    unfold relHead
    rw [(book_procData _ .unlock c' (frameOf c' data) h).proj ins_eSched h]
    exact (congrArg Option.isSome (getR_modRec_proj (·.eSched) b.k h h _ (by intro _; rfl))).trans
      (((n.wk hg).nz f).nz _ (getR_mem hh) (by simp) |>.hold (hd f))
  have hX : ((Sim.relMid b c' data h).k.getR h).expried = true := by
    have p4 : PK (·.expried) (Sim.relMid b c' data h) (b.modR h (fun r => { r with expried := true })) :=
      ((book_journalUnlock _ h _ false 0).pk ins_expried).trans ((pk_dropLongE ins_expried _ _ (fun _ _ => rfl)).trans
        ((pk_procData ins_expried _ _ _ _ _).trans (PKeep.of_eq rfl)))
    rw [p4.val h hh4]
    show ((b.k.modRec h _).getR h).expried = true
    rw [getR_modRec_same _ _ _ hh]
  exact n4.endHold hg4 hh4 _ hE hX

theorem release (n : Node data full s a b none) (hg : b.gone = false) (c' : Cmd) (h : Nat) (hh : b.k.hasRec h)
    (hd : full → 0 < (b.k.getR h).depth) : Node data full s a (unlockRelease b c' data h) none ∧ Set full (unlockRelease b c' data h) :=
  have t6 := n.relPre hg c' h hh hd
  ⟨(t6.1.ctr _).reply _ _ _ _, fun f => ((t6.2 f).ctr _).reply _ _ _ _⟩

/-- `v`: the update is journalled -/
theorem updLocked (n : Node data full true a b none) (hg : b.gone = false) (c' : Cmd) (h : Nat) (g : Holder b.k h) (v : Bool) :
    Node data full true a (Sim.updLocked b c' data h v) none ∧ (Sim.updLocked b c' data h v).k.hasRec h := by
  unfold Sim.updLocked updTail
  have kp := keep_procData b .lock c' (frameOf c' data) h h
  have ku := ((n.wk hg).procData .lock c' (frameOf c' data) h).updateLocked h c' (kp.1.mpr (hasRec_of_holder (n.wk hg).lv h g.1))
    (fun f => by rw [kp.2.2.2.2.2.2.1]; exact g.2 ((n.wk hg).cur f))
  have n2 := (n.keep (.procData _ .lock c' _ h (fun hs => Or.inl (frameOf_isSome hs))) (·.procData _ _ _ _)).step
    (.updateLocked _ h c' (g.procData _ _ _ _) ((procData_gone _ _ _ _ _).trans hg)) (fun _ => rfl) (fun _ => ku.1)
  exact ⟨n2.when v (·.journalLock h AOF_UPDATED) (n2.keep (.journalLock _ h AOF_UPDATED) (·.book (book_journalLock _ h AOF_UPDATED))),
    (hasRec_of_ids (ids_when _ _ _ (fun w => (book_journalLock w h AOF_UPDATED).ids)) h).mpr ku.2⟩

theorem relock (n : Node data full true a b none) (hg : b.gone = false) (c : Cmd) (h : Nat) (hm : h ∈ b.k.current.toList ++ b.k.locks)
    (hd : 0 < (b.k.getR h).depth) :
    Node data full true a (Sim.updLocked (relockPre b h) c data h true) none ∧ (Sim.updLocked (relockPre b h) c data h true).k.hasRec h := by
  have n1 := n.keep (.inc _ h hd) (fun k => k.modDepth h (fun r => { r with depth := r.depth + 1 }) (hasRec_of_depth hd)
    (fun _ hf => ⟨hf.pos, fun _ => hf.hold hd, fun hx => by have := hf.ended hx; omega, fun hz => by simp only [] at hz; omega⟩)
    (fun _ => Nat.succ_pos _))
  have n2 : Node data full true a (relockPre b h) none := n1.keep (.locked _ (· + 1)) (·.modK incLocked rfl rfl rfl)
  exact n2.updLocked hg c h (Holder.depthUp hm hd) true

/-! the sweeper's sections start from a linked key record (`hg`): the entry it holds names a record of it -/

theorem visitTimeout (n : Node data full s a b none) (hs : Set full b) (hg : b.gone = false) (slot : Bool) (rid : Nat) {w' : W}
    (hv : b.visitTimeout slot rid = some w') : Node data full s a w' none ∧ Set full w' :=
  have t := visitTimeout_tf (n.wk hg) (fun f => hs f hg) slot rid w' hv
  ⟨n.keepT (visitTimeout_step hv) t, fun f => t.2 f⟩

theorem visitExpire (n : Node data full s a b none) (hs : Set full b) (hg : b.gone = false) (slot : Bool) (rid : Nat) {w' : W}
    (hv : b.visitExpire slot rid = some w') : Node data full s a w' none ∧ Set full w' :=
  have t := visitExpire_tf (n.wk hg) (fun f => hs f hg) slot rid w' hv
  ⟨n.keepT (visitExpire_step hv) t, fun f => t.2 f⟩

theorem collectT (n : Node data full s a b none) (rid : Nat) : Node data full s a (b.collectT rid) none :=
  n.keep (.collectT b rid) (collectT_wk · rid)

theorem fireTimeout (n : Node data full true a b none) (hs : Set full b) (hg : b.gone = false) (rid : Nat) :
    Node data full true a (b.fireTimeout rid) none ∧ Set full (b.fireTimeout rid) := by
  by_cases hd : b.k.hasT rid = false ∨ (b.k.getR rid).timeouted = true
  · exact n.visitTimeout hs hg true rid (visitTimeout_dead b true rid hd)
  simp only [not_or, Bool.not_eq_false, Bool.not_eq_true] at hd
  rw [fireTimeout_live_eq b rid hd.1 hd.2]
  have t := timeout_fire_pre (n.wk hg) rid (hasT_spec b.k rid hd.1)
  exact ((((((n.brk (.tomb b rid) (·.tombstone rid)).est (.settle _) (·.settleWait)).ctr SimTick.ctrW).keepT (.dropT _ rid (tombed_settled b rid)) t).ctr _).reply _ _ _ _).wake
    (fun f => ((t.2 f).ctr _).reply _ _ _ _)

theorem fireExpire (n : Node data full true a b none) (hs : Set full b) (hg : b.gone = false) (rid : Nat) :
    Node data full true a (b.fireExpire rid) none ∧ Set full (b.fireExpire rid) := by
  by_cases hd : b.k.hasE rid = false ∨ (b.k.getR rid).expried = true
  · exact n.visitExpire hs hg true rid (visitExpire_dead b true rid hd)
  simp only [not_or, Bool.not_eq_false, Bool.not_eq_true] at hd
  have k := n.wk hg
  have hsp := hasE_spec b.k rid hd.1
  cases hdf : deferExpiry b.db (b.k.getR rid) with
  | true =>
    rw [SimTick.fireExpire_deferred b rid hd.1 hd.2 hdf]
    have hh := hasRec_rearmE b rid (fun r => { r with expT := b.db.now + 30 }) (by intro _; rfl) hsp.1
    exact ⟨n.keep (.deferE b rid _) (fun k => k.rearmE rid _ hsp hd.2), fun _ _ => recs_ne_of_hasRec hh⟩
  | false =>
    rw [fireExpire_live_eq b rid hd.1 hd.2 hdf]
    have n2 := (n.keep (.ended b rid) (fun k => (k.exempt rid).modR_ex (fun r => { r with expried := true }))).keep (.locked _ (· - (b.k.getR rid).depth))
        (·.locked (· - (b.k.getR rid).depth))
    have n3 := n2.when (b.k.getR rid).isAof (·.pushUnLockAof rid (b.k.getR rid).cmd false false AOF_EXPRIED)
      (n2.keep (.pushUnLockAof _ rid _ false false AOF_EXPRIED) (·.pushUnLockAof _ _ _ _ _))
    have t := expire_release_pre k rid hsp
    exact ((((n3.keep (.removeLock _ rid) (·.removeLock)).keepT (.dropE _ rid) t).ctr _).reply _ _ _ _).wake (fun f => ((t.2 f).ctr _).reply _ _ _ _)

end Node

theorem openKey_live (s : DB) (n y : Nat) (hy : (s.openKey n).k.hasRec y) : (s.openKey n).gone = false := by
  cases hg : (s.openKey n).gone with
  | false => rfl
  | true =>
    have hk : s.hasKey n = false := by simpa [DB.openKey] using hg
    have : (s.openKey n).k.recs = [] := by
      show (s.getKey n).recs = []
      rw [getKey_of_not_hasKey s n hk]; rfl
    exact absurd this (recs_ne_of_hasRec hy)

theorem gw_openKey (db : DB) (n : Nat) : GW (db.openKey n) := by
  intro hg
  have hk : db.hasKey n = false := by simpa [DB.openKey] using hg
  show (db.getKey n).wait = []
  rw [getKey_of_not_hasKey db n hk]; rfl

theorem applyUnlock_node (full : Prop) (db : DB) (hdb : DBI db) (ht : full → ∀ k ∈ db.keys, KeyTight k) (c : Cmd) (data : Option Bytes) (b : UnlockBranch)
    (hg : UnlockGuard (db.getKey c.key) b) :
    Node data full true (db.openKey c.key) (applyUnlock db c data b) none ∧ Set full (applyUnlock db c data b) := by
  have ko : Wk full (db.openKey c.key) none := Wk.openKey hdb ht c.key
  have so : Set full (db.openKey c.key) := fun f => settled_openKey (ht f) c.key
  have no : Node data full true (db.openKey c.key) (db.openKey c.key) none := .start (fun _ => ko) (gw_openKey db c.key)
  cases b with
  | noManager => exact ⟨(no.ctr _).keep (.out _ _ rfl) (fun k => k.up (k.lv.db rfl (Nat.le_refl _)) (RecsUp.of_eq rfl) (DK.of_k rfl)), so⟩
  | stateError | notLocked | unown | cancelNone => exact ⟨(no.ctr _).reply _ _ _ _, so⟩
  | cancel x =>
    obtain ⟨n, s⟩ := no.cancel (openKey_live db c.key x (hasRec_of_liveWaiter hg.2)) c x hg.1
    rw [applyUnlock_cancel]; exact n.wake s
  | dec h c' =>
    obtain ⟨n, s⟩ := no.dec c' h (hasRec_of_depth (Nat.lt_trans Nat.zero_lt_one hg)) hg
    rw [applyUnlock_dec]; exact n.wake s
  | release h c' =>
    have hh := hasRec_of_holder ko.lv h hg.1
    obtain ⟨n, s⟩ := no.release (openKey_live db c.key h hh) c' h hh (fun f => hg.2 (cur_openKey (ht f) c.key))
    rw [applyUnlock_release]; exact n.wake s

theorem applyLock_node (full : Prop) (db : DB) (hdb : DBI db) (ht : full → ∀ k ∈ db.keys, KeyTight k) (c : Cmd) (data : Option Bytes) (b : LockBranch)
    (hg : LockGuard (db.getKey c.key) b) :
    Node data full true (lockBase db c b) (applyLock db c data b) none ∧ Set full (applyLock db c data b) := by
  have ke : Wk full (db.enter c.key) none := Wk.enter hdb ht c.key
  have ko : Wk full (db.openKey c.key) none := Wk.openKey hdb ht c.key
  have no : Node data full true (db.openKey c.key) (db.openKey c.key) none := .start (fun _ => ko) (gw_openKey db c.key)
  have ne : Node data full true (db.enter c.key) (db.enter c.key) none := .start (fun _ => ke) (GW.of_live (enter_gone db c.key))
  have eg := enter_gone db c.key
  have hold : ∀ h, h ∈ (db.getKey c.key).current.toList ++ (db.getKey c.key).locks → (db.enter c.key).k.hasRec h := fun h hm =>
    hasRec_of_holder ke.lv h (by rw [enter_k]; exact hm)
  cases b with
  | p0a => exact ⟨no.reply _ _ _ _, fun f => settled_openKey (ht f) c.key⟩
  | p0b => exact ⟨no.keep (.out _ _ rfl) (fun k => k.up (k.lv.db rfl (Nat.le_refl _)) (RecsUp.of_eq rfl) (DK.of_k rfl)), fun f => settled_openKey (ht f) c.key⟩
  | stateError =>
    have t := TightF.removeIfZero ke
    exact ⟨(ne.keepT (.removeIfZero _) t).reply _ _ _ _, fun f => (t.2 f).reply _ _ _ _⟩
  | «show» h | updateEqual h | relockNoHold h | relockRefused h => exact ⟨ne.reply _ _ _ _, fun _ _ => recs_ne_of_hasRec (hold h hg)⟩
  | unlockedWaitRefused => exact ⟨ne.reply _ _ _ _, fun f => settled_enter_of_hasKey (ht f) c.key (hasKey_of_waited c.key hg)⟩
  | updateEqualData h =>
    exact ⟨(ne.keep (.procData _ .lock _ _ h (fun hs => Or.inl (frameOf_isSome hs))) (·.procData _ _ _ _)).reply _ _ _ _,
      fun _ _ => recs_ne_of_hasRec ((keep_procData (db.enter c.key) .lock (lockCmdOf (db.enter c.key).k c (.updateEqualData h))
        (frameOf (lockCmdOf (db.enter c.key).k c (.updateEqualData h)) data) h h).1.mpr (hold h hg))⟩
  | update h =>
    obtain ⟨n3, hh3⟩ := ne.updLocked eg (lockCmdOf (db.enter c.key).k c (.update h)) h (by rw [enter_k]; exact hg)
      (!has (lockCmdOf (db.enter c.key).k c (.update h)).flag Slock.Engine.F_FROM_AOF)
    exact (n3.reply _ _ _ _).wake (fun _ _ => recs_ne_of_hasRec hh3)
  | relock h =>
    obtain ⟨n3, hh3⟩ := ne.relock eg c h (by rw [enter_k]; exact hg.1) (by rw [enter_k]; exact hg.2)
    rw [applyLock_relock]
    exact ((n3.ctr _).reply _ _ _ _).wake (fun _ => (SettledG.ctr (w := Sim.updLocked (relockPre (db.enter c.key) h) c data h true)
      (fun _ => recs_ne_of_hasRec hh3) _).reply _ _ _ _)
  | grant =>
    simp only [applyLock, lockBase]
    obtain ⟨_, hn, _, _, _, hgr⟩ := ke.lv.newLock zero_nonneg c data
    have g := newRec_grantable (db.enter c.key) c data hn hgr
    exact (ne.keep (.newGrant _ c eg) (fun k => ((k.newLock c data).grant g).1)).when_wake
      (fun _ _ => recs_ne_of_hasRec ((ke.newLock c data).grant g).2) _
  | grantNoHold =>
    simp only [applyLock, lockBase]
    obtain ⟨_, _, _, hq, _, _⟩ := ke.lv.newLock zero_nonneg c data
    have t := TightF.freeCheck_clear ((ke.newLock c data).grantNoHold (db.enter c.key).db.nextRid)
      ((qRefs_of_queues (book_grantNoHold _ _).queues _).trans hq)
    exact (((ne.keepT (.newNoHold _ c eg) t).ctr _).reply _ _ _ _).when_wake (fun f => ((t.2 f).ctr _).reply _ _ _ _) _
  | queue =>
    simp only [applyLock, lockBase]
    obtain ⟨k3, hh3⟩ := queue_pre ke c data
    exact ⟨(ne.step (.enqueue _ c eg) (fun _ => rfl) (fun _ => k3)).ctr _, fun _ _ => recs_ne_of_hasRec hh3⟩
  | timeout =>
    simp only [applyLock, lockBase]
    obtain ⟨_, _, _, hq, _, _⟩ := ke.lv.newLock zero_nonneg c data
    have t := TightF.freeCheck_clear (ke.newLock c data) hq
    exact ⟨(ne.keepT (.newTimeout _ c eg) t).reply _ _ _ _, fun f => (t.2 f).reply _ _ _ _⟩

/-! Every step of a run stores back what one section made of one key record (`Sect`, `step_sect`). -/

/-- where a section starts: the key record as it is, or the one `GetOrNewLockManager` returns -/
def Base (db : DB) (key : Nat) (base : W) : Prop := base = db.openKey key ∨ base = db.enter key

theorem Base.k {db : DB} {key : Nat} {base : W} (b : Base db key base) : base.k = db.getKey key := by
  rcases b with rfl | rfl
  · rfl
  · exact enter_k db key

theorem Base.seq {db : DB} {key : Nat} {base : W} (b : Base db key base) : base.db.seq = db.seq := by
  rcases b with rfl | rfl
  · rfl
  · rw [enter_db]; exact (create_fields db key).2.2.2.2.2.1

theorem Base.commit {P : Key → Prop} {db : DB} {key : Nat} {base w' : W} (b : Base db key base) (f : Fr base w') (hdb : DBI db)
    (h : ∀ k ∈ db.keys, P k) (hw : w'.gone = false → P w'.k) : ∀ k ∈ w'.commit.keys, P k := by
  rcases b with rfl | rfl
  · exact commit_p ((hdb.openKey key).of_fr f) (others_of_fr (fun k hk _ => h k hk) f) hw
  · exact commit_p ((hdb.enter key).of_fr f) (others_of_fr (others_enter_p h key) f) hw

theorem Base.side {db : DB} {key : Nat} {base : W} (b : Base db key base) (hdb : DBI db) : DBside base := by
  rcases b with rfl | rfl
  · exact hdb.openKey key
  · exact hdb.enter key

theorem Sect.node {data : Option Bytes} {db : DB} {key : Nat} {w' : W} (s : Sect data db key w') :
    ∃ base, Base db key base ∧ Fr base w' ∧ ∀ full, DBI db → (full → ∀ k ∈ db.keys, KeyTight k) →
      TightF full w' ∧ (base.gone = false → Node data full true base w' none) := by
  cases s with
  | lock c =>
    have g := (classifyLock_facts db c data).guard
    refine ⟨lockBase db c (classifyLock db c data), by unfold Base; cases classifyLock db c data <;> simp [lockBase],
      applyLock_fr db c data _, fun full hdb ht => ?_⟩
    obtain ⟨n, hs⟩ := applyLock_node full db hdb ht c data _ g
    exact ⟨n.tight hs, fun _ => n⟩
  | unlock c =>
    have g := (classifyUnlock_facts db c).guard
    refine ⟨_, Or.inl rfl, applyUnlock_fr db c data _, fun full hdb ht => ?_⟩
    obtain ⟨n, hs⟩ := applyUnlock_node full db hdb ht c data _ g
    exact ⟨n.tight hs, fun _ => n⟩
  | sweep s =>
    have f := (s.chain (data := data)).fr
    refine ⟨_, Or.inl rfl, f, fun full hdb ht => ?_⟩
    cases hg : (db.openKey key).gone with
    | true =>
      have hg' := f.gone hg
      exact ⟨⟨fun h' => absurd (hg' ▸ h') (by simp), fun _ h' => absurd (hg' ▸ h') (by simp)⟩, fun h' => absurd h' (by simp)⟩
    | false =>
      have n0 : Node data full true (db.openKey key) (db.openKey key) none := .start (fun _ => Wk.openKey hdb ht key) (gw_openKey db key)
      have s0 : Set full (db.openKey key) := fun hf => settled_openKey (ht hf) key
      have r : Node data full true (db.openKey key) w' none ∧ Set full w' := by
        cases s with
        | visitT slot e _ hv => exact n0.visitTimeout s0 hg slot e.rid hv
        | collectT e _ => exact ⟨n0.collectT e.rid, fun hf _ => recs_ne_of_ids (ids_modRec _ e.rid _) (s0 hf hg)⟩
        | visitE slot e _ hv => exact n0.visitExpire s0 hg slot e.rid hv
        | fireT e => exact n0.fireTimeout s0 hg e.rid
        | fireE e => exact n0.fireExpire s0 hg e.rid
      exact ⟨r.1.tight r.2, fun _ => r.1⟩

end Slock.Engine2
