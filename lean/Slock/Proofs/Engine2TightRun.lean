import Slock.Proofs.Engine2Node
/-! Stage-2 engine: the reference counts are exact (`run_dbi`) and nothing leaks (`run_dbt`) in every reachable state. Both levels
are carried through the sections together: `DBF full db` is `DBI db` and — if `full` — `KeyTight` of every key record (graded as `Wk`,
`TightF` are), so `DBF False` is `DBI`, `DBF True` is `DBT`. -/
namespace Slock.Engine2

def DBF (full : Prop) (db : DB) : Prop := DBI db ∧ (full → ∀ k ∈ db.keys, KeyTight k)


theorem LvG.wake {w : W} (l : LvG w zero) : LvG w.wake zero := fun hg' =>
  have hg := gone_of_fr (Fr.wake w) hg'
  (((Node.start (data := none) (full := False) (fun _ => Wk.of_lv (l hg)) (GW.of_live hg)).wake (fun f => f.elim)).1.wk hg').lv

theorem LvG.fireTimeout {w : W} (l : Lv w zero) (rid : Nat) : LvG (w.fireTimeout rid) zero := fun hg' =>
  have hg := gone_of_fr (W.fireTimeout_fr w rid) hg'
  (((Node.start (data := none) (full := False) (fun _ => Wk.of_lv l) (GW.of_live hg)).fireTimeout (fun f => f.elim) hg rid).1.wk hg').lv

theorem LvG.fireExpire {w : W} (l : Lv w zero) (rid : Nat) : LvG (w.fireExpire rid) zero := fun hg' =>
  have hg := gone_of_fr (W.fireExpire_fr w rid) hg'
  (((Node.start (data := none) (full := False) (fun _ => Wk.of_lv l) (GW.of_live hg)).fireExpire (fun f => f.elim) hg rid).1.wk hg').lv

theorem DBF.sect {full : Prop} {data : Option Bytes} {db : DB} {key : Nat} {w' : W} (h : DBF full db) (s : Sect data db key w') : DBF full w'.commit :=
  have ⟨_, b, f, hn⟩ := s.node
  have t := (hn full h.1 h.2).1
  ⟨DBI.commit ((b.side h.1).of_fr f) (fun hg => (t.1 hg).lv.toKeyOK),
    fun hf => b.commit f h.1 (h.2 hf) (fun hg => ⟨((t.1 hg).nz hf).nz, t.2 hf hg, (t.1 hg).cur hf⟩)⟩

theorem DBF.of_keys {full : Prop} {db db' : DB} (h : DBF full db) (h1 : db'.keys = db.keys) (h2 : db'.keyCount = db.keyCount)
    (h3 : db'.nextRid = db.nextRid) : DBF full db' := ⟨h.1.of_keys h1 h2 h3, fun hf => h1 ▸ h.2 hf⟩

theorem step_df (full : Prop) (db : DB) (o : Op) (h : DBF full db) : DBF full (step db o).1 :=
  step_sect (fun _ _ _ s h => h.sect s) (fun _ _ _ _ h => h.of_keys rfl rfl rfl) (fun _ _ h => h.of_keys rfl rfl rfl) h

theorem DBI.toF {db : DB} (h : DBI db) : DBF False db := ⟨h, False.elim⟩

theorem run_dbi (db : DB) (ops : List Op) (h : DBI db) : DBI (run db ops) := run_inv ops (fun d o _ h => (step_df False d o h.toF).1) db h

structure DBT (db : DB) : Prop where
  dbi : DBI db
  tight : ∀ k ∈ db.keys, KeyTight k

theorem DBT.init (now aofTime : Nat) : DBT (DB.init now aofTime) := ⟨DBI.init now aofTime, by simp [DB.init]⟩

theorem DBT.toF {db : DB} (h : DBT db) : DBF True db := ⟨h.dbi, fun _ => h.tight⟩
theorem DBT.ofF {db : DB} (h : DBF True db) : DBT db := ⟨h.1, h.2 trivial⟩

theorem DBT.sect {data : Option Bytes} {db : DB} {key : Nat} {w' : W} (h : DBT db) (s : Sect data db key w') : DBT w'.commit := .ofF (h.toF.sect s)
theorem DBT.of_keys {db db' : DB} (h : DBT db) (h1 : db'.keys = db.keys) (h2 : db'.keyCount = db.keyCount) (h3 : db'.nextRid = db.nextRid) :
    DBT db' := .ofF (h.toF.of_keys h1 h2 h3)

/-- every reachable state: counts exact, no record at count 0, no key record without a lock record -/
theorem run_dbt (db : DB) (ops : List Op) (h : DBT db) : DBT (run db ops) := run_inv ops (fun d o _ h => .ofF (step_df True d o h.toF)) db h

end Slock.Engine2
