import Slock.Proofs.ReplPop
/-!
One queue and named cursors: the system invariant `SysInv` and its preservation along every guarded operation sequence
(induction over the list — any length).
-/
namespace Slock.Repl

theorem getC_setC (cs : List (Nat × Cursor)) (n m : Nat) (c : Cursor) :
    getC (setC cs n c) m = if m = n then some c else getC cs m := by
  induction cs with
  | nil => simp only [setC, getC, eq_comm]
  | cons p cs ih =>
    obtain ⟨k, d⟩ := p
    by_cases hk : k = n
    · subst hk; simp only [setC, getC, if_pos, eq_comm]; split <;> rfl
    · simp only [setC, getC, if_neg hk, ih]
      by_cases h : k = m
      · subst h; simp only [if_pos, if_neg hk]
      · simp only [if_neg h]

structure SysInv (A : Nat) (s : Sys) (hist : List (Nat × Nat × Nat)) : Prop where
  q : Inv A s.q hist
  cur : ∀ n c, getC s.cs n = some c → CurOk s.q c ∧ CurHas s.q c

/-- side condition of the operations: `RemovePoll` only undoes an earlier `AddPoll` (the uint32 `pollCount` does not wrap below 0).
`AddPoll` needs none: it does not walk from a recycled item (`addStart`). -/
def OpOk (s : Sys) : Op → Prop
  | .rm _ => 0 < s.q.pollCount
  | _ => True

def Guarded (s : Sys) : List Op → Prop
  | [] => True
  | op :: ops => OpOk s op ∧ Guarded (step s op).1 ops

instance (s : Sys) (op : Op) : Decidable (OpOk s op) := by
  cases op <;> unfold OpOk <;> exact inferInstance

instance guardedDec : (s : Sys) → (ops : List Op) → Decidable (Guarded s ops)
  | _, [] => isTrue trivial
  | s, op :: ops => @instDecidableAnd _ _ _ (guardedDec (step s op).1 ops)

def addsOf : Op → Nat
  | .add _ => 1
  | _ => 0

def numAdds : List Op → Nat
  | [] => 0
  | op :: ops => addsOf op + numAdds ops

def pushOf : Op → List (Nat × Nat × Nat)
  | .push id ord dlen => [(id, ord, dlen)]
  | _ => []

theorem pushedOf_cons (op : Op) (ops : List Op) : pushedOf (op :: ops) = pushOf op ++ pushedOf ops := by
  cases op <;> rfl

theorem sysInv_init (b m : Nat) : SysInv 0 (Sys.init b m) [] :=
  ⟨inv_new b m, fun _ _ h => nomatch h⟩

theorem SysInv.setQ {A B s hist} {q' : Q} (h : SysInv A s hist) (hq : Inv B q' hist) (hs : QSame s.q q') :
    SysInv B { s with q := q' } hist :=
  ⟨hq, fun m d hd => ⟨hs.curOk (h.cur m d hd).1, hs.curHas (h.cur m d hd).2⟩⟩

theorem SysInv.set {A B s hist} {q' : Q} {c : Cursor} (h : SysInv A s hist) (hq : Inv B q' hist) (hs : QSame s.q q')
    (n : Nat) (h1 : CurOk q' c) (h2 : CurHas q' c) : SysInv B ⟨q', setC s.cs n c⟩ hist := by
  refine ⟨hq, fun m d hd => ?_⟩
  rw [show getC (Sys.mk q' (setC s.cs n c)).cs m = _ from getC_setC ..] at hd
  by_cases hm : m = n
  · rw [if_pos hm] at hd; cases hd; exact ⟨h1, h2⟩
  · rw [if_neg hm] at hd; exact (h.setQ hq hs).cur m d hd

/-- `Pop`, `Head`, `Search` on cursor `n`: it takes a linked item, or stays as it was -/
theorem SysInv.read {A s hist n c w} (h : SysInv A s hist) (hg : getC s.cs n = some c) (r : PopRes × Cursor)
    (hok : r.1 = .ok → Took s.q hist r.2 w) (hfail : r.1 ≠ .ok → r.2 = c) :
    SysInv A { s with cs := setC s.cs n r.2 } hist := by
  by_cases hr : r.1 = .ok
  · exact h.set h.q (QSame.refl _) n (hok hr).cur (hok hr).has
  · rw [hfail hr]; exact h.set h.q (QSame.refl _) n (h.cur n c hg).1 (h.cur n c hg).2

theorem step_inv {A s hist} (h : SysInv A s hist) (op : Op) (hok : OpOk s op) (hA : A + addsOf op < M32) :
    SysInv (A + addsOf op) (step s op).1 (hist ++ pushOf op) := by
  cases op <;> simp only [step, pushOf, List.append_nil, addsOf, Nat.add_zero]
  case push id ord dlen =>
    exact ⟨push_inv h.q id ord dlen,
      fun n c hc => ⟨push_curOk h.q (h.cur n c hc).1 id ord dlen, push_curHas id ord dlen (h.cur n c hc).2⟩⟩
  case cursor n => exact h.set h.q (QSame.refl _) n (curOk_new _) (curHas_new _)
  case add n =>
    cases getC s.cs n with
    | none => exact ⟨h.q.mono (Nat.le_succ _), h.cur⟩
    | some c => exact h.setQ (addPoll_inv h.q) (addPoll_qsame _ _)
  case rm n =>
    cases getC s.cs n with
    | none => exact h
    | some c => exact h.setQ (removePoll_inv h.q hok hA) (removePoll_qsame _ _)
  case pop n =>
    cases hg : getC s.cs n with
    | none => exact h
    | some c => exact h.read hg (pop s.q c) (fun hr => (pop_ok h.q hA (h.cur n c hg).1 hr).1) pop_fail
  case head n =>
    cases hg : getC s.cs n with
    | none => exact h
    | some c => exact h.read hg (head s.q c) (fun hr => (head_ok h.q hr).1) (fun hr => (head_fail hr).1)
  case search n id =>
    cases hg : getC s.cs n with
    | none => exact h
    | some c => exact h.read hg (search s.q id c) (fun hr => (search_ok h.q hr).1) search_fail
  case ack n =>
    cases hg : getC s.cs n with
    | none => exact h
    | some c =>
      simp only []
      cases ha : ack s.q c with
      | none => exact h
      | some r =>
        obtain ⟨q', c', b⟩ := r
        have hs := ack_qsame ha
        cases (ack_spec ha).2.2.2.2
        -- the cursor changed in `writed` only, which neither cursor invariant looks at
        exact h.set (ack_inv h.q ha) hs n (hs.curOk (h.cur n c hg).1) (hs.curHas (h.cur n c hg).2)

theorem run_inv {A s hist} (ops : List Op) (h : SysInv A s hist) (hg : Guarded s ops) (hA : A + numAdds ops < M32) :
    SysInv (A + numAdds ops) (run s ops) (hist ++ pushedOf ops) := by
  induction ops generalizing A s hist with
  | nil => simpa [run, pushedOf, numAdds] using h
  | cons op ops ih =>
    simp only [numAdds] at hA ⊢
    have := ih (step_inv h op hg.1 (by omega)) hg.2 (by omega)
    rw [pushedOf_cons, ← List.append_assoc, ← Nat.add_assoc]
    exact this

end Slock.Repl
