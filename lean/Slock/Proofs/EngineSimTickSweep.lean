import Slock.Proofs.EngineSimTickStepE
import Slock.Proofs.EngineSimTickCorr
import Slock.Proofs.EngineSimTickKTTick
/-! Clock-tick simulation (`sim_tick`): the timeout sweep `checkTimeTimeOut(c, now)` of the record-level model is stage 1's `sweepTimeout`,
the expiry sweep `checkTimeExpried(c, now)` ON THE LEADER (no follower-side deferral) stage 1's `sweepExpire` — same replies, `abs` of the
result `Equiv` to stage 1's result: the three phases of a sweep as folds in step, started from the pairing of every live entry with its own
view. Then one second of server time (clock + 1, timeout sweep, expiry sweep) over the invariant bundles `WF` (record level) and `I1`
(stage 1). -/
namespace Slock.SimTick
open Slock Slock.Sim Slock.Engine2
open Slock.Engine (sortBySeq)

theorem slotWaiters_eq (a : Engine.DB) (c : Nat) :
    Engine.slotWaiters a c = sortBySeq (·.sched.seq) ((Engine.allWaiters a).filter (fun w => slotP c w.sched)) := rfl
theorem longWaiters_eq (a : Engine.DB) (c : Nat) :
    Engine.longWaiters a c = sortBySeq (·.sched.seq) ((Engine.allWaiters a).filter (fun w => longP c w.sched)) := rfl

theorem sweepTimeout2_eq (s : DB) (c : Nat) :
    sweepTimeout s c = (((tEntries s (longP c)).foldl (timeoutStep false) ((tEntries s (slotP c)).foldl (timeoutStep true) (s, []))).2.foldl fireTimeoutStep
      (((tEntries s (longP c)).foldl (timeoutStep false) ((tEntries s (slotP c)).foldl (timeoutStep true) (s, []))).1, [])) := rfl

theorem sweepTimeout1_eq (a : Engine.DB) (c : Nat) :
    Engine.sweepTimeout a c = ((((Engine.slotWaiters a c).foldl Engine.timeoutStep (a, [])).2 ++ Engine.longWaiters a c).foldl Engine.fireTimeoutStep
      (((Engine.slotWaiters a c).foldl Engine.timeoutStep (a, [])).1, [])) := rfl

theorem pass1T (L todo : List (Ent × Option Engine.Waiter)) (x2 : DB × List Ent) (x1 : Engine.DB × List Engine.Waiter) (h : PassT [] (L ++ todo) x2 x1) :
    PassT [] todo ((L.map (·.1)).foldl (timeoutStep true) x2) (((L.map (·.2)).filterMap id).foldl Engine.timeoutStep x1) :=
  pass_foldl _ _ (fun rest => PassT [] (rest ++ todo)) (fun p _ => slotT_step p _) L x2 x1 h

/-- stage 1 does nothing; the collected requests lose their `long` flag on the record level -/
theorem passLT (L : List (Ent × Option Engine.Waiter)) (x2 : DB × List Ent) (x1 : Engine.DB × List Engine.Waiter) (h : PassTN L x2 x1) :
    PassTN [] ((L.map (·.1)).foldl (timeoutStep false) x2) (x1.1, x1.2 ++ (L.map (·.2)).filterMap id) := by
  have := pass_foldl _ _ PassTN longT_step L x2 x1 h
  rw [foldl_collect] at this
  exact this

theorem fireT_sim (L : List (Ent × Engine.Waiter)) (x2 : DB × List Reply) (x1 : Engine.DB × List Engine.Reply) (h : FireTN L x2 x1) :
    FireTN [] ((L.map (·.1)).foldl fireTimeoutStep x2) ((L.map (·.2)).foldl Engine.fireTimeoutStep x1) :=
  sim_foldl _ _ FireTN fireT_step L x2 x1 h

theorem fireT_fold (PP : List (Ent × Engine.Waiter)) : ∀ (x2 : DB × List Reply) (x1 : Engine.DB × List Engine.Reply) (S : List WId),
    WF x2.1 → I1 x1.1 → EqL S (Engine2.abs x2.1) x1.1 → x2.2.map (·.r) = x1.2 → (∀ p ∈ PP, PT x2.1 p.1 p.2) →
    (∀ i ∈ S, ∃ p ∈ PP, rcId p.2.cmd.key p.2 = i) →
    WF ((PP.map (·.1)).foldl fireTimeoutStep x2).1 ∧ I1 ((PP.map (·.2)).foldl Engine.fireTimeoutStep x1).1 ∧
    Equiv (Engine2.abs ((PP.map (·.1)).foldl fireTimeoutStep x2).1) ((PP.map (·.2)).foldl Engine.fireTimeoutStep x1).1 ∧
    ((PP.map (·.1)).foldl fireTimeoutStep x2).2.map (·.r) = ((PP.map (·.2)).foldl Engine.fireTimeoutStep x1).2 := by
  intro x2 x1 S sy i1 he ho hp hS
  obtain ⟨S', h, hS'⟩ := fireT_sim PP x2 x1 ⟨S, ⟨sy, i1, he, ho, hp⟩, fun i hi => have ⟨p, hp, e⟩ := hS i hi; ⟨p.2, List.mem_map.mpr ⟨p, hp, rfl⟩, e⟩⟩
  obtain rfl := names_nil hS'
  exact ⟨h.wf, h.i1, h.eq.equiv, h.out⟩

/-- at the start of a sweep every live entry is paired with its own view -/
theorem pairs_pendT {s : DB} {a : Engine.DB} (sy : WF s) (i1 : I1 a) (he : Equiv (Engine2.abs s) a) (L : List Ent) :
    ∀ p ∈ pairs liveT viewT s L, Matched PT (fun s e => liveT s e = false) atT s a p := by
  intro p hp
  obtain ⟨e, _, rfl⟩ := List.mem_map.mp hp
  unfold Matched
  cases hl : liveT s e with
  | false => exact hl
  | true =>
    have pt := PT.of_live sy.dbkt (k1_of_equiv sy he i1 e.key) hl
    refine ⟨pt, ?_⟩
    show viewT s e ∈ _
    rw [pt.key, ← he.keys e.key, abs_getKey s sy.dbq.dbt.dbi.kn e.key]
    exact liveT_mem sy.dbkt hl

theorem sim_sweepT (s : DB) (a : Engine.DB) (c : Nat) (sy : WF s) (i1 : I1 a) (he : Equiv (Engine2.abs s) a) :
    WF (sweepTimeout s c).1 ∧ I1 (Engine.sweepTimeout a c).1 ∧ Equiv (Engine2.abs (sweepTimeout s c).1) (Engine.sweepTimeout a c).1 ∧
    (sweepTimeout s c).2.map (·.r) = (Engine.sweepTimeout a c).2 := by
  have h := sweep_sim (L2 := pairs liveT viewT s (tEntries s (longP c))) (R1 := fun rest => PassT [] (rest ++ pairs liveT viewT s (tEntries s (longP c))))
    (R2 := PassTN) (R3 := FireTN) (pass1T (pairs liveT viewT s (tEntries s (slotP c))) _) (passLT _) fireT_sim
    (fun x2 x1 h => ⟨[], h, fun _ hi => absurd hi (by simp)⟩)
    (fun x2 x1 ⟨S, h, hS⟩ => ⟨h.len, S, ⟨h.wf, h.i1, h.eq, rfl, h.coll⟩, by rw [List.map_snd_zip (Nat.le_of_eq h.len.symm)]; exact hS⟩)
    (s := s) (a := a) ⟨sy, i1, EqL.of_equiv he, rfl, by simp, fun p hp => pairs_pendT sy i1 he _ p (by rw [pairs, pairs, ← List.map_append] at hp; exact hp), by
      rw [pairs, pairs, ← List.map_append, List.map_map]
      exact sweep_nodup sy.dbq.dbt.dbi c⟩
  rw [pairs_fst, pairs_fst, pairs_snd, pairs_snd, ← corrT s sy a he i1, ← corrT s sy a he i1, ← slotWaiters_eq, ← longWaiters_eq,
    ← sweepTimeout2_eq, ← sweepTimeout1_eq] at h
  obtain ⟨S, h, hS⟩ := h
  obtain rfl := names_nil hS
  exact ⟨h.wf, h.i1, h.eq.equiv, h.out⟩

theorem slotHolds_eq (a : Engine.DB) (c : Nat) :
    Engine.slotHolds a c = sortBySeq (·.sched.seq) ((Engine.allHolds a).filter (fun x => slotP c x.sched)) := rfl
theorem longHolds_eq (a : Engine.DB) (c : Nat) :
    Engine.longHolds a c = sortBySeq (·.sched.seq) ((Engine.allHolds a).filter (fun x => longP c x.sched)) := rfl

theorem sweepExpire2_eq (s : DB) (c : Nat) :
    sweepExpire s c = (((eEntries s (longP c)).foldl (expireStep false) ((eEntries s (slotP c)).foldl (expireStep true) (s, []))).2.foldl fireExpireStep
      (((eEntries s (longP c)).foldl (expireStep false) ((eEntries s (slotP c)).foldl (expireStep true) (s, []))).1, [])) := rfl

theorem sweepExpire1_eq (a : Engine.DB) (c : Nat) :
    Engine.sweepExpire a c = ((((Engine.slotHolds a c).foldl Engine.expireStep (a, [])).2 ++ Engine.longHolds a c).foldl Engine.fireExpireStep
      (((Engine.slotHolds a c).foldl Engine.expireStep (a, [])).1, [])) := rfl

/-- `PassE` on the leader. The leader premise of the expiry sweep enters here and in `FireEL`, as a conjunct beside the relation; it is
used once, in `fireE_step_abs`, to discharge `deferExpiry = false` — `sim_fireE_live` and everything below take that as a hypothesis -/
def PassEL (todo : List (Ent × Option Engine.Hold)) (x2 : DB × List Ent) (x1 : Engine.DB × List Engine.Hold) : Prop :=
  PassE [] todo x2 x1 ∧ x2.1.leader = true

theorem pass1E (L todo : List (Ent × Option Engine.Hold)) (x2 : DB × List Ent) (x1 : Engine.DB × List Engine.Hold) (h : PassEL (L ++ todo) x2 x1) :
    PassEL todo ((L.map (·.1)).foldl (expireStep true) x2) (((L.map (·.2)).filterMap id).foldl Engine.expireStep x1) :=
  pass_foldl _ _ (fun rest => PassEL (rest ++ todo))
    (fun p _ x2 x1 h => ⟨slotE_step p _ x2 x1 h.1, (expireStep_leader true x2.1 x2.2 p.1).trans h.2⟩) L x2 x1 h

theorem passLE (L : List (Ent × Option Engine.Hold)) (x2 : DB × List Ent) (x1 : Engine.DB × List Engine.Hold) (h : PassEL L x2 x1) :
    PassEL [] ((L.map (·.1)).foldl (expireStep false) x2) (x1.1, x1.2 ++ (L.map (·.2)).filterMap id) := by
  have := pass_foldl _ _ PassEL (fun p rest x2 x1 h => ⟨longE_step p _ x2 x1 h.1, (expireStep_leader false x2.1 x2.2 p.1).trans h.2⟩) L x2 x1 h
  rw [foldl_collect] at this
  exact this

/-- `FireR` of the expiry wheel on the leader (see `PassEL`) -/
def FireEL (todo : List (Ent × Engine.Hold)) (x2 : DB × List Reply) (x1 : Engine.DB × List Engine.Reply) : Prop :=
  FireR PE [] todo x2 x1 ∧ x2.1.leader = true

theorem fireE_sim (L : List (Ent × Engine.Hold)) (x2 : DB × List Reply) (x1 : Engine.DB × List Engine.Reply) (h : FireEL L x2 x1) :
    FireEL [] ((L.map (·.1)).foldl fireExpireStep x2) ((L.map (·.2)).foldl Engine.fireExpireStep x1) :=
  sim_foldl _ _ FireEL fireE_step L x2 x1 h

theorem fireE_fold (PP : List (Ent × Engine.Hold)) : ∀ (x2 : DB × List Reply) (x1 : Engine.DB × List Engine.Reply),
    WF x2.1 → I1 x1.1 → Equiv (Engine2.abs x2.1) x1.1 → x2.2.map (·.r) = x1.2 → (∀ p ∈ PP, PE x2.1 p.1 p.2) → x2.1.leader = true →
    WF ((PP.map (·.1)).foldl fireExpireStep x2).1 ∧ I1 ((PP.map (·.2)).foldl Engine.fireExpireStep x1).1 ∧
    Equiv (Engine2.abs ((PP.map (·.1)).foldl fireExpireStep x2).1) ((PP.map (·.2)).foldl Engine.fireExpireStep x1).1 ∧
    ((PP.map (·.1)).foldl fireExpireStep x2).2.map (·.r) = ((PP.map (·.2)).foldl Engine.fireExpireStep x1).2 := by
  intro x2 x1 sy i1 he ho hp hld
  have h := (fireE_sim PP x2 x1 ⟨⟨sy, i1, EqL.of_equiv he, ho, hp⟩, hld⟩).1
  exact ⟨h.wf, h.i1, h.eq.equiv, h.out⟩

theorem pairs_pendE {s : DB} {a : Engine.DB} (sy : WF s) (i1 : I1 a) (he : Equiv (Engine2.abs s) a) (L : List Ent)
    (hL : ∀ e ∈ L, (s.getKey e.key).hasE e.rid = true) :
    ∀ p ∈ pairs liveE viewE s L, Matched PE (fun s e => liveE s e = false ∧ liveT s e = false) atE s a p := by
  intro p hp
  obtain ⟨e, hm, rfl⟩ := List.mem_map.mp hp
  unfold Matched
  cases hl : liveE s e with
  | false =>
    refine ⟨hl, (liveT_false_iff s e).mpr ?_⟩
    -- a record with an expiry-wheel entry is not a live queued request
    have hs := hasE_spec _ e.rid (hL e hm)
    have g := Good.openKey sy.dbq.dbt.dbi sy.dbq.dbt.tight e.key
    cases ht : ((s.getKey e.key).getR e.rid).timeouted with
    | true => rfl
    | false =>
      have : ((s.getKey e.key).getR e.rid).eSched.isSome = false := g.lv.side.ok _ (getR_mem hs.1) ht
      rw [hs.2] at this; exact absurd this (by simp)
  | true =>
    have pe := PE.of_live sy (k1_of_equiv sy he i1 e.key) hl
    refine ⟨pe, ?_⟩
    show viewE s e ∈ _
    rw [pe.key, ← he.keys e.key, abs_getKey s sy.dbq.dbt.dbi.kn e.key]
    exact (liveE_facts sy hl).2.2

theorem sim_sweepE (s : DB) (a : Engine.DB) (c : Nat) (sy : WF s) (i1 : I1 a) (he : Equiv (Engine2.abs s) a) (hld : s.leader = true) :
    WF (sweepExpire s c).1 ∧ I1 (Engine.sweepExpire a c).1 ∧ Equiv (Engine2.abs (sweepExpire s c).1) (Engine.sweepExpire a c).1 ∧
    (sweepExpire s c).2.map (·.r) = (Engine.sweepExpire a c).2 := by
  have hE : ∀ p, ∀ e ∈ eEntries s p, (s.getKey e.key).hasE e.rid = true := by
    intro p e hm
    rw [eEntries_eq, Engine.mem_sortBySeq_iff, mem_rawE sy.dbq.dbt.dbi] at hm
    obtain ⟨sc, hh, hs, _⟩ := hm
    unfold Key.hasE
    rw [(any_iff_hasRec _ _).mpr hh, hs]; rfl
  have h := sweep_sim (L2 := pairs liveE viewE s (eEntries s (longP c))) (R1 := fun rest => PassEL (rest ++ pairs liveE viewE s (eEntries s (longP c))))
    (R2 := PassEL) (R3 := FireEL) (pass1E (pairs liveE viewE s (eEntries s (slotP c))) _) (passLE _) fireE_sim (fun x2 x1 h => h)
    (fun x2 x1 ⟨h, hl⟩ => ⟨h.len, ⟨h.wf, h.i1, h.eq, rfl, h.coll⟩, hl⟩)
    (s := s) (a := a) ⟨⟨sy, i1, EqL.of_equiv he, rfl, by simp, fun p hp =>
        pairs_pendE sy i1 he (eEntries s (slotP c) ++ eEntries s (longP c)) (fun e hm => (List.mem_append.mp hm).elim (hE _ e) (hE _ e)) p
          (by rw [pairs, pairs, ← List.map_append] at hp; exact hp), by
      rw [pairs, pairs, ← List.map_append, List.map_map]
      exact sweep_nodup sy.dbq.dbt.dbi c⟩, hld⟩
  rw [pairs_fst, pairs_fst, pairs_snd, pairs_snd, ← corrE s sy a he i1, ← corrE s sy a he i1, ← slotHolds_eq, ← longHolds_eq,
    ← sweepExpire2_eq, ← sweepExpire1_eq] at h
  exact ⟨h.1.wf, h.1.i1, h.1.eq.equiv, h.1.out⟩

theorem sim_tick_core (s : DB) (a : Engine.DB) (sy : WF s) (i1 : I1 a) (he : Equiv (Engine2.abs s) a) (hld : s.leader = true) :
    WF (opTick s).1 ∧ I1 (Engine.opTick a).1 ∧ Equiv (Engine2.abs (opTick s).1) (Engine.opTick a).1 ∧
    (opTick s).2.map (·.r) = (Engine.opTick a).2 := by
  have hnow : s.now = a.now := he.now
  rw [opTick2_eq, Engine.opTick_eq, midTick_eq, ← hnow]
  dsimp only
  obtain ⟨t1, t2, t3, t4⟩ := sim_sweepT (clockT2 s) (Engine.tick0 a) (s.now + 1) sy.clockT2 i1.clockT (equiv_clockT2 he)
  have hl1 := (clockE2_leader _ (s.now + 1)).trans ((sweepTimeout_journal (clockT2 s) (s.now + 1)).1.trans hld)
  obtain ⟨u1, u2, u3, u4⟩ := sim_sweepE _ _ (s.now + 1) (t1.clockE2 (s.now + 1)) (t2.clockE (s.now + 1))
    (equiv_clockE2 t3 (s.now + 1)) hl1
  exact ⟨u1, u2, u3, by rw [List.map_append, t4, u4]⟩

end Slock.SimTick
