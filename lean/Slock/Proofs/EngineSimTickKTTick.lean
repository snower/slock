import Slock.Proofs.EngineSimTickKTWake
import Slock.Proofs.EngineSimTickClock
import Slock.Proofs.Engine2SimKeyRun
/-! `KT` of the working state through every `Move` (`WT.move`). `DBQ`, `DBS` and `DBKT` together (`WF`) hold in every reachable state:
every critical section keeps them, so each step of a sweep and each step of a run does. -/
namespace Slock.SimTick
open Slock Slock.Sim Slock.Engine2
open Slock.Engine (has)

/-- a new lock record (tombstoned, depth 0, in no queue) -/
theorem WT.newLock {w : W} (h : WT w) (c : Engine.Cmd) (d : Option Bytes) : WT (w.newLock c d).1 := by
  have hr : w.k.hasRec w.db.nextRid ∧ (w.newLock c d).1.k.getR w.db.nextRid = w.k.getR w.db.nextRid ∨
      (w.newLock c d).1.k.getR w.db.nextRid = newRec w.db.nextRid w.db.now c d := by
    by_cases hh : w.k.hasRec w.db.nextRid
    · exact Or.inl ⟨hh, getR_addRec w.k _ _ hh⟩
    · exact Or.inr (getR_addRec_same w.k (newRec w.db.nextRid w.db.now c d) hh)
  refine h.tk (XW := (· = w.db.nextRid)) (XH := (· = w.db.nextRid))
    ⟨rfl, PKeepX.addRec w.k _ rfl, PKeepX.addRec w.k _ rfl, fun _ _ _ hm => hm, fun _ _ _ hm => hm⟩ ?_ ?_
  · intro h0 y hx hl
    obtain rfl : y = _ := hx
    rcases hr with ⟨hh, eg⟩ | eg
    · rw [eg] at hl ⊢; exact ⟨h0.wq _ hh hl, (ws_iff _).mp (h0.ws _ hh hl)⟩
    · rw [eg] at hl; exact absurd hl (by simp [newRec])
  · intro h0 y hx hd
    obtain rfl : y = _ := hx
    rcases hr with ⟨hh, eg⟩ | eg
    · rw [eg] at hd; exact h0.hq _ hh hd
    · rw [eg] at hd; exact absurd hd (by simp [newRec])

theorem WT.move {full : Prop} {e : Eff} {a b : W} (p : Move full e a b) (h : WT a) : WT b := by
  cases p with
  | quiet d => exact h.tk_nox d.tk
  | removeIfZero _ => exact h.removeIfZero
  | newLock _ l c d => exact h.newLock c d
  | tomb _ rid => exact h.tomb rid
  | edit _ _ e _ _ hid ht _ hw => exact h.edit e (fun d => (hid d).1) ht hw
  | rearmT _ rid hl =>
    exact h.armT_after rid (TK.modR a rid bumpT (fun _ => rfl) (Or.inl rfl) (Or.inr fun _ => rfl)) fun h0 => h0.wq rid (hasRec_of_liveWaiter hl) hl
  | enqueue _ rid _ _ _ => exact WT.armT_after (w := a.modK (·.addWaitLock rid)) (h.tk_nox ⟨rfl, ktk_addWaitLock _ _⟩) rid (TK.refl _) (fun _ => addWaitLock_self _ _)
  | grant _ rid _ _ _ => exact h.grant rid
  | getWaitLock _ => exact h.getWaitLock
  | settleWait _ => exact h.settleWait
  | removeLock _ rid => exact h.removeLock rid
  | clearWaited _ _ => exact h.tk_nox (TK.modK _ clearWaited rfl rfl)

theorem DBKT.commit (w0 w : W) (f : Fr w0 w) (ho0 : ∀ k ∈ w0.db.keys, k.key ≠ w0.k.key → KT k) (hs : DBside w) (hw : WT w) : DBKT w.commit :=
  commit_p (P := KT) hs (others_of_fr ho0 f) hw

theorem kt_closed : KeyClosed (fun q k => KI q k ∧ KT k) :=
  .of_move (fun q n => ⟨KI.newKey q n, KT.newKey n⟩) (fun h hle => ⟨KI.mono h.1 hle, h.2⟩) (fun h => h.1) (I := fun w => WI w ∧ WT w)
    (fun _ h => ⟨h.1, fun _ => h.2⟩) (fun _ h hg => ⟨h.1, h.2 hg⟩) (fun _ _ _ p h => ⟨WI.move p h.1, WT.move p h.2⟩)

/-- all that is proved of the key records of a reachable state; the sweeps of a tick carry it -/
structure WF (s : DB) : Prop where
  dbq : DBQ s
  dbs : DBS s
  dbkt : DBKT s

theorem WF.dbk {s : DB} (h : WF s) : DBK s := fun k hk => (h.dbs k hk).ki

theorem WF.of_keys {s s' : DB} (h : WF s) (h1 : s'.keys = s.keys) (h2 : s'.keyCount = s.keyCount) (h3 : s'.nextRid = s.nextRid) (h4 : s'.seq = s.seq) : WF s' :=
  ⟨h.dbq.of_keys h1 h2 h3, DBP.of_keys (KP := KS) h.dbs h1 h4, h.dbkt.of_keys h1⟩
theorem WF.clockT2 {s : DB} (h : WF s) : WF (clockT2 s) := h.of_keys rfl rfl rfl rfl
theorem WF.clockE2 {s : DB} (h : WF s) (now : Nat) : WF (clockE2 s now) := h.of_keys rfl rfl rfl rfl

theorem WF.sect {data : Option Bytes} {s : DB} {key : Nat} {w' : W} (h : WF s) (sc : Sect data s key w') : WF w'.commit :=
  have hdb := h.dbq.dbt.dbi
  ⟨h.dbq.sect sc, ks_closed.sect hdb h.dbs sc, fun k hk => (kt_closed.sect hdb (fun k hk => ⟨h.dbk k hk, h.dbkt k hk⟩) sc k hk).2⟩

theorem WF.swept {s s' : DB} (m : Swept s s') (h : WF s) : WF s' := m.ind (fun _ _ _ sw h => h.sect (data := none) (.sweep sw)) h

theorem timeoutStep_wf (slot : Bool) (s : DB) (C : List Ent) (e : Ent) (h : WF s) : WF (timeoutStep slot (s, C) e).1 :=
  .swept (timeoutStep_swept slot (s, C) e .refl) h

theorem expireStep_wf (slot : Bool) (s : DB) (C : List Ent) (e : Ent) (h : WF s) : WF (expireStep slot (s, C) e).1 :=
  .swept (expireStep_swept slot (s, C) e .refl) h

theorem fireTimeoutStep_wf (s : DB) (o : List Reply) (e : Ent) (h : WF s) : WF (fireTimeoutStep (s, o) e).1 := h.sect (data := none) (.sweep (.fireT s e))

theorem fireExpireStep_wf (s : DB) (o : List Reply) (e : Ent) (h : WF s) : WF (fireExpireStep (s, o) e).1 := h.sect (data := none) (.sweep (.fireE s e))

theorem run_wf (now aofTime : Nat) (ops : List Op) : WF (run (DB.init now aofTime) ops) :=
  run_inv ops (fun _ _ _ => step_sect (fun _ _ _ sc h => h.sect sc) (fun _ _ _ _ h => h.of_keys rfl rfl rfl rfl) (fun _ _ h => h.of_keys rfl rfl rfl rfl)) _
    ⟨DBQ.init now aofTime, DBS.init now aofTime, DBKT.init now aofTime⟩

/-- `KT` alone, from any state on: it rests on `DBQ` and `KI` only -/
theorem run_dbkt (s : DB) (ops : List Op) (hq : DBQ s) (hk : DBK s) (h : DBKT s) : DBKT (run s ops) :=
  let J d := DBQ d ∧ DBP (fun q k => KI q k ∧ KT k) d
  fun k hm => ((run_inv (I := J) ops (fun _ _ _ => step_sect (J := J) (fun _ _ _ sc a => ⟨a.1.sect sc, kt_closed.sect a.1.dbt.dbi a.2 sc⟩)
    (fun _ _ _ _ a => ⟨a.1.of_keys rfl rfl rfl, a.2⟩) (fun _ _ a => ⟨a.1.of_keys rfl rfl rfl, a.2⟩)) s ⟨hq, fun k hk' => ⟨hk k hk', h k hk'⟩⟩).2 k hm).2

end Slock.SimTick
