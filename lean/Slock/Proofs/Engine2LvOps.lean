import Slock.Proofs.Engine2LvW
/-! Stage-2 engine: opening an operation on one key record, what the classification guarantees about the records it names, the
sweeper's entry tests, and the first half of a wake-up at the level of the reference counts. -/
namespace Slock.Engine2
open Slock.Engine (has)

theorem create_nextRid (db : DB) (n : Nat) : (db.create n).nextRid = db.nextRid := by unfold DB.create; split <;> rfl

theorem Lv.enter {db : DB} (h : DBI db) (n : Nat) : Lv (db.enter n) zero := by
  have := (h.create n).getKey_ok n
  exact Lv.ofKeyOK (w := db.enter n) this

theorem Lv.openKey {db : DB} (h : DBI db) (n : Nat) : Lv (db.openKey n) zero := Lv.ofKeyOK (w := db.openKey n) (h.getKey_ok n)

theorem qRefs_pos_of_holder (k : Key) (h : Nat) (hm : h ∈ k.current.toList ++ k.locks) : 0 < k.qRefs h := by
  unfold Key.qRefs
  rcases List.mem_append.mp hm with h1 | h1
  · have : k.current = some h := by cases hc : k.current <;> simp [hc] at h1 ⊢; exact h1.symm
    simp [this]; omega
  · have := List.count_pos_iff.mpr h1; omega

theorem hasRec_of_holder {w : W} (l : Lv w zero) (h : Nat) (hm : h ∈ w.k.current.toList ++ w.k.locks) : w.k.hasRec h :=
  l.has (qRefs_pos_of_holder w.k h hm)

theorem qRefs_of_queues {k k' : Key} (h : k'.queues = k.queues) (x : Nat) : k'.qRefs x = k.qRefs x := by
  unfold Key.queues at h
  simp only [Prod.mk.injEq] at h
  unfold Key.qRefs; rw [h.1, h.2.1, h.2.2]

theorem keep_addWaitLock (k : Key) (rid : Nat) (hh : k.hasRec rid) (hn : (k.wait.map (·.rid)).count rid = 0) :
    (k.addWaitLock rid).hasRec rid ∧ ((k.addWaitLock rid).getR rid).tSched = (k.getR rid).tSched ∧
    ((k.addWaitLock rid).getR rid).eSched = (k.getR rid).eSched := by
  obtain ⟨h, g⟩ := addWaitLock_self k rid hh hn
  exact ⟨h, by rw [g], by rw [g]⟩

/-- a record that can be given an expiry-wheel entry: it exists, has none, and is not a live queued request -/
structure Grantable (k : Key) (rid : Nat) : Prop where
  has : k.hasRec rid
  noE : (k.getR rid).eSched = none
  tomb : (k.getR rid).timeouted = true

theorem newRec_grantable (w : W) (c : Cmd) (d : Option Bytes) (hh : (w.newLock c d).1.k.hasRec w.db.nextRid)
    (hg : (w.newLock c d).1.k.getR w.db.nextRid = newRec w.db.nextRid w.db.now c d) : Grantable (w.newLock c d).1.k w.db.nextRid :=
  ⟨hh, by rw [hg]; rfl, by rw [hg]; rfl⟩

theorem Lv.unreferenced {w : W} (l : Lv w zero) (h : Nat) (hz : (w.k.getR h).refCount = 0) : w.k.qRefs h = 0 := by
  by_cases hx : w.k.hasRec h
  · have := l.rc.refCount_of hx
    rw [hz] at this; simp only [zero] at this; omega
  · apply Classical.byContradiction
    intro hn
    exact hx (l.has (by omega))

theorem DBside.lockBase {db : DB} (h : DBI db) (c : Cmd) (b : LockBranch) : DBside (lockBase db c b) := by
  cases b <;> first | exact h.openKey c.key | exact h.enter c.key

theorem DBI.stepW {db : DB} (h : DBI db) (key : Nat) (w' : W) (f : Fr (db.openKey key) w') (hl : LvG w' zero) : DBI w'.commit :=
  DBI.commit ((h.openKey key).of_fr f) (fun hg => (hl hg).toKeyOK)

/-- the sweeper's presence check `hasT` / `hasE` (`b` = the record carries the entry) -/
theorem has_spec (k : Key) (rid : Nat) (b : Bool) (h : (k.recs.any (·.rid == rid) && b) = true) : k.hasRec rid ∧ b = true :=
  have h := Bool.and_eq_true_iff.mp h
  ⟨(any_iff_hasRec k rid).mp h.1, h.2⟩
theorem hasT_spec (k : Key) (rid : Nat) (h : k.hasT rid = true) : k.hasRec rid ∧ (k.getR rid).tSched.isSome = true := has_spec k rid _ h
theorem hasE_spec (k : Key) (rid : Nat) (h : k.hasE rid = true) : k.hasRec rid ∧ (k.getR rid).eSched.isSome = true := has_spec k rid _ h

theorem Lv.wheelBroken {w : W} (l : Lv w zero) : Lv w.wheelBroken zero := l.db rfl (Nat.le_refl _)

theorem wheel_of_t {r : Rec} (h : r.tSched.isSome = true) : 1 ≤ r.wheelRefs := by unfold Rec.wheelRefs; simp [h]
theorem wheel_of_e {r : Rec} (h : r.eSched.isSome = true) : 1 ≤ r.wheelRefs := by unfold Rec.wheelRefs; simp only [h, if_true]; omega

theorem qRefs_pos_of_wait_mem (k : Key) (x : Nat) (h : x ∈ k.wait.map (·.rid)) : 0 < k.qRefs x := by
  have : 0 < (k.wait.map (·.rid)).count x := List.count_pos_iff.mpr h
  unfold Key.qRefs; omega

theorem getR_removeLongT (w : W) (rid : Nat) (hh : w.k.hasRec rid) :
    (w.removeLongT rid).k.hasRec rid ∧ ((w.removeLongT rid).k.getR rid).eSched = (w.k.getR rid).eSched ∧
    ((w.removeLongT rid).k.getR rid).timeouted = (w.k.getR rid).timeouted ∧ ((w.removeLongT rid).k.getR rid).cmd = (w.k.getR rid).cmd :=
  have ⟨a, b⟩ := getR_unwheelUnref w.k rid (fun r => { r with tSched := none }) (fun _ => rfl) hh
  ⟨a, (congrArg Rec.eSched b :), (congrArg Rec.timeouted b :), (congrArg Rec.cmd b :)⟩

/-- a live queued request that has been marked granted (`timeouted := true`, long-table entry removed) can take its hold -/
theorem wake_prep {w : W} (h : Lv w zero) (rid : Nat) (hh : w.k.hasRec rid)
    (hd : w.k.deadWaiter rid = false) (cf : Counters → Counters) :
    Lv (((w.modR rid (fun r => { r with timeouted := true })).dropLongT rid).ctr cf) zero ∧
    Grantable (((w.modR rid (fun r => { r with timeouted := true })).dropLongT rid).ctr cf).k rid ∧
    ((((w.modR rid (fun r => { r with timeouted := true })).dropLongT rid).ctr cf).k.getR rid).cmd = (w.k.getR rid).cmd := by
  have hto : (w.k.getR rid).timeouted = false := by simpa [Key.deadWaiter] using hd
  have he : (w.k.getR rid).eSched = none := by
    have := h.side.ok _ (getR_mem hh) hto
    cases hs : (w.k.getR rid).eSched with
    | none => rfl
    | some s => rw [hs] at this; simp at this
  have l1 : Lv (w.modR rid (fun r => { r with timeouted := true })) zero := h.tombstone rid
  have hh1 : (w.modR rid (fun r => { r with timeouted := true })).k.hasRec rid := (hasRec_modR _ rid rid _).mpr hh
  have g1 : (w.modR rid (fun r => { r with timeouted := true })).k.getR rid = { (w.k.getR rid) with timeouted := true } :=
    getR_modRec_same _ _ _ hh
  have l2 := l1.dropLongT rid hh1
  have g2 : Grantable ((w.modR rid (fun r => { r with timeouted := true })).dropLongT rid).k rid ∧
      (((w.modR rid (fun r => { r with timeouted := true })).dropLongT rid).k.getR rid).cmd = (w.k.getR rid).cmd := by
    unfold W.dropLongT W.when
    split
    · obtain ⟨a, b, c, d⟩ := getR_removeLongT (w.modR rid (fun r => { r with timeouted := true })) rid hh1
      exact ⟨⟨a, by rw [b, g1]; exact he, by rw [c, g1]⟩, by rw [d, g1]⟩
    · exact ⟨⟨hh1, by rw [g1]; exact he, by rw [g1]⟩, by rw [g1]⟩
  exact ⟨l2.ctr cf, g2.1, g2.2⟩

end Slock.Engine2
