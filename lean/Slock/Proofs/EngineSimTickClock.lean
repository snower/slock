import Slock.Proofs.EngineSimCongr
/-! One second of server time, in both models: the clock moves and the timeout wheel is swept, then the expiry wheel's check time moves
and that wheel is swept. Names for the parts of stage 1's critical sections (`rearmWaiter`, `rearmHold`, `fireTimeout`, `fireExpire`), each
next to the equation that folds the section into them. -/
namespace Slock.SimTick
open Slock

section stage1
open Slock.Engine Slock.Sim

def clockE (d : DB) (now : Nat) : DB := { d with eCheck := now + 1 }

theorem midTick_eq (d : DB) : midTick d = clockE (sweepTimeout (tick0 d) (d.now + 1)).1 (d.now + 1) := rfl

theorem equiv_of_keys {a b a' b' : DB} (h : Equiv a b) (ha : a'.keys = a.keys) (hb : b'.keys = b.keys) (s : SE a' b') : Equiv a' b' :=
  Equiv.mk' s (h.ke.of_keys ha hb)

theorem equiv_clockT {a b : DB} (h : Equiv a b) : Equiv (tick0 a) (tick0 b) :=
  equiv_of_keys h rfl rfl ⟨congrArg (· + 1) h.now, congrArg (· + 1 + 1) h.now, h.eCheck, h.seq, h.leader, h.ctr⟩

theorem equiv_clockE {a b : DB} (h : Equiv a b) (now : Nat) : Equiv (clockE a now) (clockE b now) :=
  equiv_of_keys h rfl rfl ⟨h.now, h.tCheck, rfl, h.seq, h.leader, h.ctr⟩

def rearmW (tc sq : Nat) (w : Waiter) : Waiter :=
  { w with timeoutT := (wheelAdd tc sq w.timeoutT (w.sched.checked + 1)).1, sched := (wheelAdd tc sq w.timeoutT (w.sched.checked + 1)).2 }
def mapW (k : Key) (w w' : Waiter) : Key :=
  { k with waiters := k.waiters.map (fun x => if x.cmd.req == w.cmd.req && x.conn == w.conn then w' else x) }
def seqUp (d : DB) : DB := { d with seq := d.seq + 1 }

/-- the map of stage 1's `updateWaiter` -/
def replW (w w' : Engine.Waiter) (v : Engine.Waiter) : Engine.Waiter := if v.cmd.req == w.cmd.req && v.conn == w.conn then w' else v

theorem mapW_eq (k : Engine.Key) (w w' : Engine.Waiter) : mapW k w w' = { k with waiters := k.waiters.map (replW w w') } := rfl

theorem rearmWaiter_eq (d : DB) (w : Waiter) :
    rearmWaiter d w = (seqUp d).setKey (mapW (d.getKey w.cmd.key) w (rearmW d.tCheck d.seq w)) := rfl

def rearmH (ec sq : Nat) (h : Hold) : Hold :=
  { h with expT := (wheelAdd ec sq h.expT (h.sched.checked + 1)).1, sched := (wheelAdd ec sq h.expT (h.sched.checked + 1)).2 }
def replK (k : Key) (h h' : Hold) : Key := { k with holders := replaceHolder k.holders h h' }

theorem rearmHold_eq (d : DB) (h : Hold) :
    rearmHold d h = (seqUp d).setKey (replK (d.getKey h.cmd.key) h (rearmH d.eCheck d.seq h)) := rfl

def outK (k : Key) (w : Waiter) : Key :=
  { k with waiters := removeWaiter k.waiters w, waited := if (removeWaiter k.waiters w).isEmpty then false else k.waited }
def toDb (d : DB) : DB := { d with ctr := { d.ctr with waitCount := d.ctr.waitCount - 1, timeoutedCount := d.ctr.timeoutedCount + 1 } }
def toReply (k : Key) (w : Waiter) : Reply := mkReply { w.cmd with conn := w.conn } RESULT_TIMEOUT k.locked 0

theorem fireTimeout_eq (d : DB) (key : Nat) (w : Waiter) :
    fireTimeout d key w =
      ((wake (toDb d) (outK (d.getKey key) w) [toReply (d.getKey key) w]).1.setKey (wake (toDb d) (outK (d.getKey key) w) [toReply (d.getKey key) w]).2.1,
       (wake (toDb d) (outK (d.getKey key) w) [toReply (d.getKey key) w]).2.2) := rfl

def exDb (d : DB) (n : Nat) : DB := { d with ctr := { d.ctr with lockedCount := d.ctr.lockedCount - n, expriedCount := d.ctr.expriedCount + 1 } }
def exReply (k : Key) (h : Hold) : Reply := mkReply { h.cmd with conn := h.conn } RESULT_EXPRIED (k.locked - h.depth) 0

theorem fireExpire_eq (d : DB) (key : Nat) (h : Hold) :
    fireExpire d key h =
      ((wake (exDb d h.depth) (keyRel (d.getKey key) h) [exReply (d.getKey key) h]).1.setKey (wake (exDb d h.depth) (keyRel (d.getKey key) h) [exReply (d.getKey key) h]).2.1,
       (wake (exDb d h.depth) (keyRel (d.getKey key) h) [exReply (d.getKey key) h]).2.2) := rfl

theorem seqUp_se {a b : DB} (s : SE a b) : SE (seqUp a) (seqUp b) :=
  ⟨s.now, s.tCheck, s.eCheck, by show a.seq + 1 = b.seq + 1; rw [s.seq], s.leader, s.ctr⟩
theorem toDb_se {a b : DB} (s : SE a b) : SE (toDb a) (toDb b) :=
  s.withCtr fun c => { c with waitCount := c.waitCount - 1, timeoutedCount := c.timeoutedCount + 1 }
theorem exDb_se {a b : DB} (s : SE a b) (n : Nat) : SE (exDb a n) (exDb b n) :=
  s.withCtr fun c => { c with lockedCount := c.lockedCount - n, expriedCount := c.expriedCount + 1 }

end stage1

section records
open Slock.Engine2

def clockT2 (s : DB) : DB := { s with now := s.now + 1, tCheck := s.now + 1 + 1 }
def clockE2 (s : DB) (now : Nat) : DB := { s with eCheck := now + 1 }

theorem opTick2_eq (s : DB) :
    opTick s = ((sweepExpire (clockE2 (sweepTimeout (clockT2 s) (s.now + 1)).1 (s.now + 1)) (s.now + 1)).1,
      (sweepTimeout (clockT2 s) (s.now + 1)).2 ++ (sweepExpire (clockE2 (sweepTimeout (clockT2 s) (s.now + 1)).1 (s.now + 1)) (s.now + 1)).2) := rfl

theorem clockE2_leader (s : DB) (now : Nat) : (clockE2 s now).leader = s.leader := rfl
theorem equiv_clockT2 {s : DB} {a : Engine.DB} (h : Sim.Equiv (Engine2.abs s) a) : Sim.Equiv (Engine2.abs (clockT2 s)) (Engine.tick0 a) := equiv_clockT h
theorem equiv_clockE2 {s : DB} {a : Engine.DB} (h : Sim.Equiv (Engine2.abs s) a) (now : Nat) : Sim.Equiv (Engine2.abs (clockE2 s now)) (clockE a now) :=
  equiv_clockE h now

end records

end Slock.SimTick
