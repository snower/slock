import Slock.Model.Trans
/-! M-TRANS: the functions that act on one connection record (`checkClient`, `classify`, `willConn`, `relay`, the ghost
bookkeeping), each characterised once. -/
namespace Slock.Trans
open Slock.Gen

-- `early` (the leader's answer overtook `Write`'s bookkeeping) is inert throughout: `clearLatestE` ignores it (Model/Trans.lean),
-- `C10F_early_answer_harmless` says so of whole steps
variable {s : Node} {c c' : Nat} {x : Conn} {short : Bool} {q : Req} {ct : CType} {cmd : LockCmd} {m : ToClient}
  {ic : Option (Nat × Nat)} {l : Link} {n : Bool} {pre : List Fwd} {msg : LeaderMsg} {early : Bool}

def Carries (m : ToClient) (r : LockRes) : Prop := m = .lockRes r ∨ m = .textRes r ∨ m = .valueRes r

theorem carries_iff (m : ToClient) (r : LockRes) :
    Carries m r ↔ match m with | .lockRes r' | .textRes r' | .valueRes r' => r' = r | _ => False := by
  cases m <;> simp [Carries]

theorem carries_renderText (md : TextMode) (r : LockRes) : Carries (renderText md r) r := by
  cases md <;> simp [renderText, Carries]

theorem carries_inj {r r' : LockRes} (h : Carries m r) (h' : Carries m r') : r = r' := by
  rcases h with rfl | rfl | rfl <;> exact (carries_iff _ _).mp h'

theorem checkClient_some (h : checkClient s x ic = some (l, n, pre)) :
    (n = false ∧ x.link = some l ∧ pre = []) ∨
    (n = true ∧ x.link = none ∧ l = newLink ic ∧ pre = openFwd ic ∧ s.role.opens = true ∧ s.addr = .live) := by
  unfold checkClient at h
  split at h
  · cases h; exact Or.inl ⟨rfl, by assumption, rfl⟩
  · split at h
    · cases h; rename_i h1 h2; exact Or.inr ⟨rfl, h1, rfl, rfl, h2.1, h2.2⟩
    · cases h

theorem checkClient_none (h : checkClient s x ic = none) :
    x.link = none ∧ ¬(s.role.opens = true ∧ s.addr = .live) := by
  unfold checkClient at h
  split at h
  · cases h
  · split at h
    · cases h
    · exact ⟨by assumption, by assumption⟩

/-- the request reaches the transparency object -/
def Active (s : Node) (x : Conn) : Prop := x.closed = false ∧ x.awaiting = none ∧ s.role ≠ .leader

def ClassifyFacts (s : Node) (x : Conn) (short : Bool) (q : Req) : Branch → Prop
  | .ign => x.closed = true ∨ ∃ ct cmd, q = .will ct cmd
  | .busy => x.closed = false ∧ x.awaiting.isSome = true
  | .loc => x.closed = false ∧ x.awaiting = none ∧
      (s.role = .leader ∨ (x.kind = .text ∧ x.plainLoop = none ∧ short = true) ∨ q = .other ∨
       (x.kind = .text ∧ ((∃ r c, q = .init r c) ∨ ∃ r f, q = .call r f)) ∨ ∃ r, q = .call r false)
  | .refuse m => Active s x ∧
      match q with
      | .lk ct _ cmd _ =>
        (x.kind = .binary ∧ cmd.dbId = 255 ∧ m = .lockRes (localRes ct cmd C.RESULT_UNKNOWN_DB 0 0 [])) ∨
        (x.kind = .binary ∧ checkClient s x x.initCmd = none ∧ m = .lockRes (localRes ct cmd C.RESULT_STATE_ERROR 0 0 [])) ∨
        (x.kind = .text ∧ cmd.dbId = 255 ∧ m = .textErr .unknownDb) ∨
        (x.kind = .text ∧ checkClient s x none = none ∧ m = .textErr .leaderServerError)
      | .call rid fw =>
        fw = true ∧ x.kind = .binary ∧ checkClient s x x.initCmd = none ∧ m = .callRes rid C.RESULT_STATE_ERROR []
      | _ => False
  | .probed r => Active s x ∧
      match q with
      | .lk ct _ cmd rep =>
        ct = .lock ∧ x.kind = .binary ∧ ∃ lc d, probe cmd rep = some (lc, d) ∧ r = localRes .lock cmd C.RESULT_TIMEOUT lc 0 d
      | _ => False
  | .fwdLk ct cmd l n pre aw ack => Active s x ∧
      match q with
      | .lk ct' md cmd' _ => ct = ct' ∧ cmd = cmd' ∧
        ((x.kind = .binary ∧ checkClient s x x.initCmd = some (l, n, pre) ∧ aw = none ∧ ack = none) ∨
         (x.kind = .text ∧ checkClient s x none = some (l, n, pre) ∧
            ((md = .push ∧ aw = none ∧ ack = some .textOk) ∨ (md ≠ .push ∧ aw = some (cmd.rid, md) ∧ ack = none))))
      | _ => False
  | .fwdInit rid cid l n =>
      Active s x ∧ q = .init rid cid ∧ x.kind = .binary ∧ ∃ pre, checkClient s x (some (rid, cid)) = some (l, n, pre)
  | .initRefused rid cid => Active s x ∧ q = .init rid cid ∧ x.kind = .binary ∧ checkClient s x (some (rid, cid)) = none
  | .fwdCall rid l n pre => Active s x ∧ q = .call rid true ∧ x.kind = .binary ∧ checkClient s x x.initCmd = some (l, n, pre)

theorem classify_facts (s : Node) (x : Conn) (short : Bool) (q : Req) : ClassifyFacts s x short q (classify s x short q) := by
  unfold classify
  by_cases hc : x.closed = true
  · rw [if_pos hc]; exact .inl hc
  by_cases ha : x.awaiting.isSome = true
  · rw [if_neg hc, if_pos ha]; exact ⟨Bool.not_eq_true _ ▸ hc, ha⟩
  have open_ : x.closed = false ∧ x.awaiting = none := ⟨Bool.not_eq_true _ ▸ hc, Option.not_isSome_iff_eq_none.mp ha⟩
  by_cases hr : s.role = .leader
  · rw [if_neg hc, if_neg ha, if_pos hr]; exact ⟨open_.1, open_.2, .inl hr⟩
  by_cases hs : x.kind = .text ∧ x.plainLoop = none ∧ short = true
  · rw [if_neg hc, if_neg ha, if_neg hr, if_pos hs]; exact ⟨open_.1, open_.2, .inr (.inl hs)⟩
  rw [if_neg hc, if_neg ha, if_neg hr, if_neg hs]
  have act : Active s x := ⟨open_.1, open_.2, hr⟩
  cases q with
  | other => exact ⟨act.1, act.2.1, .inr (.inr (.inl rfl))⟩
  | will ct cmd => exact .inr ⟨ct, cmd, rfl⟩
  | init rid cid =>
    cases hk : x.kind <;> dsimp only
    · cases hcc : checkClient s x (some (rid, cid)) with
      | none => exact ⟨act, rfl, hk, hcc⟩
      | some p => exact ⟨act, rfl, hk, p.2.2, hcc⟩
    · exact ⟨act.1, act.2.1, .inr (.inr (.inr (.inl ⟨hk, .inl ⟨_, _, rfl⟩⟩)))⟩
  | call rid fw =>
    cases hk : x.kind <;> dsimp only
    · cases fw with
      | false => exact ⟨act.1, act.2.1, .inr (.inr (.inr (.inr ⟨_, rfl⟩)))⟩
      | true =>
        cases hcc : checkClient s x x.initCmd with
        | none => exact ⟨act, rfl, hk, hcc, rfl⟩
        | some p => exact ⟨act, rfl, hk, hcc⟩
    · exact ⟨act.1, act.2.1, .inr (.inr (.inr (.inl ⟨hk, .inr ⟨_, _, rfl⟩⟩)))⟩
  | lk ct md cmd rep =>
    cases hk : x.kind <;> dsimp only
    · by_cases hd : cmd.dbId = 255
      · rw [if_pos hd]; exact ⟨act, .inl ⟨hk, hd, rfl⟩⟩
      rw [if_neg hd]
      cases hp : (if ct = .lock then probe cmd rep else none) with
      | some p =>
        have : ct = .lock ∧ probe cmd rep = some p := by split at hp; exact ⟨‹_›, hp⟩; cases hp
        obtain ⟨rfl, hp⟩ := this
        exact ⟨act, rfl, hk, p.1, p.2, hp, rfl⟩
      | none =>
        cases hcc : checkClient s x x.initCmd with
        | none => exact ⟨act, .inr (.inl ⟨hk, hcc, rfl⟩)⟩
        | some p => exact ⟨act, rfl, rfl, .inl ⟨hk, hcc, rfl, rfl⟩⟩
    · by_cases hd : cmd.dbId = 255
      · rw [if_pos hd]; exact ⟨act, .inr (.inr (.inl ⟨hk, hd, rfl⟩))⟩
      rw [if_neg hd]
      cases hcc : checkClient s x none with
      | none => exact ⟨act, .inr (.inr (.inr ⟨hk, hcc, rfl⟩))⟩
      | some p =>
        cases md with
        | push => exact ⟨act, rfl, rfl, .inr ⟨hk, hcc, .inl ⟨rfl, rfl, rfl⟩⟩⟩
        | wait => exact ⟨act, rfl, rfl, .inr ⟨hk, hcc, .inr ⟨nofun, rfl, rfl⟩⟩⟩
        | value => exact ⟨act, rfl, rfl, .inr ⟨hk, hcc, .inr ⟨nofun, rfl, rfl⟩⟩⟩

theorem ClassifyFacts.of {b : Branch} (hb : classify s x short q = b) :
    ClassifyFacts s x short q b :=
  hb ▸ classify_facts s x short q

/-- the only acknowledgement a forwarded command is given at once is the `+OK` of a text PUSH -/
theorem classify_ack {ct cmd l n pre aw ack}
    (h : classify s x short q = .fwdLk ct cmd l n pre aw ack) : ack = none ∨ ack = some .textOk := by
  have hf := (ClassifyFacts.of h).2
  cases q with
  | lk ct' md cmd' rep =>
    rcases hf.2.2 with ⟨_, _, _, h⟩ | ⟨_, _, ⟨_, _, h⟩ | ⟨_, _, h⟩⟩
    · exact .inl h
    · exact .inr h
    · exact .inl h
  | _ => exact hf.elim

theorem classify_leader {s : Node} {x : Conn} {short : Bool} {q : Req} (h : s.role = .leader) :
    classify s x short q = .ign ∨ classify s x short q = .busy ∨ classify s x short q = .loc := by
  have hf := classify_facts s x short q
  generalize classify s x short q = b at hf
  cases b with
  | ign => exact .inl rfl
  | busy => exact .inr (.inl rfl)
  | loc => exact .inr (.inr rfl)
  | _ => exact absurd h hf.1.2.2

theorem classify_leader_open (h : s.role = .leader)
    (ho : x.closed = false) (ha : x.awaiting = none) : classify s x short q = .loc := by
  unfold classify
  simp [h, ho, ha]

theorem will_or_not (q : Req) : (∃ ct cmd, q = .will ct cmd) ∨ (∀ ct cmd, q ≠ .will ct cmd) := by
  cases q <;> simp

theorem willConn_conn (s : Node) (c : Nat) (x : Conn) (ct : CType) (cmd : LockCmd) :
    (willConn s c x ct cmd).1 = x ∨
    (willConn s c x ct cmd).1 = { (dispatched s x (some cmd.rid)).1 with wills := x.wills ++ [(ct, cmd)] } := by
  unfold willConn
  cases x.closed
  · cases x.awaiting
    · exact .inr rfl
    · exact .inl rfl
  · exact .inl rfl

theorem willConn_client (h : (c', m) ∈ (willConn s c x ct cmd).2.client) : c' = c ∧ m = .textOk := by
  unfold willConn at h
  cases hc : x.closed <;> rw [hc] at h
  · cases ha : x.awaiting <;> rw [ha] at h
    · cases hk : x.kind <;> rw [hk] at h
      · cases h
      · cases List.mem_singleton.mp h; exact ⟨rfl, rfl⟩
    · cases h
  · cases h

theorem willConn_fwd (s : Node) (c : Nat) (x : Conn) (ct : CType) (cmd : LockCmd) : (willConn s c x ct cmd).2.fwd = [] := by
  unfold willConn
  cases x.closed
  · cases x.awaiting <;> rfl
  · rfl

theorem willConn_tag (s : Node) (c : Nat) (x : Conn) (ct : CType) (cmd : LockCmd) :
    (willConn s c x ct cmd).2.tag = .ign ∨ (willConn s c x ct cmd).2.tag = .busy ∨ (willConn s c x ct cmd).2.tag = .stored := by
  unfold willConn
  cases x.closed
  · cases x.awaiting
    · exact .inr (.inr rfl)
    · exact .inr (.inl rfl)
  · exact .inl rfl

theorem relay_binary_eq (hk : x.kind = .binary) :
    relay s c x l msg early =
    match msg with
    | .lockRes r => (addGot { x with link := some (answeredLk early l r.rid) } (.lockRes r), [(c, .lockRes r)])
    | .callRes rid res content => ({ x with link := some (answered early l rid) }, [(c, .callRes rid res content)])
    | .initRes rid res it =>
      let l₁ := answered early l rid
      if l₁.initC.map (·.1) ≠ some rid then ({ x with link := some l₁ }, [])
      else if l₁.initRes.isSome ∧ l₁.initRes ≠ some rid then ({ x with link := some l₁ }, [])
      else
        let l₂ := { l₁ with initRes := if res = 0 then some rid else none }
        ({ x with link := some l₂ }, [(c, .initRes rid res (rewriteInitType s.role s.addr it))])
    | .other => (x, []) := by
  unfold relay
  split
  · rfl
  · rename_i h; rw [hk] at h; cases h

theorem relay_text_eq (hk : x.kind = .text) :
    relay s c x l msg early =
    match msg with
    | .lockRes r =>
      let l₁ := answeredLk early l r.rid
      match x.awaiting with
      | some (a, md) => if a = r.rid then textDeliver x l₁ md r c else ({ x with link := some l₁ }, [])
      | none => ({ x with link := some l₁ }, [])
    | _ => (x, []) := by
  unfold relay
  split
  · rename_i h; rw [hk] at h; cases h
  · cases msg <;> rfl

theorem relay_binary_init (s : Node) (c : Nat) (l : Link) (early : Bool) (hk : x.kind = .binary) (rid res it : Nat) :
    ∃ l' out, relay s c x l (.initRes rid res it) early = ({ x with link := some l' }, out) ∧
      l'.pend = (answered early l rid).pend ∧ l'.latestT = (answered early l rid).latestT ∧
      l'.latestR = (answered early l rid).latestR ∧
      (out = [] ∨ out = [(c, .initRes rid res (rewriteInitType s.role s.addr it))]) := by
  rw [relay_binary_eq hk]
  dsimp only
  by_cases h1 : (answered early l rid).initC.map (·.1) ≠ some rid
  · rw [if_pos h1]; exact ⟨_, _, rfl, rfl, rfl, rfl, .inl rfl⟩
  rw [if_neg h1]
  by_cases h2 : (answered early l rid).initRes.isSome ∧ (answered early l rid).initRes ≠ some rid
  · rw [if_pos h2]; exact ⟨_, _, rfl, rfl, rfl, rfl, .inl rfl⟩
  · rw [if_neg h2]; exact ⟨_, _, rfl, rfl, rfl, rfl, .inr rfl⟩

theorem relay_text_lock (s : Node) (c : Nat) (l : Link) (early : Bool) (hk : x.kind = .text) (r : LockRes) :
    (∃ md, x.awaiting = some (r.rid, md) ∧
      relay s c x l (.lockRes r) early = textDeliver x (answeredLk early l r.rid) md r c) ∨
    ((∀ md, x.awaiting ≠ some (r.rid, md)) ∧
      relay s c x l (.lockRes r) early = ({ x with link := some (answeredLk early l r.rid) }, [])) := by
  rw [relay_text_eq hk]
  dsimp only
  cases ha : x.awaiting with
  | none => exact .inr ⟨nofun, rfl⟩
  | some p =>
    by_cases h : p.1 = r.rid
    · exact .inl ⟨p.2, h ▸ rfl, if_pos h⟩
    · exact .inr ⟨fun md e => h (Option.some.inj e ▸ rfl), if_neg h⟩

@[simp] theorem addGot_kind (x : Conn) (m : ToClient) : (addGot x m).kind = x.kind := by unfold addGot; split <;> rfl
@[simp] theorem addGot_closed (x : Conn) (m : ToClient) : (addGot x m).closed = x.closed := by unfold addGot; split <;> rfl
@[simp] theorem addGot_link (x : Conn) (m : ToClient) : (addGot x m).link = x.link := by unfold addGot; split <;> rfl
@[simp] theorem addGot_awaiting (x : Conn) (m : ToClient) : (addGot x m).awaiting = x.awaiting := by unfold addGot; split <;> rfl
@[simp] theorem addGot_half (x : Conn) (m : ToClient) : (addGot x m).half = x.half := by unfold addGot; split <;> rfl
@[simp] theorem addGot_plainLoop (x : Conn) (m : ToClient) : (addGot x m).plainLoop = x.plainLoop := by unfold addGot; split <;> rfl
@[simp] theorem addGot_initCmd (x : Conn) (m : ToClient) : (addGot x m).initCmd = x.initCmd := by unfold addGot; split <;> rfl
@[simp] theorem addGot_asked (x : Conn) (m : ToClient) : (addGot x m).asked = x.asked := by unfold addGot; split <;> rfl

theorem addGot_got (x : Conn) (m : ToClient) : (addGot x m).got = x.got ++ (lockShaped m).toList := by
  unfold addGot; split <;> simp [*]

@[simp] theorem dispatched_got (s : Node) (x : Conn) (rid : Option Nat) : (dispatched s x rid).1.got = x.got := rfl
@[simp] theorem dispatched_link (s : Node) (x : Conn) (rid : Option Nat) : (dispatched s x rid).1.link = x.link := rfl
@[simp] theorem dispatched_kind (s : Node) (x : Conn) (rid : Option Nat) : (dispatched s x rid).1.kind = x.kind := rfl
@[simp] theorem dispatched_awaiting (s : Node) (x : Conn) (rid : Option Nat) : (dispatched s x rid).1.awaiting = x.awaiting := rfl
@[simp] theorem dispatched_asked_some (s : Node) (x : Conn) (r : Nat) : (dispatched s x (some r)).1.asked = x.asked ++ [r] := rfl

end Slock.Trans
