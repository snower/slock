import Slock.Proofs.Engine2Frame
import Slock.Proofs.Engine2Chain
/-! Stage-2 engine: two step relations on the working state of an operation.

* `Fr w w'` — what EVERY helper respects: the key it works on, the leader flag, the clock, "replies are only appended", "a
  reclaimed record stays reclaimed", and "off-leader nothing is pushed to the journal".
* `Qt w w'` — a QUIET step: no reply, and the value cell is untouched up to its journalling bit, `locked` too. Every helper
  except `reply`, `procData` (the value operation), `removeIfZero` (a reclaimed record loses its cell) and the grants is quiet.

Composite helpers are chains of such steps. -/
namespace Slock.Engine2
open Slock.Value (Cell getLockData)

/-- the key record was unlinked from the database (`RemoveLockManager` ran, or it never existed) -/
def W.Reclaimed (w : W) : Prop := w.gone = true ∧ w.db.hasKey w.k.key = false

/-- what a step does to the table of key records: nothing, or — once, by `RemoveLockManager` — this key's record is unlinked -/
def W.DbStep (w w' : W) : Prop :=
  (w'.db.keys = w.db.keys ∧ w'.db.keyCount = w.db.keyCount ∧ w'.gone = w.gone) ∨
  (w.gone = false ∧ w'.gone = true ∧ w'.db.keys = w.db.keys.filter (·.key != w.k.key) ∧ w'.db.keyCount = decU32 w.db.keyCount)

theorem W.DbStep.same (w w' : W) (h1 : w'.db.keys = w.db.keys) (h2 : w'.db.keyCount = w.db.keyCount) (h3 : w'.gone = w.gone) :
    w.DbStep w' := Or.inl ⟨h1, h2, h3⟩

structure Fr (w w' : W) : Prop where
  key : w'.k.key = w.k.key
  leader : w'.db.leader = w.db.leader
  now : w'.db.now = w.db.now
  aof : w.db.leader = false → w'.db.aofOut = w.db.aofOut
  out : ∃ more, w'.out = w.out ++ more
  gone : w.gone = true → w'.gone = true
  recl : w.Reclaimed → w'.Reclaimed
  rid : w.db.nextRid ≤ w'.db.nextRid
  dbk : w.DbStep w'
  seq : w.db.seq ≤ w'.db.seq

theorem Fr.refl (w : W) : Fr w w := ⟨rfl, rfl, rfl, fun _ => rfl, ⟨[], by simp⟩, id, id, Nat.le_refl _, Or.inl ⟨rfl, rfl, rfl⟩, Nat.le_refl _⟩

theorem W.DbStep.trans {a b c : W} (hk : b.k.key = a.k.key) (h1 : a.DbStep b) (h2 : b.DbStep c) : a.DbStep c := by
  unfold W.DbStep at *
  rcases h1 with ⟨a1, a2, a3⟩ | ⟨a1, a2, a3, a4⟩
  · rcases h2 with ⟨b1, b2, b3⟩ | ⟨b1, b2, b3, b4⟩
    · exact Or.inl ⟨b1.trans a1, b2.trans a2, b3.trans a3⟩
    · exact Or.inr ⟨by rw [← a3]; exact b1, b2, by rw [b3, a1, hk], by rw [b4, a2]⟩
  · rcases h2 with ⟨b1, b2, b3⟩ | ⟨b1, _⟩
    · exact Or.inr ⟨a1, by rw [b3]; exact a2, by rw [b1]; exact a3, by rw [b2]; exact a4⟩
    · rw [a2] at b1; exact absurd b1 (by simp)

theorem Fr.trans {a b c : W} (h1 : Fr a b) (h2 : Fr b c) : Fr a c := by
  refine ⟨h2.key.trans h1.key, h2.leader.trans h1.leader, h2.now.trans h1.now, ?_, ?_, fun h => h2.gone (h1.gone h),
    fun h => h2.recl (h1.recl h), Nat.le_trans h1.rid h2.rid, W.DbStep.trans h1.key h1.dbk h2.dbk, Nat.le_trans h1.seq h2.seq⟩
  · intro h; rw [h2.aof (by rw [h1.leader]; exact h), h1.aof h]
  · obtain ⟨m1, e1⟩ := h1.out
    obtain ⟨m2, e2⟩ := h2.out
    exact ⟨m1 ++ m2, by rw [e2, e1, List.append_assoc]⟩

theorem gone_of_fr {w w' : W} (f : Fr w w') : w'.gone = false → w.gone = false := by
  intro hg
  cases h0 : w.gone with
  | false => rfl
  | true => rw [f.gone h0] at hg; exact absurd hg (by simp)

theorem keys_of_fr {w w' : W} (f : Fr w w') {k : Key} (h : k ∈ w'.db.keys) : k ∈ w.db.keys := by
  rcases f.dbk with ⟨e, _, _⟩ | ⟨_, _, e, _⟩
  · exact e ▸ h
  · exact (List.mem_filter.mp (e ▸ h)).1

structure Qt (w w' : W) : Prop where
  out : w'.out = w.out
  cell : vstrip w'.k.cell = vstrip w.k.cell
  locked : w'.k.locked = w.k.locked
  gone : w'.gone = w.gone

theorem Qt.refl (w : W) : Qt w w := ⟨rfl, rfl, rfl, rfl⟩
theorem Qt.trans {a b c : W} (h1 : Qt a b) (h2 : Qt b c) : Qt a c :=
  ⟨h2.out.trans h1.out, h2.cell.trans h1.cell, h2.locked.trans h1.locked, h2.gone.trans h1.gone⟩
theorem Qt.lockData {a b : W} (h : Qt a b) : b.lockData = a.lockData := getLockData_congr h.cell

structure FQ (w w' : W) : Prop where
  fr : Fr w w'
  qt : Qt w w'
theorem FQ.refl (w : W) : FQ w w := ⟨Fr.refl w, Qt.refl w⟩
theorem FQ.trans {a b c : W} (h1 : FQ a b) (h2 : FQ b c) : FQ a c := ⟨h1.fr.trans h2.fr, h1.qt.trans h2.qt⟩

theorem Fr.same {w w' : W} (hd : w'.db = w.db) (hk : w'.k.key = w.k.key) (hg : w'.gone = w.gone) (ho : w'.out = w.out) : Fr w w' :=
  ⟨hk, by rw [hd], by rw [hd], fun _ => by rw [hd], ⟨[], by rw [ho, List.append_nil]⟩, fun h => hg.trans h,
    fun h => ⟨hg.trans h.1, by rw [hd, hk]; exact h.2⟩, by rw [hd]; exact Nat.le_refl _, Or.inl ⟨by rw [hd], by rw [hd], hg⟩, by rw [hd]; exact Nat.le_refl _⟩

theorem hasKey_congr {a b : DB} (h : a.keys = b.keys) (n : Nat) : a.hasKey n = b.hasKey n := by
  unfold DB.hasKey DB.findKey; rw [h]

theorem Fr.edit {w : W} (db' : DB) (k' : Key) (hy : k'.key = w.k.key) (hk : db'.keys = w.db.keys) (hc : db'.keyCount = w.db.keyCount)
    (hl : db'.leader = w.db.leader) (hn : db'.now = w.db.now) (ha : w.db.leader = false → db'.aofOut = w.db.aofOut)
    (hr : w.db.nextRid ≤ db'.nextRid) (hs : w.db.seq ≤ db'.seq) : Fr w { w with db := db', k := k' } :=
  ⟨hy, hl, hn, ha, ⟨[], (List.append_nil _).symm⟩, id, fun h => ⟨h.1, by rw [hy]; exact (hasKey_congr hk _).trans h.2⟩, hr, Or.inl ⟨hk, hc, rfl⟩, hs⟩

theorem Fr.removeIfZero (w : W) : Fr w w.removeIfZero := by
  refine ⟨by simp, by simp, by simp, fun _ => by simp, ⟨[], by simp⟩, removeIfZero_gone_mono w, ?_, ?_, ?_, ?_⟩
  · intro h
    have : w.removeIfZero = w := by unfold W.removeIfZero; simp [h.1]
    rw [this]; exact h
  · rcases removeIfZero_cases w with e | ⟨_, _, _, _, hd⟩
    · rw [e]; exact Nat.le_refl _
    · rw [hd]; exact Nat.le_refl _
  · rcases removeIfZero_cases w with e | ⟨hg, _, h0, _, hd⟩
    · rw [e]; exact Or.inl ⟨rfl, rfl, rfl⟩
    · exact Or.inr ⟨h0, hg, by rw [hd]; rfl, by rw [hd]; rfl⟩
  · rcases removeIfZero_cases w with e | ⟨_, _, _, _, hd⟩
    · rw [e]; exact Nat.le_refl _
    · rw [hd]; exact Nat.le_refl _

theorem removeIfZero_reclaimed (w : W) (h : w.removeIfZero.gone = true) (h0 : w.gone = false) : w.removeIfZero.Reclaimed := by
  rcases removeIfZero_cases w with e | ⟨hg, _, _, _, hd⟩
  · rw [e] at h; simp [h0] at h
  · exact ⟨hg, by rw [hd, removeIfZero_key]; exact hasKey_dropKey _ _⟩

theorem Fr.prim {data : Option Bytes} {b q : Bool} {w w' : W} : Prim data b q w w' → Fr w w'
  | .free _ rid => Fr.same rfl (free_key _ _) rfl rfl
  | .shape _ k' hk => Fr.same rfl hk.key rfl rfl
  | .newLock _ c => Fr.edit _ _ rfl rfl rfl rfl rfl (fun _ => rfl) (Nat.le_succ _) (Nat.le_refl _)
  | .reply _ c x y d => ⟨rfl, rfl, rfl, fun _ => rfl, ⟨_, rfl⟩, id, id, Nat.le_refl _, Or.inl ⟨rfl, rfl, rfl⟩, Nat.le_refl _⟩
  | .out _ o ho => ⟨rfl, rfl, rfl, fun _ => rfl, ⟨o, by rw [ho]; rfl⟩, id, id, Nat.le_refl _, Or.inl ⟨rfl, rfl, rfl⟩, Nat.le_refl _⟩
  | .journal _ jr hl => Fr.edit _ _ rfl rfl rfl rfl rfl (fun h => (nomatch h.symm.trans hl)) (Nat.le_refl _) (Nat.le_refl _)
  | .addTimeOut _ rid | .schedExpried _ rid => Fr.edit _ _ rfl rfl rfl rfl rfl (fun _ => rfl) (Nat.le_refl _) (Nat.le_succ _)
  | .reclaim _ _ _ => Fr.removeIfZero w
  | .ctr .. | .panic .. => Fr.edit _ _ rfl rfl rfl rfl rfl (fun _ => rfl) (Nat.le_refl _) (Nat.le_refl _)
  | .edit .. | .locked .. | .cell .. | .cellAof .. => Fr.same rfl rfl rfl rfl

theorem Qt.prim {data : Option Bytes} {b : Bool} {w w' : W} : Prim data b true w w' → Qt w w'
  | .edit .. | .ctr .. | .panic .. | .journal .. | .addTimeOut .. | .schedExpried .. | .newLock .. => ⟨rfl, rfl, rfl, rfl⟩
  | .free _ rid => ⟨rfl, congrArg vstrip (free_cell _ _), free_locked _ _, rfl⟩
  | .shape _ k' hk => ⟨rfl, congrArg vstrip hk.cell, hk.locked, rfl⟩
  | .cellAof _ c hc => ⟨rfl, (vstrip_setAof c true).trans (congrArg vstrip hc.symm), rfl, rfl⟩

variable {data : Option Bytes} {b q : Bool} {w w' : W}

theorem Chain.fr (c : Chain data b q w w') : Fr w w' := c.ind (fun _ _ p h => h.trans (Fr.prim p)) (Fr.refl w)
theorem Chain.qt (c : Chain data b true w w') : Qt w w' := c.ind (fun _ _ p h => h.trans (Qt.prim p)) (Qt.refl w)
theorem Chain.fq (c : Chain data b true w w') : FQ w w' := ⟨c.fr, c.qt⟩

theorem Chain.quiet (w : W) : Chain none false true w w := .refl

theorem FQ.modR (w : W) (rid : Nat) (f : Rec → Rec) : FQ w (w.modR rid f) := ⟨Fr.same rfl rfl rfl rfl, ⟨rfl, rfl, rfl, rfl⟩⟩
theorem FQ.modK (w : W) (f : Key → Key) (hk : (f w.k).key = w.k.key) (hc : (f w.k).cell = w.k.cell) (hl : (f w.k).locked = w.k.locked) :
    FQ w (w.modK f) := ⟨Fr.same rfl hk rfl rfl, ⟨rfl, congrArg vstrip hc, hl, rfl⟩⟩
theorem FQ.when (w : W) (b : Bool) (f : W → W) (h : FQ w (f w)) : FQ w (w.when b f) := by
  cases b
  · exact FQ.refl _
  · exact h
theorem FQ.ref (w : W) (rid : Nat) : FQ w (w.ref rid) := FQ.modR _ _ _
theorem FQ.ctr (w : W) (f : Counters → Counters) : FQ w (w.ctr f) := ((Chain.quiet w).ctr f).fq
theorem Fr.reply (w : W) (c : Cmd) (a b : Nat) (d : Option Bytes) : Fr w (w.reply c a b d) := ((Chain.nil none w).reply c a b d).fr
theorem FQ.bumpErr (w : W) : FQ w w.bumpErr := FQ.ctr _ _
theorem FQ.pushLockAof (w : W) (rid flag : Nat) : FQ w (w.pushLockAof rid flag) := ((Chain.quiet w).pushLockAof rid flag).fq
theorem FQ.pushUnLockAof (w : W) (rid : Nat) (lc : Cmd) (fa ia : Bool) (flag : Nat) : FQ w (w.pushUnLockAof rid lc fa ia flag) :=
  ((Chain.quiet w).pushUnLockAof rid lc fa ia flag).fq
theorem FQ.journalLock (w : W) (rid flag : Nat) : FQ w (w.journalLock rid flag) := ((Chain.quiet w).journalLock rid flag).fq
theorem FQ.journalUnlock (w : W) (rid : Nat) (fa ia : Bool) (flag : Nat) : FQ w (w.journalUnlock rid fa ia flag) :=
  ((Chain.quiet w).journalUnlock rid fa ia flag).fq
theorem FQ.addTimeOut (w : W) (rid : Nat) : FQ w (w.addTimeOut rid) := ((Chain.quiet w).addTimeOut rid).fq
theorem FQ.addExpried (w : W) (rid : Nat) : FQ w (w.addExpried rid) := ((Chain.quiet w).addExpried rid).fq
theorem FQ.dropLongT (w : W) (rid : Nat) : FQ w (w.dropLongT rid) := ((Chain.quiet w).dropLongT rid).fq
theorem FQ.dropLongE (w : W) (rid : Nat) : FQ w (w.dropLongE rid) := ((Chain.quiet w).dropLongE rid).fq
theorem FQ.newLock (w : W) (c : Cmd) (d : Option Bytes) : FQ w (w.newLock c d).1 := ((Chain.refl (data := d) (b := false) (q := true)).newLock c).fq
@[simp] theorem Key.addLock_cell (k : Key) (r : Nat) (f : Rec → Rec) : (k.addLock r f).cell = k.cell := by unfold Key.addLock; split <;> simp
theorem FQ.addLock (w : W) (rid : Nat) : FQ w (w.addLock rid) := ((Chain.quiet w).addLock rid).fq
theorem FQ.updateLocked (w : W) (rid : Nat) (c : Cmd) : FQ w (w.updateLocked rid c) := ((Chain.quiet w).updateLocked rid c).fq
theorem settleWait_fq (w : W) : FQ w (w.modK (·.settleWait)) := (Chain.quiet w).settleWait.fq

theorem Fr.procData (w : W) (ct : Slock.Value.CmdType) (c : Cmd) (f : Option Bytes) (rid : Nat) : Fr w (w.procData ct c f rid) :=
  ((Chain.nil f w).procData ct c f rid Or.inl).fr
theorem Fr.freeCheck (w : W) (rid : Nat) : Fr w (w.freeCheck rid) := ((Chain.nil none w).freeCheck rid).fr
theorem Fr.unrefCheck (w : W) (rid : Nat) : Fr w (w.unrefCheck rid) := ((Chain.nil none w).unrefCheck rid).fr
theorem Fr.grant (w : W) (rid : Nat) : Fr w (w.grant rid) := ((Chain.nil none w).grant rid).fr
theorem Fr.wakePass (fuel : Nat) (w : W) : Fr w (W.wakePass fuel w) := ((Chain.nil none w).wakePass fuel).fr
theorem Fr.wakeOne (w : W) (rid : Nat) : Fr w (w.wakeOne rid) := ((Chain.nil none w).wakeOne rid).fr
theorem Fr.wake (w : W) : Fr w w.wake := (Chain.nil none w).wake.fr

end Slock.Engine2
