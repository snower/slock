import Slock.Proofs.Engine2Recs
/-! Stage-2 engine: following one attribute of the lock records (`π : Rec → α`: depth, timeouted, expried, a wheel entry …)
through EVERY helper of an operation (`PKeep π k' k`, `PK π w' w`: no record appears, the surviving records keep the attribute).
`Ins π` ("insensitive"): `π` reads neither the reference count — so `unref` and the queue helpers keep it — nor `data` / `aofData` /
`isAof`, which the book-keeping chains write. -/
namespace Slock.Engine2

structure PKeep {α : Type} (π : Rec → α) (k' k : Key) : Prop where
  sub : ∀ y, k'.hasRec y → k.hasRec y
  val : ∀ y, k'.hasRec y → π (k'.getR y) = π (k.getR y)

structure Ins {α : Type} (π : Rec → α) : Prop where
  count : ∀ r n, π { r with refCount := n } = π r
  aofData : ∀ r b, π { r with aofData := b } = π r
  isAof : ∀ r b, π { r with isAof := b } = π r
  data : ∀ r d, π { r with data := d } = π r

namespace PKeep
variable {α : Type} {π : Rec → α}

theorem refl (k : Key) : PKeep π k k := ⟨fun _ h => h, fun _ _ => rfl⟩
theorem trans {a b c : Key} (h1 : PKeep π a b) (h2 : PKeep π b c) : PKeep π a c :=
  ⟨fun y h => h2.sub y (h1.sub y h), fun y h => (h1.val y h).trans (h2.val y (h1.sub y h))⟩

theorem of_eq {k' k : Key} (h1 : k'.recs = k.recs) : PKeep π k' k :=
  ⟨fun y h => by unfold Key.hasRec at h ⊢; rw [← h1]; exact h, fun y _ => by unfold Key.getR; rw [h1]⟩

theorem modRec (k : Key) (rid : Nat) (f : Rec → Rec) (hf : ∀ r, (f r).rid = r.rid := by intro _; rfl) (hd : ∀ r, π (f r) = π r := by intro _; rfl) :
    PKeep π (k.modRec rid f) k :=
  ⟨fun _ h => (hasRec_modRec _ _ _ _ hf).mp h, fun y _ => getR_modRec_proj π k rid y f hd hf⟩

theorem modRec_at (k : Key) (rid : Nat) (f : Rec → Rec) (hf : ∀ r, (f r).rid = r.rid) (hd : k.hasRec rid → π (f (k.getR rid)) = π (k.getR rid)) :
    PKeep π (k.modRec rid f) k := by
  refine ⟨fun y h => (hasRec_modRec _ _ _ _ hf).mp h, fun y h => ?_⟩
  have hk := (hasRec_modRec _ _ _ _ hf).mp h
  by_cases e : y = rid
  · subst e; rw [getR_modRec_same _ _ _ hk hf]; exact hd hk
  · rw [getR_modRec_other _ _ _ _ e hf]

theorem free (k : Key) (rid : Nat) : PKeep π (k.free rid) k := by
  refine ⟨fun y h => (hasRec_free_sub k rid y h).1, fun y h => ?_⟩
  by_cases e : y = rid
  · subst e
    have := hasRec_free_sub k y y h
    exact absurd rfl (this.2 this.1)
  · rw [getR_free_other _ _ _ e]

theorem unrefOnly (hπ : Ins π) (k : Key) (x : Nat) : PKeep π (k.unrefOnly x) k :=
  modRec k x _ (fun _ => rfl) (fun r => hπ.count r _)

theorem unref (hπ : Ins π) (k : Key) (x : Nat) : PKeep π (k.unref x) k := by
  unfold Key.unref
  simp only []
  split
  · exact (free _ x).trans (unrefOnly hπ k x)
  · exact unrefOnly hπ k x

theorem closed (hπ : Ins π) (k0 : Key) : KClosed (PKeep π · k0) :=
  KClosed.below (R := PKeep π) trans (unref hπ) (fun _ _ _ _ => of_eq rfl) (fun _ _ _ _ _ => of_eq rfl) k0

theorem locksPush (hπ : Ins π) (k : Key) (rid : Nat) : PKeep π (k.locksPush rid) k := (closed hπ k).locksPush (refl k) rid

theorem locksSkip (hπ : Ins π) (take : Bool) (l : List Nat) (k : Key) : PKeep π (Slock.Engine2.locksSkip take l k).1 k :=
  (closed hπ k).locksSkip take l (refl k)

theorem waitSkip (hπ : Ins π) (l : List WEnt) (k : Key) : PKeep π (Slock.Engine2.waitSkip l k).1 k := (closed hπ k).waitSkip l (refl k)

theorem getWaitLock (hπ : Ins π) (k : Key) : PKeep π k.getWaitLock.1 k := waitSkip hπ _ _

theorem settleWait (hπ : Ins π) (k : Key) : PKeep π k.settleWait k :=
  (closed hπ k).settleWait (fun k _ h => trans (b := k) (of_eq rfl) h) (refl k)

theorem addWaitLock (hπ : Ins π) (k : Key) (rid : Nat) : PKeep π (k.addWaitLock rid) k :=
  (closed hπ k).addWaitLock (fun k _ h => trans (b := k) (of_eq rfl) h)
    (fun _ _ h => (modRec _ _ _ (by intro _; rfl) (fun r => hπ.count r _)).trans h) (refl k) rid

theorem removeLock (hπ : Ins π) (hd : ∀ r n, π { r with depth := n } = π r) (k : Key) (rid : Nat) : PKeep π (k.removeLock rid) k :=
  have h1 : PKeep π (k.modRec rid fun r => { r with depth := 0 }) k := modRec k rid _ (fun _ => rfl) (fun r => hd r 0)
  (closed hπ k).removeLock (fun k _ h => trans (b := k) (of_eq rfl) h) rid h1 ((unrefOnly hπ _ rid).trans h1)

theorem addLock (hπ : Ins π) (k : Key) (rid : Nat) (f : Rec → Rec) (hf : ∀ r, (f r).rid = r.rid) (hp : ∀ r, π (f r) = π r) :
    PKeep π (k.addLock rid f) k :=
  (closed hπ k).addLock (fun k _ h => trans (b := k) (of_eq rfl) h) rid f (modRec k rid f hf hp)

end PKeep

def PK {α : Type} (π : Rec → α) (w' w : W) : Prop := PKeep π w'.k w.k

section
variable {α : Type} {π : Rec → α}

theorem PK.refl (w : W) : PK π w w := PKeep.refl _
theorem PK.trans {a b c : W} (h1 : PK π a b) (h2 : PK π b c) : PK π a c := PKeep.trans h1 h2
theorem PK.of_k {w w' : W} (h : w'.k = w.k) : PK π w' w := by unfold PK; rw [h]; exact PKeep.refl _

theorem pk_modR (w : W) (rid : Nat) (f : Rec → Rec) (hf : ∀ r, (f r).rid = r.rid := by intro _; rfl) (hd : ∀ r, π (f r) = π r := by intro _; rfl) : PK π (w.modR rid f) w :=
  PKeep.modRec w.k rid f hf hd
theorem pk_modK (w : W) (f : Key → Key) (h : PKeep π (f w.k) w.k) : PK π (w.modK f) w := h
theorem pk_ref (hπ : Ins π) (w : W) (rid : Nat) : PK π (w.ref rid) w := PKeep.modRec w.k rid _ (fun _ => rfl) (fun r => hπ.count r _)

theorem Chain.pk {data : Option Bytes} {q : Bool} {w0 w : W} (h : Chain data true q w0 w) (hπ : Ins π) : PK π w w0 :=
  h.book (J := fun w => PK π w w0)
    (fun w rid f hf j => (pk_modR w rid f hf.rid (by cases hf <;> intro r <;> first | exact hπ.data r _ | exact hπ.aofData r _ | exact hπ.isAof r _)).trans j)
    (fun w c n j => PK.trans (a := { w with k := { w.k with cell := c, locked := n } }) (b := w) (PKeep.of_eq rfl) j) (fun _ _ _ _ j => j) (fun _ _ j => j)
    (PK.refl _)

/-- the same for the record that `getR` returns, present or not -/
theorem Chain.proj {data : Option Bytes} {q : Bool} {w0 w : W} (h : Chain data true q w0 w) (hπ : Ins π) (y : Nat) : π (w.k.getR y) = π (w0.k.getR y) :=
  h.book (J := fun w => π (w.k.getR y) = π (w0.k.getR y))
    (fun w rid f hf j => (getR_modRec_proj π w.k rid y f
      (by cases hf <;> intro r <;> first | exact hπ.data r _ | exact hπ.aofData r _ | exact hπ.isAof r _) hf.rid).trans j)
    (fun _ _ _ j => j) (fun _ _ _ _ j => j) (fun _ _ j => j) rfl

namespace PKeep
theorem aofLockData (hπ : Ins π) (k : Key) (b : Bool) (rid : Nat) : PKeep π (Slock.Engine2.aofLockData k b rid).1 k :=
  (Chain.refl (data := none) (b := true) (q := true) (w0 := { db := default, k := k }) |>.aofLockData b rid).pk hπ
end PKeep

theorem pk_procData (hπ : Ins π) (w : W) (ct : Slock.Value.CmdType) (c : Cmd) (f : Option Bytes) (rid : Nat) : PK π (w.procData ct c f rid) w :=
  (book_procData w ct c f rid).pk hπ
theorem pk_pushLockAofN (hπ : Ins π) (n : Nat) (w : W) (rid : Nat) : PK π (W.pushLockAofN n w rid) w := (book_pushLockAofN n w rid).pk hπ
theorem pk_when (w : W) (b : Bool) (f : W → W) (h : PK π (f w) w) : PK π (w.when b f) w := by
  cases b
  · exact PK.refl _
  · exact h

theorem pk_schedExpried (w : W) (rid : Nat) (hp : ∀ r a, π (Rec.armE a r) = π r) : PK π (w.schedExpried rid) w :=
  PKeep.modRec w.k rid _ (hd := fun r => hp r _)
theorem pk_addExpried (hπ : Ins π) (w : W) (rid : Nat) (hp : ∀ r a, π (Rec.armE a r) = π r) : PK π (w.addExpried rid) w :=
  ((book_addExpried w rid).pk hπ).trans (pk_schedExpried _ _ hp)

theorem pk_removeLongT (hπ : Ins π) (w : W) (rid : Nat) (hp : ∀ r s, π { r with tSched := s } = π r) : PK π (w.removeLongT rid) w := by
  unfold W.removeLongT
  exact (PKeep.unrefOnly hπ _ rid).trans (PKeep.modRec w.k rid _ (hd := fun r => hp r none))
theorem pk_removeLongE (hπ : Ins π) (w : W) (rid : Nat) (hp : ∀ r s, π { r with eSched := s } = π r) : PK π (w.removeLongE rid) w := by
  unfold W.removeLongE
  exact (PKeep.unrefOnly hπ _ rid).trans (PKeep.modRec w.k rid _ (hd := fun r => hp r none))
theorem pk_dropLongT (hπ : Ins π) (w : W) (rid : Nat) (hp : ∀ r s, π { r with tSched := s } = π r) : PK π (w.dropLongT rid) w :=
  pk_when _ _ _ (pk_removeLongT hπ _ _ hp)
theorem pk_dropLongE (hπ : Ins π) (w : W) (rid : Nat) (hp : ∀ r s, π { r with eSched := s } = π r) : PK π (w.dropLongE rid) w :=
  pk_when _ _ _ (pk_removeLongE hπ _ _ hp)

theorem pk_grantNoHold (hπ : Ins π) (w : W) (rid : Nat) : PK π (w.grantNoHold rid) w := (book_grantNoHold w rid).pk hπ

theorem pk_removeIfZero (w : W) : PK π w.removeIfZero w := PKeep.of_eq (removeIfZero_recs w)

theorem pk_freeCheck (w : W) (rid : Nat) : PK π (w.freeCheck rid) w := by
  unfold W.freeCheck
  exact (pk_removeIfZero _).trans (pk_modK w _ (PKeep.free _ _))

theorem pk_unrefCheck (hπ : Ins π) (w : W) (rid : Nat) : PK π (w.unrefCheck rid) w := by
  unfold W.unrefCheck
  simp only []
  exact (pk_when _ _ _ (pk_freeCheck _ _)).trans (pk_modK w _ (PKeep.unrefOnly hπ _ rid))

theorem pk_dropT (hπ : Ins π) (w : W) (rid : Nat) (hp : ∀ r s, π { r with tSched := s } = π r) : PK π (w.dropT rid) w := by
  unfold W.dropT
  exact (pk_unrefCheck hπ _ _).trans (pk_modR w rid (fun r => { r with tSched := none }) (hd := fun r => hp r none))
theorem pk_dropE (hπ : Ins π) (w : W) (rid : Nat) (hp : ∀ r s, π { r with eSched := s } = π r) : PK π (w.dropE rid) w := by
  unfold W.dropE
  exact (pk_unrefCheck hπ _ _).trans (pk_modR w rid (fun r => { r with eSched := none }) (hd := fun r => hp r none))

end

theorem ins_timeouted : Ins (·.timeouted) := ⟨fun _ _ => rfl, fun _ _ => rfl, fun _ _ => rfl, fun _ _ => rfl⟩
theorem ins_depth : Ins (·.depth) := ⟨fun _ _ => rfl, fun _ _ => rfl, fun _ _ => rfl, fun _ _ => rfl⟩
theorem ins_expried : Ins (·.expried) := ⟨fun _ _ => rfl, fun _ _ => rfl, fun _ _ => rfl, fun _ _ => rfl⟩
theorem ins_eSched : Ins (·.eSched) := ⟨fun _ _ => rfl, fun _ _ => rfl, fun _ _ => rfl, fun _ _ => rfl⟩

end Slock.Engine2
