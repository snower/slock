import Slock.Model.Aof
/-!
The reader of M-AOF for EVERY buffer size and fill state: under `Rd.Inv` a `bufio.Reader` is the stream `r.s` it has not handed
out yet, and each lemma returns some `r'` with `r.Adv r' n` without saying how the buffer was refilled. On records the writer
wrote, `ReadLock` / `ReadLockData` therefore depend on the stream alone (complete record, end of file, torn tail, cut value).
-/
namespace Slock.Aof

def Rd.Inv (r : Rd) : Prop := r.avail ≤ r.s.length

/-- `r'` is `r` after `n` bytes have been handed out. -/
structure Rd.Adv (r r' : Rd) (n : Nat) : Prop where
  s : r'.s = r.s.drop n
  cap : r'.cap = r.cap
  inv : r'.Inv

theorem Rd.Adv.refl {r : Rd} (hi : r.Inv) : r.Adv r 0 := ⟨rfl, rfl, hi⟩

theorem Rd.Adv.trans {r r1 r2 : Rd} {m k : Nat} (h1 : r.Adv r1 m) (h2 : r1.Adv r2 k) : r.Adv r2 (m + k) :=
  ⟨by rw [h2.s, h1.s, List.drop_drop], h2.cap.trans h1.cap, h2.inv⟩

theorem Rd.open_inv (cap : Nat) (f : Bytes) : (Rd.open cap f).Inv := Nat.zero_le _

/-- One `Read(p)`, `len(p) = k > 0`, on a non-empty stream: bufio has `x ≥ 1` bytes at hand without a second fill (the
buffered ones; else the whole file for a large `p`; else one fill), hands out `min k x` of them and keeps the others. When the
buffer is empty or holds `k` bytes, and the stream has `k`, then `k ≤ x`. -/
theorem read_chunk (r : Rd) (k : Nat) (hi : r.Inv) (hk : 0 < k) (hs : 0 < r.s.length) :
    ∃ x a, 0 < x ∧ x ≤ r.s.length ∧ a + min k x ≤ x ∧ ((r.avail = 0 ∨ k ≤ r.avail) → k ≤ r.s.length → k ≤ x) ∧
      r.read k = some (min k x, { r with s := r.s.drop (min k x), avail := a }) := by
  unfold Rd.read
  rw [if_neg (Nat.ne_of_gt hk)]
  by_cases ha : r.avail > 0
  · rw [if_pos ha]
    exact ⟨r.avail, _, ha, hi, Nat.le_of_eq (Nat.sub_add_cancel (Nat.min_le_right _ _)),
      fun h _ => h.elim (fun h0 => absurd h0 (Nat.ne_of_gt ha)) id, rfl⟩
  · rw [if_neg ha, if_neg (Nat.ne_of_gt hs)]
    by_cases hc : k ≥ r.cap
    · rw [if_pos hc]
      exact ⟨r.s.length, 0, hs, Nat.le_refl _, by rw [Nat.zero_add]; exact Nat.min_le_right _ _, fun _ h => h, rfl⟩
    · rw [if_neg hc]
      have hc := Nat.not_le.mp hc
      exact ⟨min r.cap r.s.length, _, Nat.lt_min.mpr ⟨Nat.zero_lt_of_lt hc, hs⟩, Nat.min_le_right _ _,
        Nat.le_of_eq (Nat.sub_add_cancel (Nat.min_le_right _ _)), fun _ h => Nat.le_min.mpr ⟨Nat.le_of_lt hc, h⟩, rfl⟩

theorem read_some (r : Rd) (k : Nat) (hi : r.Inv) (hk : 0 < k) (hs : 0 < r.s.length) :
    ∃ m r', r.read k = some (m, r') ∧ 0 < m ∧ m ≤ k ∧ m ≤ r.s.length ∧ r.Adv r' m := by
  obtain ⟨x, a, hx0, hx, ha, _, hr⟩ := read_chunk r k hi hk hs
  exact ⟨_, _, hr, Nat.lt_min.mpr ⟨hk, hx0⟩, Nat.min_le_left _ _, Nat.le_trans (Nat.min_le_right _ _) hx, rfl, rfl,
    by simp only [Rd.Inv, List.length_drop]; exact Nat.le_sub_of_add_le (Nat.le_trans ha hx)⟩

theorem read_none (r : Rd) (k : Nat) (hi : r.Inv) (hk : 0 < k) (hs : r.s.length = 0) : r.read k = none := by
  unfold Rd.Inv at hi
  unfold Rd.read
  have hk0 : ¬ k = 0 := by omega
  have ha : ¬ r.avail > 0 := by omega
  simp [hk0, ha, hs]

theorem read_all (r : Rd) (k : Nat) (hi : r.Inv) (hk : 0 < k) (hs : k ≤ r.s.length) (ha : r.avail = 0 ∨ k ≤ r.avail) :
    ∃ r', r.read k = some (k, r') ∧ r.Adv r' k := by
  obtain ⟨x, a, _, hx, ha', hkx, hr⟩ := read_chunk r k hi hk (Nat.lt_of_lt_of_le hk hs)
  rw [Nat.min_eq_left (hkx ha hs)] at hr ha'
  exact ⟨_, hr, rfl, rfl, by simp only [Rd.Inv, List.length_drop]; exact Nat.le_sub_of_add_le (Nat.le_trans ha' hx)⟩

theorem read_drain (r : Rd) (k : Nat) (ha : 0 < r.avail) (hk : r.avail < k) :
    r.read k = some (r.avail, { r with s := r.s.drop r.avail, avail := 0 }) := by
  unfold Rd.read
  have hk0 : ¬ k = 0 := by omega
  have hm : min k r.avail = r.avail := by omega
  simp [hk0, ha, hm]

theorem readFull_ok (f : Nat) : ∀ (r : Rd) (k : Nat), r.Inv → k ≤ r.s.length → k ≤ f →
    ∃ r', readFull f r k = some r' ∧ r.Adv r' k := by
  induction f with
  | zero =>
    intro r k hi _ hf
    obtain rfl : k = 0 := Nat.le_zero.mp hf
    exact ⟨r, by simp [readFull], .refl hi⟩
  | succ f ih =>
    intro r k hi hk hf
    by_cases hk0 : k = 0
    · subst hk0; exact ⟨r, by simp [readFull], .refl hi⟩
    · have hk1 := Nat.pos_of_ne_zero hk0
      obtain ⟨m, r1, hr1, hm0, hmk, hms, h1⟩ := read_some r k hi hk1 (Nat.lt_of_lt_of_le hk1 hk)
      obtain ⟨r2, hr2, h2⟩ := ih r1 (k - m) h1.inv (by rw [h1.s, List.length_drop]; exact Nat.sub_le_sub_right hk m)
        (by omega)
      refine ⟨r2, by simp [readFull, hk0, hr1, hr2], ?_⟩
      rw [← Nat.add_sub_cancel' hmk]; exact h1.trans h2

theorem readFull_short (f : Nat) : ∀ (r : Rd) (k : Nat), r.Inv → r.s.length < k → readFull f r k = none := by
  induction f with
  | zero => intro r k _ hk; simp [readFull, Nat.ne_of_gt (Nat.zero_lt_of_lt hk)]
  | succ f ih =>
    intro r k hi hk
    have hk1 := Nat.zero_lt_of_lt hk
    by_cases hs : r.s.length = 0
    · simp [readFull, Nat.ne_of_gt hk1, read_none r k hi hk1 hs]
    · obtain ⟨m, r1, hr1, hm0, hmk, hms, h1⟩ := read_some r k hi hk1 (Nat.pos_of_ne_zero hs)
      have := ih r1 (k - m) h1.inv (by rw [h1.s, List.length_drop]; exact Nat.sub_lt_sub_right hms hk)
      simp [readFull, Nat.ne_of_gt hk1, hr1, this]

/-- A record as the writer emits it: 64 bytes starting with the length 62 (LE16). -/
def WFBuf (b : Bytes) : Prop := ∃ body, b = 62 :: 0 :: body ∧ body.length = 62
/-- The reader's buffer before a `ReadLock`: 64 bytes whose second byte is 0 (fresh zeros, or the previous record). -/
def OldOK (b : Bytes) : Prop := ∃ x rest, b = x :: 0 :: rest ∧ rest.length = 62

theorem WFBuf.oldOK {b : Bytes} (h : WFBuf b) : OldOK b := by
  obtain ⟨body, rfl, hl⟩ := h; exact ⟨62, body, rfl, hl⟩
theorem WFBuf.length {b : Bytes} (h : WFBuf b) : b.length = 64 := by
  obtain ⟨body, rfl, hl⟩ := h; simp [hl]
theorem OldOK.length {b : Bytes} (h : OldOK b) : b.length = 64 := by
  obtain ⟨x, rest, rfl, hl⟩ := h; simp [hl]
theorem zeros_oldOK : OldOK (zeros 64) := ⟨0, zeros 62, by decide, by decide⟩

theorem le16_cons2 (a b : UInt8) (xs : Bytes) : le16 (a :: b :: xs) 0 = a.toNat + 256 * b.toNat := rfl

theorem WFBuf.le16 {b : Bytes} (h : WFBuf b) : le16 b 0 = 62 := by
  obtain ⟨body, rfl, _⟩ := h; exact le16_cons2 62 0 body

theorem overlay_zero (old x : Bytes) : overlay old 0 x = x ++ old.drop x.length := by
  simp [overlay]

theorem overlay_take_drop (old b : Bytes) (m : Nat) (hl : old.length = b.length) (hm : m ≤ b.length) :
    overlay (overlay old 0 (b.take m)) m (b.drop m) = b := by
  have h1 : (b.take m).length = m := List.length_take_of_le hm
  have h2 : m + (b.drop m).length = b.length := by rw [List.length_drop]; exact Nat.add_sub_cancel' hm
  rw [overlay_zero, h1]
  unfold overlay
  rw [h2, List.take_left' h1, List.take_append_drop,
    List.drop_of_length_le (l := b.take m ++ old.drop m)
      (by rw [List.length_append, List.length_drop, h1, hl]; exact Nat.le_of_eq (Nat.add_sub_cancel' hm)),
    List.append_nil]

/-- The first bytes of a record, copied over the reader's buffer, already show the record's length field — even a single byte,
because the buffer's second byte is 0. -/
theorem le16_overlay_prefix (b old : Bytes) (m : Nat) (hb : WFBuf b) (ho : OldOK old) (hm : 0 < m) :
    le16 (overlay old 0 (b.take m)) 0 = 62 := by
  obtain ⟨body, rfl, _⟩ := hb
  obtain ⟨x, orest, rfl, _⟩ := ho
  match m, hm with
  | 1, _ => rfl
  | _ + 2, _ => rfl

theorem readLock_first (r r1 : Rd) (b old : Bytes) (m : Nat) (hr : r.read 64 = some (m, r1)) (htk : r.s.take m = b.take m)
    (hb : WFBuf b) (ho : OldOK old) (hm : 0 < m) (hm64 : m ≤ 64) :
    readLock r old =
      if m = 64 then .ok (overlay old 0 (b.take m)) r1
      else match readFull (64 - m) r1 (64 - m) with
        | none => .eof (overlay (overlay old 0 (b.take m)) m r1.s)
        | some r2 => .ok (overlay (overlay old 0 (b.take m)) m (r1.s.take (64 - m))) r2 := by
  have hsum : m + (64 - m) = 64 := by omega
  unfold readLock
  simp only [hr, htk, le16_overlay_prefix b old m hb ho hm, Nat.reduceAdd, hsum, if_true]
  rfl

/-- the returned reader does not depend on `old` (the loaders feed the previous record back as the next buffer) -/
theorem readLock_complete (r : Rd) (b tl : Bytes) (hi : r.Inv) (hb : WFBuf b) (hs : r.s = b ++ tl) :
    ∃ r', r'.s = tl ∧ r'.cap = r.cap ∧ r'.Inv ∧ ∀ old, OldOK old → readLock r old = .ok b r' := by
  have hbl := hb.length
  obtain ⟨m, r1, hr1, hm0, hm64, _, h1⟩ := read_some r 64 hi (by decide) (by rw [hs, List.length_append]; omega)
  have hmb : m ≤ b.length := hbl.symm ▸ hm64
  have htk : r.s.take m = b.take m := by rw [hs, List.take_append_of_le_length hmb]
  have hfirst := fun old ho => readLock_first r r1 b old m hr1 htk hb ho hm0 hm64
  by_cases hm : m = 64
  · refine ⟨r1, by rw [h1.s, hs, hm, ← hbl, List.drop_left], h1.cap, h1.inv, fun old ho => ?_⟩
    rw [hfirst old ho, if_pos hm, hm, ← hbl, List.take_length, overlay_zero,
      List.drop_of_length_le (Nat.le_of_eq (ho.length.trans hbl.symm)), List.append_nil]
  · obtain ⟨r2, hr2, h2⟩ := readFull_ok (64 - m) r1 (64 - m) h1.inv
      (by rw [h1.s, hs, List.length_drop, List.length_append]; omega) (Nat.le_refl _)
    have h12 := h1.trans h2
    rw [Nat.add_sub_cancel' hm64, ← hbl] at h12
    refine ⟨r2, by rw [h12.s, hs, List.drop_left], h12.cap, h12.inv, fun old ho => ?_⟩
    have hrest : r1.s.take (64 - m) = b.drop m := by
      have hl : (b.drop m).length = 64 - m := by rw [List.length_drop, hbl]
      rw [h1.s, hs, List.drop_append_of_le_length hmb, List.take_append_of_le_length (Nat.le_of_eq hl.symm),
        List.take_of_length_le (Nat.le_of_eq hl)]
    rw [hfirst old ho, if_neg hm, hr2, hrest, overlay_take_drop old b m (ho.length.trans hbl.symm) hmb]

theorem readLock_eof (r : Rd) (old : Bytes) (hi : r.Inv) (hs : r.s = []) : readLock r old = .eof old := by
  unfold readLock
  rw [read_none r 64 hi (by omega) (by simp [hs])]

/-- a torn tail is io.EOF like a clean end of the file, wherever the refills fall: the rest of a record is read with
io.ReadFull, which reports a short rest as end of file — never success, never "Lock Len error" -/
theorem readLock_torn (r : Rd) (b : Bytes) (res : Nat) (hi : r.Inv) (hb : WFBuf b)
    (h0 : 0 < res) (h64 : res < 64) (hs : r.s = b.take res) :
    ∀ old, OldOK old → ∃ buf', readLock r old = .eof buf' := by
  have hsl : r.s.length = res := by rw [hs]; exact List.length_take_of_le (by rw [hb.length]; exact Nat.le_of_lt h64)
  obtain ⟨m, r1, hr1, hm0, hmk, hms, h1⟩ := read_some r 64 hi (by decide) (hsl ▸ h0)
  rw [hsl] at hms
  have htk : r.s.take m = b.take m := by rw [hs, List.take_take, Nat.min_eq_left hms]
  intro old ho
  rw [readLock_first r r1 b old m hr1 htk hb ho hm0 hmk, if_neg (Nat.ne_of_lt (Nat.lt_of_le_of_lt hms h64)),
    readFull_short (64 - m) r1 (64 - m) h1.inv (by rw [h1.s, List.length_drop, hsl]; exact Nat.sub_lt_sub_right hms h64)]
  exact ⟨_, rfl⟩

/-- a tail of the record file at which `ReadLock` reports end of file whatever the reader's buffer holds: nothing, or a torn
record -/
def EofTail (tl : Bytes) : Prop := ∀ r' : Rd, r'.s = tl → r'.Inv → ∀ old, OldOK old → ∃ b, readLock r' old = .eof b

theorem EofTail.nil : EofTail [] := fun r' hs hi old _ => ⟨old, readLock_eof r' old hi hs⟩

theorem EofTail.torn (b : Bytes) (res : Nat) (hb : WFBuf b) (h64 : res < 64) : EofTail (b.take res) := by
  intro r' hs hi old ho
  by_cases h0 : res = 0
  · subst h0; exact EofTail.nil r' hs hi old ho
  · exact readLock_torn r' b res hi hb (Nat.pos_of_ne_zero h0) h64 hs old ho

/-- A value frame as the writer emits it: 4-byte LE length, then that many bytes. -/
def BlobWF (blob : Bytes) : Prop := ∃ lenb payload, blob = lenb ++ payload ∧ lenb.length = 4 ∧ leNat lenb = payload.length

theorem readLockData_complete (d : Rd) (blob rest : Bytes) (hi : d.Inv) (hb : BlobWF blob) (hs : d.s = blob ++ rest) :
    ∃ d', readLockData d = some (blob, d') ∧ d'.s = rest ∧ d'.cap = d.cap ∧ d'.Inv := by
  obtain ⟨lenb, payload, rfl, hl4, hln⟩ := hb
  rw [List.append_assoc] at hs
  obtain ⟨d1, hd1, h1⟩ := readFull_ok 4 d 4 hi (by rw [hs, List.length_append]; omega) (Nat.le_refl _)
  have htk : d.s.take 4 = lenb := by rw [hs, ← hl4, List.take_left]
  have hs1 : d1.s = payload ++ rest := by rw [h1.s, hs, ← hl4, List.drop_left]
  unfold readLockData
  simp only [hd1, htk, hln]
  by_cases hp : payload.length = 0
  · obtain rfl : payload = [] := List.eq_nil_of_length_eq_zero hp
    exact ⟨d1, by simp, hs1, h1.cap, h1.inv⟩
  · obtain ⟨d2, hd2, h2⟩ := readFull_ok payload.length d1 payload.length h1.inv (by rw [hs1, List.length_append]; omega)
      (Nat.le_refl _)
    refine ⟨d2, ?_, by rw [h2.s, hs1, List.drop_left], h2.cap.trans h1.cap, h2.inv⟩
    simp only [hp, if_false, hd2, hs1, List.take_left]

theorem readLockData_short (d : Rd) (blob : Bytes) (c : Nat) (hi : d.Inv) (hb : BlobWF blob) (hs : d.s = blob.take c)
    (hc : c < blob.length) : readLockData d = none := by
  obtain ⟨lenb, payload, rfl, hl4, hln⟩ := hb
  have hsl : d.s.length = c := by rw [hs]; exact List.length_take_of_le (Nat.le_of_lt hc)
  rw [List.length_append, hl4] at hc
  unfold readLockData
  by_cases h4 : c < 4
  · rw [readFull_short 4 d 4 hi (hsl ▸ h4)]
  · have h4 := Nat.not_lt.mp h4
    obtain ⟨d1, hd1, h1⟩ := readFull_ok 4 d 4 hi (hsl ▸ h4) (Nat.le_refl _)
    have htk : d.s.take 4 = lenb := by rw [hs, List.take_take, Nat.min_eq_left h4, ← hl4, List.take_left]
    have hp : ¬ payload.length = 0 := by omega
    simp only [hd1, htk, hln, hp, if_false]
    rw [readFull_short payload.length d1 payload.length h1.inv
      (by rw [h1.s, List.length_drop, hsl]; exact Nat.sub_lt_left_of_lt_add h4 hc)]

end Slock.Aof
