import Slock.Proofs.Engine2Lv
import Slock.Proofs.Engine2RCQ
/-! Stage-2 engine: the invariant of the record being worked on, through every helper of an operation. -/
namespace Slock.Engine2

/-- `Lv` Guarded: the invariant as long as the key record has not been reclaimed -/
def LvG (w : W) (ex : Nat → Int) : Prop := w.gone = false → Lv w ex

theorem LvG.of_lv {w : W} {ex : Nat → Int} (h : Lv w ex) : LvG w ex := fun _ => h

/-- book-keeping steps touch neither a count nor a queue nor what `Side` reads -/
theorem Chain.lv {data : Option Bytes} {q : Bool} {w0 w : W} {ex : Nat → Int} (h : Chain data true q w0 w) (l : Lv w0 ex) : Lv w ex :=
  h.book (J := fun w => Lv w ex)
    (fun w rid f hf j => j.modR_plain rid f ⟨hf.rid, by cases hf <;> intro _ <;> rfl, by cases hf <;> intro _ <;> rfl,
      by cases hf <;> intro _ <;> rfl, by cases hf <;> intro _ <;> rfl⟩)
    (fun _ _ _ j => ⟨j.rc.transfer rfl rfl (fun _ => rfl), j.side.of_le (RecsLe.of_eq rfl) (Nat.le_refl _)⟩)
    (fun _ _ _ _ j => j.db rfl (Nat.le_refl _)) (fun _ _ j => j.db rfl (Nat.le_refl _)) l

theorem Lv.grantNoHold {w : W} {ex : Nat → Int} (h : Lv w ex) (rid : Nat) : Lv (w.grantNoHold rid) ex := (book_grantNoHold w rid).lv h

theorem Lv.ref {w : W} {ex : Nat → Int} (h : Lv w ex) (rid : Nat) (hh : w.k.hasRec rid) :
    Lv (w.ref rid) (fun y => ex y + delta rid y) := by
  refine h.modR rid _ (fun _ => rfl) (h.rc.incr rid hh) ?_
  intro r hr _
  exact h.side.ok r hr

theorem Lv.wheel {w : W} {ex : Nat → Int} (h : Lv w ex) (rid : Nat) (f : Rec → Rec) (hf : ∀ r, (f r).rid = r.rid)
    (h1 : ∀ r, (f r).refCount = r.refCount) (d : Int)
    (hw : ((f (w.k.getR rid)).wheelRefs : Int) = (w.k.getR rid).wheelRefs + d) (hh : w.k.hasRec rid)
    (hok : ∀ r ∈ w.k.recs, r.rid = rid → RecOk (f r)) :
    Lv (w.modR rid f) (fun y => ex y - d * delta rid y) := by
  refine h.modR rid f hf ?_ hok
  refine h.rc.modRec rid f hf (fun y hy => by simp [delta, hy]) (fun _ => ?_) (fun hn => absurd hh hn)
  rw [h1]; simp only [delta, if_true]; omega

theorem wheelRefs_tNone (r : Rec) : (({ r with tSched := none } : Rec).wheelRefs : Int) =
    r.wheelRefs - (if r.tSched.isSome then 1 else 0) := by
  unfold Rec.wheelRefs; cases r.tSched <;> cases r.eSched <;> simp
theorem wheelRefs_eNone (r : Rec) : (({ r with eSched := none } : Rec).wheelRefs : Int) =
    r.wheelRefs - (if r.eSched.isSome then 1 else 0) := by
  unfold Rec.wheelRefs; cases r.tSched <;> cases r.eSched <;> simp

theorem armT_wheel (a : Nat × Sched) (r : Rec) : ((r.armT a).wheelRefs : Int) = r.wheelRefs + (if r.tSched.isSome then 0 else 1) := by
  unfold Rec.armT Rec.wheelRefs; cases r.tSched <;> cases r.eSched <;> simp
theorem armE_wheel (a : Nat × Sched) (r : Rec) : ((r.armE a).wheelRefs : Int) = r.wheelRefs + (if r.eSched.isSome then 0 else 1) := by
  unfold Rec.armE Rec.wheelRefs; cases r.tSched <;> cases r.eSched <;> simp

/-- `AddTimeOut`: `d = 1` for a record without a timeout-wheel entry (one reference more, not yet counted), `d = 0` for an entry
the sweeper has just popped and pushes again -/
theorem Lv.addTimeOut {w : W} {ex : Nat → Int} (h : Lv w ex) (rid : Nat) (hh : w.k.hasRec rid) (d : Int)
    (ht : (if (w.k.getR rid).tSched.isSome then 0 else 1) = d) (he : (w.k.getR rid).eSched.isSome = false) :
    Lv (w.addTimeOut rid) (fun y => ex y - d * delta rid y) := by
  unfold W.addTimeOut
  simp only []
  have h1 := h.wheel rid (Rec.armT (Slock.Engine.wheelAdd w.db.tCheck w.db.seq (w.k.getR rid).timeoutT (w.k.getR rid).tChecked))
    (fun _ => rfl) (fun _ => rfl) d (by rw [armT_wheel, ← ht]) hh (by
      intro r hr er _
      have : w.k.getR rid = r := by rw [← er]; exact mem_eq_getR h.rc.nodup hr
      rw [this] at he; exact he)
  exact h1.db rfl (Nat.le_refl _)

theorem Lv.schedExpried {w : W} {ex : Nat → Int} (h : Lv w ex) (rid : Nat) (hh : w.k.hasRec rid) (d : Int)
    (he : (if (w.k.getR rid).eSched.isSome then 0 else 1) = d) (hto : (w.k.getR rid).timeouted = true) :
    Lv (w.schedExpried rid) (fun y => ex y - d * delta rid y) := by
  unfold W.schedExpried
  simp only []
  have h1 := h.wheel rid (Rec.armE (Slock.Engine.wheelAdd w.db.eCheck w.db.seq (w.k.getR rid).expT (w.k.getR rid).eChecked))
    (fun _ => rfl) (fun _ => rfl) d (by rw [armE_wheel, ← he]) hh (by
      intro r hr er hf
      have : w.k.getR rid = r := by rw [← er]; exact mem_eq_getR h.rc.nodup hr
      rw [this] at hto
      have hf' : r.timeouted = false := hf
      rw [hto] at hf'; exact absurd hf' (by simp))
  exact h1.db rfl (Nat.le_refl _)

theorem Lv.timeouted_of_eSched {w : W} {ex : Nat → Int} (h : Lv w ex) (rid : Nat) (hh : w.k.hasRec rid)
    (he : (w.k.getR rid).eSched.isSome = true) : (w.k.getR rid).timeouted = true := by
  cases ht : (w.k.getR rid).timeouted with
  | true => rfl
  | false => have := h.side.ok _ (getR_mem hh) ht; rw [this] at he; exact absurd he (by simp)

theorem Lv.addExpried {w : W} {ex : Nat → Int} (h : Lv w ex) (rid : Nat) (hh : w.k.hasRec rid) (d : Int)
    (he : (if (w.k.getR rid).eSched.isSome then 0 else 1) = d) (hto : (w.k.getR rid).timeouted = true) :
    Lv (w.addExpried rid) (fun y => ex y - d * delta rid y) := (book_addExpried w rid).lv (h.schedExpried rid hh d he hto)

/-- `clr` takes a record that is `on` a wheel off it: `{ r with tSched := none }` and `{ r with eSched := none }` -/
structure Unwheel (clr : Rec → Rec) (on : Rec → Bool) : Prop where
  rid : ∀ r, (clr r).rid = r.rid
  refCount : ∀ r, (clr r).refCount = r.refCount
  wheel : ∀ r, on r = true → ((clr r).wheelRefs : Int) = r.wheelRefs - 1
  ok : ∀ r, RecOk r → RecOk (clr r)

theorem unwheelT : Unwheel (fun r => { r with tSched := none }) (·.tSched.isSome) :=
  ⟨fun _ => rfl, fun _ => rfl, fun r (h : r.tSched.isSome = true) => by rw [wheelRefs_tNone, h]; simp, fun _ h => h⟩
theorem unwheelE : Unwheel (fun r => { r with eSched := none }) (·.eSched.isSome) :=
  ⟨fun _ => rfl, fun _ => rfl, fun r (h : r.eSched.isSome = true) => by rw [wheelRefs_eNone, h]; simp, fun _ _ _ => rfl⟩

theorem Lv.unwheel {w : W} {ex : Nat → Int} {clr : Rec → Rec} {on : Rec → Bool} (u : Unwheel clr on) (h : Lv w ex) (rid : Nat)
    (hh : w.k.hasRec rid) (hs : on (w.k.getR rid) = true) : Lv (w.modR rid clr) (fun y => ex y + delta rid y) :=
  (h.wheel rid clr u.rid u.refCount (-1) (by rw [u.wheel _ hs]; omega) hh (fun r hr _ => u.ok r (h.side.ok r hr))).congr (fun y => by simp)

theorem Lv.unwheelUnref {w : W} {clr : Rec → Rec} {on : Rec → Bool} (u : Unwheel clr on)
    (h : Lv w zero) (rid : Nat) (hh : w.k.hasRec rid) (hs : on (w.k.getR rid) = true) :
    Lv (w.modK fun k => (k.modRec rid clr).unrefOnly rid) zero := by
  have h1 := h.unwheel u rid hh hs
  have h2 := h1.rc.unrefOnly rid ((hasRec_modRec _ _ _ _ u.rid).mpr hh) (by
    have := zero_nonneg rid; simp only [delta, if_true]; omega)
  exact ⟨h2.congr (fun y => by simp [delta]), h1.side.of_le (RecsLe.unrefOnly _ _) (Nat.le_refl _)⟩

theorem Lv.removeLongT {w : W} (h : Lv w zero) (rid : Nat) (hh : w.k.hasRec rid)
    (ht : (w.k.getR rid).tSched.isSome = true) : Lv (w.removeLongT rid) zero := h.unwheelUnref unwheelT rid hh ht
theorem Lv.removeLongE {w : W} (h : Lv w zero) (rid : Nat) (hh : w.k.hasRec rid)
    (ht : (w.k.getR rid).eSched.isSome = true) : Lv (w.removeLongE rid) zero := h.unwheelUnref unwheelE rid hh ht

theorem tLong_isSome (r : Rec) (h : r.tLong = true) : r.tSched.isSome = true := by
  unfold Rec.tLong at h; cases ht : r.tSched <;> simp [ht] at h ⊢
theorem eLong_isSome (r : Rec) (h : r.eLong = true) : r.eSched.isSome = true := by
  unfold Rec.eLong at h; cases ht : r.eSched <;> simp [ht] at h ⊢

theorem Lv.dropLongT {w : W} (h : Lv w zero) (rid : Nat) (hh : w.k.hasRec rid) :
    Lv (w.dropLongT rid) zero := by
  unfold W.dropLongT W.when
  split
  · rename_i hl; exact h.removeLongT rid hh (tLong_isSome _ hl)
  · exact h

theorem addRec_rc {k : Key} {ex : Nat → Int} (h : RCx k ex) (r : Rec) (hn : ¬ k.hasRec r.rid) (h0 : r.refCount = 0) (hw : r.wheelRefs = 0)
    (hq : (k.qRefs r.rid : Int) + ex r.rid = 0) : RCx (k.addRec r) ex := by
  unfold Key.addRec
  refine ⟨?_, ?_, by simp [h.mgr], ?_⟩
  · simp only [List.map_append, List.map_cons, List.map_nil]
    apply List.nodup_append.mpr
    refine ⟨h.nodup, by simp, ?_⟩
    intro a ha b hb
    simp at hb
    obtain ⟨r0, hr0, e⟩ := List.mem_map.mp ha
    intro e'
    exact hn ⟨r0, hr0, by rw [e, e', hb]⟩
  · intro r1 hr1
    rcases List.mem_append.mp hr1 with h1 | h1
    · exact h.rc r1 h1
    · simp at h1
      subst h1
      have : ({ k with recs := k.recs ++ [r1], refCount := k.refCount + 1 } : Key).qRefs r1.rid = k.qRefs r1.rid := rfl
      rw [this, h0, hw]; omega
  · intro x hx
    obtain ⟨r0, hr0, e⟩ := h.dang x hx
    exact ⟨r0, List.mem_append_left _ hr0, e⟩

theorem Lv.newLock {w : W} {ex : Nat → Int} (hex : ∀ y, 0 ≤ ex y) (h : Lv w ex) (c : Cmd) (d : Option Bytes) :
    Lv (w.newLock c d).1 ex ∧ (w.newLock c d).1.k.hasRec w.db.nextRid ∧ (w.newLock c d).2 = w.db.nextRid ∧
    (w.newLock c d).1.k.qRefs w.db.nextRid = 0 ∧ ex w.db.nextRid = 0 ∧
    (w.newLock c d).1.k.getR w.db.nextRid = newRec w.db.nextRid w.db.now c d := by
  have hrid : (newRec w.db.nextRid w.db.now c d).rid = w.db.nextRid := rfl
  have hnot : ¬ w.k.hasRec (newRec w.db.nextRid w.db.now c d).rid := by
    rw [hrid]
    rintro ⟨r, hr, e⟩
    have := h.side.fresh r hr
    omega
  have hq : (w.k.qRefs w.db.nextRid : Int) + ex w.db.nextRid ≤ 0 := by
    apply Classical.byContradiction
    intro hn
    exact hnot (by rw [hrid]; exact h.rc.dang _ (by omega))
  have hq0 : w.k.qRefs w.db.nextRid = 0 := by have := hex w.db.nextRid; omega
  have hex0 : ex w.db.nextRid = 0 := by have := hex w.db.nextRid; omega
  have hrc := addRec_rc h.rc (newRec w.db.nextRid w.db.now c d) hnot rfl rfl (by rw [hrid]; omega)
  refine ⟨⟨hrc, ?_, ?_⟩, ⟨_, List.mem_append_right _ (List.mem_singleton.mpr rfl), rfl⟩, rfl, hq0, hex0, getR_addRec_same _ _ hnot⟩
  · intro r hr
    rcases List.mem_append.mp hr with h1 | h1
    · exact Nat.lt_succ_of_lt (h.side.fresh r h1)
    · simp at h1; subst h1; exact Nat.lt_succ_self _
  · intro r hr
    rcases List.mem_append.mp hr with h1 | h1
    · exact h.side.ok r h1
    · simp at h1; subst h1; intro hf; simp [newRec] at hf

theorem Lv.addLock {w : W} (h : Lv w zero) (rid : Nat) (hh : w.k.hasRec rid) :
    Lv (w.addLock rid) zero := by
  unfold W.addLock
  have hf := addLockF_fields w.db w.k
  have h1 : RCx (w.k.modRec rid (addLockF w.db w.k)) (fun y => zero y + delta rid y) := by
    refine h.rc.modRec rid _ (fun r => (hf r).rid) (fun y hy => by simp [delta, hy]) (fun _ => ?_) (fun hn => absurd hh hn)
    have := hf (w.k.getR rid)
    simp only [Rec.wheelRefs, this.eSched, this.tSched, this.refCount, delta, if_true]; omega
  refine h.modK _ (addLock_rc zero_nonneg rid _ h1) (RecsLe.addLock _ _ _ (fun r => ⟨(hf r).rid, (hf r).timeouted, by rw [(hf r).eSched]⟩))

theorem hasRec_of_le {k k' : Key} (x : Nat) (h : k'.recs.map (·.rid) = k.recs.map (·.rid)) : k'.hasRec x ↔ k.hasRec x := by
  have : ∀ k : Key, k.hasRec x ↔ x ∈ k.recs.map (·.rid) := by
    intro k; unfold Key.hasRec; simp [List.mem_map]
  rw [this, this, h]

theorem keep_locksPush (k : Key) (rid y : Nat) (hy : k.liveHolder y = true) :
    (k.locksPush rid).getR y = k.getR y ∧ ((k.locksPush rid).hasRec y ↔ k.hasRec y) := by
  unfold Key.locksPush
  simp only []
  split
  · exact ⟨rfl, Iff.rfl⟩
  · split
    · exact ⟨rfl, Iff.rfl⟩
    · have hnd : y ∉ k.locks.filter (fun x => !k.liveHolder x) := by
        intro hm
        have := (List.mem_filter.mp hm).2
        rw [hy] at this; simp at this
      split
      · exact keep_foldl_unref _ _ _ hnd
      · exact keep_foldl_unref _ _ _ hnd

theorem keep_addLock (k : Key) (rid : Nat) (f : Rec → Rec) (hf : ∀ r, (f r).rid = r.rid) (hd : ∀ r, (f r).depth = 1) (hh : k.hasRec rid) :
    (k.addLock rid f).getR rid = f (k.getR rid) ∧ (k.addLock rid f).hasRec rid := by
  have h1 : (k.modRec rid f).getR rid = f (k.getR rid) := getR_modRec_same _ _ _ hh hf
  have h2 : (k.modRec rid f).hasRec rid := (hasRec_modRec _ _ _ _ hf).mpr hh
  unfold Key.addLock
  split
  · exact ⟨h1, h2⟩
  · have hl : (k.modRec rid f).liveHolder rid = true := by unfold Key.liveHolder; rw [h1, hd]; rfl
    obtain ⟨a, b⟩ := keep_locksPush (k.modRec rid f) rid rid hl
    exact ⟨a.trans h1, b.mpr h2⟩

def Key.ids (k : Key) : List Nat := k.recs.map (·.rid)

theorem hasRec_iff_ids (k : Key) (x : Nat) : k.hasRec x ↔ x ∈ k.ids := by
  unfold Key.hasRec Key.ids; simp [List.mem_map]

theorem ids_modRec (k : Key) (rid : Nat) (f : Rec → Rec) (hf : ∀ r, (f r).rid = r.rid := by intro _; rfl) : (k.modRec rid f).ids = k.ids :=
  map_rid_modRec k rid f hf

theorem Chain.ids {data : Option Bytes} {q : Bool} {w0 w : W} (h : Chain data true q w0 w) : w.k.ids = w0.k.ids :=
  h.book (J := fun w => w.k.ids = w0.k.ids) (fun _ rid f hf j => (ids_modRec _ rid f hf.rid).trans j) (fun _ _ _ j => j) (fun _ _ _ _ j => j) (fun _ _ j => j) rfl

theorem ids_addExpried (w : W) (rid : Nat) : (w.addExpried rid).k.ids = w.k.ids := (book_addExpried w rid).ids.trans (ids_modRec _ _ _)

theorem ids_addTimeOut (w : W) (rid : Nat) : (w.addTimeOut rid).k.ids = w.k.ids := ids_modRec _ _ _ (fun _ => rfl)

theorem ids_when (w : W) (b : Bool) (f : W → W) (hf : ∀ w, (f w).k.ids = w.k.ids) : (w.when b f).k.ids = w.k.ids := by
  cases b
  · rfl
  · exact hf w

theorem ids_journalUnlock (w : W) (rid : Nat) (a b : Bool) (flag : Nat) : (w.journalUnlock rid a b flag).k.ids = w.k.ids :=
  (book_journalUnlock w rid a b flag).ids

theorem ids_procData (w : W) (ct : Slock.Value.CmdType) (c : Cmd) (f : Option Bytes) (rid : Nat) : (w.procData ct c f rid).k.ids = w.k.ids :=
  (book_procData w ct c f rid).ids

theorem ids_removeLongT (w : W) (rid : Nat) : (w.removeLongT rid).k.ids = w.k.ids := by
  unfold W.removeLongT Key.unrefOnly
  exact (ids_modRec _ rid _).trans (ids_modRec _ rid _)

theorem hasRec_of_ids {k k' : Key} (h : k'.ids = k.ids) (x : Nat) : k'.hasRec x ↔ k.hasRec x := by
  rw [hasRec_iff_ids, hasRec_iff_ids, h]

theorem keep_procData (w : W) (ct : Slock.Value.CmdType) (c : Cmd) (f : Option Bytes) (rid y : Nat) :
    ((w.procData ct c f rid).k.hasRec y ↔ w.k.hasRec y) ∧
    ((w.procData ct c f rid).k.getR y).eSched = (w.k.getR y).eSched ∧ ((w.procData ct c f rid).k.getR y).tSched = (w.k.getR y).tSched ∧
    ((w.procData ct c f rid).k.getR y).timeouted = (w.k.getR y).timeouted ∧ ((w.procData ct c f rid).k.getR y).cmd = (w.k.getR y).cmd ∧
    ((w.procData ct c f rid).k.getR y).conn = (w.k.getR y).conn ∧ ((w.procData ct c f rid).k.getR y).depth = (w.k.getR y).depth ∧
    ((w.procData ct c f rid).k.getR y).data = (w.k.getR y).data ∧ ((w.procData ct c f rid).k.getR y).isAof = (w.k.getR y).isAof :=
  ⟨hasRec_of_ids (book_procData w ct c f rid).ids y, procData_proj (·.eSched) (fun _ _ => rfl) .., procData_proj (·.tSched) (fun _ _ => rfl) ..,
    procData_proj (·.timeouted) (fun _ _ => rfl) .., procData_proj (·.cmd) (fun _ _ => rfl) .., procData_proj (·.conn) (fun _ _ => rfl) ..,
    procData_proj (·.depth) (fun _ _ => rfl) .., procData_proj (·.data) (fun _ _ => rfl) .., procData_proj (·.isAof) (fun _ _ => rfl) ..⟩

theorem getR_unwheelUnref (k : Key) (rid : Nat) (clr : Rec → Rec) (hf : ∀ r, (clr r).rid = r.rid) (hh : k.hasRec rid) :
    ((k.modRec rid clr).unrefOnly rid).hasRec rid ∧
    ((k.modRec rid clr).unrefOnly rid).getR rid = { clr (k.getR rid) with refCount := decU8 (clr (k.getR rid)).refCount } := by
  have h1 := (hasRec_modRec k rid rid clr hf).mpr hh
  unfold Key.unrefOnly
  refine ⟨(hasRec_modRec _ _ _ _).mpr h1, ?_⟩
  rw [getR_modRec_same _ _ _ h1, getR_modRec_same _ _ _ hh hf]

theorem getR_removeLongE (w : W) (rid : Nat) (hh : w.k.hasRec rid) :
    (w.removeLongE rid).k.hasRec rid ∧ ((w.removeLongE rid).k.getR rid).eSched = none ∧
    ((w.removeLongE rid).k.getR rid).timeouted = (w.k.getR rid).timeouted :=
  have ⟨a, b⟩ := getR_unwheelUnref w.k rid (fun r => { r with eSched := none }) (fun _ => rfl) hh
  ⟨a, (congrArg Rec.eSched b :), (congrArg Rec.timeouted b :)⟩

theorem LvG.unrefCheck {w : W} {ex : Nat → Int} (h : LvG w ex) (rid : Nat) (hpos : w.gone = false → 0 < (w.k.qRefs rid : Int) + ex rid) :
    LvG (w.unrefCheck rid) (fun y => ex y - delta rid y) := fun hg' => by
  have hg := gone_of_fr (Fr.unrefCheck w rid) hg'
  obtain ⟨ek, ed⟩ := unrefCheck_live w rid hg'
  exact ⟨by rw [ek]; exact (h hg).rc.unref rid (hpos hg), by rw [ek, ed]; exact (h hg).side.of_le (RecsLe.unref _ _) (Nat.le_refl _)⟩

theorem LvG.unwheelUnrefCheck {w : W} {clr : Rec → Rec} {on : Rec → Bool} (u : Unwheel clr on) (h : LvG w zero)
    (rid : Nat) (hs : w.gone = false → w.k.hasRec rid ∧ on (w.k.getR rid) = true) :
    LvG ((w.modR rid clr).unrefCheck rid) zero := by
  have h1 : LvG (w.modR rid clr) (fun y => zero y + delta rid y) := fun hg => (h hg).unwheel u rid (hs hg).1 (hs hg).2
  refine fun hg => ((h1.unrefCheck rid ?_) hg).congr (fun y => by simp)
  intro _
  have := zero_nonneg rid
  simp only [delta, if_true]; omega

end Slock.Engine2
