import Slock.Proofs.QueueRestr
/-! `LongWaitLockQueue` (db.go 19–60) and `restructuringLong{TimeOut,Expried}Queue` (db.go, repaired) over the
segmented deque: Push / Pop / Remove (in-place hole) / restructuring. -/
namespace Slock.Queue

def LInv (l : LongQ) : Prop := QInv l.q ∧ HeadClean l.q

theorem longPush_spec {l : LongQ} (h : LInv l) (id : Nat) :
    ∃ l', longPush l id = .ok l' ∧ LInv l' ∧ abs l'.q = abs l.q ++ [some id] := by
  obtain ⟨q', e, hq, ha, hc⟩ := push_spec h.1 (some id)
  exact ⟨{ (l.setIdx id l.q.tni (l.q.tqi + 1)) with q := q', lockCount := l.lockCount + 1 },
    by simp only [longPush, e, Res.ok_bind, Res.pure_eq], ⟨hq, hc h.2⟩, ha⟩

theorem longPop_spec {l : LongQ} (h : LInv l) :
    ∃ l', longPop l = .ok (l', (abs l.q).head?.join) ∧ LInv l' ∧ abs l'.q = (abs l.q).tail := by
  obtain ⟨q', e, hq, ha, hc⟩ := pop_spec h.1
  cases hx : (abs l.q).head?.join with
  | none =>
    rw [hx] at e
    exact ⟨{ l with q := q' }, by simp only [longPop, e, Res.ok_bind, Res.pure_eq], ⟨hq, hc h.2⟩, ha⟩
  | some id =>
    rw [hx] at e
    exact ⟨{ (l.clearIdx id) with q := q', lockCount := l.lockCount - 1 },
      by simp only [longPop, e, Res.ok_bind, Res.pure_eq], ⟨hq, hc h.2⟩, ha⟩

/-- the precondition of `Remove(lock)`: the lock's `longWaitIndex` designates the cell at content position `p` -/
def removeAt (l : LongQ) (id p : Nat) : Bool :=
  let nc := lookIdx l id
  nc.2 != 0 && decide (p < (abs l.q).length) &&
  decide (off l.q.queues nc.1 + (nc.2 - 1) = off l.q.queues l.q.hni + l.q.hqi + p) &&
  (match l.q.queues[nc.1]? with
   | some (some a) => decide (nc.2 - 1 < a.length)
   | _ => false)

theorem longRemove_spec {l : LongQ} (h : LInv l) (id p : Nat) (hp : removeAt l id p = true) :
    ∃ l', longRemove l id = .ok l' ∧ LInv l' ∧ abs l'.q = (abs l.q).set p none := by
  unfold removeAt at hp
  simp only [Bool.and_eq_true, bne_iff_ne, ne_eq, decide_eq_true_eq] at hp
  obtain ⟨⟨⟨hc0, _⟩, hpos⟩, hcell⟩ := hp
  cases hq : l.q.queues[(lookIdx l id).1]? with
  | none => simp [hq] at hcell
  | some s =>
    cases s with
    | none => simp [hq] at hcell
    | some a =>
      simp only [hq, decide_eq_true_eq] at hcell
      have hs := shape_set_cell l.q.queues (lookIdx l id).1 ((lookIdx l id).2 - 1) a none hq
      refine ⟨{ (l.clearIdx id) with q := { l.q with queues := l.q.queues.set (lookIdx l id).1 (some (a.set ((lookIdx l id).2 - 1) none)) },
                                       freeCount := l.freeCount + 1 }, ?_,
        ⟨h.1.setQueues hs, (cleanL_set _ _ _ _ _ hq hcell l.q.hni l.q.hqi).mpr (clean_set (Or.inr rfl) h.2)⟩, ?_⟩
      · unfold longRemove
        simp only [hc0, if_false, hq, hcell, if_true]
      · show absL _ l.q.hni l.q.hqi l.q.tni l.q.tqi = _
        rw [absL_set _ _ _ _ _ hq hcell, hpos]
        exact window_set_in _ _ _ _ _

@[simp] theorem Res.panic_bind {α β : Type} (f : α → Res β) : (Res.panic >>= f) = Res.panic := rfl
@[simp] theorem Res.unmodelled_bind {α β : Type} (f : α → Res β) : (Res.unmodelled >>= f) = Res.unmodelled := rfl

def Res.map {α β : Type} (f : α → β) : Res α → Res β
  | .ok a => .ok (f a)
  | .panic => .panic
  | .unmodelled => .unmodelled

theorem Res.map_eq_ok {α β : Type} {f : α → β} {r : Res α} {b : β} (h : r.map f = .ok b) : ∃ a, r = .ok a ∧ f a = b := by
  cases r with
  | ok a => exact ⟨a, rfl, Res.ok.inj h⟩
  | panic => cases h
  | unmodelled => cases h

theorem Res.map_bind {α β γ δ : Type} {f : α → γ} {g : β → δ} {r : Res α} {r' : Res γ} {k : α → Res β} {k' : γ → Res δ}
    (hr : r.map f = r') (hk : ∀ a, (k a).map g = k' (f a)) : (r >>= k).map g = r' >>= k' := by
  subst hr
  cases r with
  | ok a => exact hk a
  | panic => rfl
  | unmodelled => rfl

theorem longPush_q (l : LongQ) (id : Nat) : (longPush l id).map (·.q) = push l.q (some id) := by
  unfold longPush
  cases push l.q (some id) <;> rfl

/-- the db.go copy of the compaction loop is the queue.go loop on the `q` component (panics included) -/
theorem longRestrRange_q (j : Nat) : ∀ n k (l : LongQ), (longRestrRange j k n l).map (·.q) = restrRange j k n l.q := by
  intro n
  induction n with
  | zero => intro k l; rfl
  | succ n ih =>
    intro k l
    unfold restrRange longRestrRange
    cases slot l.q j with
    | panic => rfl
    | unmodelled => rfl
    | ok s =>
      cases s with
      | none => rfl
      | some a =>
        simp only [Res.ok_bind]
        cases hk : a[k]? with
        | none => rfl
        | some c =>
          cases c with
          | none => exact ih (k + 1) l
          | some x => exact Res.map_bind (longPush_q _ x) (ih (k + 1))

theorem longRestrNodes_q : ∀ n j (l : LongQ), (longRestrNodes j n l).map (·.q) = restrNodes j n l.q := by
  intro n
  induction n with
  | zero => intro j l; rfl
  | succ n ih =>
    intro j l
    unfold restrNodes longRestrNodes
    cases size l.q j with
    | panic => rfl
    | unmodelled => rfl
    | ok s =>
      simp only [Res.ok_bind]
      exact Res.map_bind (longRestrRange_q j s 0 l) (ih (j + 1))

theorem sumSizes_nodeIndex (q : Q) (x : Nat) : ∀ n i, sumSizes { q with nodeIndex := x } i n = sumSizes q i n := by
  intro n
  induction n with
  | zero => intro i; rfl
  | succ n ih => intro i; simp only [sumSizes, ih]; rfl

theorem len_nodeIndex (q : Q) (x : Nat) : len { q with nodeIndex := x } = len q := by
  unfold len
  simp only [sumSizes_nodeIndex]
  rfl

/-- the recomputed allocation size `baseQueueSize * 2^tailNodeIndex` fits an int32 -/
def LongQsOK (q : Q) : Prop := 0 < q.baseQueueSize ∧ q.baseQueueSize * 2 ^ q.nodeIndex < 2147483648

instance (q : Q) : Decidable (LongQsOK q) := by unfold LongQsOK; exact inferInstance

theorem longQs_bounds (B N T' : Nat) (hB : 0 < B) (hN : B * 2 ^ N < 2147483648) (hT : T' ≤ N) :
    0 < longQueueSize B T' ∧ longQueueSize B T' < 1073741824 := by
  unfold longQueueSize
  have hp : 2 ^ T' ≤ 2 ^ N := Nat.pow_le_pow_right (by omega) hT
  have hm : B * 2 ^ T' ≤ B * 2 ^ N := Nat.mul_le_mul_left _ hp
  have hpos : 0 < 2 ^ T' := Nat.two_pow_pos T'
  have h1 : 2 ^ T' ≤ B * 2 ^ T' := Nat.le_mul_of_pos_left _ hB
  have hT31 : T' < 31 := by
    by_cases c : T' < 31
    · exact c
    · have : 2 ^ 31 ≤ 2 ^ T' := Nat.pow_le_pow_right (by omega) (by omega)
      omega
  have hmm : (maxMalloc : Int) = 67108863 := by simp [maxMalloc, Slock.Gen.C.QUEUE_MAX_MALLOC_SIZE]
  have hs : shl1 T' = ((2 ^ T' : Nat) : Int) := by simp [shl1, hT31]
  have hprod : (B : Int) * ((2 ^ T' : Nat) : Int) = ((B * 2 ^ T' : Nat) : Int) := by rw [Int.natCast_mul]
  have hposP : 0 < B * 2 ^ T' := Nat.mul_pos hB hpos
  simp only [hs, hprod, hmm]
  have hlt : B * 2 ^ T' < 2147483648 := by omega
  clear hp hm h1 hpos hs hprod hN hT31
  generalize B * 2 ^ T' = P at *
  have hw : wrap32 (P : Int) = P := by unfold wrap32; omega
  rw [hw]
  by_cases c : (P : Int) > 67108863
  · simp only [c, if_true]; omega
  · simp only [c, if_false]; omega

theorem longRestructuring_spec {l : LongQ} (h : LInv l) (hq : LongQsOK l.q) :
    ∃ l', longRestructuring l = .ok l' ∧ LInv l' ∧ abs l'.q = (abs l.q).filter Option.isSome := by
  obtain ⟨q0, q1, q2, e0, e1, e2, hq2, hn2, hqi2, ni2, bq2, ab2⟩ := restr_loops h.1 h.2
  obtain ⟨l1, f1, g1⟩ := Res.map_eq_ok ((longRestrNodes_q l.q.tni 0 { l with q := q0, lockCount := 0, freeCount := 0 }).trans e1)
  obtain ⟨l2, f2, g2⟩ := Res.map_eq_ok ((longRestrRange_q l.q.tni l.q.tqi 0 l1).trans (g1 ▸ e2))
  obtain ⟨q3, T', e3, hq3, hT', ab3, ni3, hn3, hq3', bq3⟩ := restrFree_spec q2.nodeIndex q2.nodeIndex q2
    (QInv_ni_self hq2 rfl)
  have hb := longQs_bounds l.q.baseQueueSize l.q.nodeIndex T' hq.1 hq.2 (by rw [← ni2]; exact hT')
  rw [← bq2, ← bq3] at hb
  have hQf : QInv { q3 with nodeIndex := T', queueSize := longQueueSize q3.baseQueueSize T' } :=
    hq3.setQueueSize _ hb.1 hb.2
  have hlen := len_refines hQf
  have hlen' := len_nodeIndex { q3 with queueSize := longQueueSize q3.baseQueueSize T' } T'
  have hlen2 : len { q3 with queueSize := longQueueSize q3.baseQueueSize T' } = .ok ((abs q3).length : Int) := by
    rw [← hlen']; exact hlen
  have hd : ¬ q3.nodeIndex < q2.nodeIndex - T' := by rw [ni3]; omega
  have hsub : q3.nodeIndex - (q2.nodeIndex - T') = T' := by rw [ni3]; omega
  have habs : abs q3 = (abs l.q).filter Option.isSome := by rw [ab3, ab2]
  have hcl : HeadClean { q3 with nodeIndex := T', queueSize := longQueueSize q3.baseQueueSize T' } :=
    HeadClean_origin (by show q3.hni = 0; rw [hn3]; exact hn2) (by show q3.hqi = 0; rw [hq3']; exact hqi2)
  by_cases cz : (abs q3).length = 0
  · obtain ⟨q5, r1, r2, r3, r4⟩ := reset_spec hQf
    refine ⟨{ l2 with q := q5, lockCount := -1, freeCount := -1 }, ?_, ⟨r2, r4⟩, ?_⟩
    · simp only [longRestructuring, e0, Res.ok_bind, f1, f2, g2, e3, hlen2, hd, if_false, hsub, cz, Int.natCast_zero,
        if_true, r1, Res.pure_eq]
    · show abs q5 = _
      rw [r3, ← habs]; exact (List.length_eq_zero_iff.mp cz).symm
  · refine ⟨{ l2 with q := { q3 with nodeIndex := T', queueSize := longQueueSize q3.baseQueueSize T' } }, ?_, ⟨hQf, hcl⟩, habs⟩
    have cz' : ¬ ((abs q3).length : Int) = 0 := by omega
    simp only [longRestructuring, e0, Res.ok_bind, f1, f2, g2, e3, hlen2, hd, if_false, hsub, cz', Res.pure_eq]

end Slock.Queue
