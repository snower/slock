import Slock.Proofs.Engine
import Slock.Proofs.Engine2TightSteps
import Slock.Proofs.Engine2QK
/-! Simulation stage 2 → stage 1, foundations: `abs` is key-local (`(abs s).getKey n = Key.abs (s.getKey n)`), so an operation is
compared key record by key record; and what stage 1 reads of one key (live holders, live requests, the current holder, the hold or the
queued request a LockId names, the admission test) is what the record-level model reads of the key record. -/
namespace Slock.Sim
open Slock

/-- two stage-1 databases with the same scalar fields and the same state under every key (the key TABLE may be ordered
differently: stage 1 re-appends a stored key, the record-level model updates it in place) -/
structure Equiv (a b : Engine.DB) : Prop where
  now : a.now = b.now
  tCheck : a.tCheck = b.tCheck
  eCheck : a.eCheck = b.eCheck
  seq : a.seq = b.seq
  leader : a.leader = b.leader
  ctr : a.ctr = b.ctr
  keys : ∀ n, a.getKey n = b.getKey n

theorem Equiv.refl (a : Engine.DB) : Equiv a a := ⟨rfl, rfl, rfl, rfl, rfl, rfl, fun _ => rfl⟩
theorem Equiv.symm {a b : Engine.DB} (h : Equiv a b) : Equiv b a :=
  ⟨h.now.symm, h.tCheck.symm, h.eCheck.symm, h.seq.symm, h.leader.symm, h.ctr.symm, fun n => (h.keys n).symm⟩
theorem Equiv.trans {a b c : Engine.DB} (h1 : Equiv a b) (h2 : Equiv b c) : Equiv a c :=
  ⟨h1.now.trans h2.now, h1.tCheck.trans h2.tCheck, h1.eCheck.trans h2.eCheck, h1.seq.trans h2.seq, h1.leader.trans h2.leader,
   h1.ctr.trans h2.ctr, fun n => (h1.keys n).trans (h2.keys n)⟩

export Slock.Engine (isEmpty_eq getKey_setKey_same getKey_setKey_other)

theorem abs_key (k : Engine2.Key) : (Engine2.Key.abs k).key = k.key := rfl

theorem abs_newKey (n : Nat) : Engine2.Key.abs (Engine2.newKey n) = Engine.emptyKey n := by
  simp [Engine2.Key.abs, Engine2.newKey, Engine.emptyKey, Engine2.Key.holders, Engine2.Key.waiters]

theorem find_map_filter (l : List Engine2.Key) (n : Nat) (hn : (l.map (·.key)).Nodup) :
    ((l.map Engine2.Key.abs).filter (fun k => !k.isEmpty)).find? (·.key == n) =
      ((l.find? (·.key == n)).map Engine2.Key.abs).filter (fun k => !k.isEmpty) := by
  induction l with
  | nil => rfl
  | cons a as ih =>
    simp only [List.map_cons, List.nodup_cons] at hn
    by_cases hk : a.key = n
    · have h1 : (a.key == n) = true := by simpa using hk
      simp only [List.map_cons, List.find?_cons, h1, Option.map_some]
      by_cases he : (Engine2.Key.abs a).isEmpty = true
      · simp only [List.filter, he, Bool.not_true]
        have : ((as.map Engine2.Key.abs).filter (fun k => !k.isEmpty)).find? (·.key == n) = none := by
          apply List.find?_eq_none.mpr
          intro x hx
          obtain ⟨y, hy, e⟩ := List.mem_map.mp (List.mem_filter.mp hx).1
          have : y.key ≠ n := by
            intro e'
            exact hn.1 (List.mem_map.mpr ⟨y, hy, e'.trans hk.symm⟩)
          rw [← e, abs_key]; simpa using this
        rw [this]
        simp [Option.filter, he]
      · have he' : (Engine2.Key.abs a).isEmpty = false := by simpa using he
        simp only [List.filter, he', Bool.not_false, List.find?_cons, abs_key, h1]
        simp [Option.filter, he']
    · have h1 : (a.key == n) = false := by simpa using hk
      simp only [List.map_cons, List.find?_cons, h1]
      rw [← ih hn.2]
      by_cases he : (Engine2.Key.abs a).isEmpty = true
      · simp only [List.filter, he, Bool.not_true]
      · have he' : (Engine2.Key.abs a).isEmpty = false := by simpa using he
        simp only [List.filter, he', Bool.not_false, List.find?_cons, abs_key, h1]

theorem abs_getKey (s : Engine2.DB) (hn : (s.keys.map (·.key)).Nodup) (n : Nat) :
    (Engine2.abs s).getKey n = Engine2.Key.abs (s.getKey n) := by
  unfold Engine.DB.getKey Engine2.abs
  simp only []
  rw [find_map_filter s.keys n hn]
  unfold Engine2.DB.getKey Engine2.DB.findKey
  cases hf : s.keys.find? (·.key == n) with
  | none => simp [Option.filter, abs_newKey]
  | some k =>
    have hk : k.key = n := by have := List.find?_some hf; simpa using this
    simp only [Option.map_some, Option.getD_some]
    by_cases he : (Engine2.Key.abs k).isEmpty = true
    · simp only [Option.filter, he, Bool.not_true]
      have := isEmpty_eq _ he
      rw [abs_key, hk] at this
      simp [this]
    · have he' : (Engine2.Key.abs k).isEmpty = false := by simpa using he
      simp [Option.filter, he']

theorem fr_getKey_other {w0 w : Engine2.W} (f : Engine2.Fr w0 w) (n : Nat) (hne : n ≠ w0.k.key) : w.db.getKey n = w0.db.getKey n := by
  rcases f.dbk with ⟨a1, _, _⟩ | ⟨_, _, a3, _⟩
  · unfold Engine2.DB.getKey Engine2.DB.findKey; rw [a1]
  · unfold Engine2.DB.getKey Engine2.DB.findKey; rw [a3, find_filter_other Engine2.Key.key _ _ _ hne]

def holdOf (k : Engine2.Key) (x : Nat) : Engine.Hold := (k.getR x).toHold
def waiterOf (k : Engine2.Key) (x : Nat) : Engine.Waiter := (k.getR x).toWaiter

theorem abs_holders (k : Engine2.Key) :
    (Engine2.Key.abs k).holders = ((k.current.toList ++ k.locks).filter (fun x => k.liveHolder x)).map (holdOf k) := by
  unfold Engine2.Key.abs Engine2.Key.holders holdOf
  simp only []
  rw [List.filter_map, List.map_map]
  rfl

theorem abs_waiters (k : Engine2.Key) :
    (Engine2.Key.abs k).waiters = ((k.wait.map (·.rid)).filter (fun x => !k.deadWaiter x)).map (waiterOf k) := by
  unfold Engine2.Key.abs Engine2.Key.waiters waiterOf
  simp only []
  rw [List.filter_map, List.map_map, List.filter_map, List.map_map]
  rfl

theorem abs_head (k : Engine2.Key) (hl : Engine2.CurLive k) (hn : Engine2.CurNone k) :
    (Engine2.Key.abs k).holders.head? = k.current.map (holdOf k) := by
  rw [abs_holders]
  cases hc : k.current with
  | none => rw [hn hc]; rfl
  | some c =>
    have : k.liveHolder c = true := by
      unfold Engine2.Key.liveHolder
      exact decide_eq_true (hl c hc)
    simp [this]

/-- `GetLockedLock` by LockId -/
theorem abs_findHolder (k : Engine2.Key) (lockId : Nat) :
    Engine.findHolder (Engine2.Key.abs k) lockId = (Engine2.findHolder k lockId).map (holdOf k) := by
  unfold Engine.findHolder Engine2.findHolder
  rw [abs_holders]
  generalize k.current.toList ++ k.locks = l
  induction l with
  | nil => rfl
  | cons x xs ih =>
    by_cases hv : k.liveHolder x = true
    · simp only [List.filter, hv, List.map_cons, List.find?_cons, Bool.true_and]
      have : ((holdOf k x).cmd.lockId == lockId) = ((k.getR x).cmd.lockId == lockId) := rfl
      rw [this]
      cases ((k.getR x).cmd.lockId == lockId)
      · exact ih
      · rfl
    · have hv' : k.liveHolder x = false := by simpa using hv
      simp only [List.filter, hv', List.find?_cons, Bool.false_and]
      exact ih

theorem abs_doLock (k : Engine2.Key) (hl : Engine2.CurLive k) (hn : Engine2.CurNone k) (c : Engine.Cmd) :
    Engine.doLock (Engine2.Key.abs k) c = Engine2.doLock k c := by
  unfold Engine.doLock Engine2.doLock
  rw [abs_head k hl hn]
  unfold Engine2.Key.cur
  show (if (k.locked == 0) = true then _ else _) = _
  cases k.current with
  | none => rfl
  | some x => rfl

/-- the cancel scan: last live queued request with the LockId -/
theorem abs_findCancel (k : Engine2.Key) (lockId : Nat) :
    Engine.findCancel (Engine2.Key.abs k).waiters lockId = (Engine2.findCancel k lockId).map (waiterOf k) := by
  unfold Engine.findCancel Engine2.findCancel
  rw [abs_waiters]
  generalize k.wait.map (·.rid) = l
  have hf : ((l.filter (fun x => !k.deadWaiter x)).map (waiterOf k)).filter (fun w => w.cmd.lockId == lockId) =
      (l.filter (fun x => !k.deadWaiter x && (k.getR x).cmd.lockId == lockId)).map (waiterOf k) := by
    induction l with
    | nil => rfl
    | cons x xs ih =>
      by_cases hv : k.deadWaiter x = true
      · simp only [List.filter, hv, Bool.not_true, Bool.false_and]
        exact ih
      · have hv' : k.deadWaiter x = false := by simpa using hv
        simp only [List.filter, hv', Bool.not_false, Bool.true_and, List.map_cons]
        have : ((waiterOf k x).cmd.lockId == lockId) = ((k.getR x).cmd.lockId == lockId) := rfl
        rw [this]
        cases ((k.getR x).cmd.lockId == lockId)
        · exact ih
        · simp only [List.map_cons]; rw [ih]
  rw [hf, List.getLast?_map]

end Slock.Sim
