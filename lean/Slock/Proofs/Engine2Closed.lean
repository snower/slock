import Slock.Model.Engine2
/-! Stage-2 engine: what the queue helpers of a key record are made of. Apart from the edit of the record they are called for,
the helpers of the holder queue (`locksPush`, `locksSkip`, `removeLock`, `addLock`) only rewrite the fields of that queue and
drop references of tombstoned entries (`unref`); those of the wait queue (`waitPush`, `getWaitLock`, `settleWait`, `addWaitLock`)
do the same on their side. So a property of key records that survives these kinds of step survives every helper: the walk
through each helper's case tree is done once, here. -/
namespace Slock.Engine2

/-- kept by the steps the holder-queue helpers are made of -/
structure HClosed (P : Key → Prop) : Prop where
  unref : ∀ (k : Key) (x : Nat), P k → P (k.unref x)
  locks : ∀ (k : Key) (l : List Nat) (p c : Nat), P k → P { k with locks := l, locksPopped := p, locksCap := c }

/-- kept by the steps the wait-queue helpers are made of -/
structure WClosed (P : Key → Prop) : Prop where
  unref : ∀ (k : Key) (x : Nat), P k → P (k.unref x)
  wait : ∀ (k : Key) (l : List WEnt) (p c : Nat) (b : Bool), P k → P { k with wait := l, waitPopped := p, waitCap := c, waitPrio := b }

structure KClosed (P : Key → Prop) : Prop extends HClosed P, WClosed P

theorem foldl_unref_inv {P : Key → Prop} (hu : ∀ (k : Key) (x : Nat), P k → P (k.unref x)) (d : List Nat) {k : Key} (h : P k) :
    P (d.foldl (fun k x => k.unref x) k) := by
  induction d generalizing k with
  | nil => exact h
  | cons a as ih => exact ih (hu k a h)

theorem foldl_unrefW_inv {P : Key → Prop} (hu : ∀ (k : Key) (x : Nat), P k → P (k.unref x)) (d : List WEnt) {k : Key} (h : P k) :
    P (d.foldl (fun k x => k.unref x.rid) k) := by
  induction d generalizing k with
  | nil => exact h
  | cons a as ih => exact ih (hu k a.rid h)

namespace HClosed
variable {P : Key → Prop} (hP : HClosed P)
include hP

theorem foldl_unref (d : List Nat) {k : Key} (h : P k) : P (d.foldl (fun k x => k.unref x) k) := foldl_unref_inv hP.unref d h

theorem locksPush {k : Key} (h : P k) (rid : Nat) : P (k.locksPush rid) := by
  unfold Key.locksPush
  simp only []
  split
  · exact hP.locks k _ _ _ h
  · split
    · exact hP.locks k _ _ _ h
    · refine hP.foldl_unref _ ?_
      split <;> exact hP.locks k _ _ _ h

theorem locksSkip (take : Bool) (l : List Nat) {k : Key} (h : P k) : P (locksSkip take l k).1 := by
  induction l generalizing k with
  | nil => exact h
  | cons x rest ih =>
    unfold Engine2.locksSkip
    split
    · split
      · exact hP.locks k _ _ _ h
      · exact h
    · exact ih (hP.unref _ x (hP.locks k _ _ _ h))

/-- `RemoveLock(rid)`, given the property after the two edits of `rid`'s own record; `hc`: it does not read `currentLock` -/
theorem removeLock (hc : ∀ k c, P k → P { k with current := c }) {k : Key} (rid : Nat)
    (h1 : P (k.modRec rid fun r => { r with depth := 0 }))
    (h2 : P ((k.modRec rid fun r => { r with depth := 0 }).unrefOnly rid)) : P (k.removeLock rid) := by
  unfold Key.removeLock
  simp only []
  split
  · exact hc _ _ (hP.locksSkip true _ (hc _ none h2))
  · exact hP.locksSkip false _ h1

theorem addLock (hc : ∀ k c, P k → P { k with current := c }) {k : Key} (rid : Nat) (f : Rec → Rec) (h : P (k.modRec rid f)) :
    P (k.addLock rid f) := by
  unfold Key.addLock
  split
  · exact hc _ _ h
  · exact hP.locksPush h rid

end HClosed

namespace WClosed
variable {P : Key → Prop} (hP : WClosed P)
include hP

theorem foldl_unrefW (d : List WEnt) {k : Key} (h : P k) : P (d.foldl (fun k x => k.unref x.rid) k) := foldl_unrefW_inv hP.unref d h

theorem rePush {k : Key} (h : P k) : P k.rePush := hP.wait k _ _ _ _ h

theorem waitPush {k : Key} (h : P k) (e : WEnt) : P (k.waitPush e) := by
  unfold Key.waitPush
  split
  · exact hP.wait k _ _ _ _ h
  · simp only []
    split
    · exact hP.wait k _ _ _ _ h
    · split
      · exact hP.wait k _ _ _ _ h
      · refine hP.foldl_unrefW _ ?_
        split <;> exact hP.wait k _ _ _ _ h

theorem waitSkip (l : List WEnt) {k : Key} (h : P k) : P (waitSkip l k).1 := by
  induction l generalizing k with
  | nil => exact h
  | cons e rest ih =>
    unfold Engine2.waitSkip
    split
    · exact ih (hP.unref _ e.rid (hP.wait k _ _ _ _ h))
    · exact h

theorem getWaitLock {k : Key} (h : P k) : P k.getWaitLock.1 := hP.waitSkip _ h

/-- `hw`: the property does not read `waited` -/
theorem settleWait (hw : ∀ k b, P k → P { k with waited := b }) {k : Key} (h : P k) : P k.settleWait := by
  unfold Key.settleWait
  split
  · exact hw _ false (hP.getWaitLock h)
  · exact hP.getWaitLock h

/-- `hw`, `hn`: the property reads neither `waited` nor a record's `refCount` -/
theorem addWaitLock (hw : ∀ k b, P k → P { k with waited := b })
    (hn : ∀ k rid, P k → P (k.modRec rid fun r => { r with refCount := r.refCount + 1 })) {k : Key} (h : P k) (rid : Nat) :
    P (k.addWaitLock rid) := by
  unfold Key.addWaitLock
  simp only []
  refine hw _ true (hn _ rid (hP.waitPush ?_ _))
  split
  · split
    · split
      · exact hP.rePush h
      · exact h
    · exact h
  · exact h

end WClosed

/-- a preorder on key records that contains the three kinds of step: everything below `k0` -/
theorem KClosed.below {R : Key → Key → Prop} (trans : ∀ {a b c : Key}, R a b → R b c → R a c)
    (hu : ∀ (k : Key) (x : Nat), R (k.unref x) k)
    (hl : ∀ (k : Key) (l : List Nat) (p c : Nat), R { k with locks := l, locksPopped := p, locksCap := c } k)
    (hw : ∀ (k : Key) (l : List WEnt) (p c : Nat) (b : Bool), R { k with wait := l, waitPopped := p, waitCap := c, waitPrio := b } k)
    (k0 : Key) : KClosed (R · k0) :=
  { unref := fun k x h => trans (hu k x) h, locks := fun k l p c h => trans (hl k l p c) h,
    wait := fun k l p c b h => trans (hw k l p c b) h }

end Slock.Engine2
