import Slock.Proofs.ReplQueue
/-!
The queue invariant `Inv` and the cursor invariants `CurOk` (position) and `CurHas` (no dangling pointer); what `Push`
does to the lists; the relation `QSame` ("only poll counters changed"), which AddPoll, RemovePoll and the
acknowledgement satisfy and under which all three invariants are kept.
-/
namespace Slock.Repl

/-- `A` bounds the number of `AddPoll` calls so far (so that no live `pollCount` reaches the recycled mark `0xffffffff`);
`hist` is the sequence of records pushed so far. -/
structure Inv (A : Nat) (q : Q) (hist : List (Nat × Nat × Nat)) : Prop where
  live : ∃ k, LiveOk k q.live hist
  seq : q.seq = hist.length
  nonempty : hist ≠ [] → q.live ≠ []
  freeMarked : ∀ it ∈ q.free, it.pollCount = M32
  pc : q.pollCount ≤ A
  livePc : ∀ it ∈ q.live, it.pollCount ≤ A

/-- position of the oldest buffered record -/
def tailSeq (q : Q) : Nat := q.seq - q.live.length

theorem Inv.liveOk {A q hist} (h : Inv A q hist) : LiveOk (tailSeq q) q.live hist := by
  obtain ⟨k, hk⟩ := h.live
  have := hk.len
  have e : k = tailSeq q := by unfold tailSeq; rw [h.seq]; omega
  exact e ▸ hk

theorem Inv.len_le {A q hist} (h : Inv A q hist) : q.live.length ≤ q.seq := by
  obtain ⟨k, hk⟩ := h.live
  have := hk.len
  rw [h.seq]; omega

theorem Inv.hist_nil {A q hist} (h : Inv A q hist) (he : q.live = []) : hist = [] :=
  Classical.byContradiction fun hne => h.nonempty hne he

theorem freshItems_marked (s c : Nat) : ∀ it ∈ freshItems s c, it.pollCount = M32 := by
  intro it hm
  obtain ⟨i, _, rfl⟩ := List.mem_map.mp hm
  rfl

theorem inv_new (b m : Nat) : Inv 0 (newQueue b m) [] :=
  ⟨⟨0, rfl⟩, rfl, fun h => absurd rfl h, freshItems_marked _ _, Nat.le_refl _, fun _ hm => nomatch hm⟩

theorem Inv.mono {A B q hist} (h : Inv A q hist) (hab : A ≤ B) : Inv B q hist :=
  ⟨h.live, h.seq, h.nonempty, h.freeMarked, Nat.le_trans h.pc hab, fun it hm => Nat.le_trans (h.livePc it hm) hab⟩

/-- A cursor that has a position holds a pointer, and if the record at its position is still linked then that pointer is
to exactly that item. -/
def CurOk (q : Q) (c : Cursor) : Prop :=
  c.seq ≠ seqNone → c.seq < q.seq ∧ ∃ sid, c.cur = some sid ∧ ∀ it ∈ q.live, it.seq = c.seq → it.sid = sid

def Has (q : Q) (sid : Nat) : Prop := ∃ it ∈ q.live ++ q.free, it.sid = sid

def CurHas (q : Q) (c : Cursor) : Prop := ∀ sid, c.cur = some sid → Has q sid

theorem curOk_new (q : Q) : CurOk q newCursor := fun h => absurd rfl h

theorem curHas_new (q : Q) : CurHas q newCursor := fun _ h => nomatch h

theorem resetLoop_spec (bs : Nat) (it : Item) (rest free : List Item) (used : Nat) :
    ∃ fr, it :: rest = fr ++ (resetLoop bs it rest free used).1 :: (resetLoop bs it rest free used).2.1 ∧
      (resetLoop bs it rest free used).2.2.1 = free ++ fr.map recycle := by
  induction rest generalizing it free used with
  | nil => exact ⟨[], by simp [resetLoop]⟩
  | cons t rest ih =>
    unfold resetLoop
    split
    · obtain ⟨fr, h1, h2⟩ := ih t (free ++ [recycle it]) (used - itemSize t)
      exact ⟨it :: fr, by rw [List.cons_append, ← h1], by rw [h2]; simp⟩
    · exact ⟨[], by simp⟩

theorem makeRoom_spec (q : Q) (hf : ∀ it ∈ q.free, it.pollCount = M32) :
    (makeRoom q).1.seq = q.seq ∧ (makeRoom q).1.pollCount = q.pollCount ∧
    (∃ pre, q.live = pre ++ (makeRoom q).1.live) ∧ (∀ it ∈ (makeRoom q).1.free, it.pollCount = M32) := by
  -- the leaves of `makeRoom`: 1 there is room, 2 the buffer grows, 3 nothing is linked, 4 the oldest records are recycled
  fun_cases makeRoom q
  case case2 =>
    refine ⟨rfl, rfl, ⟨[], rfl⟩, fun it hm => ?_⟩
    rcases List.mem_append.mp hm with hm | hm
    · exact hf it hm
    · exact freshItems_marked _ _ it hm
  case case4 t rest hl r =>
    obtain ⟨fr, h1, h2⟩ : ∃ fr, t :: rest = fr ++ r.1 :: r.2.1 ∧ r.2.2.1 = q.free ++ fr.map recycle :=
      resetLoop_spec q.bufSize t rest q.free (q.used - itemSize t)
    clear_value r
    refine ⟨rfl, rfl, ⟨fr ++ [r.1], ?_⟩, fun it hm => ?_⟩
    · rw [hl, h1]; simp
    · rcases List.mem_append.mp (h2 ▸ (hm : it ∈ r.2.2.1)) with hm | hm
      · exact hf it hm
      · obtain ⟨x, _, rfl⟩ := List.mem_map.mp hm
        rfl
  all_goals exact ⟨rfl, rfl, ⟨[], rfl⟩, hf⟩

theorem takeItem_spec (q : Q) (o : Option Item) (hf : ∀ it ∈ q.free, it.pollCount = M32) :
    (takeItem q o).1.seq = q.seq ∧ (takeItem q o).1.pollCount = q.pollCount ∧ (takeItem q o).1.live = q.live ∧
    (∀ it ∈ (takeItem q o).1.free, it.pollCount = M32) := by
  fun_cases takeItem q o
  case case2 f fr hfr => exact ⟨rfl, rfl, rfl, fun it hm => hf it (hfr ▸ List.mem_cons_of_mem _ hm)⟩
  all_goals exact ⟨rfl, rfl, rfl, hf⟩

theorem push_shape (q : Q) (id ord dlen : Nat) (hf : ∀ it ∈ q.free, it.pollCount = M32) :
    ∃ pre liveR new, q.live = pre ++ liveR ∧ (push q id ord dlen).live = liveR ++ [new] ∧ new.seq = q.seq ∧
      new.pollCount = q.pollCount ∧ content new = (id, ord, dlen) ∧ (push q id ord dlen).seq = q.seq + 1 ∧
      (push q id ord dlen).pollCount = q.pollCount ∧ (∀ it ∈ (push q id ord dlen).free, it.pollCount = M32) := by
  obtain ⟨m1, m2, ⟨pre, m3⟩, m4⟩ := makeRoom_spec q hf
  obtain ⟨t1, t2, t3, t4⟩ := takeItem_spec (makeRoom q).1 (makeRoom q).2 m4
  unfold push
  simp only []
  generalize takeItem (makeRoom q).1 (makeRoom q).2 = T at t1 t2 t3 t4
  exact ⟨pre, _, fillItem T.1 T.2 id ord dlen, m3, by rw [t3], t1.trans m1, t2.trans m2, rfl,
    by rw [t1, m1], t2.trans m2, t4⟩

theorem push_inv {A q hist} (h : Inv A q hist) (id ord dlen : Nat) :
    Inv A (push q id ord dlen) (hist ++ [(id, ord, dlen)]) := by
  obtain ⟨pre, liveR, new, p1, p2, p3, p4, p5, p6, p7, p8⟩ := push_shape q id ord dlen h.freeMarked
  obtain ⟨k, hk⟩ := h.live
  rw [p1] at hk
  refine ⟨⟨k + pre.length, ?_⟩, ?_, ?_, p8, p7 ▸ h.pc, ?_⟩
  · rw [p2, ← p5]
    exact hk.suffix.append new (p3.trans h.seq)
  · rw [p6, h.seq]; simp
  · intro _; rw [p2]; simp
  · intro it hm
    rcases List.mem_append.mp (p2 ▸ hm) with hm | hm
    · exact h.livePc it (p1 ▸ List.mem_append_right _ hm)
    · rw [List.mem_singleton.mp hm, p4]; exact h.pc

theorem push_curOk {A q hist c} (h : Inv A q hist) (hc : CurOk q c) (id ord dlen : Nat) :
    CurOk (push q id ord dlen) c := by
  intro hn
  obtain ⟨c1, sid, c2, c3⟩ := hc hn
  obtain ⟨pre, liveR, new, p1, p2, p3, _, _, p6, _, _⟩ := push_shape q id ord dlen h.freeMarked
  refine ⟨by omega, sid, c2, fun it hm hs => ?_⟩
  rcases List.mem_append.mp (p2 ▸ hm) with hm | hm
  · exact c3 it (p1 ▸ List.mem_append_right _ hm) hs
  · rw [List.mem_singleton.mp hm, p3] at hs; omega

theorem makeRoom_has {q : Q} {sid} (h : Has q sid) :
    Has (makeRoom q).1 sid ∨ ∃ it, (makeRoom q).2 = some it ∧ it.sid = sid := by
  obtain ⟨it, hm, hs⟩ := h
  unfold makeRoom
  split
  · exact Or.inl ⟨it, hm, hs⟩
  · refine Or.inl ⟨it, ?_, hs⟩
    rcases List.mem_append.mp hm with hm | hm
    · exact List.mem_append_left _ hm
    · exact List.mem_append_right _ (List.mem_append_left _ hm)
  · split
    · exact Or.inl ⟨it, hm, hs⟩
    · rename_i t rest hl
      obtain ⟨fr, h1, h2⟩ := resetLoop_spec q.bufSize t rest q.free (q.used - itemSize t)
      generalize resetLoop q.bufSize t rest q.free (q.used - itemSize t) = r at h1 h2
      show Has { q with live := r.2.1, free := r.2.2.1, used := r.2.2.2 } sid ∨ _
      rw [hl, h1, List.append_assoc] at hm
      rcases List.mem_append.mp hm with hm | hm
      · exact Or.inl ⟨recycle it, List.mem_append_right _ (h2 ▸ List.mem_append_right _ (List.mem_map_of_mem hm)), hs⟩
      · rcases List.mem_cons.mp hm with rfl | hm
        · exact Or.inr ⟨_, rfl, hs⟩
        · refine Or.inl ⟨it, ?_, hs⟩
          rcases List.mem_append.mp hm with hm | hm
          · exact List.mem_append_left _ hm
          · exact List.mem_append_right _ (h2 ▸ List.mem_append_left _ hm)

theorem takeItem_has {q : Q} {o : Option Item} {sid} (h : Has q sid ∨ ∃ it, o = some it ∧ it.sid = sid) :
    Has (takeItem q o).1 sid ∨ (takeItem q o).2.sid = sid := by
  unfold takeItem
  split
  · rcases h with h | ⟨it, ho, hs⟩
    · exact Or.inl h
    · cases ho; exact Or.inr hs
  · rcases h with h | ⟨it, ho, _⟩
    · split
      · rename_i f fr hfr
        obtain ⟨it, hm, hs⟩ := h
        rcases List.mem_append.mp hm with hm | hm
        · exact Or.inl ⟨it, List.mem_append_left _ hm, hs⟩
        · rcases List.mem_cons.mp (hfr ▸ hm) with rfl | hm
          · exact Or.inr hs
          · exact Or.inl ⟨it, List.mem_append_right _ hm, hs⟩
      · exact Or.inl h
    · cases ho

/-- `Push` recycles and reuses items but never loses one: pointers stay valid -/
theorem push_curHas {q : Q} {c} (id ord dlen : Nat) (h : CurHas q c) : CurHas (push q id ord dlen) c := by
  intro sid hc
  have := takeItem_has (makeRoom_has (h sid hc))
  unfold push
  simp only []
  generalize takeItem (makeRoom q).1 (makeRoom q).2 = T at this
  rcases this with ⟨it, hm, hs⟩ | hs
  · refine ⟨it, ?_, hs⟩
    rcases List.mem_append.mp hm with hm | hm
    · exact List.mem_append_left _ (List.mem_append_left _ hm)
    · exact List.mem_append_right _ hm
  · exact ⟨fillItem T.1 T.2 id ord dlen, List.mem_append_left _ (List.mem_append_right _ (List.mem_singleton.mpr rfl)), hs⟩

def QSame (q q' : Q) : Prop := Pointwise Same q.live q'.live ∧ Pointwise Same q.free q'.free ∧ q'.seq = q.seq

theorem QSame.refl (q : Q) : QSame q q := ⟨Pointwise.refl same_refl _, Pointwise.refl same_refl _, rfl⟩

theorem QSame.curOk {q q' : Q} {c} (h : QSame q q') (hc : CurOk q c) : CurOk q' c := by
  intro hn
  obtain ⟨c1, sid, c2, c3⟩ := hc hn
  refine ⟨h.2.2 ▸ c1, sid, c2, fun it hm hsq => ?_⟩
  obtain ⟨a, ha, s1, s2, _⟩ := h.1.mem_right it hm
  rw [s1]; exact c3 a ha (s2 ▸ hsq)

theorem QSame.curHas {q q' : Q} {c} (h : QSame q q') (hc : CurHas q c) : CurHas q' c := by
  intro sid hs
  obtain ⟨it, hm, hi⟩ := hc sid hs
  rcases List.mem_append.mp hm with hm | hm
  · obtain ⟨b, hb, hr⟩ := h.1.mem_left it hm
    exact ⟨b, List.mem_append_left _ hb, hr.1.trans hi⟩
  · obtain ⟨b, hb, hr⟩ := h.2.1.mem_left it hm
    exact ⟨b, List.mem_append_right _ hb, hr.1.trans hi⟩

theorem Inv.of_pointwise {A d q q' hist} (h : Inv A q hist)
    (hl : Pointwise (fun a b => Same a b ∧ b.pollCount ≤ a.pollCount + d) q.live q'.live) (hs : q'.seq = q.seq)
    (hf : ∀ it ∈ q'.free, it.pollCount = M32) (hp : q'.pollCount ≤ A + d) : Inv (A + d) q' hist := by
  obtain ⟨k, hk⟩ := h.live
  refine ⟨⟨k, LiveOk.pointwise (fun _ _ r => r.1.2) hl hk⟩, hs ▸ h.seq, fun hne he => ?_, hf, hp, fun it hm => ?_⟩
  · have := hl.length
    rw [he] at this
    exact h.nonempty hne (List.length_eq_zero_iff.mp this)
  · obtain ⟨a, ha, _, hr⟩ := hl.mem_right it hm
    have := h.livePc a ha
    omega

/-- "same item, same `pollCount`": what RemovePoll and the acknowledgement (which count in `pollIndex`) do to an item -/
def SamePc (a b : Item) : Prop := Same a b ∧ b.pollCount = a.pollCount

theorem Inv.of_samePc {A q q' hist} (h : Inv A q hist) (hl : Pointwise SamePc q.live q'.live)
    (hf : Pointwise SamePc q.free q'.free) (hs : q'.seq = q.seq) (hp : q'.pollCount ≤ A) : Inv A q' hist := by
  refine h.of_pointwise (d := 0) (hl.imp fun _ _ r => ⟨r.1, Nat.le_of_eq r.2⟩) hs (fun it hm => ?_) hp
  obtain ⟨a, ha, _, hr⟩ := hf.mem_right it hm
  rw [hr]; exact h.freeMarked a ha

theorem QSame.of_samePc {q q' : Q} (hl : Pointwise SamePc q.live q'.live) (hf : Pointwise SamePc q.free q'.free)
    (hs : q'.seq = q.seq) : QSame q q' :=
  ⟨hl.imp fun _ _ r => r.1, hf.imp fun _ _ r => r.1, hs⟩

/-- `walk`: the loops of AddPoll / RemovePoll -/
theorem walk_pointwise (q : Q) (f : Item → Item) (R : Item → Item → Prop) (hr : ∀ a, R a a) (hf : ∀ a, R a (f a))
    (o : Option Nat) :
    Pointwise R q.live (walk q f o).live ∧ Pointwise R q.free (walk q f o).free ∧
      (walk q f o).seq = q.seq ∧ (walk q f o).pollCount = q.pollCount := by
  -- the leaves of `walk`: 1 no start, 2 the start is linked, 3 it is in the free list, 4 it is in neither
  fun_cases walk q f o
  case case2 sid l h1 => exact ⟨bumpFrom_pointwise f hr hf h1, Pointwise.refl hr _, rfl, rfl⟩
  case case3 sid _ l h2 => exact ⟨Pointwise.refl hr _, bumpFrom_pointwise f hr hf h2, rfl, rfl⟩
  all_goals exact ⟨Pointwise.refl hr _, Pointwise.refl hr _, rfl, rfl⟩

theorem walk_free {q : Q} {f : Item → Item} {sid : Nat} (h : after q.live sid = none → after q.free sid = none) :
    (walk q f (some sid)).free = q.free := by
  generalize ho : some sid = o
  revert ho
  fun_cases walk q f o <;> intro ho
  case case3 _ h1 l h2 =>
    cases ho
    rw [(bumpFrom_eq_none ..).mpr (h ((bumpFrom_eq_none ..).mp h1))] at h2
    cases h2
  all_goals rfl

theorem locate_of_not_live {q : Q} {sid} (h : after q.live sid = none) : locate q sid = after q.free sid := by
  unfold locate; rw [h]

/-- `AddPoll` never touches the free list: it walks only from an item that is not marked as recycled, and such an item is linked -/
theorem addPoll_free {A q hist} (h : Inv A q hist) (c : Cursor) : (addPoll q c).free = q.free := by
  unfold addPoll
  -- the leaves of `addStart`: 1 no item, 2 the item is marked as recycled or carries another `seq` (nothing is walked), 3 the walk
  -- starts at the item, 4 at a pointer that is in neither list (cannot happen)
  fun_cases addStart q c
  case case3 sid _ it nxt hloc hm =>
    refine walk_free fun (h1 : after q.live sid = none) => show after q.free sid = none from ?_
    rw [locate_of_not_live h1] at hloc
    obtain ⟨pre, hp, _⟩ := after_some hloc
    exact absurd (Or.inl (h.freeMarked it (by rw [hp]; simp))) hm
  case case4 sid _ hloc =>
    exact walk_free fun (h1 : after q.live sid = none) => show after q.free sid = none from locate_of_not_live h1 ▸ hloc
  all_goals rfl

theorem addPoll_qsame (q : Q) (c : Cursor) : QSame q (addPoll q c) :=
  have w := walk_pointwise { q with pollCount := (q.pollCount + 1) % W32 } incPollCount Same same_refl same_incPollCount
    (addStart q c)
  ⟨w.1, w.2.1, w.2.2.1⟩

theorem removePoll_qsame (q : Q) (c : Cursor) : QSame q (removePoll q c) :=
  have w := walk_pointwise { q with pollCount := (q.pollCount + W32 - 1) % W32 } incPollIndex Same same_refl
    same_incPollIndex c.cur
  ⟨w.1, w.2.1, w.2.2.1⟩

theorem addPoll_inv {A q hist c} (h : Inv A q hist) : Inv (A + 1) (addPoll q c) hist := by
  have w := walk_pointwise { q with pollCount := (q.pollCount + 1) % W32 } incPollCount
    (fun a b => Same a b ∧ b.pollCount ≤ a.pollCount + 1) (fun a => ⟨same_refl a, Nat.le_succ _⟩)
    (fun a => ⟨same_incPollCount a, Nat.mod_le _ _⟩) (addStart q c)
  refine h.of_pointwise w.1 w.2.2.1 (addPoll_free h c ▸ h.freeMarked) ?_
  rw [show (addPoll q c).pollCount = (q.pollCount + 1) % W32 from w.2.2.2]
  exact Nat.le_trans (Nat.mod_le _ _) (Nat.succ_le_succ h.pc)

theorem Inv.pc_lt {A q hist} (h : Inv A q hist) (hA : A < M32) : q.pollCount + 1 < W32 :=
  Nat.succ_lt_succ (Nat.lt_of_le_of_lt h.pc hA)

/-- the uint32 `pollCount` of the queue counts the registered channels exactly while fewer than 2^32-1 were ever added -/
theorem addPoll_pollCount {A q hist} (h : Inv A q hist) (hA : A < M32) (c : Cursor) :
    (addPoll q c).pollCount = q.pollCount + 1 :=
  (walk_pointwise { q with pollCount := (q.pollCount + 1) % W32 } incPollCount Same same_refl same_incPollCount
    (addStart q c)).2.2.2.trans (Nat.mod_eq_of_lt (h.pc_lt hA))

theorem removePoll_pollCount {A q hist} (h : Inv A q hist) (hA : A < M32) (hp : 0 < q.pollCount) (c : Cursor) :
    (removePoll q c).pollCount + 1 = q.pollCount := by
  have e : (removePoll q c).pollCount = (q.pollCount + W32 - 1) % W32 :=
    (walk_pointwise { q with pollCount := (q.pollCount + W32 - 1) % W32 } incPollIndex Same same_refl same_incPollIndex
      c.cur).2.2.2
  have hlt := h.pc_lt hA
  obtain ⟨k, hk⟩ := Nat.exists_eq_succ_of_ne_zero (Nat.ne_of_gt hp)
  rw [hk] at hlt
  rw [e, hk, Nat.succ_eq_add_one, Nat.add_right_comm, Nat.add_sub_cancel, Nat.add_mod_right,
    Nat.mod_eq_of_lt (Nat.lt_of_succ_lt (Nat.lt_of_succ_lt hlt))]

theorem removePoll_inv {A q hist c} (h : Inv A q hist) (hp : 0 < q.pollCount) (hA : A < M32) : Inv A (removePoll q c) hist := by
  have w := walk_pointwise { q with pollCount := (q.pollCount + W32 - 1) % W32 } incPollIndex SamePc
    (fun a => ⟨same_refl a, rfl⟩) (fun a => ⟨same_incPollIndex a, rfl⟩) c.cur
  refine h.of_samePc w.1 w.2.1 w.2.2.1 ?_
  have := removePoll_pollCount h hA hp c
  have := h.pc
  omega

end Slock.Repl
