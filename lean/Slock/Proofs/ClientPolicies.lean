import Slock.Proofs.ClientPolicy
/-!
The two policies the client primitives need (C19):

* `lenPolicy K N D` — every LOCK on key `K` obeys a discipline `D` under which `Count ≤ N` (`N < 0xffff`)  ⟹  the key
  never has more than `N + 1` holders (Lock, RLock: N = 0; Semaphore(n), MaxConcurrentFlow(n): N = n − 1; PriorityLock:
  its count; C01's uniform Count: `D c := c.count = N`).
* `waPolicy K` — every LOCK on key `K` carries `Rcount = 0` and no update flag  ⟹  a holder whose command has `Count = 0`
  is the only holder (RWLock: a writer is alone; readers — `Count = 0xffff` — never coexist with a writer).
-/
namespace Slock.Engine

def lenPolicy (K N : Nat) (hN : N < 0xffff) (D : Cmd → Prop) (hD : ∀ c, D c → c.count ≤ N)
    (hconn : ∀ c n, D c → D { c with conn := n }) : Policy where
  K := K
  D := D
  HP := fun hs => hs.length ≤ N + 1
  D_conn := hconn
  hp_nil := by simp
  hp_remove := fun hs h hh => Nat.le_trans (removeHolder_length_le hs h) hh
  hp_same := fun hs h h' hh _ _ => by rw [replaceHolder_length]; exact hh
  hp_update := fun k c h h' _ hh _ _ _ _ => by rw [replaceHolder_length]; exact hh
  hp_relock := fun k c h h' _ hh _ _ _ _ _ => by rw [replaceHolder_length]; exact hh
  hp_grant := by
    intro k c h hi _ hc hd _ _
    have hc := hD c hc
    have hl := hi.length_le
    have hlk : k.locked ≤ N := by
      rcases doLock_true k c hd with h0 | ⟨_, cur, _, hlt, hge⟩
      · omega
      · by_cases hx : k.locked < 0xffff
        · have := (hlt hx).2; omega
        · have := (hge (by omega)).2; omega
    simp only [List.length_append, List.length_singleton]
    omega

def WriterAlone (hs : List Hold) : Prop := ∀ h ∈ hs, h.cmd.count = 0 → hs.length = 1

def waPolicy (K : Nat) : Policy where
  K := K
  D := fun c => c.rcount = 0 ∧ has c.flag F_UPDATE = false
  HP := WriterAlone
  D_conn := fun _ _ h => h
  hp_nil := by intro h hm; simp at hm
  hp_remove := by
    intro hs h0 hh x hx hc
    have := hh x (mem_removeHolder hx) hc
    have := removeHolder_length_le hs h0
    have := List.length_pos_of_mem hx
    omega
  hp_same := by
    intro hs h h' hh hm hc x hx hx0
    rw [replaceHolder_length]
    rcases mem_replaceHolder hx with h1 | h1
    · exact hh x h1 hx0
    · rw [h1, hc] at hx0; exact hh h hm hx0
  hp_update := by
    intro k c h h' _ _ _ hd hf _
    rw [hd.2] at hf; exact absurd hf (by simp)
  hp_relock := by
    intro k c h h' hi _ hm hd _ hdep _
    have := hi.pos h hm
    rw [hd.1] at hdep; omega
  hp_grant := by
    intro k c h hi hh _ hd hcmd _ x hx hx0
    simp only [List.length_append, List.length_singleton]
    rcases List.mem_append.mp hx with h1 | h1
    · -- an existing holder with Count 0: it is alone and heads the list, so `doLock` cannot have admitted `c`
      exfalso
      have hl := hh x h1 hx0
      have hpos := hi.pos x h1
      have hle := hi.depth_le h1
      have hhead : k.holders.head? = some x := by
        match hks : k.holders, hl with
        | [y], _ => rw [hks] at h1; simp at h1; simp [h1]
      rcases doLock_true k c hd with h0 | ⟨_, cur, hcur, hlt, hge⟩
      · omega
      · rw [hhead] at hcur; injection hcur with hcur
        by_cases hb : k.locked < 0xffff
        · have := (hlt hb).1; rw [← hcur, hx0] at this; omega
        · have := (hge (by omega)).1; rw [← hcur, hx0] at this; omega
    · -- the new holder has Count 0: the key was free
      simp at h1
      rw [h1, hcmd] at hx0
      rcases doLock_true k c hd with h0 | ⟨hne, _⟩
      · have := hi.locked_zero_iff.mp h0; rw [this]; rfl
      · exact absurd hx0 hne

/-! C01's uniform-Count corollary. If every LOCK command for key `n` carries the same `count = c0 < 0xffff`, the key never has
more than `c0 + 1` simultaneous holders, and every request queued for it carries `count = c0`. This is the policy
`lenPolicy n c0` under the discipline `count = c0`; `U3` says what that policy's invariant means for key `n`. -/

def UC (n c0 : Nat) (k : Key) : Prop :=
  k.key = n → (∀ w ∈ k.waiters, w.cmd.count = c0) ∧ k.holders.length ≤ c0 + 1

theorem UC.shrink {n c0 : Nat} {k k' : Key} (h : UC n c0 k) (hkey : k'.key = k.key) (hw : ∀ w ∈ k'.waiters, w ∈ k.waiters)
    (hl : k'.holders.length ≤ k.holders.length) : UC n c0 k' := by
  intro hn
  have := h (by rw [← hkey]; exact hn)
  exact ⟨fun w hm => this.1 w (hw w hm), by omega⟩

def UCdb (n c0 : Nat) (db : DB) : Prop := ∀ k ∈ db.keys, UC n c0 k

/-- every queued request that names key `n` carries `count = c0` (wherever it is stored) -/
def WC (n c0 : Nat) (db : DB) : Prop := ∀ w ∈ allW db, w.cmd.key = n → w.cmd.count = c0

structure U3 (n c0 : Nat) (db : DB) : Prop where
  inv : DBInv db
  uc : UCdb n c0 db
  wc : WC n c0 db

def ucPolicy (n c0 : Nat) (hlt : c0 < 0xffff) : Policy :=
  lenPolicy n c0 hlt (fun c => c.count = c0) (fun _ h => Nat.le_of_eq h) (fun _ _ h => h)

theorem U3.of_pol {n c0 : Nat} {hlt : c0 < 0xffff} {db : DB} (h : PolInv (ucPolicy n c0 hlt) db) : U3 n c0 db :=
  ⟨h.1, fun k hk e => h.2 k hk |>.2 e, fun _ hw => h.2.allW hw⟩

end Slock.Engine
