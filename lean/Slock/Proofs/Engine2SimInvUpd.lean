import Slock.Proofs.Engine2SimInvSteps
import Slock.Proofs.Engine2SimUpd
import Slock.Proofs.Engine2SimWakeLoop
/-! Simulation stage 2 → stage 1: `KI` through `UpdateLockedLock` and `RemoveLock`; then what the branch simulations assume of the key
record (the wake loop's `WQ`, distinct identities of the live holds), from `KI`. -/
namespace Slock.Sim
open Slock Slock.Engine2
open Slock.Engine (has)

theorem map_checked_some (o : Option Engine.Sched) (n : Nat) (sc : Engine.Sched)
    (h : o.map (fun s => { s with checked := n }) = some sc) : sc.checked = n := by
  cases o with
  | none => simp at h
  | some s0 => simp only [Option.map_some, Option.some.injEq] at h; rw [← h]

theorem updF_ck (db : DB) (so : Bool) (c : Engine.Cmd) (r : Rec) :
    ∀ sc, (updF db so c r).eSched = some sc → sc.checked = (updF db so c r).eChecked := by
  intro sc hsc
  unfold updF at hsc ⊢
  by_cases hU : (has c.eflag Engine.EF_UNLIMITED && decide (c.expried ≥ 0xffff)) = true <;> simp only [hU, if_true, Bool.false_eq_true, if_false] at hsc ⊢ <;>
    cases so <;> exact map_checked_some _ _ _ hsc

theorem updF_hid (db : DB) (so : Bool) (c : Engine.Cmd) (r : Rec) : (updF db so c r).hid = r.hid ∧ (updF db so c r).cmd = c := by
  unfold updF
  by_cases hU : (has c.eflag Engine.EF_UNLIMITED && decide (c.expried ≥ 0xffff)) = true <;> simp only [hU, if_true, Bool.false_eq_true, if_false] <;>
    cases so <;> exact ⟨rfl, rfl⟩

/-- what `UpdateLockedLock` + the long-table move + `lock.protocol = …` make of the record (`updRec`): the facts `KI` reads -/
theorem updRec_fields (db : DB) (so : Bool) (c : Engine.Cmd) (r : Rec) : (updRec db so c r).conn = c.conn ∧ (updRec db so c r).cmd = c ∧
    (updRec db so c r).depth = r.depth ∧ (updRec db so c r).hid = r.hid ∧
    ∀ sc, (updRec db so c r).eSched = some sc → sc.checked = (updRec db so c r).eChecked := by
  have hf := (updF_fields db so c r).depth
  have hi := updF_hid db so c r
  have hk := updF_ck db so c r
  unfold updRec updMoves
  -- (a variable for the updated record: its fields are read through two record updates, and the unifier would open `updF` first)
  generalize updF db so c r = u at hf hi hk ⊢
  split
  · exact ⟨rfl, hi.2, hf, hi.1, fun sc hsc => (Option.some.inj hsc) ▸ wheelAdd_checked _ _ _ _⟩
  · exact ⟨rfl, hi.2, hf, hi.1, hk⟩

theorem WI.updateLocked {w : W} (h : WI w) (rid : Nat) (c : Engine.Cmd) : WI (w.updateLocked rid c) := by
  obtain ⟨k1, k2, k3, k4, k5⟩ := updRec_fields w.db (soleAt w rid) c (w.k.getR rid)
  exact h.edit ((Edit.refl w).updateLocked c) (fun _ => k1.trans (congrArg Engine.Cmd.conn k2).symm) (fun _ => k5) (fun hd => ⟨k3 ▸ hd, k4⟩)
    (fun ht => (updRec_timeouted _ _ _ _).trans ht)

theorem removeLock_after_edit {α : Type} (π : Rec → α) (hπ : Ins π) (k : Key) (rid : Nat) :
    PKeep π (k.removeLock rid) (k.modRec rid fun r => { r with depth := 0 }) := by
  unfold Key.removeLock
  simp only []
  split
  · have h2 : PKeep π ({ (k.modRec rid fun r => { r with depth := 0 }).unrefOnly rid with current := none } : Key)
        (k.modRec rid fun r => { r with depth := 0 }) :=
      PKeep.trans (b := (k.modRec rid fun r => { r with depth := 0 }).unrefOnly rid) (PKeep.of_eq rfl) (PKeep.unrefOnly hπ _ rid)
    exact PKeep.trans (b := (Slock.Engine2.locksSkip true
      ({ (k.modRec rid fun r => { r with depth := 0 }).unrefOnly rid with current := none } : Key).locks
      { (k.modRec rid fun r => { r with depth := 0 }).unrefOnly rid with current := none }).1) (PKeep.of_eq rfl)
      ((PKeep.locksSkip hπ true _ _).trans h2)
  · exact PKeep.locksSkip hπ false _ _

theorem locksSkip_sublist (take : Bool) (l : List Nat) (k : Key) (hl : k.locks = l) :
    ((if take then (locksSkip take l k).2.toList else []) ++ (locksSkip take l k).1.locks).Sublist l :=
  (locksSkip_eq take l k hl).2.1 ▸ List.dropWhile_sublist _

theorem removeLock_sublist (k : Key) (h : Nat) :
    ((k.removeLock h).current.toList ++ (k.removeLock h).locks).Sublist (k.current.toList ++ k.locks) := by
  unfold Key.removeLock
  simp only []
  split
  · exact (locksSkip_sublist true _ { (k.modRec h fun r => { r with depth := 0 }).unrefOnly h with current := none } rfl).trans
      (List.sublist_append_right _ _)
  · obtain ⟨_, i2⟩ := locksSkip_queues false (k.modRec h fun r => { r with depth := 0 }).locks (k.modRec h fun r => { r with depth := 0 })
    have := locksSkip_sublist false _ (k.modRec h fun r => { r with depth := 0 }) rfl
    rw [i2]
    exact List.Sublist.append (List.Sublist.refl _) this

theorem KI.removeLock {seq : Nat} {k : Key} (h : KI seq k) (rid : Nat) : KI seq (k.removeLock rid) := by
  have pa := removeLock_after_edit πI ins_πI k rid
  have hsl := removeLock_sublist k rid
  have hf : ∀ r : Rec, ({ r with depth := 0 } : Rec).rid = r.rid := fun _ => rfl
  have px : PKeepX πI (· = rid) (k.removeLock rid) k :=
    (PKeepX.of_pk pa).trans (PKeepX.modRec (X := (· = rid)) k rid _ hf rfl)
  have key : ∀ hh : (k.removeLock rid).hasRec rid, k.hasRec rid ∧
      ((k.removeLock rid).getR rid).conn = (k.getR rid).conn ∧ ((k.removeLock rid).getR rid).cmd = (k.getR rid).cmd ∧
      ((k.removeLock rid).getR rid).depth = 0 ∧ ((k.removeLock rid).getR rid).eSched = (k.getR rid).eSched ∧
      ((k.removeLock rid).getR rid).eChecked = (k.getR rid).eChecked ∧ ((k.removeLock rid).getR rid).timeouted = (k.getR rid).timeouted := by
    intro hh
    have hk := (hasRec_modRec k rid rid _ hf).mp (pa.sub rid hh)
    have := pa.val rid hh
    rw [getR_modRec_same _ _ _ hk hf] at this
    obtain ⟨a, b, c, d, e, _, g⟩ := πI_inj this
    exact ⟨hk, a, b, c, d, e, g⟩
  refine KI.step_rec_same (k := k) h rid (Nat.le_refl _) px (fun y hy => Or.inl (hsl.subset hy)) (hsl.nodup h.ln)
    (by rw [removeLock_wait]; exact h.nd) ?_ ?_ ?_ ?_
  · intro hh; obtain ⟨hk, e1, e2, _⟩ := key hh
    rw [e1, e2]; exact h.cs rid hk
  · intro hh sc hsc; obtain ⟨hk, _, _, _, e4, e5, _⟩ := key hh
    rw [e4] at hsc
    rw [e5]; exact h.ck rid hk sc hsc
  · intro hh hd; obtain ⟨hk, _, _, e3, _⟩ := key hh
    rw [e3] at hd
    exact absurd hd (by simp)
  · intro hm
    by_cases hh : (k.removeLock rid).hasRec rid
    · obtain ⟨hk, _, _, _, _, _, e7⟩ := key hh
      rw [e7]
      exact h.ht rid (hsl.subset hm)
    · exact timeouted_dead _ _ hh

theorem KI.wq {seq : Nat} {k : Key} (h : KI seq k) : WQ k := by
  refine ⟨h.nd, ?_, ?_⟩
  · intro e _ hd hm
    have := h.ht e.rid hm
    unfold Key.deadWaiter at hd
    rw [this] at hd; exact absurd hd (by simp)
  · intro e _ hd
    exact h.cs e.rid (hasRec_of_liveWaiter hd)

theorem KI.hidNodup {seq : Nat} {k : Key} (h : KI seq k) : ((Key.abs k).holders.map (·.hid)).Nodup := by
  rw [abs_holders, List.map_map]
  apply nodup_map_on
  · exact (List.filter_sublist).nodup h.ln
  · intro a ha b hb e
    have la : k.liveHolder a = true := (List.mem_filter.mp ha).2
    have lb : k.liveHolder b = true := (List.mem_filter.mp hb).2
    have da : 0 < (k.getR a).depth := by unfold Key.liveHolder at la; simpa using la
    have db : 0 < (k.getR b).depth := by unfold Key.liveHolder at lb; simpa using lb
    exact h.hinj a b (hasRec_of_depth da) (hasRec_of_depth db) da db e

end Slock.Sim
