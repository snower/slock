import Slock.Proofs.Queue2RePush
/-!
# Ring and priority ring: operation sequences, the per-operation results, counterexamples

`runOps step s ops` = the observations of running `ops` from state `s`; a Go panic is the observation
`Obs.panic` and ends the run (the instance is discarded).  Two step functions related state by state produce the SAME observation
list for EVERY operation list (`runOps_sim`); the runs from the constructors are in Properties/C20.lean.  `grow` (Go's `append`
capacity growth) is universally quantified everywhere: only `GrowOK grow : ∀ c, grow c > c` is used.
-/
namespace Slock.Queue2

inductive QOp where
  | push (x : Slot)
  | pop | head | len | iter | maxprio
  | mutate (f : Elem → Elem) (id : Nat)   -- in-place change of a queued lock (tombstoning)

inductive Obs where
  | done
  | slot (s : Slot)
  | int (n : Int)
  | content (l : List Slot)      -- IterNodes, concatenated
  | prio (n : Nat)
  | panic
  deriving DecidableEq

def runOps {σ : Type} (step : σ → QOp → Res (σ × Obs)) : σ → List QOp → List Obs
  | _, [] => []
  | s, op :: ops =>
    match step s op with
    | .panic => [Obs.panic]
    | .ok (s', o) => o :: runOps step s' ops

theorem runOps_sim {σ τ : Type} (P : QOp → Prop) (f : σ → QOp → Res (σ × Obs))
    (g : τ → QOp → Res (τ × Obs)) (R : σ → τ → Prop)
    (hstep : ∀ s t op, P op → R s t →
      (f s op = .panic ∧ g t op = .panic) ∨
      ∃ s' t' o, f s op = .ok (s', o) ∧ g t op = .ok (t', o) ∧ R s' t')
    (s : σ) (t : τ) (h : R s t) (ops : List QOp) (hops : ∀ op ∈ ops, P op) :
    runOps f s ops = runOps g t ops := by
  induction ops generalizing s t with
  | nil => rfl
  | cons op ops ih =>
    rcases hstep s t op (hops op (by simp)) h with ⟨h1, h2⟩ | ⟨s', t', o, h1, h2, h3⟩
    · simp only [runOps, h1, h2]
    · simp only [runOps, h1, h2, ih s' t' h3 (fun o ho => hops o (by simp [ho]))]

def Ring.step (grow : Nat → Nat) (q : Ring) : QOp → Res (Ring × Obs)
  | .push x => match q.push grow x with
    | .ok q' => .ok (q', .done)
    | .panic => .panic
  | .pop => .ok (q.pop.1, .slot q.pop.2)
  | .head => .ok (q, .slot q.head)
  | .len => .ok (q, .int q.len)
  | .iter => .ok (q, .content q.iterNodes.flatten)
  | .maxprio => match q.maxPriority with
    | .ok n => .ok (q, .prio n)
    | .panic => .panic
  | .mutate f id => .ok (q.mapId f id, .done)

/-- the specification: a plain FIFO list of (possibly nil) lock pointers -/
def fifoStep (l : List Slot) : QOp → Res (List Slot × Obs)
  | .push x => .ok (l ++ [x], .done)
  | .pop => .ok (l.tail, .slot (l.headD none))
  | .head => .ok (l, .slot (l.headD none))
  | .len => .ok (l, .int l.length)
  | .iter => .ok (l, .content l)
  | .maxprio => match l with
    | [] => .ok (l, .prio 0)
    | none :: _ => .panic          -- Go: nil dereference
    | some e :: _ => .ok (l, .prio e.priority)
  | .mutate f id => .ok (l.map (killSlot f id), .done)

theorem Ring.step_sim (grow : Nat → Nat) (hg : GrowOK grow) (q : Ring) (l : List Slot) (op : QOp)
    (h : q.Inv ∧ q.abs = l) :
    (Ring.step grow q op = .panic ∧ fifoStep l op = .panic) ∨
    ∃ q' l' o, Ring.step grow q op = .ok (q', o) ∧ fifoStep l op = .ok (l', o) ∧ (q'.Inv ∧ q'.abs = l') := by
  obtain ⟨hi, ha⟩ := h
  subst ha
  cases op with
  | push x =>
    obtain ⟨q', h1, h2, h3⟩ := Ring.push_refines grow hg q x hi
    exact Or.inr ⟨q', _, .done, by simp [Ring.step, h1], rfl, h2, h3⟩
  | pop =>
    obtain ⟨h1, h2, h3⟩ := Ring.pop_refines q hi
    exact Or.inr ⟨_, _, _, rfl, by simp [fifoStep, h3], h1, h2⟩
  | head => exact Or.inr ⟨_, _, _, rfl, by simp [fifoStep, Ring.head_refines], hi, rfl⟩
  | len => exact Or.inr ⟨_, _, _, rfl, by simp [fifoStep, Ring.len_refines q hi], hi, rfl⟩
  | iter => exact Or.inr ⟨_, _, _, rfl, by simp [fifoStep, Ring.iterNodes_flatten], hi, rfl⟩
  | maxprio =>
    have hm := Ring.maxPriority_refines q
    cases hab : q.abs with
    | nil =>
      rw [hab] at hm
      exact Or.inr ⟨q, _, .prio 0, by simp [Ring.step, hm], by simp [fifoStep], hi, hab⟩
    | cons s t =>
      rw [hab] at hm
      cases s with
      | none => exact Or.inl ⟨by simp [Ring.step, hm], by simp [fifoStep]⟩
      | some e => exact Or.inr ⟨q, _, .prio e.priority, by simp [Ring.step, hm], by simp [fifoStep], hi, hab⟩
  | mutate f id =>
    exact Or.inr ⟨_, _, _, rfl, rfl, Ring.mapId_inv f id q hi, Ring.mapId_abs f id q⟩

def PRing.step (grow : Nat → Nat) (q : PRing) : QOp → Res (PRing × Obs)
  | .push x => match q.push grow x with
    | .ok q' => .ok (q', .done)
    | .panic => .panic
  | .pop => .ok (q.pop.1, .slot q.pop.2)
  | .head => .ok (q, .slot q.head)
  | .len => .ok (q, .int q.len)
  | .iter => .ok (q, .content q.iterNodes.flatten)
  | .maxprio => .ok (q, .prio q.maxPriority)
  | .mutate f id => .ok (q.mapId f id, .done)

/-- the specification: a list kept in stable descending priority order -/
def prioStep (l : List Slot) : QOp → Res (List Slot × Obs)
  | .push none => .panic             -- Go: nil dereference
  | .push (some e) => .ok (specPushPrio (some e) l, .done)
  | .pop => .ok (l.tail, .slot (l.headD none))
  | .head => .ok (l, .slot (l.headD none))
  | .len => .ok (l, .int l.length)
  | .iter => .ok (l, .content l)
  | .maxprio => .ok (l, .prio (prioOf (l.headD none)))
  | .mutate f id => .ok (l.map (killSlot f id), .done)

def PrioPreserving : QOp → Prop
  | .mutate f _ => ∀ e, (f e).priority = e.priority
  | _ => True

theorem PRing.step_sim (grow : Nat → Nat) (hg : GrowOK grow) (q : PRing) (l : List Slot) (op : QOp)
    (hop : PrioPreserving op) (h : q.Inv ∧ q.abs = l) :
    (PRing.step grow q op = .panic ∧ prioStep l op = .panic) ∨
    ∃ q' l' o, PRing.step grow q op = .ok (q', o) ∧ prioStep l op = .ok (l', o) ∧ (q'.Inv ∧ q'.abs = l') := by
  obtain ⟨hi, ha⟩ := h
  subst ha
  cases op with
  | push x =>
    cases x with
    | none => exact Or.inl ⟨by simp [PRing.step, PRing.push], rfl⟩
    | some e =>
      obtain ⟨q', h1, h2, h3, _⟩ := PRing.push_refines grow hg q e hi
      exact Or.inr ⟨q', _, .done, by simp [PRing.step, h1], rfl, h2, h3⟩
  | pop =>
    obtain ⟨h1, h2, h3⟩ := PRing.pop_refines q hi
    exact Or.inr ⟨_, _, _, rfl, by simp [prioStep, h3], h1, h2⟩
  | head => exact Or.inr ⟨_, _, _, rfl, by simp [prioStep, PRing.head_refines q hi], hi, rfl⟩
  | len => exact Or.inr ⟨_, _, _, rfl, by simp [prioStep, PRing.len_refines q hi], hi, rfl⟩
  | iter => exact Or.inr ⟨_, _, _, rfl, by simp [prioStep, (PRing.iterNodes_refines q).1], hi, rfl⟩
  | maxprio => exact Or.inr ⟨_, _, _, rfl, by simp [prioStep, PRing.maxPriority_refines q hi], hi, rfl⟩
  | mutate f id =>
    obtain ⟨h1, h2⟩ := PRing.mapId_refines f hop id q hi
    exact Or.inr ⟨_, _, _, rfl, rfl, h1, h2⟩

/-- Push across compaction (`copy` + reslice when full and `index > len/2`) and growth. -/
theorem ring_push (grow : Nat → Nat) (hg : GrowOK grow) (q : Ring) (x : Slot) (h : q.Inv) :
    ∃ q', q.push grow x = .ok q' ∧ q'.Inv ∧ q'.abs = q.abs ++ [x] := Ring.push_refines grow hg q x h

theorem ring_pop (q : Ring) (h : q.Inv) :
    q.pop.1.Inv ∧ q.pop.1.abs = q.abs.tail ∧ q.pop.2 = q.abs.headD none := Ring.pop_refines q h

theorem prio_push (grow : Nat → Nat) (hg : GrowOK grow) (q : PRing) (e : Elem) (h : q.Inv) :
    ∃ q', q.push grow (some e) = .ok q' ∧ q'.Inv ∧ q'.abs = specPushPrio (some e) q.abs ∧ q'.size = q.size :=
  PRing.push_refines grow hg q e h

theorem prio_pop (q : PRing) (h : q.Inv) :
    q.pop.1.Inv ∧ q.pop.1.abs = q.abs.tail ∧ q.pop.2 = q.abs.headD none := PRing.pop_refines q h

/-- Consequences of `PushSpec` (holder and wait): live entries are never lost or reordered, nothing is
invented, and only tombstoned locks are dropped. -/
theorem pushSpec_consequences (live : Elem → Bool) (old new : List Slot) (x : Slot) (d : List Elem)
    (h : PushSpec live old new x d) :
    new.filter (liveSlot live) = old.filter (liveSlot live) ++ [x].filter (liveSlot live) ∧
    new.Sublist (old ++ [x]) ∧
    ∀ e' ∈ d, ∃ e, e' = decRef e ∧ some e ∈ old ∧ live e = false := by
  rcases h with ⟨h1, h2⟩ | ⟨h1, h2⟩
  · subst h1 h2
    exact ⟨by simp, List.Sublist.refl _, by simp⟩
  · subst h1 h2
    refine ⟨by simp, List.Sublist.append List.filter_sublist (List.Sublist.refl _), ?_⟩
    intro e' he'
    obtain ⟨e, he, rfl⟩ := List.mem_map.mp he'
    exact ⟨e, rfl, (tombs_mem live old e).mp he⟩

def mkE (id prio : Nat) : Elem := ⟨id, prio, 0, 1, false, 255, 1⟩

/-- FIFO-mode wait queue: `MaxPriority()` is the priority of the head, not the maximum: content
[prio 0, prio 5] reports 0.  (Production: `AddWaitLock` re-pushes into priority order before it pushes a
lock whose priority differs from `MaxPriority()` of a non-empty queue, so a FIFO-mode queue only holds
locks of one priority there; a direct user of the container can reach it.) -/
theorem wait_fifo_maxPriority_not_max :
    (WaitQ.mk (some ⟨[some (mkE 1 0), some (mkE 2 5)], 8⟩) 0 .nil).maxPriority = .ok 0 := by decide

/-- A nil lock inside the ring makes RePushPriorityRingQueue stop draining early: the lock behind it is
lost (content [1, nil, 3] becomes [1]).  Needs `Push(nil)`, which no production caller does. -/
theorem wait_repush_loses_after_nil :
    (WaitQ.mk none 0 (.ring ⟨[some (mkE 1 0), none, some (mkE 3 0)], 64, 0⟩)).rePush (· + 1) =
      .ok ⟨none, -1, .prio ⟨[⟨⟨[some (mkE 1 0)], 16, 0⟩, 0⟩], 2, 16⟩⟩ := by decide

/-- A nil lock in the fast part makes RePushPriorityRingQueue panic (nil dereference in Push). -/
theorem wait_repush_nil_panics :
    (WaitQ.mk (some ⟨[none], 8⟩) 0 .nil).rePush (· + 1) = .panic := by decide

/-- `Push(nil)` then `MaxPriority()` on a ring is a Go panic (and the FIFO specification says so too). -/
theorem ring_maxPriority_nil_panics :
    runOps (Ring.step (· + 1)) (Ring.new 1) [.push none, .maxprio] = [.done, .panic] := by decide

end Slock.Queue2
