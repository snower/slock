import Slock.Proofs.Engine2SimMove
/-! Simulation stage 2 → stage 1: a predicate of one key record, read at the database's sequence counter, as an invariant of every
critical section. What has to be shown of the predicate is local (`KeyClosed`: the one key record an operation opens); the lift through
the store and the commit (`KeyClosed.sect`) is the same for every such predicate and is done here once; a run is a sequence of sections.
A predicate of the working state that every `Move` keeps is local in that sense; `KS` (`KI`, the queue shape and the live raw head
together) is not kept step by step and goes by the flag of the sequence. -/
namespace Slock.Sim
open Slock Slock.Engine2

/-- `KP` of the working state, unless its key record was reclaimed (then it is not stored) -/
def KeyG (KP : Nat → Key → Prop) (w : W) : Prop := w.gone = false → KP w.db.seq w.k

def DBP (KP : Nat → Key → Prop) (s : DB) : Prop := ∀ k ∈ s.keys, KP s.seq k

/-- `KP` holds of a fresh key record, survives a growing counter, and is kept along every walk with exact reference counts on the way -/
structure KeyClosed (KP : Nat → Key → Prop) : Prop where
  newKey : ∀ seq n, KP seq (Engine2.newKey n)
  mono : ∀ {seq seq' k}, KP seq k → seq ≤ seq' → KP seq' k
  node : ∀ {data a b}, Node data False true a b none → KP a.db.seq a.k → KeyG KP b

theorem DBP.of_keys {KP : Nat → Key → Prop} {s s' : DB} (h : DBP KP s) (h1 : s'.keys = s.keys) (h2 : s'.seq = s.seq) : DBP KP s' := by
  intro k hk; rw [h2]; rw [h1] at hk; exact h k hk

theorem commit_seq (w : W) : w.commit.seq = w.db.seq := by
  unfold W.commit
  split
  · rfl
  · exact (setKey_fields w.db w.k).2.2.2.2.2.2.1

namespace KeyClosed
variable {KP : Nat → Key → Prop} (I : KeyClosed KP)
include I

theorem getKey {s : DB} (h : DBP KP s) (n : Nat) : KP s.seq (s.getKey n) := all_getKey h n (I.newKey _ _)

theorem commit {s : DB} (w0 w : W) (f : Fr w0 w) (hs0 : w0.db.seq = s.seq)
    (ho0 : ∀ k ∈ w0.db.keys, k.key ≠ w0.k.key → KP s.seq k) (hs : DBside w) (hw : KeyG KP w) : DBP KP w.commit := by
  intro k hk
  rw [commit_seq]
  have hle : s.seq ≤ w.db.seq := by rw [← hs0]; exact f.seq
  exact commit_p (P := KP w.db.seq) hs (fun k hk hne => I.mono (others_of_fr ho0 f k hk hne) hle) hw k hk

theorem sect {data : Option Bytes} {s : DB} {key : Nat} {w' : W} (hdb : DBI s) (h : DBP KP s) (sc : Sect data s key w') : DBP KP w'.commit := by
  obtain ⟨base, b, f, hn⟩ := sc.node
  intro k hk
  rw [commit_seq]
  exact b.commit f hdb (fun k hk => I.mono (h k hk) (b.seq ▸ f.seq))
    (fun hg' => I.node ((hn False hdb nofun).2 (gone_of_fr f hg')) (by rw [b.k, b.seq]; exact I.getKey h key) hg') k hk

end KeyClosed

/-- a predicate of the working state that every `Move` keeps: `I` is the working-state form of `KP` (`hI` on entry, `hK` on leaving a
section); `hk`: cutting a walk into `Move`s needs `KI` where it starts -/
theorem KeyClosed.of_move {KP : Nat → Key → Prop} (newKey : ∀ seq n, KP seq (Engine2.newKey n)) (mono : ∀ {seq seq' k}, KP seq k → seq ≤ seq' → KP seq' k)
    (hk : ∀ {q k}, KP q k → KI q k) {I : W → Prop} (hI : ∀ w, KP w.db.seq w.k → I w) (hK : ∀ w, I w → KeyG KP w)
    (hp : ∀ e a b, Move False e a b → I a → I b) : KeyClosed KP where
  newKey := newKey
  mono := mono
  node n h := hK _ ((n.walk.moves (hk h) nofun).ind hp (hI _ h))

open Slock.Engine (has)

/-- every key record of the database satisfies the simulation's key-record invariant `KI`, at the database's sequence counter -/
def DBK (s : DB) : Prop := ∀ k ∈ s.keys, KI s.seq k

theorem ki_closed : KeyClosed KI :=
  .of_move KI.newKey KI.mono (fun h => h) (I := WI) (fun _ h => h) (fun _ h _ => h) (fun _ _ _ => WI.move)

theorem DBK.getKey {s : DB} (h : DBK s) (n : Nat) : KI s.seq (s.getKey n) := ki_closed.getKey h n

theorem DBK.commit {s : DB} (h : DBK s) (w0 w : W) (f : Fr w0 w) (hs0 : w0.db.seq = s.seq)
    (ho0 : ∀ k ∈ w0.db.keys, k.key ≠ w0.k.key → KI s.seq k) (hs : DBside w) (hw : WI w) : DBK w.commit :=
  ki_closed.commit w0 w f hs0 ho0 hs (fun _ => hw)

structure KS (seq : Nat) (k : Key) : Prop where
  ki : KI seq k
  qs : QS k
  hl : HL k

def DBS (s : DB) : Prop := ∀ k ∈ s.keys, KS s.seq k

theorem DBS.init (now aofTime : Nat) : DBS (DB.init now aofTime) := by intro k hk; simp [DB.init] at hk

theorem Moves.ks {a b : W} (h : Moves True true a b) (ka : KS a.db.seq a.k) (hok : WaitOK b) : KeyG KS b :=
  have r := h.inv trivial ka.ki ka.qs
  fun hg => ⟨r.1.1, r.1.2, r.2 rfl (fun _ _ => ka.hl) hg (hok hg)⟩

/-- a walked section keeps `KS` (the live head: every section ends with the flag set; nothing dangles at its end) -/
theorem _root_.Slock.Engine2.Node.ks {data : Option Bytes} {a b : W} (n : Node data False true a b none) (ka : KS a.db.seq a.k) : KeyG KS b :=
  (n.walk.moves (full := True) ka.ki (fun _ => ⟨ka.qs, fun _ _ => ka.hl⟩)).ks ka (fun hg => wait_hasRec (n.lvb.1 hg))

theorem ks_closed : KeyClosed KS where
  newKey seq n := ⟨KI.newKey seq n, QS.newKey n, HL.of_nil rfl⟩
  mono h hs := ⟨h.ki.mono hs, h.qs, h.hl⟩
  node n h := n.ks h

theorem DBS.getKey {s : DB} (h : DBS s) (n : Nat) : KS s.seq (s.getKey n) := ks_closed.getKey h n

theorem DBS.commit {s : DB} (h : DBS s) (w0 w : W) (f : Fr w0 w) (hs0 : w0.db.seq = s.seq)
    (ho0 : ∀ k ∈ w0.db.keys, k.key ≠ w0.k.key → KS s.seq k) (hs : DBside w) (hw : w.gone = false → W3 w ∧ HL w.k) : DBS w.commit :=
  ks_closed.commit w0 w f hs0 ho0 hs (fun hg => ⟨(hw hg).1.wi, (hw hg).1.qs, (hw hg).2⟩)

end Slock.Sim
