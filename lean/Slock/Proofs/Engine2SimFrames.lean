import Slock.Proofs.Engine2SimBase
import Slock.Proofs.EngineSimForms
/-! Simulation stage 2 → stage 1, the frames of a step — what it leaves alone, at three grains: the lock records but some (`PKeepX`), the
key record's own fields and queues (`SX`), the scalars of the database (`Scal`, `SC`). -/
namespace Slock.Sim
open Slock Slock.Engine2

/-- what stage 1 reads of a lock record -/
def πA (r : Engine2.Rec) : Engine.Hold × Engine.Waiter × Bool := (r.toHold, r.toWaiter, r.timeouted)

theorem ins_πA : Engine2.Ins πA := ⟨fun _ _ => rfl, fun _ _ => rfl, fun _ _ => rfl, fun _ _ => rfl⟩

theorem timeouted_of_πA {r r' : Rec} (h : πA r' = πA r) : r'.timeouted = r.timeouted := congrArg (fun t => t.2.2) h
theorem conn_of_πA {r r' : Rec} (h : πA r' = πA r) : r'.conn = r.conn := congrArg (fun t => t.2.1.conn) h
theorem cmd_of_πA {r r' : Rec} (h : πA r' = πA r) : r'.cmd = r.cmd := congrArg (fun t => t.2.1.cmd) h

theorem filter_map_congr_on {α β : Type} (l : List α) (p q : α → Bool) (f g : α → β) (h : ∀ y ∈ l, p y = q y ∧ (q y = true → f y = g y)) :
    (l.filter p).map f = (l.filter q).map g := by
  induction l with
  | nil => rfl
  | cons a as ih =>
    have ha := h a (by simp)
    have := ih (fun y hy => h y (List.mem_cons_of_mem _ hy))
    simp only [List.filter, ha.1]
    cases hq : q a
    · exact this
    · simp only [List.map_cons, this, ha.2 hq]

/-- like `PKeep`, but nothing is claimed for the records in `X` -/
structure PKeepX {α : Type} (π : Rec → α) (X : Nat → Prop) (k' k : Key) : Prop where
  sub : ∀ y, ¬ X y → k'.hasRec y → k.hasRec y
  val : ∀ y, ¬ X y → k'.hasRec y → π (k'.getR y) = π (k.getR y)

namespace PKeepX
variable {α : Type} {π : Rec → α} {X : Nat → Prop}

theorem of_pk {k' k : Key} (p : PKeep π k' k) : PKeepX π X k' k := ⟨fun y _ h => p.sub y h, fun y _ h => p.val y h⟩
theorem refl (k : Key) : PKeepX π X k k := of_pk (PKeep.refl k)
theorem trans {a b c : Key} (h1 : PKeepX π X a b) (h2 : PKeepX π X b c) : PKeepX π X a c :=
  ⟨fun y hx h => h2.sub y hx (h1.sub y hx h), fun y hx h => (h1.val y hx h).trans (h2.val y hx (h1.sub y hx h))⟩
theorem of_eq {k' k : Key} (h : k'.recs = k.recs) : PKeepX π X k' k := of_pk (PKeep.of_eq h)
theorem modRec (k : Key) (rid : Nat) (f : Rec → Rec) (hf : ∀ r, (f r).rid = r.rid) (hx : X rid) : PKeepX π X (k.modRec rid f) k := by
  refine ⟨fun y _ h => (hasRec_modRec _ _ _ _ hf).mp h, fun y hy _ => ?_⟩
  have : y ≠ rid := fun e => hy (e ▸ hx)
  rw [getR_modRec_other _ _ _ _ this hf]
theorem addRec (k : Key) (r : Rec) (hx : X r.rid) : PKeepX π X (k.addRec r) k := by
  have hsub : ∀ y, ¬ X y → (k.addRec r).hasRec y → k.hasRec y := by
    intro y hy ⟨z, hz, e⟩
    have hz' : z ∈ k.recs ++ [r] := hz
    rcases List.mem_append.mp hz' with h | h
    · exact ⟨z, h, e⟩
    · simp at h; rw [h] at e; exact absurd (e ▸ hx) hy
  exact ⟨hsub, fun y hy h => by rw [getR_addRec _ _ _ (hsub y hy h)]⟩
end PKeepX

theorem replaceHolder_map (l : List Nat) (f g : Nat → Engine.Hold) (x : Nat) (hx : x ∈ l) (hnd : (l.map f).Nodup)
    (hg : ∀ y ∈ l, y ≠ x → g y = f y) : Engine.replaceHolder (l.map f) (f x) (g x) = l.map g := by
  induction l with
  | nil => simp at hx
  | cons a as ih =>
    simp only [List.map_cons, List.nodup_cons] at hnd
    unfold Engine.replaceHolder
    by_cases e : a = x
    · subst e
      simp only [List.map_cons, if_true]
      congr 1
      apply List.map_congr_left
      intro y hy
      have : y ≠ a := by
        intro e; subst e
        exact hnd.1 (List.mem_map.mpr ⟨y, hy, rfl⟩)
      exact (hg y (List.mem_cons_of_mem _ hy) this).symm
    · have hne : f a ≠ f x := by
        intro e'
        have hxa : x ∈ as := by rcases List.mem_cons.mp hx with h | h; exact absurd h.symm e; exact h
        exact hnd.1 (e' ▸ List.mem_map.mpr ⟨x, hxa, rfl⟩)
      simp only [List.map_cons, hne, if_false]
      have hxa : x ∈ as := by rcases List.mem_cons.mp hx with h | h; exact absurd h.symm e; exact h
      rw [ih hxa hnd.2 (fun y hy => hg y (List.mem_cons_of_mem _ hy))]
      rw [hg a (by simp) e]

theorem removeHolder_map (l : List Nat) (f : Nat → Engine.Hold) (x : Nat) (hx : x ∈ l) (hnd : (l.map f).Nodup) :
    Engine.removeHolder (l.map f) (f x) = (l.filter (· != x)).map f := by
  induction l with
  | nil => simp at hx
  | cons a as ih =>
    simp only [List.map_cons, List.nodup_cons] at hnd
    unfold Engine.removeHolder
    by_cases e : a = x
    · subst e
      simp only [List.map_cons, if_true, List.filter, bne_self_eq_false]
      congr 1
      symm
      apply List.filter_eq_self.mpr
      intro y hy
      have : y ≠ a := by
        intro e; subst e
        exact hnd.1 (List.mem_map.mpr ⟨y, hy, rfl⟩)
      simpa using this
    · have hne : f a ≠ f x := by
        intro e'
        have hxa : x ∈ as := by rcases List.mem_cons.mp hx with h | h; exact absurd h.symm e; exact h
        exact hnd.1 (e' ▸ List.mem_map.mpr ⟨x, hxa, rfl⟩)
      have hxa : x ∈ as := by rcases List.mem_cons.mp hx with h | h; exact absurd h.symm e; exact h
      have hb : (a != x) = true := by simpa using e
      simp only [List.map_cons, hne, if_false, List.filter, hb]
      rw [ih hxa hnd.2]

open Slock.Engine (has)

/-- `w` is `w0` after helper steps that leave the key's `key` / `waited` / three queues alone and change the stage-1 view (`πA`) of no
lock record outside `X` -/
structure SX (X : Nat → Prop) (w0 w : W) : Prop where
  key : w.k.key = w0.k.key
  waited : w.k.waited = w0.k.waited
  q : w.k.queues = w0.k.queues
  p : PKeepX πA X w.k w0.k

namespace SX
variable {X : Nat → Prop} {w0 w : W}

theorem refl (w : W) : SX X w w := ⟨rfl, rfl, rfl, PKeepX.refl _⟩

theorem trans {a b c : W} (h1 : SX X a b) (h2 : SX X b c) : SX X a c :=
  ⟨h2.key.trans h1.key, h2.waited.trans h1.waited, h2.q.trans h1.q, h2.p.trans h1.p⟩

theorem step {w' : W} (h : SX X w0 w) (h1 : w'.k.key = w.k.key) (h2 : w'.k.waited = w.k.waited) (h3 : w'.k.queues = w.k.queues)
    (h4 : PKeepX πA X w'.k w.k) : SX X w0 w' := ⟨h1.trans h.key, h2.trans h.waited, h3.trans h.q, h4.trans h.p⟩

theorem of_k {w' : W} (h : SX X w0 w) (e : w'.k = w.k) : SX X w0 w' := h.step (by rw [e]) (by rw [e]) (by rw [e]) (by rw [e]; exact PKeepX.refl _)
theorem reply (h : SX X w0 w) (c : Cmd) (a b : Nat) (d : Option Bytes) : SX X w0 (w.reply c a b d) := h.of_k rfl
theorem ctr (h : SX X w0 w) (f : Counters → Counters) : SX X w0 (w.ctr f) := h.of_k rfl

theorem addTimeOut (h : SX X w0 w) (rid : Nat) (hx : X rid) : SX X w0 (w.addTimeOut rid) :=
  h.step rfl rfl rfl (PKeepX.modRec w.k rid _ (fun _ => rfl) hx)

theorem newLock (h : SX X w0 w) (c : Cmd) (d : Option Bytes) (hx : X w.db.nextRid) : SX X w0 (w.newLock c d).1 :=
  h.step rfl rfl rfl (PKeepX.addRec w.k _ hx)

end SX

/-- the six scalar fields stage 1 shares with the record-level database (clock, the two wheel positions, sequence number, role,
counters) agree. The same six fields are compared by `Equiv` (two stage-1 databases, and every key), by `SE` (`EngineSimCongr`: `Equiv`
without the keys) and by `SC` (two working states, with `gone` and the reply list) -/
structure Scal (a : Engine.DB) (d : DB) : Prop where
  now : a.now = d.now
  tCheck : a.tCheck = d.tCheck
  eCheck : a.eCheck = d.eCheck
  seq : a.seq = d.seq
  leader : a.leader = d.leader
  ctr : a.ctr = d.ctr

/-- a helper step that leaves the six scalar fields, the `gone` flag and the reply list alone -/
structure SC (w w' : W) : Prop where
  seq : w'.db.seq = w.db.seq
  eCheck : w'.db.eCheck = w.db.eCheck
  tCheck : w'.db.tCheck = w.db.tCheck
  now : w'.db.now = w.db.now
  ctr : w'.db.ctr = w.db.ctr
  leader : w'.db.leader = w.db.leader
  gone : w'.gone = w.gone
  out : w'.out = w.out

theorem Scal.withCtr {a : Engine.DB} {d : DB} (s : Scal a d) (f : Engine.Counters → Engine.Counters) :
    Scal { a with ctr := f a.ctr } { d with ctr := f d.ctr } := ⟨s.now, s.tCheck, s.eCheck, s.seq, s.leader, congrArg f s.ctr⟩

theorem Scal.newLock {a : Engine.DB} {w : W} (hs : Scal a w.db) (c : Engine.Cmd) (d : Option Bytes) : Scal a (w.newLock c d).1.db :=
  ⟨hs.now, hs.tCheck, hs.eCheck, hs.seq, hs.leader, hs.ctr⟩

namespace SC
theorem refl (w : W) : SC w w := ⟨rfl, rfl, rfl, rfl, rfl, rfl, rfl, rfl⟩
theorem trans {a b c : W} (h1 : SC a b) (h2 : SC b c) : SC a c :=
  ⟨h2.seq.trans h1.seq, h2.eCheck.trans h1.eCheck, h2.tCheck.trans h1.tCheck, h2.now.trans h1.now, h2.ctr.trans h1.ctr,
   h2.leader.trans h1.leader, h2.gone.trans h1.gone, h2.out.trans h1.out⟩
theorem of_db {w w' : W} (h1 : w'.db = w.db) (h2 : w'.gone = w.gone) (h3 : w'.out = w.out) : SC w w' := by
  refine ⟨?_, ?_, ?_, ?_, ?_, ?_, h2, h3⟩ <;> rw [h1]
theorem modR (w : W) (rid : Nat) (f : Rec → Rec) : SC w (w.modR rid f) := of_db rfl rfl rfl
theorem modK (w : W) (f : Key → Key) : SC w (w.modK f) := of_db rfl rfl rfl
theorem when (w : W) (b : Bool) (f : W → W) (h : SC w (f w)) : SC w (w.when b f) := by
  cases b
  · exact refl w
  · exact h
theorem procData (w : W) (t : Slock.Value.CmdType) (c : Engine.Cmd) (f : Option Bytes) (rid : Nat) : SC w (w.procData t c f rid) := by
  unfold W.procData
  split
  · exact refl w
  · simp only []
    split <;> exact ⟨rfl, rfl, rfl, rfl, rfl, rfl, rfl, rfl⟩
theorem pushLockAof (w : W) (rid flag : Nat) : SC w (w.pushLockAof rid flag) := by
  unfold W.pushLockAof
  split
  · exact refl w
  · simp only []
    split <;> exact ⟨rfl, rfl, rfl, rfl, rfl, rfl, rfl, rfl⟩
theorem pushUnLockAof (w : W) (rid : Nat) (lc : Engine.Cmd) (fa ia : Bool) (flag : Nat) : SC w (w.pushUnLockAof rid lc fa ia flag) := by
  unfold W.pushUnLockAof
  split
  · exact refl w
  · split <;> exact ⟨rfl, rfl, rfl, rfl, rfl, rfl, rfl, rfl⟩
theorem ref (w : W) (rid : Nat) : SC w (w.ref rid) := modR _ _ _
theorem scal {w w' : W} {a : Engine.DB} (h : SC w w') (s : Scal a w.db) : Scal a w'.db :=
  ⟨s.now.trans h.now.symm, s.tCheck.trans h.tCheck.symm, s.eCheck.trans h.eCheck.symm, s.seq.trans h.seq.symm, s.leader.trans h.leader.symm,
   s.ctr.trans h.ctr.symm⟩
end SC

theorem enter_fields (s : Engine2.DB) (n : Nat) :
    (s.enter n).db.now = s.now ∧ (s.enter n).db.leader = s.leader ∧ (s.enter n).db.tCheck = s.tCheck ∧ (s.enter n).db.eCheck = s.eCheck ∧
    (s.enter n).db.seq = s.seq ∧ (s.enter n).db.ctr = s.ctr := by
  rw [Engine2.enter_db]
  obtain ⟨a, _, b, c, _, d, e, f, _⟩ := Engine2.create_fields s n
  exact ⟨b, a, e, f, d, c⟩

theorem scal_enter (s : DB) (n : Nat) : Scal (Engine2.abs s) (s.enter n).db := by
  obtain ⟨e1, e2, e3, e4, e5, e6⟩ := enter_fields s n
  exact ⟨e1.symm, e3.symm, e4.symm, e5.symm, e2.symm, e6.symm⟩

theorem scal_openKey (s : DB) (n : Nat) : Scal (Engine2.abs s) (s.openKey n).db := ⟨rfl, rfl, rfl, rfl, rfl, rfl⟩

theorem Scal.removeIfZero {a : Engine.DB} {w : W} (hs : Scal a w.db) : Scal a w.removeIfZero.db := by
  rcases removeIfZero_cases w with e | ⟨_, _, _, _, hd⟩
  · rw [e]; exact hs
  · rw [hd]
    obtain ⟨l, _, n, c, _, q, t, e, _⟩ := Engine2.dropKey_fields w.db w.k.key
    exact ⟨hs.now.trans n.symm, hs.tCheck.trans t.symm, hs.eCheck.trans e.symm, hs.seq.trans q.symm, hs.leader.trans l.symm, hs.ctr.trans c.symm⟩

end Slock.Sim
