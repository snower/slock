import Slock.Model.Aof
import Slock.Proofs.Lists
/-!
What a journal means and what a restart does with it (stated in Properties/C07Journal).  The reference replay `recover`: a
journal state is a finite map from (db, key, id) to holds, and one record updates it at the hold it names by `holdStep`
(`recoverStep_get`); value frames never touch the holds.  `reload` on LOCK records that meet a key nobody holds: each creates
its `freshEntry`.
-/
namespace Slock.Aof

theorem is_terms (r : JRec) (d : Nat) : (r.terms d).is r.db r.key r.id = true := by
  simp [JRec.terms, JHold.is]

theorem is_disjoint {db key id db' key' id' : Nat} (hne : (db, key, id) ≠ (db', key', id')) (y : JHold)
    (h1 : y.is db key id = true) : y.is db' key' id' = false := by
  apply Bool.eq_false_iff.mpr
  intro h2
  simp only [JHold.is, Bool.and_eq_true, beq_iff_eq] at h1 h2
  exact hne (by rw [← h1.1.1, ← h1.1.2, ← h1.2, h2.1.1, h2.1.2, h2.2])

theorem setValue_get (st : JState) (db key : Nat) (v : Bytes) (a b c : Nat) : (st.setValue db key v).get a b c = st.get a b c := rfl

theorem recoverStep_holds (st : JState) (r : JRec) :
    (recoverStep st r).holds =
      if r.isLock then
        match st.get r.db r.key r.id with
        | none => st.holds ++ [r.terms 1]
        | some h =>
          st.holds.map (fun x => if x.is r.db r.key r.id then r.terms (if r.flag &&& 0x02 ≠ 0 then h.depth else h.depth + 1) else x)
      else
        match st.get r.db r.key r.id with
        | none => st.holds
        | some h =>
          if r.rcount = 0 ∨ h.depth ≤ 1 then st.holds.filter (fun x => !x.is r.db r.key r.id)
          else st.holds.map (fun x => if x.is r.db r.key r.id then { x with depth := x.depth - 1 } else x) := by
  unfold recoverStep
  by_cases hl : r.isLock = true
  · rw [if_pos hl, if_pos hl]; cases st.get r.db r.key r.id <;> cases r.data <;> rfl
  · rw [if_neg hl, if_neg hl]
    cases st.get r.db r.key r.id with
    | none => rfl
    | some h => cases r.data <;> (dsimp only; split <;> rfl)

/-- what a record does to the hold it names (`none` = no such hold) -/
def holdStep (r : JRec) : Option JHold → Option JHold
  | none => if r.isLock then some (r.terms 1) else none
  | some h =>
    if r.isLock then some (r.terms (if r.flag &&& 0x02 ≠ 0 then h.depth else h.depth + 1))
    else if r.rcount = 0 ∨ h.depth ≤ 1 then none
    else some { h with depth := h.depth - 1 }

theorem recoverStep_get (st : JState) (r : JRec) (db key id : Nat) :
    (recoverStep st r).get db key id =
      if (r.db, r.key, r.id) = (db, key, id) then holdStep r (st.get db key id) else st.get db key id := by
  show (recoverStep st r).holds.find? _ = _
  rw [recoverStep_holds]
  by_cases he : (r.db, r.key, r.id) = (db, key, id)
  · cases he
    rw [if_pos rfl]
    cases hh : st.get r.db r.key r.id with
    | none =>
      by_cases hl : r.isLock = true
      · rw [if_pos hl, List.find?_append, show st.holds.find? _ = none from hh]
        simp [holdStep, hl, is_terms]
      · rw [if_neg hl]; simp only [holdStep, hl]; exact hh
    | some h =>
      by_cases hl : r.isLock = true
      · rw [if_pos hl]
        exact (find?_map_if st.holds (·.is r.db r.key r.id) _ (fun _ _ => is_terms r _)).trans (by rw [show st.holds.find? _ = _ from hh]; simp [holdStep, hl])
      · rw [if_neg hl]
        by_cases hc : r.rcount = 0 ∨ h.depth ≤ 1
        · simp only [hc, if_true, holdStep, hl]; exact find?_filter_not _ _
        · dsimp only; rw [if_neg hc]
          exact (find?_map_if st.holds (·.is r.db r.key r.id) (fun x => { x with depth := x.depth - 1 }) (fun _ hy => hy)).trans
            (by rw [show st.holds.find? _ = _ from hh]; simp [holdStep, hl, hc])
  · rw [if_neg he]
    have hdis := is_disjoint he
    split <;> split
    · rw [List.find?_append]; simp [hdis _ (is_terms r 1)]; rfl
    · exact find?_map_if_other _ _ _ _ (fun _ _ => is_terms r _) hdis
    · rfl
    · split
      · exact find?_filter_not_other _ _ _ hdis
      · exact find?_map_if_other _ _ _ _ (fun _ hy => hy) hdis

/-- the key a live LOCK record creates when nobody holds it: one hold of depth 1 with the record's terms, deadline counted from `now` -/
def freshEntry (now : Int) (r : JRec) : RKey :=
  applyFrame ⟨r.db, r.key, [⟨r.id, 1, r.count, r.rcount, r.eflag,
      engineDeadline r.eflag (loadRemaining r.eflag r.stored r.ct now) now,
      placeLong r.eflag now (engineDeadline r.eflag (loadRemaining r.eflag r.stored r.ct now) now), r.tflag⟩], none, false, false⟩ r.data

theorem applyFrame_frame (k : RKey) (d : Option Bytes) :
    (applyFrame k d).db = k.db ∧ (applyFrame k d).key = k.key ∧ (applyFrame k d).holds = k.holds := by
  cases d with
  | none => exact ⟨rfl, rfl, rfl⟩
  | some f => simp only [applyFrame, apply_ite RKey.db, apply_ite RKey.key, apply_ite RKey.holds, ite_self, and_self]

theorem RState.getKey_fresh {st : RState} {db key : Nat} (h : ∀ k ∈ st, ¬ (k.db = db ∧ k.key = key)) :
    st.getKey db key = ⟨db, key, [], none, false, false⟩ := by
  unfold RState.getKey
  rw [List.find?_eq_none.mpr (fun k hk => by simpa using h k hk)]; rfl

theorem RState.setKey_fresh {st : RState} {x : RKey} (h : ∀ k ∈ st, ¬ (k.db = x.db ∧ k.key = x.key)) :
    st.setKey x = st ++ [x] := by
  unfold RState.setKey
  rw [List.any_eq_false.mpr (fun k hk => by simpa using h k hk)]; rfl

/-- a LOCK record that is neither filtered as expired nor replayed with `Expried = 0` at `now` -/
def LiveLock (now : Int) (r : JRec) : Prop :=
  r.isLock = true ∧ skippedAt r.eflag r.stored r.ct.toNat now = false ∧ loadRemaining r.eflag r.stored r.ct now > 0

theorem reloadStep_new_key (now : Int) (st : RState) (r : JRec) (hr : LiveLock now r)
    (hfresh : ∀ k ∈ st, ¬ (k.db = r.db ∧ k.key = r.key)) :
    (reloadStep now st r).1 = st ++ [freshEntry now r] := by
  obtain ⟨hl, hs, he⟩ := hr
  have hlk : (⟨r.db, r.key, [], none, false, false⟩ : RKey).locked = 0 := rfl
  have hd : Slock.Gen.K.doLock 0 0 r.count r.tflag 0 = true := by unfold Slock.Gen.K.doLock; simp
  obtain ⟨hdb, hkey, _⟩ : (freshEntry now r).db = r.db ∧ (freshEntry now r).key = r.key ∧ _ := applyFrame_frame _ _
  unfold reloadStep
  simp only [hs, Bool.false_eq_true, if_false, hl, if_true, RState.getKey_fresh hfresh, hlk, Nat.lt_irrefl, List.head?_nil,
    Option.map_none, Option.getD_none, hd, he, List.nil_append]
  exact RState.setKey_fresh (x := freshEntry now r) (fun k hk => by rw [hdb, hkey]; exact hfresh k hk)

theorem reload_one_record_per_key (now : Int) : ∀ (rs : List JRec) (st : RState),
    (∀ r ∈ rs, LiveLock now r) →
    rs.Pairwise (fun a b => ¬ (a.db = b.db ∧ a.key = b.key)) →
    (∀ k ∈ st, ∀ r ∈ rs, ¬ (k.db = r.db ∧ k.key = r.key)) →
    rs.foldl (fun st r => (reloadStep now st r).1) st = st ++ rs.map (freshEntry now)
  | [], st, _, _, _ => by simp
  | r :: rs, st, hl, hp, hf => by
    obtain ⟨hpr, hprs⟩ := List.pairwise_cons.mp hp
    obtain ⟨hdb, hkey, _⟩ : (freshEntry now r).db = r.db ∧ (freshEntry now r).key = r.key ∧ _ := applyFrame_frame _ _
    rw [List.foldl_cons, reloadStep_new_key now st r (hl r (by simp)) (fun k hk => hf k hk r (by simp)),
      reload_one_record_per_key now rs _ (fun x hx => hl x (by simp [hx])) hprs ?_]
    · simp
    · intro k hk x hx
      rcases List.mem_append.mp hk with h | h
      · exact hf k h x (by simp [hx])
      · rw [List.mem_singleton.mp h, hdb, hkey]; exact hpr x hx

end Slock.Aof
