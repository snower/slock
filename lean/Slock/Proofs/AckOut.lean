import Slock.Proofs.AckRun
/-! M-ACK: the configuration is constant (`_conf` lemmas, `step_cfg`); then which replies can be SUCCED for a require-ack request, and when. Everything an operation emits besides its own reply is either
not SUCCED or addressed to a request without the flag (`NAS`); the only other source is the success exit of `DoAckLock(lock, true)`, reached
by the last of the required number of positive reports — which the table entry has noted one by one (`TG`, `trace_succ`). -/
namespace Slock.Ack

theorem applyWake_conf (db : DB) (k : Nat) (b : WakeBranch) : (applyWake db k b).1.env.toConf = db.env.toConf := by
  cases b <;> unfold applyWake <;> simp

@[simp] theorem wake_conf (db : DB) (k : Nat) (out : List Reply) : (db.wake k out).1.env.toConf = db.env.toConf :=
  wake_ind k (fun d _ => d.env.toConf = db.env.toConf) (fun d _ h _ => (applyWake_conf d k _).trans h) (fun _ _ h => by simp [h]) db out rfl

@[simp] theorem ackDone_conf (db : DB) (hid : Nat) (ok : Bool) : (ackDone db hid ok).1.env.toConf = db.env.toConf := by
  unfold ackDone
  cases classifyAck db hid ok <;> unfold applyAck <;> simp

@[simp] theorem newRec_conf (db : DB) (c : Cmd) : (db.newRec c).1.env.toConf = db.env.toConf := rfl

theorem opLock_conf (db : DB) (c : Cmd) : (opLock db c).1.env.toConf = db.env.toConf := by
  unfold opLock
  cases classifyLock db c with
  | stateError | ackWaiting | relockRefused | timeout => rfl
  | relock | queue => unfold applyLock; simp
  | grant | ackGrant => unfold applyLock; simp only []; split <;> simp

theorem opUnlock_conf (db : DB) (c : Cmd) : (opUnlock db c).1.env.toConf = db.env.toConf := by
  unfold opUnlock
  cases classifyUnlock db c <;> unfold applyUnlock <;> simp [DB.bumpErr]

theorem fireTimeout_conf (db : DB) (hid : Nat) : (fireTimeout db hid).1.env.toConf = db.env.toConf := by
  unfold fireTimeout; simp only []; split <;> simp

theorem fireExpire_conf (db : DB) (hid : Nat) : (fireExpire db hid).1.env.toConf = db.env.toConf := by
  unfold fireExpire; simp only []; split <;> simp

theorem opTick_conf (db : DB) : (opTick db).1.env.toConf = db.env.toConf :=
  opTick_ind (fun d _ => d.env.toConf = db.env.toConf) (fun _ _ _ _ _ h => h) (fun _ _ _ _ _ h _ => h)
    (fun d _ hid h _ => (fireTimeout_conf d hid).trans h) (fun d _ hid h _ => (fireExpire_conf d hid).trans h) db [] rfl

theorem step_cfg (db : DB) (ev : Ev) : (step db ev).1.cfg = db.cfg := by
  have hfail : ∀ (d : DB) (o : List Reply) (hid : Nat), d.cfg = db.cfg → (ackDone d hid false).1.cfg = db.cfg :=
    fun d _ hid h => (cfg_of_conf (ackDone_conf d hid false)).trans h
  have hrep : ∀ id who ok, (opReport db id who ok).1.cfg = db.cfg := fun id who ok =>
    opReport_ind (fun d _ => d.cfg = db.cfg) id who ok rfl (fun _ _ _ => hfail _ [] _ rfl) (fun _ _ _ _ _ => rfl)
      (fun _ _ _ _ _ => (cfg_of_conf (ackDone_conf ..)).trans rfl)
  cases ev with
  | lock c => exact cfg_of_conf (opLock_conf db c)
  | unlock c => exact cfg_of_conf (opUnlock_conf db c)
  | tick => exact cfg_of_conf (opTick_conf db)
  | push k | pushW k => exact opPush_ind (fun d _ => d.cfg = db.cfg) rfl rfl (fun _ _ _ h => h) hfail (fun _ _ _ _ _ _ => rfl) _
  | aofed id ok => show (opAofed db id ok).1.cfg = db.cfg; unfold opAofed; split; exact hrep _ _ _; rfl
  | acked id f ok => exact hrep _ _ _
  | role b | closed b => rfl
  | demote o | flush o => exact opFailAll_ind (fun d _ => d.cfg = db.cfg) hfail (fun _ _ h => h) db o rfl

/-- no reply in `out` is SUCCED for a request that carried the require-ack flag -/
def NAS (out : List Reply) : Prop := ∀ rp ∈ out, rp.result = R_SUCCED → rp.ack = false

theorem NAS_nil : NAS [] := by intro rp h; simp at h
theorem NAS_append {a b : List Reply} (ha : NAS a) (hb : NAS b) : NAS (a ++ b) := by
  intro rp h; rcases List.mem_append.mp h with h | h; exact ha rp h; exact hb rp h
theorem NAS_mk_ne (c : Cmd) (res l lr : Nat) (d : Option Bytes) (h : res ≠ R_SUCCED) : NAS [mkReply c res l lr d] := by
  intro rp hr hs; simp at hr; subst hr; exact absurd hs h
theorem NAS_mk_nonack (c : Cmd) (res l lr : Nat) (d : Option Bytes) (h : c.ack = false) : NAS [mkReply c res l lr d] := by
  intro rp hr _; simp at hr; subst hr; exact h

theorem applyWake_nas {db : DB} (ha : InvA db) (k : Nat) : NAS (applyWake db k (classifyWake db k)).2 := by
  fun_cases classifyWake db k <;> dsimp only [applyWake] <;> try exact NAS_nil
  case case3 => exact NAS_mk_ne _ _ _ _ _ (by decide)  -- ackFail
  case case5 w hw _ hna =>  -- grant
    obtain ⟨l, d, eg⟩ := grant_snd (db.ctrMod (fun x => { x with waitCount := x.waitCount - 1 })) w.hid
    rw [eg, getR_ctrMod, getR_of_find (ha.waiter hw).1]; exact NAS_mk_nonack _ _ _ _ _ (by simpa using hna)

/-- the wake pass only adds harmless replies: whatever holds of the replies so far and of every harmless one holds afterwards -/
theorem wake_all (p : Reply → Prop) (hp : ∀ rp, (rp.result = R_SUCCED → rp.ack = false) → p rp) {db : DB} (ha : InvA db) (k : Nat)
    (out : List Reply) (h : ∀ rp ∈ out, p rp) : ∀ rp ∈ (db.wake k out).2, p rp :=
  (wake_ind k (fun d o => InvA d ∧ ∀ rp ∈ o, p rp)
    (fun _ _ hd _ => ⟨hd.1.applyWake k, fun rp hr => (List.mem_append.mp hr).elim (hd.2 rp) (fun hr => hp rp (applyWake_nas hd.1 k rp hr))⟩)
    (fun _ _ hd => ⟨hd.1.modKey _ _, hd.2⟩) db out ⟨ha, h⟩).2

theorem wake_nas {db : DB} (ha : InvA db) (k : Nat) (out : List Reply) (h : NAS out) : NAS (db.wake k out).2 :=
  wake_all _ (fun _ h => h) ha k out h

theorem ackDone_false_nas {db : DB} (ha : InvA db) (hid : Nat) : NAS (ackDone db hid false).2 := by
  unfold ackDone
  cases e : classifyAck db hid false <;> unfold applyAck <;> simp only []
  · exact NAS_nil
  · exact NAS_mk_ne _ _ _ _ _ (by decide)
  · cases (AckFacts.of e).2.2.2
  · exact wake_nas (ha.failed hid) _ _ (NAS_mk_ne _ _ _ _ _ (by decide))

theorem fireTimeout_nas {db : DB} (ha : InvA db) (hid : Nat) : NAS (fireTimeout db hid).2 := by
  unfold fireTimeout
  simp only []
  split
  · exact wake_nas ((ha.failed hid).ctrMod _) _ _ (NAS_mk_ne _ _ _ _ _ (by decide))
  · exact wake_nas (ha.dropWaiter hid) _ _ (NAS_mk_ne _ _ _ _ _ (by decide))

theorem fireExpire_nas {db : DB} (ha : InvA db) (hid : Nat) : NAS (fireExpire db hid).2 := by
  unfold fireExpire
  simp only []
  split
  · exact NAS_nil
  · exact wake_nas (ha.released hid _ _ _) _ _ (NAS_mk_ne _ _ _ _ _ (by decide))

theorem opTick_nas {db : DB} (ha : InvA db) : NAS (opTick db).2 :=
  (opTick_ind (fun d o => InvA d ∧ NAS o) (fun _ _ _ _ _ h => ⟨h.1.env rfl rfl, h.2⟩) (fun _ _ _ _ n h hf => ⟨h.1.rearm _ n hf, h.2⟩)
    (fun _ _ hid h _ => ⟨h.1.fireTimeout hid, NAS_append h.2 (fireTimeout_nas h.1 hid)⟩)
    (fun _ _ hid h _ => ⟨h.1.fireExpire hid, NAS_append h.2 (fireExpire_nas h.1 hid)⟩) db [] ⟨ha, NAS_nil⟩).2

theorem opPush_nas {db : DB} (ha : InvA db) (k : Nat) (werr : Bool) : NAS (opPush db k werr).2 :=
  (opPush_ind (fun d o => InvA d ∧ NAS o) ⟨ha, NAS_nil⟩ ⟨ha.popJ k, NAS_nil⟩ (fun _ _ id h => ⟨h.1.dropEnt id, h.2⟩)
    (fun _ _ hid h => ⟨h.1.ackDone _ _, NAS_append h.2 (ackDone_false_nas h.1 hid)⟩)
    (fun _ _ hj hl hh hd => ⟨ha.armed hj hl hh hd, NAS_nil⟩) werr).2

theorem opFailAll_nas {db : DB} (ha : InvA db) (order : List Nat) : NAS (opFailAll db order).2 :=
  (opFailAll_ind (fun d o => InvA d ∧ NAS o) (fun _ _ hid h => ⟨h.1.ackDone _ _, NAS_append h.2 (ackDone_false_nas h.1 hid)⟩)
    (fun _ _ h => ⟨h.1.clearTab, h.2⟩) db order ⟨ha, NAS_nil⟩).2

/-- … except replies to the request `c` itself -/
def Own (c : Cmd) (out : List Reply) : Prop := ∀ rp ∈ out, rp.rid = c.rid ∨ (rp.result = R_SUCCED → rp.ack = false)

theorem Own_mk (c : Cmd) (res l lr : Nat) (d : Option Bytes) : Own c [mkReply c res l lr d] := by
  intro rp hr; simp at hr; subst hr; left; rfl

theorem wake_own {db : DB} (ha : InvA db) (c : Cmd) (k : Nat) (out : List Reply) (h : Own c out) : Own c (db.wake k out).2 :=
  wake_all _ (fun _ h => Or.inr h) ha k out h

theorem opLock_own {db : DB} (ha : InvA db) (c : Cmd) : Own c (opLock db c).2 := by
  have f0 := newRec_findR ha.hidLt c
  unfold opLock
  cases e : classifyLock db c with
  | stateError | ackWaiting | relockRefused | timeout => unfold applyLock; exact Own_mk _ _ _ _ _
  | relock h =>
    obtain ⟨r, hr, rfl, _⟩ := LockFacts.of e
    unfold applyLock
    exact wake_own (ha.relockHold c r.hid (ha.holder (findHolder_mem hr))) c _ _ (Own_mk _ _ _ _ _)
  | queue => unfold applyLock; simp only []; intro rp hr; simp at hr
  | grant =>
    obtain ⟨l, d, eg⟩ := grant_snd (db.newRec c).1 (db.newRec c).2
    have h1 : Own c [((db.newRec c).1.grant (db.newRec c).2).2] := by rw [eg, getR_of_find f0]; exact Own_mk _ _ _ _ _
    unfold applyLock
    simp only []
    split
    · exact wake_own ((ha.newRec c).grant _ (ha.newRec_unref c)) c _ _ h1
    · exact h1
  | ackGrant =>
    unfold applyLock
    simp only []
    split
    · intro rp hr; simp at hr
    · exact fun rp hr => Or.inr (ackDone_false_nas (ha.ackGranted c) _ rp hr)

theorem opUnlock_own {db : DB} (ha : InvA db) (c : Cmd) : Own c (opUnlock db c).2 := by
  unfold opUnlock
  cases e : classifyUnlock db c with
  | stateError | notLocked | unown | ackWaiting => unfold applyUnlock; exact Own_mk _ _ _ _ _
  | dec h =>
    unfold applyUnlock; simp only []
    exact wake_own (ha.lowered h _ _) c _ _ (Own_mk _ _ _ _ _)
  | release h => unfold applyUnlock; simp only []; exact wake_own (ha.released h _ _ _) c _ _ (Own_mk _ _ _ _ _)

/-- A report whose output contains SUCCED for a require-ack request is a positive report, and with it the
number of positive reports noted for that record id reaches the required number. -/
theorem opReport_succ {db : DB} (ha : InvA db) (hk : InvK db) (id : Nat) (who : Option Nat) (ok : Bool) (rp : Reply)
    (hr : rp ∈ (opReport db id who ok).2) (hs : rp.result = R_SUCCED) (hack : rp.ack = true) :
    ok = true ∧ ∃ e, db.findId id = some e ∧ cnt e + 1 = reqAcks db.cfg := by
  refine opReport_ind (fun _ o => rp ∈ o → ok = true ∧ ∃ e, db.findId id = some e ∧ cnt e + 1 = reqAcks db.cfg) id who ok
    (fun h => by simp at h) ?_ (fun _ _ _ _ _ h => by simp at h) ?_ hr
  · intro e _ _ hr
    have := ackDone_false_nas (ha.dropEnt id) e.hid rp hr hs
    rw [hack] at this; cases this
  · intro e he hok hp hz hr
    refine ⟨hok, e, he, ?_⟩
    have hem : e ∈ db.tab := List.mem_of_find?_eq_some he
    have h1 := decU8_succ (ha.tab_ack ⟨e, hem, rfl⟩ hp)
    have hg := getR_of_find ((found_tracker e.hid).modR (fun r => { r with ack := decU8 r.ack }) (present_of_pending hp) (fun _ => rfl))
    unfold ackDone at hr
    cases e2 : classifyAck ((db.modR e.hid (fun r => { r with ack := decU8 r.ack })).dropEnt id) e.hid true <;> rw [e2] at hr <;>
      have hf := AckFacts.of e2 <;> simp only [AckFacts] at hf
    · rw [show ((db.modR e.hid _).dropEnt id).getR e.hid = _ from hg] at hf
      have : (decU8 (db.getR e.hid).ack != NOACK) = false := hf
      rw [hz] at this; cases this
    · unfold applyAck at hr; simp at hr; rw [hr] at hs; simp [mkReply, R_LOCKED_ERROR, R_SUCCED] at hs
    · rw [show ((db.modR e.hid _).dropEnt id).getR e.hid = _ from hg] at hf
      have := hk.k1 e hem ((fp_iff _).mpr ⟨Nat.pos_of_ne_zero hf.2.2.1, hf.2.1, hp⟩)
      omega
    · cases hf.2.2.2

def reportOf : Ev → Option (Nat × Option Nat)
  | .aofed id true => some (id, none)
  | .acked id f true => some (id, some f)
  | _ => none

/-- where an entry of the table after `ev` comes from: it was there, it is new (nothing noted), or `ev` is a positive report noted in it -/
def FromEv (ev : Ev) (t : List Ent) (e' : Ent) : Prop :=
  e' ∈ t ∨ e'.oks = [] ∨ ∃ e ∈ t, e'.id = e.id ∧ ∃ who, e'.oks = e.oks ++ [who] ∧ reportOf ev = some (e.id, who)

theorem step_from (db : DB) (ev : Ev) : ∀ e' ∈ (step db ev).1.tab, FromEv ev db.tab e' := by
  have hfail : ∀ (d : DB) (o : List Reply) (hid : Nat), (∀ e' ∈ d.tab, FromEv ev db.tab e') → ∀ e' ∈ (ackDone d hid false).1.tab, FromEv ev db.tab e' :=
    fun d _ hid h => by rw [tab_of_conf (ackDone_conf d hid false)]; exact h
  have hdrop : ∀ (d : DB) (o : List Reply) (id : Nat), (∀ e' ∈ d.tab, FromEv ev db.tab e') → ∀ e' ∈ (d.dropEnt id).tab, FromEv ev db.tab e' :=
    fun d _ id h e' he' => h e' (List.mem_filter.mp he').1
  have hrep : ∀ id who ok, (ok = true → reportOf ev = some (id, who)) → ∀ e' ∈ (opReport db id who ok).1.tab, FromEv ev db.tab e' := by
    intro id who ok hev
    refine opReport_ind (fun d _ => ∀ e' ∈ d.tab, FromEv ev db.tab e') id who ok (fun _ h => Or.inl h)
      (fun e _ _ => hfail _ [] _ (hdrop db [] id (fun _ h => Or.inl h))) ?_ (fun e _ _ _ _ => ?_)
    · intro e he hok _ _ e' he'
      obtain ⟨l1, l2, e1, a1, a2, a3, a4, a5⟩ := noteOk_split (who := who) he
      have hx : e' ∈ l1 ++ e1 :: l2 := a2 ▸ he'
      have hid : e.id = id := by have := List.find?_some he; simpa using this
      rcases List.mem_append.mp hx with h | h
      · exact Or.inl (by rw [a1]; exact List.mem_append_left _ h)
      · rcases List.mem_cons.mp h with h | h
        · subst h
          exact Or.inr (Or.inr ⟨e, List.mem_of_find?_eq_some he, a4, who, a5, by rw [hid]; exact hev hok⟩)
        · exact Or.inl (by rw [a1]; exact List.mem_append_right _ (List.mem_cons_of_mem _ h))
    · rw [tab_of_conf (ackDone_conf ..)]; exact fun e' he' => Or.inl (List.mem_filter.mp he').1
  intro e' he'
  cases ev with
  | lock c => exact Or.inl (tab_of_conf (opLock_conf db c) ▸ he')
  | unlock c => exact Or.inl (tab_of_conf (opUnlock_conf db c) ▸ he')
  | tick => exact Or.inl (tab_of_conf (opTick_conf db) ▸ he')
  | push k | pushW k =>
    refine opPush_ind (fun d _ => ∀ e' ∈ d.tab, FromEv _ db.tab e') (fun _ h => Or.inl h) (fun _ h => Or.inl h) (hdrop) (hfail) ?_ _ e' he'
    intro j hid _ _ _ _ x hx
    rcases List.mem_append.mp hx with h | h
    · exact Or.inl h
    · simp at h; subst h; exact Or.inr (Or.inl rfl)
  | aofed id ok =>
    have he'' : e' ∈ (opAofed db id ok).1.tab := he'
    unfold opAofed at he''
    split at he''
    · exact hrep id none ok (by intro h; subst h; rfl) e' he''
    · exact Or.inl he''
  | acked id f ok => exact hrep id (some f) ok (by intro h; subst h; rfl) e' he'
  | role b | closed b => exact Or.inl he'
  | demote o | flush o => exact absurd he' (by show ¬ e' ∈ []; simp)

/-- is `ev` a positive report (own flush or follower answer) for record id `id` -/
def okFor (id : Nat) (ev : Ev) : Bool := match reportOf ev with | some (i, _) => i == id | none => false
def counted (evs : List Ev) (id : Nat) : Nat := (evs.filter (okFor id)).length

theorem counted_append (a b : List Ev) (id : Nat) : counted (a ++ b) id = counted a id + counted b id := by
  unfold counted; simp [List.filter_append]

theorem counted_report {ev : Ev} {id : Nat} {who : Option Nat} (h : reportOf ev = some (id, who)) : counted [ev] id = 1 := by
  unfold counted okFor; simp [List.filter, h]

/-- the run, with for each event the events up to and including it and the replies it produced -/
def trace (db : DB) (pre : List Ev) : List Ev → List (List Ev × Ev × List Reply)
  | [] => []
  | e :: es => (pre ++ [e], e, (step db e).2) :: trace (step db e).1 (pre ++ [e]) es

/-- every table entry has noted no more positive reports than the run so far contains for its record id -/
def TG (pre : List Ev) (db : DB) : Prop := ∀ e ∈ db.tab, cnt e ≤ counted pre e.id

theorem TG_step {pre : List Ev} {db : DB} (h : TG pre db) (ev : Ev) : TG (pre ++ [ev]) (step db ev).1 := by
  intro e' he'
  rcases step_from db ev e' he' with hm | hz | ⟨e, hem, hid, who, hoks, hrep⟩
  · have := h e' hm
    rw [counted_append]; omega
  · unfold cnt; rw [hz]; exact Nat.zero_le _
  · have := h e hem
    unfold cnt at *; rw [hoks, counted_append, hid, counted_report hrep]
    simp; omega

/-- what a SUCCED for a require-ack request can be: the event's own reply (LOCK / UNLOCK), or the last of the required number of positive reports -/
def SuccOk (cfg : Cfg) (t : List Ev × Ev × List Reply) (rp : Reply) : Prop :=
  (∃ c, t.2.1 = .lock c ∧ rp.rid = c.rid) ∨ (∃ c, t.2.1 = .unlock c ∧ rp.rid = c.rid) ∨
  (∃ id, okFor id t.2.1 = true ∧ counted t.1 id ≥ reqAcks cfg)

theorem step_succ {pre : List Ev} {db : DB} (ha : InvA db) (hk : InvK db) (ht : TG pre db) (ev : Ev) (rp : Reply)
    (hr : rp ∈ (step db ev).2) (hs : rp.result = R_SUCCED) (hack : rp.ack = true) : SuccOk db.cfg (pre ++ [ev], ev, (step db ev).2) rp := by
  have hnas : ∀ out : List Reply, NAS out → rp ∈ out → False := by
    intro out hn hm; have := hn rp hm hs; rw [hack] at this; exact absurd this (by decide)
  have hrep : ∀ id who ok, rp ∈ (opReport db id who ok).2 → (ok = true → reportOf ev = some (id, who)) →
      SuccOk db.cfg (pre ++ [ev], ev, (step db ev).2) rp := by
    intro id who ok hm hre
    obtain ⟨hok, e, he, hc⟩ := opReport_succ ha hk id who ok rp hm hs hack
    have hid : e.id = id := by have := List.find?_some he; simpa using this
    have := ht e (List.mem_of_find?_eq_some he)
    refine Or.inr (Or.inr ⟨id, by unfold okFor; simp [hre hok], ?_⟩)
    show counted (pre ++ [ev]) id ≥ reqAcks db.cfg
    rw [counted_append, counted_report (hre hok)]
    rw [hid] at this; omega
  cases ev with
  | lock c =>
    rcases opLock_own ha c rp hr with h | h
    · exact Or.inl ⟨c, rfl, h⟩
    · have := h hs; rw [hack] at this; exact absurd this (by decide)
  | unlock c =>
    rcases opUnlock_own ha c rp hr with h | h
    · exact Or.inr (Or.inl ⟨c, rfl, h⟩)
    · have := h hs; rw [hack] at this; exact absurd this (by decide)
  | tick => exact (hnas _ (opTick_nas ha) hr).elim
  | push k => exact (hnas _ (opPush_nas ha k false) hr).elim
  | pushW k => exact (hnas _ (opPush_nas ha k true) hr).elim
  | aofed id ok =>
    have hr' : rp ∈ (opAofed db id ok).2 := hr
    unfold opAofed at hr'
    split at hr'
    · exact hrep id none ok hr' (by intro h; subst h; rfl)
    · simp at hr'
  | acked id f ok => exact hrep id (some f) ok hr (by intro h; subst h; rfl)
  | role b | closed b => simp [step] at hr
  | demote o | flush o => exact (hnas _ (opFailAll_nas ha o) hr).elim

theorem trace_succ : ∀ (evs : List Ev) (pre : List Ev) (db : DB), Inv3 db → TG pre db →
    ∀ t ∈ trace db pre evs, ∀ rp ∈ t.2.2, rp.result = R_SUCCED → rp.ack = true → SuccOk db.cfg t rp := by
  intro evs
  induction evs with
  | nil => intro pre db _ _ t ht; simp [trace] at ht
  | cons e es ih =>
    intro pre db h3 ht t hmem rp hr hs hack
    unfold trace at hmem
    rcases List.mem_cons.mp hmem with h | h
    · subst h
      exact step_succ h3.a h3.k ht e rp hr hs hack
    · have := ih (pre ++ [e]) (step db e).1 (h3.step e) (TG_step ht e) t h rp hr hs hack
      rw [step_cfg] at this; exact this

end Slock.Ack
