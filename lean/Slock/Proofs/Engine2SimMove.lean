import Slock.Proofs.Engine2SimShapeSteps
import Slock.Proofs.Engine2SimEnqInv
import Slock.Proofs.EngineSimTickCases
/-! What an operation does to the key record it works on, as a sequence of steps (`Move`, `Moves`) between which `KI`, the queue shape `QS`
and `SimTick.KT` all hold; an invariant of the working state says what it has to say about each step, once (`WI.move`, `QS.move`,
`SimTick.WT.move`), and passes through every operation by `Moves.ind`. The steps carry what is known of the state they start from, as far
as those invariants need it; what only the queue shape needs is asked for only if `full` (`Move`'s own parameter; `Node`'s `full` grades the
reference counts and is another matter), so that `KI ∧ KT` of a run (`SimTick.kt_closed`) does not rest on the queue shape. The live raw head `HL` is not kept by every step (a wake-up tombstones the head, the next pop makes the head live
again): every step says what it does to it (`Engine2.Eff`) and a sequence carries the flag "no `brk` since the last `est`". The operations
themselves are walked once, upstream (`Engine2Step`, `Engine2Node`); the end of this file cuts those walks into `Moves`. -/
namespace Slock.Sim
open Slock Slock.Engine2
open Slock.SimTick (bumpT)
open Slock.Engine (has)

inductive Move (full : Prop) : Eff → W → W → Prop
  | quiet {w w' : W} (d : Quiet w w') : Move full .keep w w'
  | removeIfZero (w : W) : Move full .keep w w.removeIfZero
  | newLock (w : W) (l : Lv w zero) (c : Engine.Cmd) (d : Option Bytes) : Move full .keep w (w.newLock c d).1
  | tomb (w : W) (rid : Nat) : Move full .brk w (w.modR rid (fun r => { r with timeouted := true }))
  /-- a chain in edit normal form on one record `x` (the engine's: a depth edit of a hold that stays one or ends, a wheel entry cleared, a
  re-arm on the expiry wheel, `UpdateLockedLock`): the queues and every other record stay. Nothing is assumed of `x` itself — not that it
  is a hold or tombstoned (`timeouted = true` occurs only as `hw`'s second disjunct) — but this much of the edit `f`: `cs`, `ck`, `hid` for
  `KI`, `hc` for the queue shape, `hw` for `SimTick.KT`, `ht` for all of them -/
  | edit {x : Nat} {f : Rec → Rec} {g : Nat → Nat} {n : Nat} (w w' : W) (e : Edit x f g n w w')
      (cs : (w.k.getR x).conn = (w.k.getR x).cmd.conn → (f (w.k.getR x)).conn = (f (w.k.getR x)).cmd.conn)
      (ck : (∀ sc, (w.k.getR x).eSched = some sc → sc.checked = (w.k.getR x).eChecked) →
        ∀ sc, (f (w.k.getR x)).eSched = some sc → sc.checked = (f (w.k.getR x)).eChecked)
      (hid : 0 < (f (w.k.getR x)).depth → 0 < (w.k.getR x).depth ∧ (f (w.k.getR x)).hid = (w.k.getR x).hid)
      (ht : ∀ r, (f r).timeouted = r.timeouted)
      (hc : (f (w.k.getR x)).cmd = (w.k.getR x).cmd ∨ (full → x ∉ w.k.wait.map (·.rid)))
      (hw : (∀ r, (f r).tSched = r.tSched ∧ (f r).tChecked = r.tChecked) ∨ (w.k.getR x).timeouted = true) : Move full .keep w w'
  /-- the sweeper re-arms a live queued request -/
  | rearmT (w : W) (rid : Nat) (hl : (w.k.getR rid).timeouted = false) : Move full .keep w ((w.modR rid bumpT).addTimeOut rid)
  /-- `AddWaitLock` + `AddTimeOut` of a request that is in no queue yet -/
  | enqueue (w : W) (rid : Nat) (hr : rid ∉ w.k.wait.map (·.rid)) (hnh : rid ∉ w.k.current.toList ++ w.k.locks) (hl : full → HL w.k) :
      Move full .keep w ((w.modK (·.addWaitLock rid)).addTimeOut rid)
  | grant (w : W) (rid : Nat) (g : Grantable w.k rid) (hnot : rid ∉ w.k.current.toList ++ w.k.locks) (hnt : rid ∉ w.k.wait.tail.map (·.rid)) : Move full .keep w (w.grant rid)
  | getWaitLock (w : W) : Move full .est w (w.modK (·.getWaitLock.1))
  | settleWait (w : W) : Move full .est w (w.modK (·.settleWait))
  | removeLock (w : W) (rid : Nat) : Move full .keep w (w.modK (·.removeLock rid))
  | clearWaited (w : W) (hw : w.k.wait = []) : Move full .est w (w.modK clearWaited)

/-- a sequence of steps; the flag: no step after the last `est` (or after the start) is a `brk` -/
inductive Moves (full : Prop) : Bool → W → W → Prop
  | nil (w : W) : Moves full true w w
  | snoc {s : Bool} {e : Eff} {a b c : W} : Moves full s a b → Move full e b c → Moves full (e.ap s) a c

namespace Moves
variable {full : Prop} {s : Bool}
theorem q {a b c : W} (h : Moves full s a b) (d : Quiet b c) : Moves full s a c := h.snoc (.quiet d)
theorem when {a w : W} (h : Moves full s a w) (b : Bool) (f : W → W) (hf : Moves full s a (f w)) : Moves full s a (w.when b f) := by
  cases b
  · exact h
  · exact hf
theorem ind {I : W → Prop} (hp : ∀ e a b, Move full e a b → I a → I b) {a b : W} (h : Moves full s a b) (ha : I a) : I b := by
  induction h with
  | nil => exact ha
  | snoc _ p ih => exact hp _ _ _ p (ih ha)
end Moves

theorem WI.move {full : Prop} {e : Eff} {a b : W} (p : Move full e a b) (h : WI a) : WI b := by
  -- (the first `_` of an arm: the constructor's state argument, which `cases` identifies with `a`)
  cases p with
  | quiet d => exact h.quiet d
  | removeIfZero _ => exact h.removeIfZero
  | newLock _ l c d => exact h.newLock l c d
  | tomb _ rid => exact h.tomb rid
  | edit _ _ e cs ck hid ht _ _ => exact h.edit e cs ck hid (fun t => (ht _).trans t)
  | rearmT _ rid hl =>
    exact WI.addTimeOut (w := a.modR rid bumpT) (KI.of_pk h rfl (PKeep.modRec a.k rid bumpT)) rid
      (fun hm => by rw [h.ht rid hm] at hl; exact absurd hl (by simp))
  | enqueue _ rid hr hnh _ =>
    obtain ⟨_, a2, a3⟩ := addWaitLock_spec a.k rid
    exact WI.addTimeOut (w := a.modK (·.addWaitLock rid)) (WI.modK _ (KI.addWaitLock h rid hr)) rid
      (by show rid ∉ (a.k.addWaitLock rid).current.toList ++ (a.k.addWaitLock rid).locks; rw [a2, a3]; exact hnh)
  | grant _ rid g hnot _ => exact h.grant rid g hnot
  | getWaitLock _ => exact WI.modK _ (KI.getWaitLock h)
  | settleWait _ => exact WI.modK _ (KI.settleWait h)
  | removeLock _ rid => exact WI.modK _ (KI.removeLock h rid)
  | clearWaited _ _ => exact WI.modK _ (KI.of_pk h rfl (PKeep.of_eq rfl))

theorem QS.move {full : Prop} {e : Eff} {a b : W} (p : Move full e a b) (f : full) (hi : WI a) (h : QS a.k) : QS b.k := by
  cases p with
  | quiet d => exact QS.quiet h d
  | removeIfZero _ => exact h.removeIfZero
  | newLock _ l c d => exact h.newLock l c d
  | edit _ _ e _ _ _ _ hc _ =>
    exact h.step_sx _ e.sx e.wp fun hm hh =>
      ⟨(e.hasRec _).mp hh, (e.getR ((e.hasRec _).mp hh) (·.cmd) (fun _ => rfl)).trans (hc.resolve_right fun nw => nw f hm)⟩
  | tomb _ rid => exact h.modR1 rid _ (fun _ => rfl) (fun _ => rfl)
  | rearmT _ rid _ => exact QS.addTimeOut (w := a.modR rid bumpT) (h.modR1 rid bumpT (fun _ => rfl) (fun _ => rfl)) rid
  | enqueue _ rid _ hnh hl => exact QS.addTimeOut (w := a.modK (·.addWaitLock rid)) (QS.enqueue h (hl f) hi rid hnh) rid
  | grant _ rid g _ hnt => exact h.grant rid g hnt
  | getWaitLock _ => exact h.getWaitLock
  | settleWait _ => exact h.settleWait
  | removeLock _ rid => exact h.removeLock rid
  | clearWaited _ hw => exact QS.clearWaited hw

/-! The composite helpers are sequences of `Move`s: no invariant needs a lemma of its own about them. -/

namespace Moves
variable {full : Prop} {s : Bool} {a w : W}

theorem freeCheck (h : Moves full s a w) (rid : Nat) : Moves full s a (w.freeCheck rid) := (h.q (Quiet.free w rid)).snoc (.removeIfZero _)

theorem unrefCheck (h : Moves full s a w) (rid : Nat) : Moves full s a (w.unrefCheck rid) :=
  (h.q (Quiet.unrefOnly w rid)).when _ (·.freeCheck rid) ((h.q (Quiet.unrefOnly w rid)).freeCheck rid)

theorem dropT (h : Moves full s a w) (rid : Nat) (ht : (w.k.getR rid).timeouted = true) : Moves full s a (w.dropT rid) :=
  (h.snoc (.edit w _ ((Edit.refl (h := rid) w).modR (fun r => { r with tSched := none }) (fun _ => rfl) (fun _ => rfl)) id id (fun d => ⟨d, rfl⟩)
    (fun _ => rfl) (Or.inl rfl) (Or.inr ht))).unrefCheck rid

theorem dropE (h : Moves full s a w) (rid : Nat) : Moves full s a (w.dropE rid) :=
  (h.snoc (.edit w _ ((Edit.refl (h := rid) w).modR (fun r => { r with eSched := none }) (fun _ => rfl) (fun _ => rfl)) id (fun _ _ hsc => nomatch hsc)
    (fun d => ⟨d, rfl⟩) (fun _ => rfl) (Or.inl rfl) (Or.inl fun _ => ⟨rfl, rfl⟩))).unrefCheck rid

theorem dropLongT (h : Moves full s a w) (rid : Nat) (ht : (w.k.getR rid).timeouted = true) : Moves full s a (w.dropLongT rid) :=
  h.when _ (·.removeLongT rid) (h.snoc (.edit w (w.removeLongT rid) ((Edit.refl w).unwheel (fun r => { r with tSched := none }) (fun _ => rfl) (fun _ => rfl))
    id id (fun d => ⟨d, rfl⟩) (fun _ => rfl) (Or.inl rfl) (Or.inr ht)))

theorem dropLongE (h : Moves full s a w) (rid : Nat) : Moves full s a (w.dropLongE rid) :=
  h.when _ (·.removeLongE rid) (h.snoc (.edit w _ (Edit.refl (h := rid) w).removeLongE id (fun _ _ hsc => nomatch hsc) (fun d => ⟨d, rfl⟩) (fun _ => rfl)
    (Or.inl rfl) (Or.inl fun _ => ⟨rfl, rfl⟩)))

end Moves

/-- the raw head is live, provided the key record is still linked and no queue entry dangles (`wait_hasRec`, wherever the reference counts are exact) -/
def HLw (w : W) : Prop := w.gone = false → (∀ e ∈ w.k.wait, w.k.hasRec e.rid) → HL w.k

theorem HLw.of_keep {a b : W} (h : HLw a) (hg : b.gone = a.gone) (hw : b.k.wait = a.k.wait) (t : PKeep (·.timeouted) b.k a.k) : HLw b :=
  fun hgb hok => (h (hg ▸ hgb) (fun e he => t.sub _ (hok e (hw ▸ he)))).of_pk hw t hok

theorem hl_getWaitLock (k : Key) : HL k.getWaitLock.1 := by
  cases hr : k.getWaitLock.2 with
  | none => exact HL.of_nil (waitSkip_none k.wait k rfl hr)
  | some rid =>
    obtain ⟨e, rest, hw, he, hd⟩ := getWaitLock_some k rid hr
    intro e' rest' he'
    rw [hw] at he'
    injection he' with a _
    rw [← a, he]; exact hd

theorem hl_settleWait (k : Key) : HL k.settleWait := by
  unfold Key.settleWait
  cases hr : k.getWaitLock.2 with
  | none => exact HL.of_nil (waitSkip_none k.wait k rfl hr)
  | some rid => exact hl_getWaitLock k

theorem hl_enqueue {w : W} (h : QS w.k) (hl : HL w.k) (rid : Nat) (hok : ∀ e ∈ ((w.modK (·.addWaitLock rid)).addTimeOut rid).k.wait,
    ((w.modK (·.addWaitLock rid)).addTimeOut rid).k.hasRec e.rid) : HL ((w.modK (·.addWaitLock rid)).addTimeOut rid).k := by
  intro x rest hw
  have hxA : (w.modK (·.addWaitLock rid)).k.hasRec x.rid := (addTimeOut_hasRec _ rid x.rid).mp (hok x (by rw [hw]; simp))
  show (((w.modK (·.addWaitLock rid)).addTimeOut rid).k.getR x.rid).timeouted = false
  by_cases hxr : x.rid = rid
  · rw [hxr] at hxA ⊢
    exact addTimeOut_live _ rid hxA
  · rcases addWaitLock_head h hl rid x rest hw with h1 | h1
    · exact absurd h1 hxr
    · rw [addTimeOut_other _ _ _ hxr]
      exact ((PKeep.addWaitLock ins_timeouted w.k rid).val x.rid hxA).trans h1

theorem HLw.keep {full : Prop} {a b : W} (p : Move full .keep a b) (f : full) (hq : QS a.k) (h : HLw a) : HLw b := by
  cases p with
  | quiet d => exact h.of_keep d.g (queues_eq d.q).2.2 (d.p.comp (·.i.timeouted))
  | removeIfZero _ =>
    intro hgb hok
    have e := removeIfZero_gone_back a hgb
    rw [e] at hgb hok ⊢
    exact h hgb hok
  | newLock _ l c d => exact fun hgb _ => (h hgb (wait_hasRec l)).newLock c d
  | edit _ _ e _ _ _ ht _ _ => exact h.of_keep e.gone (queues_eq e.q).2.2 (e.pk (fun _ => rfl) ht)
  | rearmT _ rid hl =>
    have d := (qk_addTimeOut_live (a.modR rid bumpT) rid
      ((getR_modRec_proj (·.timeouted) a.k rid rid bumpT (fun _ => rfl)).trans hl)).trans (qk_modR a rid bumpT (fun _ => rfl) (fun _ => rfl))
    exact h.of_keep rfl (queues_eq d.q).2.2 d.t
  | enqueue _ rid _ _ hl => exact fun _ hok => hl_enqueue hq (hl f) rid hok
  | grant _ rid _ _ _ => exact h.of_keep (gone_grant a rid) (grant_wait_t a rid).1 (grant_wait_t a rid).2.1
  | removeLock _ rid => exact h.of_keep rfl (removeLock_wait a.k rid) (PKeep.removeLock ins_timeouted (fun _ _ => rfl) a.k rid)

theorem HLw.est {full : Prop} {a b : W} (p : Move full .est a b) : HL b.k := by
  cases p with
  | getWaitLock _ => exact hl_getWaitLock a.k
  | settleWait _ => exact hl_settleWait a.k
  | clearWaited _ hw => exact HL.of_nil hw

theorem Moves.inv {full : Prop} {s : Bool} {a b : W} (h : Moves full s a b) (f : full) (hi : WI a) (hq : QS a.k) :
    (WI b ∧ QS b.k) ∧ (s = true → HLw a → HLw b) := by
  induction h with
  | nil => exact ⟨⟨hi, hq⟩, fun _ x => x⟩
  | @snoc s e a b c _ p ih =>
    obtain ⟨⟨i, q⟩, l⟩ := ih hi hq
    refine ⟨⟨WI.move p i, QS.move p f i q⟩, fun hs ha => ?_⟩
    cases e with
    | keep => exact HLw.keep p f q (l hs ha)
    | est => exact fun _ _ => HLw.est p
    | brk => exact Bool.noConfusion (hs : false = true)
    | req => exact nomatch p

/-- the sweeper's reference dropped (`W3`: `KI` and the queue shape) -/
theorem W3.unrefCheck {w : W} (h : W3 w) (rid : Nat) : W3 (w.unrefCheck rid) :=
  have r := (((Moves.nil w).unrefCheck (full := True) rid).inv trivial h.wi h.qs).1
  ⟨r.1, r.2⟩

/-! The junction with the walks of `Engine2Step` / `Engine2Node`: a step of the engine is a short sequence of `Move`s, given the reference
counts at the state it starts from (the node annotation `LvB`), `KI` there, and — for the two facts only the queue shape needs — the
queue shape and, at a `req` step, the live head. -/

theorem _root_.Slock.Engine2.OpStep.moves {data : Option Bytes} {full : Prop} {e : Eff} {s : Bool} {a w w' : W} (p : OpStep data e w w') (l : LvB w)
    (hi : WI w) (hq : full → QS w.k ∧ (e = .req → HLw w)) (h : Moves full s a w) : Moves full (e.ap s) a w' := by
  cases p with
  | ctr _ f => exact h.q (Quiet.ctr _ f)
  | reply _ c x y d => exact h.q (Quiet.reply _ c x y d)
  | out _ o _ => exact h.q (Quiet.of_k (w := w) (w' := { w with out := o }) rfl rfl (Nat.le_refl _))
  | procData _ ct c fr rid _ => exact h.q (Quiet.procData _ ct c fr rid)
  | journalLock _ rid flag => exact h.q (Quiet.journalLock _ rid flag)
  | journalUnlock _ rid fa ia flag => exact h.q (Quiet.journalUnlock _ rid fa ia flag)
  | pushUnLockAof _ rid lc fa ia flag => exact h.q (Quiet.pushUnLockAof _ rid lc fa ia flag)
  | wheelBroken => exact h.q (Quiet.wheelBroken w)
  | locked _ f => exact h.q (Quiet.modK _ _ rfl rfl rfl rfl)
  | tomb _ x => exact h.snoc (.tomb w x)
  | dec _ x g =>
    exact h.snoc (.edit w _ ((Edit.refl (h := x) w).modR _ (fun _ => rfl) (fun _ => rfl)) id id (fun _ => ⟨Nat.lt_trans Nat.zero_lt_one g, rfl⟩)
      (fun _ => rfl) (Or.inl rfl) (Or.inl fun _ => ⟨rfl, rfl⟩))
  | inc _ x g =>
    exact h.snoc (.edit w _ ((Edit.refl (h := x) w).modR _ (fun _ => rfl) (fun _ => rfl)) id id (fun _ => ⟨g, rfl⟩) (fun _ => rfl) (Or.inl rfl)
      (Or.inl fun _ => ⟨rfl, rfl⟩))
  | ended _ x => exact h.q (Quiet.modR w x _ (fun _ => rfl) (fun _ => rfl))
  | collectT _ rid => exact h.q (Quiet.collectT w rid)
  | updateLocked _ x c g gg =>
    -- (`req` and `keep` act alike on the flag)
    obtain ⟨k1, k2, k3, k4, k5⟩ := updRec_fields w.db (soleAt w x) c (w.k.getR x)
    have m := h.snoc (.edit w _ ((Edit.refl w).updateLocked c) (fun _ => k1.trans (congrArg Engine.Cmd.conn k2).symm) (fun _ => k5)
      (fun hd => ⟨k3 ▸ hd, k4⟩) (fun _ => updRec_timeouted _ _ _ _)
      (Or.inr fun f => holder_not_waiting hi (hq f).1 ((hq f).2 rfl gg (wait_hasRec (l.1 gg))) x g.1) (Or.inr (hi.ht x g.1)))
    exact m
  | dropLongT _ x g => exact h.dropLongT x g
  | dropLongE _ x => exact h.dropLongE x
  | dropT _ rid g => exact h.dropT rid g
  | dropE _ rid => exact h.dropE rid
  | rearmT _ rid gl => exact h.snoc (.rearmT w rid gl)
  | rearmE _ rid =>
    exact h.snoc (.edit w _ ((Edit.refl (h := rid) w).modR (fun r => { r with eChecked := r.eChecked + 1 }) (fun _ => rfl) (fun _ => rfl)).addExpried id
      (fun _ sc hsc => Option.some.inj hsc ▸ wheelAdd_checked _ _ _ _) (fun d => ⟨d, rfl⟩) (fun _ => rfl) (Or.inl rfl) (Or.inl fun _ => ⟨rfl, rfl⟩))
  | deferE _ rid n =>
    exact h.snoc (.edit w _ ((Edit.refl (h := rid) w).modR (fun r => { r with expT := n }) (fun _ => rfl) (fun _ => rfl)).addExpried id
      (fun _ sc hsc => Option.some.inj hsc ▸ wheelAdd_checked _ _ _ _) (fun d => ⟨d, rfl⟩) (fun _ => rfl) (Or.inl rfl) (Or.inl fun _ => ⟨rfl, rfl⟩))
  | settle => exact h.snoc (.settleWait w)
  | pop => exact h.snoc (.getWaitLock w)
  | clearWaited _ g => exact h.snoc (.clearWaited w g)
  | removeLock _ x => exact h.snoc (.removeLock w x)
  | wakeOne _ e rest g gl =>
    have hg : w.gone = false := by
      cases h0 : w.gone with
      | false => rfl
      | true => have := l.2 h0; rw [g] at this; cases this
    obtain ⟨_, g2, _⟩ := wake_prep (l.1 hg) e.rid (hasRec_of_liveWaiter gl) gl (fun c => { c with waitCount := c.waitCount - 1 })
    obtain ⟨q1, q2, q3⟩ := queues_eq (wakePre_sx w e.rid).q
    have m : Moves full false a (wakePre w e.rid) := ((h.snoc (.tomb w e.rid)).dropLongT e.rid (tombed w.k e.rid)).q (Quiet.ctr _ _)
    have hnd := hi.nd
    rw [g, List.map_cons, List.nodup_cons] at hnd
    rw [wakeOne_eq]
    split
    · exact m.snoc (.grant _ e.rid g2 (by rw [q1, q2]; exact fun hm => Bool.noConfusion ((hi.ht _ hm).symm.trans gl)) (by rw [q3, g]; exact hnd.1))
    · exact ((m.q (Quiet.grantNoHold _ e.rid)).q (Quiet.ctr _ _)).q (Quiet.reply _ _ _ _ _)
  | removeIfZero => exact h.snoc (.removeIfZero w)
  | freeCheck _ x => exact h.freeCheck x
  | newGrant _ c gg =>
    obtain ⟨_, hn, _, _, _, hg⟩ := (l.1 gg).newLock zero_nonneg c data
    exact (h.snoc (.newLock w (l.1 gg) c data)).snoc (.grant _ w.db.nextRid (newRec_grantable w c data hn hg) (newLock_unqueued (l.1 gg) c data).1
      (fun hm => (newLock_unqueued (l.1 gg) c data).2 ((List.Sublist.map _ (List.tail_sublist _)).subset hm)))
  | newNoHold _ c gg => exact ((h.snoc (.newLock w (l.1 gg) c data)).q (Quiet.grantNoHold _ w.db.nextRid)).freeCheck w.db.nextRid
  | enqueue _ c gg =>
    have m := ((h.snoc (.newLock w (l.1 gg) c data)).snoc (.enqueue _ w.db.nextRid (newLock_unqueued (l.1 gg) c data).2 (newLock_unqueued (l.1 gg) c data).1
      (fun f => ((hq f).2 rfl gg (wait_hasRec (l.1 gg))).newLock c data))).q (Quiet.ref _ w.db.nextRid)
    exact m
  | newTimeout _ c gg => exact (h.snoc (.newLock w (l.1 gg) c data)).freeCheck w.db.nextRid

theorem _root_.Slock.Engine2.Walk.moves {data : Option Bytes} {full : Prop} {s : Bool} {a b : W} (h : Walk data LvB s a b) (hi : WI a)
    (hq : full → QS a.k ∧ HLw a) : Moves full s a b := by
  induction h with
  | nil => exact .nil _
  | snoc _ hb p hr ih =>
    have m := ih hi hq
    exact p.moves hb (m.ind (fun _ _ _ => WI.move) hi)
      (fun f => ⟨(m.inv f hi (hq f).1).1.2, fun he => (m.inv f hi (hq f).1).2 (hr he) (hq f).2⟩) m

end Slock.Sim
