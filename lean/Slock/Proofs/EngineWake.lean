import Slock.Proofs.EngineShape
/-! Wait-queue order, and what the wake pass leaves behind (C04). -/
namespace Slock.Engine

def PrioSorted (ws : List Waiter) : Prop := ws.Pairwise (fun a b => cmdPriority a.cmd ≥ cmdPriority b.cmd)

/-- `insertWaiter` splits the old queue into those it stays behind (priority ≥ its own) and those it jumps (the first of them
strictly lower, which is all a sorted queue needs). -/
theorem insertWaiter_split (ws : List Waiter) (w : Waiter) :
    ∃ l1 l2, ws = l1 ++ l2 ∧ insertWaiter ws w = l1 ++ w :: l2 ∧
      (∀ x ∈ l1, cmdPriority x.cmd ≥ cmdPriority w.cmd) ∧
      (∀ x, l2.head? = some x → cmdPriority x.cmd < cmdPriority w.cmd) := by
  obtain ⟨l1, l2, e1, e2, h1, h2⟩ := insertWaiter_prio.split ws w
  exact ⟨l1, l2, e1, e2, fun x hx => Nat.le_of_not_lt (h1 x hx), h2⟩

theorem insertWaiter_perm (ws : List Waiter) (w : Waiter) : (insertWaiter ws w).Perm (w :: ws) := insertWaiter_prio.perm ws w

theorem insertWaiter_sorted (ws : List Waiter) (w : Waiter) (hs : PrioSorted ws) : PrioSorted (insertWaiter ws w) :=
  (insertWaiter_prio.sorted ws w (hs.imp Nat.not_lt.mpr)).imp Nat.le_of_not_lt

/-- what the wake pass leaves behind: nothing queued (and the flag cleared), or an inadmissible head — or a clear
`waited` flag, with which the pass does not look at the queue at all -/
def Settled (k : Key) : Prop :=
  (k.waiters = [] ∧ k.waited = false) ∨ (∃ w rest, k.waiters = w :: rest ∧ doLock k w.cmd = false) ∨ k.waited = false

theorem wake_settled (db : DB) (k : Key) (out : List Reply) : Settled (wake db k out).2.1 :=
  wake_elim (P := fun _ _ _ => True) (Q := fun _ k _ => Settled k) (fun _ _ _ _ _ _ _ _ => trivial)
    (fun _ _ _ _ h => Or.inr (Or.inr h)) (fun _ _ _ _ e => Or.inl ⟨e, rfl⟩)
    (fun _ _ _ w rest _ e hd => Or.inr (Or.inl ⟨w, rest, e, hd⟩)) db k out trivial

theorem settled_after_wake (db : DB) (k : Key) (out : List Reply) {n : Nat} (hn : k.key = n) :
    Settled (((wake db k out).1.setKey (wake db k out).2.1).getKey n) := by
  rw [← hn, ← wake_key db k out, getKey_setKey_same]
  exact wake_settled db k out

def headAdmissible (k : Key) : Bool :=
  match k.waiters with
  | w :: _ => k.waited && doLock k w.cmd
  | [] => false

theorem not_settled_of_headAdmissible {k : Key} (h : headAdmissible k = true) : ¬ Settled k := by
  unfold headAdmissible at h
  cases hw : k.waiters with
  | nil => simp [hw] at h
  | cons w rest =>
    simp only [hw, Bool.and_eq_true] at h
    intro hs
    rcases hs with ⟨h1, _⟩ | ⟨w', rest', h1, h2⟩ | h1
    · rw [hw] at h1; simp at h1
    · rw [hw] at h1; injection h1 with h1 _; rw [← h1] at h2; rw [h.2] at h2; simp at h2
    · rw [h.1] at h1; simp at h1

end Slock.Engine
