import Slock.Proofs.Engine2SimKeyRun
import Slock.Proofs.Engine2SimEnds
/-! Simulation stage 2 → stage 1: the waiter-priority test agrees, and LOCK's `queue` branch (a request is filed in the wait queue:
inline array → priority ring, against stage 1's sorted insertion). -/
namespace Slock.Sim
open Slock Slock.Engine2
open Slock.Engine (has)

/-- `doCheckLockWaitPriority` reads the same priority in both models (raw head live, cached priority current) -/
theorem checkWaitPriority_refines {seq : Nat} {k : Key} (ks : KS seq k) (c : Engine.Cmd) :
    Engine.checkWaitPriority (Key.abs k) c = Engine2.checkWaitPriority k c := by
  unfold Engine.checkWaitPriority Engine2.checkWaitPriority
  rw [abs_waiters]
  cases hw : k.wait with
  | nil => rfl
  | cons e rest =>
    have hl := ks.hl e rest hw
    have hh : k.hasRec e.rid := hasRec_of_liveWaiter hl
    simp only [List.map_cons, List.filter, hl, Bool.not_false, List.head?_cons]
    have hc := ks.qs.cch e (by rw [hw]; simp) hh
    show (decide (c.rcount > Engine.cmdPriority (k.getR e.rid).cmd)) = decide (c.rcount > (if k.waitPrio = true then e.prio else Engine.cmdPriority (k.getR e.rid).cmd))
    cases k.waitPrio
    · rfl
    · simp only [if_true]; rw [hc]; rfl

theorem filter_map_rid (l : List WEnt) (P : Nat → Bool) (f : Nat → Engine.Waiter) :
    ((l.map (·.rid)).filter P).map f = (l.filter (fun e => P e.rid)).map (fun e => f e.rid) := by
  rw [List.filter_map, List.map_map]; rfl

/-- the live requests after `AddWaitLock(rid)` (with `rid` counted as live: `AddTimeOut` follows) are stage 1's `insertWaiter` -/
theorem enq_waiters {k : Key} (qs : QS k) (hl : HL k) (rid : Nat) (hnw : rid ∉ k.wait.map (·.rid)) (P : Nat → Bool) (f : Nat → Engine.Waiter)
    (hP : ∀ y, y ≠ rid → P y = !k.deadWaiter y) (hPr : P rid = true)
    (hf : ∀ y, y ≠ rid → k.deadWaiter y = false → Engine.cmdPriority (f y).cmd = prOf k y)
    (hfr : Engine.cmdPriority (f rid).cmd = prOf k rid) :
    (((k.addWaitLock rid).wait.map (·.rid)).filter P).map f = Engine.insertWaiter (((k.wait.map (·.rid)).filter P).map f) (f rid) := by
  rw [filter_map_rid, filter_map_rid]
  have hne : ∀ x ∈ k.wait, x.rid ≠ rid := fun x hx e => hnw (e ▸ List.mem_map.mpr ⟨x, hx, rfl⟩)
  have hlive : ∀ x ∈ k.wait, P x.rid = true → k.deadWaiter x.rid = false := by
    intro x hx hp
    have := hP x.rid (hne x hx)
    rw [hp] at this
    cases hdd : k.deadWaiter x.rid with
    | false => rfl
    | true => rw [hdd] at this; simp at this
  have hcOld : ∀ x ∈ k.wait, P x.rid = true → x.prio = Engine.cmdPriority (f x.rid).cmd := by
    intro x hx hp
    have hd := hlive x hx hp
    rw [hf x.rid (hne x hx) hd]
    exact qs.cch x hx (hasRec_of_liveWaiter hd)
  rw [(addWaitLock_pre k rid).1]
  cases hr : rePushes k rid with
  | true =>
    simp only [if_true]
    rw [(waitPush_prio k.rePush _ (rePush_wait k).2).1, (rePush_wait k).1]
    have hm : k.waitPrio = false ∧ ∃ e0 r0, k.wait = e0 :: r0 := by
      unfold rePushes at hr
      cases hp : k.waitPrio with
      | true => rw [hp] at hr; simp at hr
      | false =>
        refine ⟨rfl, ?_⟩
        cases hw0 : k.wait with
        | nil => rw [hw0] at hr; simp at hr
        | cons e0 r0 => exact ⟨e0, r0, rfl⟩
    obtain ⟨hp, e0, r0, hw0⟩ := hm
    have hsL : Srt ((k.wait.map (recache k)).foldl insertPrio []) := foldl_insertPrio_srt _ [] (by unfold Srt; simp)
    -- the re-sort keeps the live requests in order: they all have one priority
    have hq : ∀ x ∈ k.wait.map (recache k), P x.rid = true → x.prio = e0.prio := by
      intro x hx hpx
      obtain ⟨y, hy, e⟩ := List.mem_map.mp hx
      rw [← e] at hpx ⊢
      have hd := hlive y hy hpx
      show Engine.cmdPriority (k.getR y.rid).cmd = e0.prio
      have := qs.cch y hy (hasRec_of_liveWaiter hd)
      unfold prOf at this
      rw [← this]
      exact qs.eqc hp y hy e0 (by rw [hw0]; simp)
    have hfl : ((k.wait.map (recache k)).foldl insertPrio []).filter (fun e => P e.rid) = (k.wait.map (recache k)).filter (fun e => P e.rid) := by
      rw [foldl_insertPrio_filter (fun e => P e.rid) e0.prio _ [] (by unfold Srt; simp) (by intro x hx; simp at hx) hq]
      rfl
    have hmapf : ((k.wait.map (recache k)).filter (fun e => P e.rid)).map (fun e => f e.rid) = (k.wait.filter (fun e => P e.rid)).map (fun e => f e.rid) := by
      rw [List.filter_map, List.map_map]; rfl
    rw [filter_insertPrio_waiter (fun e => P e.rid) (fun e => f e.rid) _ ⟨rid, Engine.cmdPriority (k.getR rid).cmd⟩ hsL ?_ hPr hfr.symm, hfl, hmapf]
    intro x hx hpx
    rcases (mem_foldl_insertPrio _ [] x).mp hx with h1 | h1
    · simp at h1
    · obtain ⟨y, hy, e⟩ := List.mem_map.mp h1
      rw [← e] at hpx ⊢
      have hd := hlive y hy hpx
      show Engine.cmdPriority (k.getR y.rid).cmd = Engine.cmdPriority (f y.rid).cmd
      rw [hf y.rid (hne y hy) hd]; rfl
  | false =>
    simp only [Bool.false_eq_true, if_false]
    cases hp : k.waitPrio with
    | true =>
      rw [(waitPush_prio k _ hp).1]
      exact filter_insertPrio_waiter (fun e => P e.rid) (fun e => f e.rid) k.wait ⟨rid, Engine.cmdPriority (k.getR rid).cmd⟩ (qs.srt hp) hcOld hPr hfr.symm
    | false =>
      -- FIFO: to the back; every live request has the priority of the new one
      have hnew : ∀ y ∈ k.wait, y.prio = Engine.cmdPriority (k.getR rid).cmd := by
        intro y hy
        cases hw : k.wait with
        | nil => rw [hw] at hy; simp at hy
        | cons e0 rest =>
          have hwd : k.waited = true := by
            cases hwd : k.waited with
            | true => rfl
            | false => have := qs.emp hwd; rw [hw] at this; simp at this
          unfold rePushes at hr
          rw [hwd, hp, hw] at hr
          simp only [Bool.not_false, Bool.and_self, Bool.true_and, List.head?_cons, bne_eq_false_iff_eq] at hr
          have h0 : k.hasRec e0.rid := hasRec_of_liveWaiter (hl e0 rest hw)
          have c0 := qs.cch e0 (by rw [hw]; simp) h0
          have := qs.eqc hp y hy e0 (by rw [hw]; simp)
          unfold prOf at c0
          omega
      have happ : Engine.insertWaiter ((k.wait.filter (fun e => P e.rid)).map (fun e => f e.rid)) (f rid) =
          (k.wait.filter (fun e => P e.rid)).map (fun e => f e.rid) ++ [f rid] := by
        apply insertWaiter_append
        intro x hx
        obtain ⟨y, hy, e⟩ := List.mem_map.mp hx
        have hym := (List.mem_filter.mp hy).1
        have hyp : P y.rid = true := (List.mem_filter.mp hy).2
        rw [← e, ← hcOld y hym hyp, hnew y hym, hfr]
        unfold prOf
        exact Nat.lt_irrefl _
      rw [happ]
      have hfilt : ∀ X : List WEnt, X.filter (fun e => P e.rid) = k.wait.filter (fun e => P e.rid) →
          ((X ++ [(⟨rid, Engine.cmdPriority (k.getR rid).cmd⟩ : WEnt)]).filter (fun e => P e.rid)).map (fun e => f e.rid) =
            (k.wait.filter (fun e => P e.rid)).map (fun e => f e.rid) ++ [f rid] := by
        intro X hX
        rw [List.filter_append, hX]
        simp [List.filter, hPr]
      rcases (waitPush_fifo k ⟨rid, Engine.cmdPriority (k.getR rid).cmd⟩ hp).2 with e | e
      · rw [e]; exact hfilt _ rfl
      · rw [e]
        apply hfilt
        rw [List.filter_filter]
        apply List.filter_congr
        intro x hx
        rw [hP x.rid (hne x hx)]
        cases k.deadWaiter x.rid <;> rfl

/-- `AddTimeOut`, `refCount++` after `AddWaitLock`, as an edit of the request's record -/
theorem lockQueue_edit (w : W) (c : Engine.Cmd) (data : Option Bytes) :
    Edit w.db.nextRid (fun r => Rec.armT (Engine.wheelAdd (queueA w c data).db.tCheck ((queueA w c data).db.seq + 0) r.timeoutT r.tChecked) r) id 1
      (queueA w c data) ((queueT w c data).ref w.db.nextRid) :=
  (Edit.refl (queueA w c data)).addTimeOut.ref w.db.nextRid

theorem lockQueue_rec {w : W} {a : Engine.DB} (le : Lv w zero) (hs : Scal a w.db) (c : Engine.Cmd) (data : Option Bytes) :
    PKeepX πA (· = w.db.nextRid) (lockQueue w c data).k w.k ∧ (lockQueue w c data).k.deadWaiter w.db.nextRid = false ∧
    waiterOf (lockQueue w c data).k w.db.nextRid = Engine.newWaiter a c := by
  obtain ⟨_, hn, _, _, _, hg⟩ := le.newLock zero_nonneg c data
  have hcnt : ((w.newLock c data).1.k.wait.map (·.rid)).count w.db.nextRid = 0 :=
    List.count_eq_zero.mpr (fun hm => nextRid_not_queued le _ (List.mem_append_right _ hm) rfl)
  have hhA : (queueA w c data).k.hasRec w.db.nextRid := (keep_addWaitLock (w.newLock c data).1.k w.db.nextRid hn hcnt).1
  have hπ4 := proj_addWaitLock (fun r => (r.cmd, r.conn, r.timeoutT, r.tChecked)) (fun _ _ => rfl) (w.newLock c data).1.k w.db.nextRid hn hcnt
  rw [hg] at hπ4
  refine ⟨?_, ?_, ?_⟩
  · exact (((lockQueue_edit w c data).sx.ctr _).p.trans (PKeepX.of_pk (PKeep.addWaitLock ins_πA _ _))).trans (PKeepX.addRec w.k _ rfl)
  · show (((queueT w c data).ref w.db.nextRid).k.getR w.db.nextRid).timeouted = false
    rw [ref_timeouted]; exact addTimeOut_live (queueA w c data) w.db.nextRid hhA
  · rw [show waiterOf (lockQueue w c data).k w.db.nextRid = _ from (lockQueue_edit w c data).getR hhA Rec.toWaiter (fun _ => rfl)]
    unfold Rec.toWaiter Rec.armT Engine.newWaiter
    simp only [Option.getD_some]
    rw [show ((queueA w c data).k.getR w.db.nextRid).cmd = c from congrArg (fun t => t.1) hπ4,
      show ((queueA w c data).k.getR w.db.nextRid).conn = c.conn from congrArg (fun t => t.2.1) hπ4,
      show ((queueA w c data).k.getR w.db.nextRid).timeoutT = Engine.timeoutDeadline w.db.now c from congrArg (fun t => t.2.2.1) hπ4,
      show ((queueA w c data).k.getR w.db.nextRid).tChecked = 1 from congrArg (fun t => t.2.2.2) hπ4,
      show (queueA w c data).db.tCheck = a.tCheck from hs.tCheck.symm, show (queueA w c data).db.seq = a.seq from hs.seq.symm,
      show w.db.now = a.now from hs.now.symm]
    rfl

/-- `AddWaitLock`: inline array / priority ring, possibly switching to priority mode or
compacting; `AddTimeOut`: stage 1's sorted `insertWaiter` -/
theorem lockQueue_abs {w : W} {a : Engine.DB} (le : Lv w zero) (qs : QS w.k) (hlE : HL w.k) (hs : Scal a w.db) (c : Engine.Cmd) (data : Option Bytes)
    (gF : Good (lockQueue w c data)) :
    Key.abs (lockQueue w c data).k = keyQ (Key.abs w.k) (Engine.newWaiter a c) ∧ Scal (dbQ a) (lockQueue w c data).db := by
  obtain ⟨_, _, _, _, _, hg⟩ := le.newLock zero_nonneg c data
  have hrw : w.db.nextRid ∉ (w.newLock c data).1.k.wait.map (·.rid) := fun hm => nextRid_not_queued le _ (List.mem_append_right _ hm) rfl
  have hnh : w.db.nextRid ∉ (w.newLock c data).1.k.current.toList ++ (w.newLock c data).1.k.locks :=
    fun hm => nextRid_not_queued le _ (List.mem_append_left _ hm) rfl
  have hgetN : ∀ y, y ≠ w.db.nextRid → (w.newLock c data).1.k.getR y = w.k.getR y := fun y hy => getR_addRec_other w.k _ y hy
  have hlN : HL (w.newLock c data).1.k := by
    intro e rest hw
    have := hlE e rest hw
    have hh : w.k.hasRec e.rid := hasRec_of_liveWaiter this
    unfold Key.deadWaiter at this ⊢
    show ((w.k.addRec _).getR e.rid).timeouted = false
    rw [getR_addRec _ _ _ hh]; exact this
  obtain ⟨_, a2, a3⟩ := addWaitLock_spec (w.newLock c data).1.k w.db.nextRid
  have eq := lockQueue_edit w c data
  obtain ⟨q1, q2, q3⟩ := queues_eq eq.q
  obtain ⟨px, hFdead, hFw⟩ := lockQueue_rec le hs c data
  have hkw : (lockQueue w c data).k.wait = ((w.newLock c data).1.k.addWaitLock w.db.nextRid).wait := q3
  have hkc : (lockQueue w c data).k.current = w.k.current := q1.trans a2
  have hkl : (lockQueue w c data).k.locks = w.k.locks := q2.trans a3
  have hwaiters : (Key.abs (lockQueue w c data).k).waiters = Engine.insertWaiter (Key.abs w.k).waiters (Engine.newWaiter a c) := by
    have key := enq_waiters (qs.newLock le c data) hlN w.db.nextRid hrw (fun y => if y = w.db.nextRid then true else !(w.newLock c data).1.k.deadWaiter y)
      (fun y => if y = w.db.nextRid then Engine.newWaiter a c else waiterOf (w.newLock c data).1.k y)
      (fun y hy => by simp only [hy, if_false]) (by simp only [if_true])
      (fun y hy _ => by simp only [hy, if_false]; rfl)
      (by simp only [if_true]; unfold prOf; rw [hg]; rfl)
    have hl : (Key.abs (lockQueue w c data).k).waiters =
        ((((w.newLock c data).1.k.addWaitLock w.db.nextRid).wait.map (·.rid)).filter (fun y => if y = w.db.nextRid then true else !(w.newLock c data).1.k.deadWaiter y)).map
          (fun y => if y = w.db.nextRid then Engine.newWaiter a c else waiterOf (w.newLock c data).1.k y) := by
      rw [abs_waiters, hkw]
      apply filter_map_congr_on
      intro y hy
      by_cases e : y = w.db.nextRid
      · rw [e]
        simp only [if_true, hFdead, Bool.not_false]
        exact ⟨trivial, fun _ => hFw⟩
      · simp only [e, if_false]
        obtain ⟨x, hx, hxy⟩ := List.mem_map.mp hy
        have hvN : πA ((lockQueue w c data).k.getR y) = πA ((w.newLock c data).1.k.getR y) := by
          rw [px.val y e (hxy ▸ wait_hasRec gF.lv x hx), hgetN y e]
        refine ⟨?_, fun _ => ?_⟩
        · unfold Key.deadWaiter; rw [timeouted_of_πA hvN]
        · unfold waiterOf; exact congrArg (fun t => t.2.1) hvN
    have hr : (Key.abs w.k).waiters =
        (((w.newLock c data).1.k.wait.map (·.rid)).filter (fun y => if y = w.db.nextRid then true else !(w.newLock c data).1.k.deadWaiter y)).map
          (fun y => if y = w.db.nextRid then Engine.newWaiter a c else waiterOf (w.newLock c data).1.k y) := by
      rw [abs_waiters]
      show (((w.newLock c data).1.k.wait.map (·.rid)).filter (fun x => !w.k.deadWaiter x)).map (waiterOf w.k) = _
      apply filter_map_congr_on
      intro y hy
      have e : y ≠ w.db.nextRid := fun e' => hrw (e' ▸ hy)
      simp only [e, if_false]
      refine ⟨?_, fun _ => ?_⟩
      · unfold Key.deadWaiter; rw [hgetN y e]
      · unfold waiterOf; rw [hgetN y e]
    rw [hl, hr]
    rw [if_pos rfl] at key
    exact key
  have hholders : (Key.abs (lockQueue w c data).k).holders = (Key.abs w.k).holders := by
    refine abs_holders_congr (X := (· = w.db.nextRid)) hkc hkl px (fun y hy e => hnh (e ▸ hy)) ?_
    intro y hy
    exact gF.lv.has (qRefs_pos_of_holder (lockQueue w c data).k y (by rw [hkc, hkl]; exact hy))
  exact ⟨abs_eq (eq.key.trans (addWaitLock_key _ _)) (eq.locked.trans (addWaitLock_locked _ _)) hholders hwaiters eq.waited,
    (eq.scal (hs.newLock c data)).withCtr (fun x => { x with waitCount := x.waitCount + 1 })⟩

theorem sim_lock_queue (s : DB) (hq : DBQ s) (c : Engine.Cmd) (data : Option Bytes) (hcls : classifyLock s c data = .queue)
    (ks : KS s.seq (s.getKey c.key)) :
    Agrees (applyLock s c data .queue) (Engine.applyLock (Engine2.abs s) c .queue) := by
  have hdbi := hq.dbt.dbi
  have hgF : (applyLock s c data .queue).gone = false := enter_gone s c.key
  have kf := (applyLock_node True s hdbi (fun _ => hq.dbt.tight) c data .queue trivial).1.wk hgF
  obtain ⟨habs, hsc⟩ := lockQueue_abs (Good.enter hdbi hq.dbt.tight c.key).lv (by rw [enter_k]; exact ks.qs) (by rw [enter_k]; exact ks.hl)
    (scal_enter s c.key) c data kf.good
  rw [enter_k] at habs
  rw [applyLock_queue_eq, abs_getKey s hdbi.kn c.key]
  exact ⟨sim_lock_finish s hq c data .queue hcls _ _ rfl (getKey_key _ _) hsc ⟨fun _ => habs, fun h => absurd (hgF.symm.trans h) (by simp)⟩,
    by show (s.enter c.key).out.map (·.r) = []; rw [enter_out]; rfl⟩

/-- without a value frame and without a value cell the equal-terms shortcut of a data-flagged update is never taken -/
theorem classifyLock_no_ued (s : DB) (c : Engine.Cmd) (h : Nat) (hcell : (s.getKey c.key).cell = none) :
    classifyLock s c none ≠ .updateEqualData h := by
  intro hb
  obtain ⟨_, _, c', hds⟩ := LockFacts.of hb
  have : frameOf c' none = none := by unfold frameOf; split <;> rfl
  rw [this] at hds
  unfold W.procData dataSettled at hds
  simp [hcell] at hds

end Slock.Sim
