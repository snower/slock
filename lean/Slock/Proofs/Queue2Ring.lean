import Slock.Model.Queue2
/-!
# LockManagerRingQueue refines a FIFO list

`Ring.abs q = q.queue[q.index:]` (nil entries included: a pushed nil lock is an element like any other,
`Pop` hands it out as nil — indistinguishable from "empty" for the caller, but the state is exact).
-/
namespace Slock.Queue2

/-- the only property of Go's `append` growth the theorems need -/
def GrowOK (grow : Nat → Nat) : Prop := ∀ c, grow c > c

def Ring.abs (q : Ring) : List Slot := q.queue.drop q.index

def Ring.Inv (q : Ring) : Prop := q.index ≤ q.queue.length ∧ q.queue.length ≤ q.cap

theorem headD_drop (l : List Slot) (i : Nat) : (l.drop i).headD none = (l[i]?).getD none := by
  rw [List.headD_eq_head?_getD, List.head?_drop]

theorem Ring.new_inv (size : Nat) : (Ring.new size).Inv := by
  simp [Ring.new, Ring.Inv]

theorem Ring.new_abs (size : Nat) : (Ring.new size).abs = [] := by
  simp [Ring.new, Ring.abs]

theorem goAppend_fst (grow : Nat → Nat) (d : List Slot) (c : Nat) (x : Slot) :
    (goAppend grow d c x).1 = d ++ [x] := by
  unfold goAppend; split <;> rfl

theorem goAppend_cap (grow : Nat → Nat) (hg : GrowOK grow) (d : List Slot) (c : Nat) (x : Slot)
    (h : d.length ≤ c) : (d ++ [x]).length ≤ (goAppend grow d c x).2 := by
  unfold goAppend
  have := hg c
  split <;> simp <;> omega

theorem Ring.pushCore_inv (grow : Nat → Nat) (hg : GrowOK grow) (q : Ring) (x : Slot) (h : q.Inv) :
    (q.pushCore grow x).Inv ∧ (q.pushCore grow x).abs = q.abs ++ [x] := by
  obtain ⟨h1, h2⟩ := h
  unfold Ring.pushCore
  by_cases hc : q.queue.length = q.cap ∧ q.index > q.queue.length / 2
  · rw [if_pos hc]
    constructor
    · constructor
      · simp
      · simp only [goAppend_fst]
        apply goAppend_cap grow hg
        simp; omega
    · simp [Ring.abs, goAppend_fst]
  · rw [if_neg hc]
    constructor
    · constructor
      · simp only [goAppend_fst]; simp; omega
      · simp only [goAppend_fst]
        exact goAppend_cap grow hg _ _ _ h2
    · simp only [Ring.abs, goAppend_fst]
      rw [List.drop_append_of_le_length h1]

theorem Ring.push_refines (grow : Nat → Nat) (hg : GrowOK grow) (q : Ring) (x : Slot) (h : q.Inv) :
    ∃ q', q.push grow x = .ok q' ∧ q'.Inv ∧ q'.abs = q.abs ++ [x] := by
  refine ⟨q.pushCore grow x, ?_, Ring.pushCore_inv grow hg q x h⟩
  unfold Ring.push
  have := h.1
  rw [if_neg]
  omega

theorem Ring.pop_refines (q : Ring) (h : q.Inv) :
    q.pop.1.Inv ∧ q.pop.1.abs = q.abs.tail ∧ q.pop.2 = q.abs.headD none := by
  obtain ⟨h1, h2⟩ := h
  fun_cases Ring.pop q with
  | case1 hc => simp [Ring.abs, Ring.Inv, List.drop_eq_nil_of_le hc, h1, h2]
  | case2 hc lock queue hl =>
    simp only [queue, List.length_set] at hl
    exact ⟨⟨by simp, by simp⟩, by simp only [Ring.abs, List.drop_nil, List.tail_drop]; rw [List.drop_eq_nil_of_le hl],
      by simp only [Ring.abs, lock]; rw [headD_drop]⟩
  | case3 hc lock queue hl =>
    simp only [queue, List.length_set] at hl
    exact ⟨⟨by simp [queue]; omega, by simp [queue]; omega⟩,
      by simp only [Ring.abs, List.tail_drop, queue]; rw [List.drop_set_of_lt (by omega)],
      by simp only [Ring.abs, lock]; rw [headD_drop]⟩

theorem Ring.head_refines (q : Ring) : q.head = q.abs.headD none := by
  fun_cases Ring.head q with
  | case1 hc => simp [Ring.abs, List.drop_eq_nil_of_le hc]
  | case2 hc => rw [Ring.abs, headD_drop]

theorem Ring.len_refines (q : Ring) (h : q.Inv) : q.len = (q.abs.length : Int) := by
  unfold Ring.len Ring.abs
  have := h.1
  simp only [List.length_drop]
  omega

theorem Ring.iterNodes_refines (q : Ring) :
    q.iterNodes = if q.abs = [] then [] else [q.abs] := by
  unfold Ring.iterNodes Ring.abs
  by_cases hc : q.index < q.queue.length
  · have : List.drop q.index q.queue ≠ [] := by
      intro h; have := List.drop_eq_nil_iff.mp h; omega
    simp [hc, this]
  · have : List.drop q.index q.queue = [] := List.drop_eq_nil_of_le (by omega)
    simp [hc, this]

theorem Ring.iterNodes_flatten (q : Ring) : q.iterNodes.flatten = q.abs := by
  rw [Ring.iterNodes_refines]; split <;> simp [*]

/-- MaxPriority: 0 when empty; the priority of the first element; a Go panic (nil dereference)
when the first element is a nil lock. -/
theorem Ring.maxPriority_refines (q : Ring) :
    q.maxPriority = match q.abs with
      | [] => .ok 0
      | none :: _ => .panic
      | some e :: _ => .ok e.priority := by
  unfold Ring.maxPriority
  by_cases hc : q.index ≥ q.queue.length
  · have : q.abs = [] := List.drop_eq_nil_of_le hc
    simp [hc, this]
  · simp only [hc, if_false]
    rw [← headD_drop]
    show _ = match q.abs with | [] => _ | none :: _ => _ | some e :: _ => _
    have hne : q.abs ≠ [] := by
      intro h; have := List.drop_eq_nil_iff.mp h; omega
    unfold Ring.abs at hne ⊢
    cases hd : List.drop q.index q.queue with
    | nil => exact absurd hd hne
    | cons a t => cases a <;> simp

theorem Ring.mapId_abs (f : Elem → Elem) (id : Nat) (q : Ring) :
    (q.mapId f id).abs = q.abs.map (killSlot f id) := by
  simp [Ring.mapId, Ring.abs, List.map_drop]

theorem Ring.mapId_inv (f : Elem → Elem) (id : Nat) (q : Ring) (h : q.Inv) : (q.mapId f id).Inv := by
  simpa [Ring.mapId, Ring.Inv] using h

end Slock.Queue2
