import Slock.Model.Ack
import Slock.Proofs.ValueBasic
/-! M-ACK: the undo record brings the value back (`ProcessRecoverLockData ∘ ProcessLockData(…, requireRecover)`): one theorem per
frame type, each under the condition on the cell before under which it holds (the runs where it does not are in Properties/C11). -/
namespace Slock.Ack
open Slock.Value (leN le32 le64 readLE readLE_le64 le64_length le32_length)

theorem readLE_lt (l : Bytes) : readLE l < 256 ^ l.length := by
  induction l with
  | nil => simp [readLE]
  | cons b bs ih =>
    simp only [readLE, List.length_cons, Nat.pow_succ]
    have := b.toNat_lt
    have h8 : (2 : Nat) ^ 8 = 256 := by decide
    omega

theorem readLE_take8_lt (l : Bytes) : readLE (l.take 8) < 2 ^ 64 := by
  have := readLE_lt (l.take 8)
  have h1 : (l.take 8).length ≤ 8 := by simp; omega
  have h2 : 256 ^ (l.take 8).length ≤ 256 ^ 8 := Nat.pow_le_pow_right (by decide) h1
  have h3 : (256 : Nat) ^ 8 = 2 ^ 64 := by decide
  omega

def frameType (f : Bytes) : Nat := (f.getD 4 0).toNat % 64

/-- what the value is, as a reply shows it, after the operation was undone — `cur` is the cell before the grant -/
def roundTrip (cur : Option Cell) (f : Bytes) : Option Bytes :=
  getData (undoCell (some (applyFrame cur f).1) (applyFrame cur f).2)

theorem applyFrame_simple (cur : Option Cell) (f : Bytes) (h : frameType f ≠ 6) : applyFrame cur f = applySimple cur f := by
  unfold applyFrame
  have : ((f.getD 4 0).toNat % 64 == 6) = false := by unfold frameType at h; simpa using h
  simp only [this, Bool.false_eq_true, if_false]

theorem undo_set (cur : Option Cell) (f : Bytes) (h : frameType f = 0) : roundTrip cur f = getData cur := by
  unfold roundTrip
  rw [applyFrame_simple cur f (by rw [h]; decide)]
  unfold applySimple frameType at *
  simp only [h]
  simp only [beq_self_eq_true, if_true]
  unfold undoCell
  simp only []
  cases cur with
  | none => simp [getData, unsetCell, Cell.hasData]
  | some p => simp

theorem undo_fresh (f : Bytes) : roundTrip none f = none := by
  unfold roundTrip applyFrame
  split
  · split <;> (unfold undoCell; simp [getData, unsetCell, Cell.hasData])
  · unfold applySimple
    simp only []
    split
    · unfold undoCell; simp [getData, unsetCell, Cell.hasData]
    · split
      · unfold undoCell; simp [getData, unsetCell, Cell.hasData]
      · unfold undoCell; simp [getData, unsetCell, Cell.hasData]

/-- a number cell as INCR itself leaves it behind: `[10,0,0,0, SET, NUMBER, 8 bytes]` -/
def numberCell (n : Nat) (ctype : Nat) : Cell := ⟨[10, 0, 0, 0, 0, 1] ++ le64 n, ctype⟩

theorem incrValue_le64 (a : Bytes) (ha : a.length = 6) (v t : Nat) (ht : t ≠ 1) : (⟨a ++ le64 v, t⟩ : Cell).incrValue = v % 2 ^ 64 := by
  unfold Cell.incrValue Cell.hasData
  rw [if_pos (by simpa using ht), List.drop_left' ha, List.take_of_length_le (by rw [le64_length]; exact Nat.le_refl _), readLE_le64]

theorem add_sub_mod (m k n : Nat) (hk : k < m) (hn : n < m) : ((k + n) % m + m - k % m) % m = n := by
  rw [Nat.mod_eq_of_lt hk]
  by_cases hov : k + n < m
  · rw [Nat.mod_eq_of_lt hov, show k + n + m - k = n + m from by omega, Nat.add_mod_right]; exact Nat.mod_eq_of_lt hn
  · have h2 : (k + n) % m = k + n - m := by rw [Nat.mod_eq_sub_mod (by omega)]; exact Nat.mod_eq_of_lt (by omega)
    rw [h2, show k + n - m + m - k = n from by omega]
    exact Nat.mod_eq_of_lt hn

theorem undo_incr_number (n ctype : Nat) (hn : n < 2 ^ 64) (hc : ctype ≠ 1) (f : Bytes) (h : frameType f = 2) (hl : 4 ≤ f.length) :
    roundTrip (some (numberCell n ctype)) f = getData (some (numberCell n ctype)) := by
  have hbase : (numberCell n ctype).incrValue = n := (incrValue_le64 _ rfl n ctype hc).trans (Nat.mod_eq_of_lt hn)
  have e0 : ((2 : Nat) == 0) = false := by decide
  have e1 : ((2 : Nat) != 1) = true := by decide
  have e2 : ((2 : Nat) != 2) = false := by decide
  unfold roundTrip
  rw [applyFrame_simple _ f (by rw [h]; decide)]
  unfold applySimple frameType at *
  simp only [h, e0, Bool.false_eq_true, if_false, beq_self_eq_true, if_true, hbase]
  unfold undoCell
  simp only [e1, e2, Bool.and_false, Bool.false_eq_true, if_false, e0, beq_self_eq_true, if_true]
  -- the value the post cell carries is v; v - k = n (mod 2^64)
  rw [incrValue_le64 _ (by simp; omega) _ 2 (by decide), Nat.mod_mod, add_sub_mod _ _ _ (readLE_take8_lt (f.drop 6)) hn]
  unfold getData numberCell Cell.hasData
  simp [show (ctype != 1) = true from by simpa using hc]

/-- a cell whose length prefix is right and whose operation byte is SET-at-stage-0 (every cell an operation of the subset leaves) -/
def Cell.wf (c : Cell) : Prop := 6 ≤ c.data.length ∧ c.data.take 4 = le32 (c.data.length - 4) ∧ c.data.getD 4 0 = 0

theorem getD_eq_of_take_drop (d : Bytes) (h6 : 6 ≤ d.length) : d = d.take 4 ++ [d.getD 4 0, d.getD 5 0] ++ d.drop 6 := by
  match d, h6 with
  | a :: b :: c :: e :: x :: y :: rest, _ => simp

theorem undo_append (p : Cell) (hd : p.hasData = true) (hw : p.wf) (f : Bytes) (h : frameType f = 3) (hl : 6 ≤ f.length) :
    roundTrip (some p) f = getData (some p) := by
  obtain ⟨h6, h4, h0⟩ := hw
  unfold roundTrip
  rw [applyFrame_simple _ f (by rw [h]; decide)]
  unfold applySimple frameType at *
  simp only [h]
  have e0 : ((3 : Nat) == 0) = false := by decide
  have e2 : ((3 : Nat) == 2) = false := by decide
  simp only [e0, e2, Bool.false_eq_true, if_false, hd, if_true]
  unfold undoCell
  simp only []
  have e1 : ((3 : Nat) != 1) = true := by decide
  have e3 : ((3 : Nat) != 3) = false := by decide
  simp only [e1, e3, Bool.and_false, Bool.false_eq_true, if_false, e0, e2, beq_self_eq_true, if_true]
  have hlen : (le32 (p.data.length - 4 + (f.length - 6)) ++ [0, p.data.getD 5 0] ++ p.data.drop 6 ++ f.drop 6).length = p.data.length + (f.length - 6) := by
    simp [le32_length]; omega
  rw [hlen]
  have hidx : p.data.length + (f.length - 6) - f.length + 6 = p.data.length := by omega
  rw [hidx]
  have hge : p.data.length + (f.length - 6) ≥ p.data.length + (f.length - 6) := Nat.le_refl _
  simp only [hge, if_true]
  unfold getData Cell.hasData
  simp only [e1, if_true]
  have hd' : (p.ctype != 1) = true := hd
  simp only [hd', if_true]
  congr 1
  have hA : (le32 (p.data.length - 4 + (f.length - 6)) ++ [0, p.data.getD 5 0] ++ p.data.drop 6 ++ f.drop 6).getD 5 0 = p.data.getD 5 0 := by
    have : (le32 (p.data.length - 4 + (f.length - 6))).length = 4 := le32_length _
    match hq : le32 (p.data.length - 4 + (f.length - 6)), this with
    | [a, b, c, d], _ => simp
  have hB : ((le32 (p.data.length - 4 + (f.length - 6)) ++ [0, p.data.getD 5 0] ++ p.data.drop 6 ++ f.drop 6).drop 6).take (p.data.length - 6) = p.data.drop 6 := by
    have h6' : (le32 (p.data.length - 4 + (f.length - 6)) ++ [0, p.data.getD 5 0]).length = 6 := by simp [le32_length]
    rw [List.append_assoc, List.append_assoc, ← List.append_assoc (le32 _), List.drop_left' h6']
    have : (p.data.drop 6).length = p.data.length - 6 := by simp
    rw [← this, List.take_left' rfl]
  have hC : (le32 (p.data.length - 4 + (f.length - 6)) ++ [0, p.data.getD 5 0] ++ p.data.drop 6 ++ f.drop 6).drop (p.data.length + (f.length - 6)) = [] := by
    rw [← hlen]; exact List.drop_length
  rw [hA, hB, hC]
  have : p.data.length + (f.length - 6) - 4 - (f.length - 6) = p.data.length - 4 := by omega
  rw [this, ← h4]
  have := getD_eq_of_take_drop p.data h6
  rw [h0] at this
  simp only [List.append_nil]
  exact this.symm

theorem getD4_append (a : Bytes) (x : UInt8) (r : Bytes) (h : a.length = 4) : (a ++ x :: r).getD 4 0 = x := by
  match a, h with
  | [_, _, _, _], _ => rfl

/-- what a simple frame of the subset leaves is a value cell, and its bytes are never those of the UNSET cell -/
theorem applySimple_post (cur : Option Cell) (g : Bytes) (hg : simpleOk g = true) :
    (applySimple cur g).1.ctype ≠ 1 ∧ (applySimple cur g).1.data.getD 4 0 ≠ 1 := by
  unfold simpleOk at hg
  simp only [Bool.and_eq_true, decide_eq_true_eq] at hg
  obtain ⟨⟨⟨h6, _⟩, _⟩, _⟩ := hg
  have ht4 : (g.take 4).length = 4 := by simp; omega
  unfold applySimple
  simp only []
  split
  · rename_i h0
    refine ⟨by simp, ?_⟩
    simp only []
    intro h1
    rw [h1] at h0
    exact absurd h0 (by decide)
  · split
    · refine ⟨by simp, ?_⟩
      simp only []
      rw [List.append_assoc, List.cons_append, getD4_append _ _ _ ht4]
      decide
    · cases cur with
      | none =>
        refine ⟨by simp, ?_⟩
        simp only []
        rw [List.append_assoc, List.cons_append, getD4_append _ _ _ ht4]
        decide
      | some x =>
        simp only []
        split
        · refine ⟨by simp, ?_⟩
          simp only []
          rw [List.append_assoc, List.append_assoc, List.cons_append, getD4_append _ _ _ (le32_length _)]
          decide
        · refine ⟨by simp, ?_⟩
          simp only []
          rw [List.append_assoc, List.cons_append, getD4_append _ _ _ ht4]
          decide

/-- The undo record of a pipeline carries no operand, and such a record puts the cell saved before the pipeline back
(c3f898d). `hw`: a cell typed UNSET is the UNSET cell (all the code ever makes). -/
theorem undo_pipeline (cur : Option Cell) (f : Bytes) (h : frameType f = 6) (hf : pipeOk f = true)
    (hw : ∀ p, cur = some p → p.ctype = 1 → p = unsetCell) : roundTrip cur f = getData cur := by
  unfold pipeOk at hf
  simp only [Bool.and_eq_true] at hf
  obtain ⟨_, hsub⟩ := hf
  unfold roundTrip applyFrame
  have h6 : ((f.getD 4 0).toNat % 64 == 6) = true := by unfold frameType at h; simpa using h
  simp only [h6, if_true]
  cases hp : pipeSubs f with
  | none => rw [hp] at hsub; simp at hsub
  | some l =>
    rw [hp] at hsub
    cases l with
    | nil => simp at hsub
    | cons g gs =>
      simp only [] at hsub
      have hne : (g :: gs).getLast? = some ((g :: gs).getLast (by simp)) := List.getLast?_eq_some_getLast (by simp)
      simp only [Option.bind, hne]
      have hm := List.mem_of_getLast? hne
      have hok : simpleOk ((g :: gs).getLast (by simp)) = true := (List.all_eq_true.mp hsub) _ hm
      obtain ⟨hc1, hd4⟩ := applySimple_post cur _ hok
      generalize (applySimple cur ((g :: gs).getLast (by simp))).1 = a at hc1 hd4
      unfold undoCell
      simp only []
      have e1 : (a.ctype != 1 && a.ctype != a.ctype) = false := by simp
      simp only [e1, Bool.false_eq_true, if_false]
      cases cur with
      | none => simp [getData, unsetCell, Cell.hasData]
      | some p =>
        simp only []
        split
        · rfl
        · simp only [if_true]
          split
          · rename_i hdat
            have hdat' : a.data = p.data := by simpa using hdat
            have hpc : p.ctype ≠ 1 := by
              intro hu
              have := hw p rfl hu
              rw [this] at hdat'
              rw [hdat'] at hd4
              exact hd4 (by decide)
            unfold getData Cell.hasData
            have ea : (a.ctype != 1) = true := by simpa using hc1
            have ep : (p.ctype != 1) = true := by simpa using hpc
            simp [ea, ep, hdat']
          · rfl

end Slock.Ack
