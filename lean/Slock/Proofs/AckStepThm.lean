import Slock.Proofs.AckTrack
import Slock.Proofs.AckClassify
/-! M-ACK: what single steps do (answers while a hold is ack-pending, the failure exits, single shot), and the `getKey` frame lemmas
the failure exit needs. -/
namespace Slock.Ack

theorem lock_ack_waiting (db : DB) (c : Cmd) (h : Rec) (hl : db.leader = true) (hk : (db.getKey c.key).locked > 0)
    (hf : findHolder db c.key c.lockId = some h) (hp : h.pending = true) :
    opLock db c = (db, [mkReply c R_ACK_WAITING (db.getKey c.key).locked (db.getR h.hid).depth (db.curData c.key)]) := by
  unfold opLock classifyLock
  simp only [hl, Bool.not_true, Bool.false_eq_true, if_false, hk, if_true, hf, hp]
  rfl

/-- While the hold an UNLOCK acts on (`UnlockOf`: the one under its LockId, or `currentLock` on the unlock-first path) is ack-pending,
the request is answered LOCK_ACK_WAITING and nothing but the error counter moves. -/
theorem unlock_ack_waiting (db : DB) (c : Cmd) (h : Rec) (hl : db.leader = true) (hk : (db.getKey c.key).locked > 0)
    (u : UnlockOf db c h) (hp : h.pending = true) :
    opUnlock db c = (db.bumpErr, [mkReply c R_ACK_WAITING (db.getKey c.key).locked (db.getR h.hid).depth (db.curData c.key)]) := by
  unfold opUnlock classifyUnlock
  have : ((db.getKey c.key).locked == 0) = false := by simp; omega
  rcases u with hf | ⟨hf, hu, hh⟩
  · simp only [hl, Bool.not_true, Bool.false_eq_true, if_false, this, hf, hp, if_true]
    rfl
  · simp only [hl, Bool.not_true, Bool.false_eq_true, if_false, this, hf, hu, hh, hp, if_true]
    rfl

theorem bumpErr_same (db : DB) : db.bumpErr.keys = db.keys ∧ db.bumpErr.recs = db.recs ∧ db.bumpErr.tab = db.tab ∧ db.bumpErr.journal = db.journal := ⟨rfl, rfl, rfl, rfl⟩

/-- `DoAckLock` on a record that is not pending (already settled: acknowledged, failed, timed out, unlocked) does nothing but drop its
timeout-wheel reference: no reply, no change of hold, counter, value. -/
theorem ackDone_settled (db : DB) (hid : Nat) (ok : Bool) (hp : (db.getR hid).pending = false) :
    ackDone db hid ok = (db.modR hid (fun r => { r with timeouted := true }), []) := by
  unfold ackDone classifyAck
  simp [hp, applyAck]

theorem ackDone_fail (db : DB) (hid : Nat) (hp : (db.getR hid).pending = true) (he : (db.getR hid).expried = true) (hd : (db.getR hid).depth > 0) :
    ackDone db hid false = (failed db hid).wake (db.getR hid).cmd.key
      [mkReply (db.getR hid).cmd R_ERROR ((failed db hid).getKey (db.getR hid).cmd.key).locked 0 ((failed db hid).curData (db.getR hid).cmd.key)] := by
  have hg := getR_of_find ((found_tracker hid).modR (fun r => { r with timeouted := true }) (present_of_pending hp) (fun _ => rfl))
  have : classifyAck db hid false = .fail := by
    unfold classifyAck
    have : ((db.getR hid).depth == 0) = false := by simp; omega
    simp only [hp, he, this, Bool.not_true, Bool.false_eq_true, if_false, Bool.or_self]
  unfold ackDone
  rw [this]
  unfold applyAck
  simp only [hg]
  rfl

theorem fireTimeout_pending (db : DB) (hid : Nat) (hd : (db.getR hid).depth > 0) :
    fireTimeout db hid = ((failed db hid).ctrMod (fun x => { x with timeoutedCount := x.timeoutedCount + 1 })).wake (db.getR hid).cmd.key
      [mkReply (db.getR hid).cmd R_TIMEOUT ((failed db hid).getKey (db.getR hid).cmd.key).locked 0 ((failed db hid).curData (db.getR hid).cmd.key)] := by
  unfold fireTimeout failed
  -- the reply reads the key record through the counter update: normalised first, so that `rfl` does not unfold the roll-back
  simp only [DB.curData, getKey_ctrMod]
  exact if_pos hd

theorem getKey_setKey_same (db : DB) (k : Key) : (db.setKey k).getKey k.key = k := by
  unfold DB.setKey DB.getKey
  split
  · rename_i h
    obtain ⟨x, hx, e⟩ := List.any_eq_true.mp h
    dsimp only
    rw [find_map_if Key.key _ _ (fun _ => k) (fun _ _ => rfl)]
    cases hf : db.keys.find? (·.key == k.key) with
    | none => exact absurd e (by simpa using List.find?_eq_none.mp hf x hx)
    | some _ => rfl
  · rename_i h
    dsimp only
    rw [find_append_new Key.key _ _ (fun a ha e => h (List.any_eq_true.mpr ⟨a, ha, by simpa using e⟩)) k rfl]; rfl

theorem getKey_modKey_same (db : DB) (k : Nat) (f : Key → Key) (hf : ∀ x, (f x).key = x.key) : (db.modKey k f).getKey k = f (db.getKey k) := by
  unfold DB.modKey
  have hk : (db.getKey k).key = k := find_getD_key Key.key _ k _ rfl
  have := getKey_setKey_same db (f (db.getKey k))
  rw [hf, hk] at this; exact this

theorem getKey_frame {db db' : DB} (e : db'.keys = db.keys) (k : Nat) : db'.getKey k = db.getKey k := by unfold DB.getKey; rw [e]
@[simp] theorem getKey_journalUnlock (db : DB) (h : Nat) (b : Bool) (k : Nat) : (db.journalUnlock h b).getKey k = db.getKey k := by
  obtain ⟨js, e⟩ := pushJ_eq db (db.getR h) false
  apply getKey_frame
  unfold DB.journalUnlock; split
  · simp only []; split <;> rw [e]; rfl
  · rfl

theorem failed_spec (db : DB) (hid : Nat) (hp : (db.getR hid).pending = true) :
    let r := db.getR hid
    let k := (failed db hid).getKey r.cmd.key
    k.locked = (db.getKey r.cmd.key).locked - r.depth ∧
    k.cell = (match (if has r.cmd.flag F_DATA then r.undo else none) with
              | some u => undoCell (db.getKey r.cmd.key).cell u
              | none => (db.getKey r.cmd.key).cell) ∧
    ((failed db hid).getR hid).depth = 0 ∧ ((failed db hid).getR hid).pending = false := by
  obtain ⟨u, a, hf⟩ := (found_tracker hid).failed (present_of_pending hp)
  have hg := getR_of_find ((found_tracker hid).modR (fun r => { r with timeouted := true }) (present_of_pending hp) (fun _ => rfl))
  have hp' : ({ (db.getR hid) with timeouted := true } : Rec).pending = true := hp
  refine ⟨?_, ?_, by rw [getR_of_find hf], by rw [getR_of_find hf]; rfl⟩ <;> unfold failed DB.rollback <;> simp only [hg, hp', Bool.and_true]
  · simp only [getKey_ctrMod, getKey_removeLock, getKey_journalUnlock]
    split
    · rw [getKey_modR, getKey_modKey_same _ _ _ (by intro _; rfl), getKey_modKey_same _ _ _ (by intro _; rfl)]; rfl
    · rw [getKey_modKey_same _ _ _ (by intro _; rfl)]; rfl
  · simp only [getKey_ctrMod, getKey_removeLock, getKey_journalUnlock]
    split
    · rename_i u hu
      rw [getKey_modR, getKey_modKey_same _ _ _ (by intro _; rfl), getKey_modKey_same _ _ _ (by intro _; rfl)]
      simp only [] at hu ⊢
      rw [hu]; rfl
    · rename_i hu
      rw [getKey_modKey_same _ _ _ (by intro _; rfl)]
      simp only [] at hu ⊢
      rw [hu]; rfl

theorem report_err (db : DB) (id : Nat) (who : Option Nat) (e : Ent) (he : db.findId id = some e) :
    opReport db id who false = ackDone (db.dropEnt id) e.hid false := by
  unfold opReport; simp [he]

theorem lock_journal_closed (db : DB) (c : Cmd) (hc : classifyLock db c = .ackGrant) (hl : db.leader = true) (hcl : db.closed = true) :
    opLock db c = ackDone (((db.newRec c).1.ackHold (db.newRec c).2).addTimeOut (db.newRec c).2) (db.newRec c).2 false := by
  have e : (((db.newRec c).1.ackHold (db.newRec c).2).addTimeOut (db.newRec c).2).env = (db.newRec c).1.env := by simp
  have : ((((db.newRec c).1.ackHold (db.newRec c).2).addTimeOut (db.newRec c).2).pushLock (db.newRec c).2) =
      ((((db.newRec c).1.ackHold (db.newRec c).2).addTimeOut (db.newRec c).2), false) := by
    have e1 : (((db.newRec c).1.ackHold (db.newRec c).2).addTimeOut (db.newRec c).2).leader = true := (congrArg (·.leader) e).trans hl
    have e2 : (((db.newRec c).1.ackHold (db.newRec c).2).addTimeOut (db.newRec c).2).closed = true := (congrArg (·.closed) e).trans hcl
    unfold DB.pushLock DB.pushJ
    simp [e1, e2]
  unfold opLock
  rw [hc]
  unfold applyLock
  simp only []
  rw [this]; simp

end Slock.Ack
