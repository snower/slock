import Slock.Proofs.EngineSimTickKTQueue
/-! `KT`: the steps that edit one record visibly (tombstone, timeout-wheel entry removed / re-armed, the grant, `RemoveLock`). -/
namespace Slock.SimTick
open Slock Slock.Sim Slock.Engine2
open Slock.Engine (has)

theorem WT.tomb {w : W} (h : WT w) (rid : Nat) : WT (w.modR rid (fun r => { r with timeouted := true })) := by
  refine h.tk (XW := (· = rid)) (XH := NoX) (TK.modR w rid _ (fun _ => rfl) (Or.inl rfl) (Or.inr fun _ => rfl)) ?_ (fun _ _ hx => absurd hx id)
  intro _ y hx hl
  obtain rfl : y = _ := hx
  exact Bool.noConfusion ((Engine2.tombed w.k y).symm.trans hl)

/-- a chain in edit normal form on the record of a hold or of a tombstoned request: a hold stays in the holder queue, and the
wait-queue side stays or belongs to no live request -/
theorem WT.edit {x : Nat} {f : Rec → Rec} {g : Nat → Nat} {n : Nat} {w w' : W} (h : WT w) (e : Edit x f g n w w')
    (hid : 0 < (f (w.k.getR x)).depth → 0 < (w.k.getR x).depth) (ht : ∀ r, (f r).timeouted = r.timeouted)
    (hw : (∀ r, (f r).tSched = r.tSched ∧ (f r).tChecked = r.tChecked) ∨ (w.k.getR x).timeouted = true) : WT w' := by
  have xh : KT w.k → ∀ y, y = x → 0 < (w'.k.getR y).depth → y ∈ w'.k.current.toList ++ w'.k.locks := by
    intro h0 y hy hd
    subst hy
    have hh := (e.hasRec y).mp (hasRec_of_depth hd)
    rw [e.getR hh (·.depth) (fun _ => rfl)] at hd
    obtain ⟨q1, q2, _⟩ := queues_eq e.q
    rw [q1, q2]; exact h0.hq y hh (hid hd)
  rcases hw with a | a
  · exact h.tk (e.tk (XW := NoX) (XH := (· = x)) (Or.inr fun r => by unfold πW; rw [ht, (a r).1, (a r).2]) (Or.inl rfl)) (fun _ _ hx => absurd hx id) xh
  · refine h.tk (e.tk (XW := (· = x)) (XH := (· = x)) (Or.inl rfl) (Or.inl rfl)) (fun _ y hy hl => ?_) xh
    subst hy
    rw [e.getR ((e.hasRec y).mp (hasRec_of_liveWaiter hl)) (·.timeouted) (fun _ => rfl), ht, a] at hl
    cases hl

theorem dropLongT_tomb (w : W) (rid : Nat) (ht : (w.k.getR rid).timeouted = true) : ((w.dropLongT rid).k.getR rid).timeouted = true :=
  Engine2.kept_true (fun _ => rfl) (pk_dropLongT ins_timeouted w rid (fun _ _ => rfl)) ht

/-- a re-armed live request: its new timeout-wheel entry caches the counter -/
theorem ws_modRec_armT (k : Key) (rid : Nat) (a : Nat × Engine.Sched) (ha : a.2.checked = (k.getR rid).tChecked)
    (hl : ((k.modRec rid (Rec.armT a)).getR rid).timeouted = false) : WS ((k.modRec rid (Rec.armT a)).getR rid) := by
  rw [getR_modRec_same k rid (Rec.armT a) ((hasRec_modRec k rid rid (Rec.armT a) (fun _ => rfl)).mp (hasRec_of_liveWaiter hl))]
  show (some a.2).map (·.checked) = some (k.getR rid).tChecked
  rw [← ha]; rfl

/-- `AddTimeOut(rid)` after steps that touched the wait-queue side of `rid` only: `rid` must be in the wait queue -/
theorem WT.armT_after {w w1 : W} (h : WT w) (rid : Nat) (d : TK (· = rid) NoX w w1) (hm : KT w.k → rid ∈ w1.k.wait.map (·.rid)) :
    WT (w1.addTimeOut rid) := by
  have d2 : TK (· = rid) NoX w1 (w1.addTimeOut rid) := ⟨rfl, KTK.modRec w1.k rid _ (fun _ => rfl) (Or.inl rfl) (Or.inr fun _ => rfl)⟩
  refine h.tk (d.trans d2) ?_ (fun _ _ hx => absurd hx id)
  intro h0 y hx hl
  obtain rfl : y = _ := hx
  exact ⟨hm h0, ws_modRec_armT w1.k y _ (wheelAdd_checked _ _ _ _) hl⟩

theorem πW_addLockF (db : DB) (k : Key) (r : Rec) : πW (addLockF db k r) = πW r := by
  unfold addLockF; rfl

theorem tk_grant (w : W) (rid : Nat) : TK NoX (· = rid) w (w.grant rid) := by
  have hf := addLockF_fields w.db w.k
  have t1 : TK NoX (· = rid) w (w.addLock rid) := ⟨rfl, ktk_addLock w.k rid (addLockF w.db w.k) (fun r => (hf r).rid) (πW_addLockF w.db w.k)⟩
  have t2 : TK NoX (· = rid) (w.addLock rid) ((w.addLock rid).modK incLocked) := TK.modK _ _ rfl rfl
  rw [grant_eq]
  generalize (w.addLock rid).modK incLocked = s0 at t2
  unfold grantTail grantMid
  exact (t1.trans t2).trans ((((grantTail_edit s0 rid).tk (XW := NoX) (XH := (· = rid)) (Or.inr fun _ => rfl) (Or.inl rfl)).trans (Quiet.ctr _ _).tk).trans (Quiet.reply _ _ _ _ _).tk)

theorem grant_self (w : W) (rid : Nat) : rid ∈ (w.grant rid).k.current.toList ++ (w.grant rid).k.locks := by
  rw [grant_queue]; exact addLock_self _ _ _

theorem WT.grant {w : W} (h : WT w) (rid : Nat) : WT (w.grant rid) := by
  refine h.tk (tk_grant w rid) (fun _ _ hx => absurd hx id) ?_
  intro _ y hx _
  obtain rfl : y = _ := hx
  exact grant_self w y

theorem WT.getWaitLock {w : W} (h : WT w) : WT (w.modK (·.getWaitLock.1)) := h.tk_nox ⟨rfl, ktk_getWaitLock w.k⟩
theorem WT.settleWait {w : W} (h : WT w) : WT (w.modK (·.settleWait)) := h.tk_nox ⟨rfl, ktk_settleWait w.k⟩

theorem WT.removeLock {w : W} (h : WT w) (rid : Nat) : WT (w.modK (·.removeLock rid)) := by
  refine h.tk (XW := NoX) (XH := (· = rid)) ⟨rfl, ktk_removeLock w.k rid⟩ (fun _ _ hx => absurd hx id) ?_
  intro _ y hx hd
  obtain rfl : y = _ := hx
  have hd' : 0 < ((w.k.removeLock y).getR y).depth := hd
  rw [removeLock_depth0] at hd'; exact absurd hd' (Nat.lt_irrefl 0)

end Slock.SimTick
