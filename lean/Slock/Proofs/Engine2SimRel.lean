import Slock.Proofs.Engine2SimInvGrant
import Slock.Proofs.Engine2SimInvUpd
import Slock.Proofs.EngineWake
/-! Simulation stage 2 → stage 1: `Rel w a k1 out1` — the working state `w` of a stage-2 operation against the (database, key, replies)
triple stage 1 is working on — and the steps every branch ends with (reclaim check, counters, reply, wake pass). The entries and exits
of an operation are in `Engine2SimLock`. -/
namespace Slock.Sim
open Slock Slock.Engine2
open Slock.Engine (has)

theorem isEmpty_of_recs {k : Key} (h : k.recs = []) (ki : Engine.KeyInv (Key.abs k))
    (hfl : (Key.abs k).waited = true → (Key.abs k).waiters ≠ []) : (Key.abs k).isEmpty = true := by
  obtain ⟨h1, h2⟩ := abs_nil_of_recs h
  have h3 : (Key.abs k).locked = 0 := by rw [ki.sum, h1]; rfl
  have h4 : (Key.abs k).waited = false := by
    cases hw : (Key.abs k).waited with
    | false => rfl
    | true => exact absurd h2 (hfl hw)
  unfold Engine.Key.isEmpty
  rw [h1, h2, h3, h4]; rfl

/-- what the steps need of a linked key record: the record-level walk invariants (`x` = the lock record in transit, exempt from
"no record at count 0"), and the stage-1 view -/
structure Live (x : Option Nat) (w : W) (k1 : Engine.Key) : Prop where
  wk : Wk True w x
  cn : CurNone w.k
  wi : WI w
  abs : Key.abs w.k = k1

theorem Live.good {w : W} {k1 : Engine.Key} (l : Live none w k1) : Good w := l.wk.good
theorem Live.cl {x : Option Nat} {w : W} {k1 : Engine.Key} (l : Live x w k1) : CurLive w.k := l.wk.cur trivial
theorem Live.wq {x : Option Nat} {w : W} {k1 : Engine.Key} (l : Live x w k1) : WQ w.k := KI.wq l.wi
/-- where the walks of `Engine2Node` start from -/
theorem Live.node {w : W} {k1 : Engine.Key} (l : Live none w k1) (data : Option Bytes) (hg : w.gone = false) : Node data True true w w none :=
  .start (fun _ => l.wk) (GW.of_live hg)

/-- the working state `w` against stage 1's database `a`, key `k1` and replies `out1`. `lk` and `wd` follow from `live` while the key record
is linked; they are what is left to say after the reclaim (`reply` and `wake` go on on a reclaimed record) -/
structure Rel (w : W) (a : Engine.DB) (k1 : Engine.Key) (out1 : List Engine.Reply) : Prop where
  sc : Scal a w.db
  out : w.out.map (·.r) = out1
  lk : w.k.locked = k1.locked
  wd : w.k.waited = k1.waited
  live : w.gone = false → Live none w k1
  dead : w.gone = true → k1.isEmpty = true

namespace Rel
variable {w : W} {a : Engine.DB} {k1 : Engine.Key} {out1 : List Engine.Reply}

theorem loc (h : Rel w a k1 out1) : Loc w k1 := ⟨fun hg => (h.live hg).abs, h.dead⟩

theorem of_live (hg : w.gone = false) (sc : Scal a w.db) (out : w.out.map (·.r) = out1) (l : Live none w k1) : Rel w a k1 out1 :=
  ⟨sc, out, by rw [← l.abs]; rfl, by rw [← l.abs]; rfl, fun _ => l, fun h => by rw [hg] at h; exact absurd h (by simp)⟩

/-- the reclaim check: the key record goes only when no lock record is left, and then (`hem`) stage 1's key is empty -/
theorem removeIfZero_of (h : Rel w a k1 out1) (hem : w.gone = false → w.k.recs = [] → k1.isEmpty = true) : Rel w.removeIfZero a k1 out1 := by
  rcases removeIfZero_cases w with e | ⟨e1, _, e3, e4, _⟩
  · rw [e]; exact h
  · have hrecs : w.k.recs = [] := by
      have := (h.live e3).wk.lv.rc.mgr
      rw [e4] at this
      exact List.length_eq_zero_iff.mp this.symm
    refine ⟨h.sc.removeIfZero, by rw [removeIfZero_out]; exact h.out, by rw [removeIfZero_locked]; exact h.lk, ?_,
      fun hg => by rw [e1] at hg; exact absurd hg (by simp), fun _ => hem e3 hrecs⟩
    rw [removeIfZero_waited]; exact h.wd

theorem removeIfZero (h : Rel w a k1 out1) (ki : Engine.KeyInv k1) (hfl : k1.waited = true → k1.waiters ≠ []) : Rel w.removeIfZero a k1 out1 :=
  h.removeIfZero_of (fun hg hr => by have := (h.live hg).abs; subst this; exact isEmpty_of_recs hr ki hfl)

theorem ctr (h : Rel w a k1 out1) (f : Engine.Counters → Engine.Counters) : Rel (w.ctr f) { a with ctr := f a.ctr } k1 out1 := by
  refine ⟨h.sc.withCtr f, h.out, h.lk, h.wd, fun hg => ?_, h.dead⟩
  have l := h.live hg
  exact ⟨l.wk.book (book_ctr w f), l.cn, l.wi, l.abs⟩

theorem reply (h : Rel w a k1 out1) (c : Engine.Cmd) (res lr : Nat) (d : Option Bytes) :
    Rel (w.reply c res lr d) a k1 (out1 ++ [Engine.mkReply c res k1.locked lr]) := by
  refine ⟨h.sc, ?_, h.lk, h.wd, fun hg => ?_, h.dead⟩
  · unfold W.reply
    simp only [List.map_append, List.map_cons, List.map_nil]
    rw [h.out, h.lk]
  · have l := h.live hg
    exact ⟨l.wk.up (l.wk.lv.reply c res lr d) (RecsUp.of_eq rfl) (DK.of_k rfl), l.cn, l.wi, l.abs⟩

/-- the reply list set outright (the refusals that answer before taking anything in hand) -/
theorem setOut (h : Rel w a k1 out1) (o : List Reply) : Rel { w with out := o } a k1 (o.map (·.r)) :=
  ⟨h.sc, rfl, h.lk, h.wd, fun hg => have l := h.live hg
    ⟨l.wk.up ⟨l.wk.lv.rc, l.wk.lv.side⟩ (RecsUp.of_eq rfl) (DK.of_k rfl), l.cn, l.wi, l.abs⟩, h.dead⟩

/-- on a reclaimed key record nothing happens -/
theorem wake (h : Rel w a k1 out1) (ki : Engine.KeyInv k1) :
    Scal (Engine.wake a k1 out1).1 w.wake.db ∧ Loc w.wake (Engine.wake a k1 out1).2.1 ∧ w.wake.out.map (·.r) = (Engine.wake a k1 out1).2.2 := by
  cases hg : w.gone with
  | false =>
    have l := h.live hg
    have := sim_wake w l.good l.cl hg l.cn l.wq a h.sc (by rw [l.abs]; exact ki) out1 h.out
    rw [l.abs] at this
    exact this
  | true =>
    have hem := h.dead hg
    have hwd : k1.waited = false := by
      unfold Engine.Key.isEmpty at hem
      simp only [Bool.and_eq_true, Bool.not_eq_true'] at hem
      exact hem.2
    have hw2 : w.k.waited = false := h.wd.trans hwd
    have e2 : w.wake = w := by unfold W.wake W.when; rw [hw2]; rfl
    have e1 : Engine.wake a k1 out1 = (a, k1, out1) := by
      unfold Engine.wake Engine.wakePass
      rw [hwd]; rfl
    rw [e1, e2]
    exact ⟨h.sc, h.loc, h.out⟩

end Rel

theorem Live.book {x : Option Nat} {w w' : W} {k1 : Engine.Key} {data : Option Bytes} {q : Bool} (l : Live x w k1)
    (hl : w'.k.locked = w.k.locked) (c : Chain data true q w w') : Live x w' k1 :=
  have k' := l.wk.book c
  ⟨k', l.cn.of_cl (queues_eq c.queues).1 (queues_eq c.queues).2.1, l.wi.quiet (Quiet.of_book c),
   (abs_eq_x (X := fun _ => False) c.fr.key hl c.waited c.queues (.of_pk (c.pk ins_πA)) (fun _ _ h => h) (hasRec_of_queues k'.lv c.queues)).trans l.abs⟩

theorem Live.free {w : W} {k1 : Engine.Key} {rid : Nat} (l : Live (some rid) w k1) (hz : w.k.qRefs rid = 0) :
    Live none (w.modK (·.free rid)) k1 := by
  obtain ⟨k, cn, wi, habs⟩ := l
  have l1 : Lv (w.modK (·.free rid)) zero := k.lv.modK _ (k.lv.rc.free rid (by simp only [zero]; omega)) (RecsLe.free _ _)
  obtain ⟨f1, f2, f3, f4, _⟩ := free_queues w.k rid
  have hq : (w.modK (·.free rid)).k.queues = w.k.queues := queues_mk f3 f1 f2
  have hnq : ∀ y ∈ w.k.current.toList ++ w.k.locks ++ w.k.wait.map (·.rid), ¬ y = rid := fun y hy e => by
    have := qRefs_pos_of_any _ y hy
    rw [e] at this; omega
  have px : PKeepX πA (· = rid) (w.k.free rid) w.k := PKeepX.of_pk (PKeep.free _ _)
  refine ⟨⟨l1, fun _ => ⟨(k.nz trivial).nd.free rid, NZx.free_clear rid (k.nz trivial).nz⟩,
    fun _ => (k.cur trivial).of_dk (dk_modK _ _ (DepthKeep.free _ _)) l1⟩, cn.of_cl f3 f1, wi.quiet (Quiet.free w rid), ?_⟩
  refine (abs_eq_x (X := (· = rid)) ?_ (free_locked _ _) f4 hq px hnq (hasRec_of_queues l1 hq)).trans habs
  exact free_key _ _

end Slock.Sim
