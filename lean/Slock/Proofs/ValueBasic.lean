import Slock.Model.Value
/-! M-VALUE: little-endian codecs, the canonical frame image `encode`, frames of arbitrary bytes whose property header fits
    (`Shape`), and how the model's accessors compute on them. -/
namespace Slock.Value

theorem leN_length (k n : Nat) : (leN k n).length = k := by
  induction k generalizing n with
  | zero => rfl
  | succ k ih => simp [leN, ih]

@[simp] theorem le16_length (n : Nat) : (le16 n).length = 2 := leN_length 2 n
@[simp] theorem le32_length (n : Nat) : (le32 n).length = 4 := leN_length 4 n
@[simp] theorem le64_length (n : Nat) : (le64 n).length = 8 := leN_length 8 n

theorem toUInt8_toNat_mod (n : Nat) : (n % 256).toUInt8.toNat = n % 256 :=
  UInt8.toNat_ofNat_of_lt' (Nat.mod_lt n (by decide))

theorem readLE_leN (k n : Nat) : readLE (leN k n) = n % 256 ^ k := by
  induction k generalizing n with
  | zero => simp [leN, readLE, Nat.mod_one]
  | succ k ih =>
    simp only [leN, readLE, ih, toUInt8_toNat_mod]
    rw [Nat.pow_succ, Nat.mul_comm (256 ^ k) 256, Nat.mod_mul]

theorem readLE_le32 (n : Nat) (h : n < 2 ^ 32) : readLE (le32 n) = n := by
  rw [le32, readLE_leN]; exact Nat.mod_eq_of_lt (by simpa using h)

theorem readLE_le16 (n : Nat) (h : n < 65536) : readLE (le16 n) = n := by
  rw [le16, readLE_leN]; exact Nat.mod_eq_of_lt (by simpa using h)

theorem readLE_le64 (n : Nat) : readLE (le64 n) = n % 2 ^ 64 := by
  rw [le64, readLE_leN]

def propHdr : Option Bytes → Bytes
  | none => []
  | some p => le16 p.length ++ p

/-- a canonical frame image: `[len32 | op (stage 0) | flag | (proplen16 props)? | payload]` -/
structure Frm where
  op : Nat
  flag : UInt8
  props : Option Bytes
  payload : Bytes

def Frm.hdrLen (f : Frm) : Nat := (propHdr f.props).length

def encode (f : Frm) : Bytes :=
  le32 (2 + f.hdrLen + f.payload.length) ++ (f.op.toUInt8 :: f.flag :: (propHdr f.props ++ f.payload))

structure Frm.WF (f : Frm) : Prop where
  op_lt : f.op < 64
  flag_props : hasFlag f.flag fPROP = f.props.isSome
  props_len : ∀ p, f.props = some p → p.length < 65536

def mkCmd (f : Frm) : Cmd := ⟨encode f, [], 0, f.op, f.flag⟩

theorem encode_cons (f : Frm) : ∃ a b c d, encode f = a :: b :: c :: d :: f.op.toUInt8 :: f.flag :: (propHdr f.props ++ f.payload) := by
  simp [encode, le32, leN]

theorem encode_length (f : Frm) : (encode f).length = 6 + f.hdrLen + f.payload.length := by
  simp [encode, Frm.hdrLen]; omega

theorem encode_take4 (f : Frm) : (encode f).take 4 = le32 (2 + f.hdrLen + f.payload.length) := by
  rw [encode]; exact List.take_left' (le32_length _)

theorem op_byte (n : Nat) (h : n < 64) : n.toUInt8.toNat / 64 = 0 ∧ n.toUInt8.toNat % 64 = n := by
  have : n.toUInt8.toNat = n := UInt8.toNat_ofNat_of_lt' (show _ < 256 by omega)
  rw [this]; omega

def ElemsOK (xs : List Bytes) : Prop := ∀ x ∈ xs, x.length < 2 ^ 32

theorem encElems_cons (x : Bytes) (xs : List Bytes) : encElems (x :: xs) = le32 x.length ++ (x ++ encElems xs) := by
  simp [encElems, List.flatMap_cons]

theorem encElems_append (xs ys : List Bytes) : encElems (xs ++ ys) = encElems xs ++ encElems ys := by
  simp [encElems, List.flatMap_append]

theorem encElems_nil : encElems [] = [] := rfl

theorem parseElems_cons (n : Nat) (x rest : Bytes) (hx : x.length < 2 ^ 32) :
    parseElems (n + 1) (le32 x.length ++ (x ++ rest)) = x :: parseElems n rest := by
  have hlen : (le32 x.length ++ (x ++ rest)).length = 4 + x.length + rest.length := by
    rw [List.length_append, List.length_append, le32_length, Nat.add_assoc]
  rw [parseElems, if_neg (by omega), List.take_left' (le32_length _), readLE_le32 _ hx]
  dsimp only
  rw [if_neg (by omega), List.drop_left' (le32_length _), List.take_left' rfl, ← List.drop_drop,
    List.drop_left' (le32_length _), List.drop_left' rfl]

theorem parseElems_enc (xs : List Bytes) (h : ElemsOK xs) (fuel : Nat)
    (hf : (encElems xs).length ≤ fuel) : parseElems fuel (encElems xs) = xs := by
  induction xs generalizing fuel with
  | nil => cases fuel <;> rfl
  | cons x xs ih =>
    rw [encElems_cons] at hf ⊢
    have hlen : (le32 x.length ++ (x ++ encElems xs)).length = 4 + x.length + (encElems xs).length := by
      rw [List.length_append, List.length_append, le32_length, Nat.add_assoc]
    cases fuel with
    | zero => omega
    | succ n =>
      rw [parseElems_cons n x _ (h x (List.mem_cons_self ..)),
        ih (fun y hy => h y (List.mem_cons_of_mem _ hy)) n (by omega)]

theorem or_and_distrib (x a m : UInt8) : (x ||| a) &&& m = (x &&& m) ||| (a &&& m) :=
  UInt8.toBitVec_inj.1 BitVec.and_or_distrib_right

theorem hasFlag_or (x a m : UInt8) (h : a &&& m = 0) : hasFlag (x ||| a) m = hasFlag x m := by
  unfold hasFlag; rw [or_and_distrib, h, UInt8.or_zero]

theorem hasFlag_and (x k m : UInt8) (h : k &&& m = m) : hasFlag (x &&& k) m = hasFlag x m := by
  unfold hasFlag; rw [UInt8.and_assoc, h]

theorem hasFlag_or_self (x a : UInt8) (h : a ≠ 0) : hasFlag (x ||| a) a = true := by
  unfold hasFlag; rw [or_and_distrib, UInt8.and_self]
  simp only [bne_iff_ne, ne_eq, UInt8.or_eq_zero_iff, h, and_false, not_false_eq_true]

theorem flag_or_num_prop (f : UInt8) : hasFlag (f ||| fNUMBER) fPROP = hasFlag f fPROP :=
  hasFlag_or _ _ _ (by decide)

theorem flag_or_num_arr (f : UInt8) : hasFlag (f ||| fNUMBER) fARRAY = hasFlag f fARRAY :=
  hasFlag_or _ _ _ (by decide)

theorem flag_push_prop (f : UInt8) : hasFlag ((f &&& 0xf8) ||| fARRAY) fPROP = hasFlag f fPROP := by
  rw [hasFlag_or _ _ _ (by decide), hasFlag_and _ _ _ (by decide)]

theorem flag_push_arr (f : UInt8) : hasFlag ((f &&& 0xf8) ||| fARRAY) fARRAY = true :=
  hasFlag_or_self _ _ (by decide)

/-- the property header `hdr` (bytes [6, valueOffset)) is what the flag byte announces -/
def HdrOK (fl : UInt8) (hdr : Bytes) : Prop :=
  (hasFlag fl fPROP = true ∧ ∃ a b rest, hdr = a :: b :: rest ∧ a.toNat + 256 * b.toNat = rest.length)
  ∨ (hasFlag fl fPROP = false ∧ hdr = [])

structure Shape (d : Bytes) (fl : UInt8) (hdr v : Bytes) : Prop where
  ex : ∃ a b c e b4, d = a :: b :: c :: e :: b4 :: fl :: (hdr ++ v)
  ok : HdrOK fl hdr

theorem shape_of (x4 : Bytes) (b4 fl : UInt8) (hdr v d : Bytes) (h4 : x4.length = 4)
    (hd : d = x4 ++ b4 :: fl :: (hdr ++ v)) (hok : HdrOK fl hdr) : Shape d fl hdr v := by
  rcases x4 with _ | ⟨a, _ | ⟨b, _ | ⟨c, _ | ⟨e, _ | ⟨f, t⟩⟩⟩⟩⟩ <;> simp at h4
  exact ⟨⟨a, b, c, e, b4, by simpa using hd⟩, hok⟩

theorem hdrOK_flag (fl fl' : UInt8) (hdr : Bytes) (h : hasFlag fl' fPROP = hasFlag fl fPROP) (hok : HdrOK fl hdr) :
    HdrOK fl' hdr := by
  rcases hok with ⟨h1, h2⟩ | ⟨h1, h2⟩
  · exact Or.inl ⟨by rw [h, h1], h2⟩
  · exact Or.inr ⟨by rw [h, h1], h2⟩

theorem Shape.length {d fl hdr v} (s : Shape d fl hdr v) : d.length = 6 + hdr.length + v.length := by
  obtain ⟨a, b, c, e, b4, hd⟩ := s.ex; rw [hd]; simp
  omega

theorem Shape.off_le {d fl hdr v} (s : Shape d fl hdr v) : 6 + hdr.length ≤ d.length := by
  rw [s.length]; exact Nat.le_add_right _ _

theorem Shape.valLen {d fl hdr v} (s : Shape d fl hdr v) : d.length - (6 + hdr.length) = v.length := by
  rw [s.length, Nat.add_sub_cancel_left]

theorem Shape.idx5 {d fl hdr v} (s : Shape d fl hdr v) (site : Site) : idx site d 5 = .ok fl := by
  obtain ⟨a, b, c, e, b4, hd⟩ := s.ex; rw [hd]; rfl

theorem Shape.getD5 {d fl hdr v} (s : Shape d fl hdr v) : d.getD 5 0 = fl := by
  obtain ⟨a, b, c, e, b4, hd⟩ := s.ex; rw [hd]; rfl

theorem Shape.drop6 {d fl hdr v} (s : Shape d fl hdr v) : d.drop 6 = hdr ++ v := by
  obtain ⟨a, b, c, e, b4, hd⟩ := s.ex; rw [hd]; rfl

theorem Shape.take4_length {d fl hdr v} (s : Shape d fl hdr v) : (d.take 4).length = 4 := by
  obtain ⟨a, b, c, e, b4, hd⟩ := s.ex; rw [hd]; rfl

theorem Shape.drop5 {d fl hdr v} (s : Shape d fl hdr v) : d.drop 5 = fl :: (hdr ++ v) := by
  obtain ⟨a, b, c, e, b4, hd⟩ := s.ex; rw [hd]; rfl

theorem Shape.drop4 {d fl hdr v} (s : Shape d fl hdr v) (ex : Bytes) :
    (d ++ ex).drop 4 = d.getD 4 0 :: fl :: (hdr ++ (v ++ ex)) := by
  obtain ⟨a, b, c, e, b4, hd⟩ := s.ex; rw [hd]; simp

theorem Shape.hdr {d fl hdr v} (s : Shape d fl hdr v) : (d.drop 6).take hdr.length = hdr := by
  rw [s.drop6]; exact List.take_left' rfl

theorem Shape.dropOff {d fl hdr v} (s : Shape d fl hdr v) (n : Nat) : d.drop (6 + hdr.length + n) = v.drop n := by
  rw [Nat.add_assoc, ← List.drop_drop, s.drop6, ← List.drop_drop, List.drop_left' rfl]

theorem Shape.cellOff {d fl hdr v} (s : Shape d fl hdr v) : cellOff d = 6 + hdr.length := by
  obtain ⟨a, b, c, e, b4, rfl⟩ := s.ex
  unfold Slock.Value.cellOff
  rcases s.ok with ⟨h1, a', b', rest, rfl, hl⟩ | ⟨h1, rfl⟩
  · simp only [List.cons_append, List.length_cons, List.getD_cons_succ, List.getD_cons_zero]
    rw [if_neg (by omega), if_pos h1, hl]
    omega
  · simp only [List.getD_cons_succ, List.getD_cons_zero, h1, Bool.false_eq_true, if_false, ite_self, List.length_nil]

theorem Shape.dropHdr {d fl hdr v} (s : Shape d fl hdr v) : d.drop (6 + hdr.length) = v :=
  s.dropOff 0

theorem Shape.readAt {d fl hdr v} (s : Shape d fl hdr v) (k : Nat) : readAt d (6 + hdr.length) k = readLE (v.take k) := by
  rw [Slock.Value.readAt, s.dropHdr]

theorem Shape.cmdOff {c : Cmd} {hdr v} (s : Shape c.data c.flag hdr v) : cmdOff c = .ok (6 + hdr.length) := by
  obtain ⟨a, b, c3, e, b4, hd⟩ := s.ex
  unfold Slock.Value.cmdOff
  rcases s.ok with ⟨h1, a', b', rest, rfl, hl⟩ | ⟨h1, rfl⟩
  · rw [if_pos h1, hd]
    simp only [idx, bind, Except.bind, pure, Except.pure, List.cons_append, List.getElem?_cons_succ,
      List.getElem?_cons_zero, List.length_cons, hl]
    congr 1; omega
  · rw [if_neg (by rw [h1]; exact Bool.false_ne_true)]; rfl

theorem propHdr_ok {f : Frm} (h : f.WF) : HdrOK f.flag (propHdr f.props) := by
  cases hp : f.props with
  | none => exact Or.inr ⟨by rw [h.flag_props, hp]; rfl, rfl⟩
  | some p =>
    have hl := h.props_len p hp
    refine Or.inl ⟨by rw [h.flag_props, hp]; rfl, (p.length % 256).toUInt8, (p.length / 256 % 256).toUInt8, p, rfl, ?_⟩
    rw [toUInt8_toNat_mod, toUInt8_toNat_mod]; omega

theorem encode_shape (f : Frm) (h : f.WF) : Shape (encode f) f.flag (propHdr f.props) f.payload :=
  shape_of _ _ _ _ _ _ (le32_length _) rfl (propHdr_ok h)

theorem mkCmd_shape {f : Frm} (h : f.WF) : Shape (mkCmd f).data (mkCmd f).flag (propHdr f.props) f.payload :=
  encode_shape f h

theorem Shape.parseFrame {d fl hdr v} (s : Shape d fl hdr v) (ex : Bytes) :
    parseFrame d ex = some ⟨d, ex, (d.getD 4 0).toNat / 64, (d.getD 4 0).toNat % 64, fl⟩ := by
  obtain ⟨a, b, c3, e, b4, rfl⟩ := s.ex
  unfold Slock.Value.parseFrame
  simp only [List.getElem?_cons_succ, List.getElem?_cons_zero, List.getD_cons_succ, List.getD_cons_zero]
  rcases s.ok with ⟨h1, a', b', rest, rfl, hlen⟩ | ⟨h1, rfl⟩
  · rw [if_pos h1]
    simp only [List.cons_append, List.getElem?_cons_succ, List.getElem?_cons_zero, List.length_cons, List.length_append]
    rw [if_neg (by omega)]
  · rw [if_neg (by rw [h1]; exact Bool.false_ne_true)]

theorem parseFrame_encode (f : Frm) (h : f.WF) : parseFrame (encode f) [] = some (mkCmd f) := by
  obtain ⟨a, b, c, d, he⟩ := encode_cons f
  obtain ⟨h1, h2⟩ := op_byte f.op h.op_lt
  rw [(encode_shape f h).parseFrame, he]
  show some (Cmd.mk _ _ (f.op.toUInt8.toNat / 64) (f.op.toUInt8.toNat % 64) _) = _
  rw [h1, h2, ← he]; rfl

end Slock.Value
