import Slock.Proofs.AckCount
/-! M-ACK: the three invariants together; the balance for journal delivery, reports and demotion; for every event; for every run. The one
place where the balance needs more than the record-local invariant `QR` is the delivery of a LOCK record to the leader:
`ProcessLeaderPushLock` arms the counter of the lock it points at, which keeps the balance only if that lock is dead or still waiting
for it — `InvK.kj`, part of the counting invariant. -/
namespace Slock.Ack

/-- each step of one needs the others in the state before -/
structure Inv3 (db : DB) : Prop where
  a : InvA db
  k : InvK db
  q : InvQ db

def Bal3 (x : Rid) (base : Int) (db : DB) (out : List Reply) : Prop := Inv3 db ∧ answered x out + openN x db = base

theorem Bal3.step {x : Rid} {base : Int} {db db' : DB} {out out' : List Reply} (h : Bal3 x base db out) (ha : InvA db') (hk : InvK db')
    (hc : InvQ db' ∧ answered x out' + openN x db' = openN x db) : Bal3 x base db' (out ++ out') :=
  ⟨⟨ha, hk, hc.1⟩, by rw [answered_append]; have := hc.2; have := h.2; omega⟩

theorem Bal3.ackFail {x : Rid} {base : Int} {db : DB} {out : List Reply} (h : Bal3 x base db out) (hid : Nat) :
    Bal3 x base (ackDone db hid false).1 (out ++ (ackDone db hid false).2) :=
  h.step (h.1.a.ackDone _ _) (InvK.ackDone h.1.a h.1.k _ _ (fun hp _ => (h.1.q.getR hid).expried_of_pending hp) (by intro hh; cases hh))
    (ackDone_cons x h.1.a h.1.q hid false)

theorem Bal3.dropEnt {x : Rid} {base : Int} {db : DB} {out : List Reply} (h : Bal3 x base db out) (id : Nat) : Bal3 x base (db.dropEnt id) out :=
  ⟨⟨h.1.a.dropEnt id, h.1.k.dropEnt id, h.1.q.frame rfl rfl⟩, h.2⟩

theorem opPush_cons (x : Rid) {db : DB} (h : Inv3 db) (k : Nat) (werr : Bool) :
    Inv3 (opPush db k werr).1 ∧ answered x (opPush db k werr).2 + openN x (opPush db k werr).1 = openN x db := by
  have h1 : Bal3 x (openN x db) (popJ db k) [] := ⟨⟨h.a.popJ k, h.k.popJ k, h.q.frame rfl rfl⟩, by simp; exact openN_frame x rfl⟩
  refine opPush_ind (Bal3 x (openN x db)) ⟨h, by simp⟩ h1 (fun _ _ id hd => hd.dropEnt id) (fun _ _ hid hd => hd.ackFail hid) ?_ werr
  intro j hid hj hil hh hd
  have hjm : j ∈ db.journal := List.mem_of_find?_eq_some hj
  have hpr : findR (popJ db k).recs hid = some ((popJ db k).getR hid) := present_of_depth hd
  have hp : ((popJ db k).getR hid).pending = true := h.k.pushGuard hjm hil hh (Nat.pos_of_ne_zero hd)
  have hq2 := pendingKeep_cons x h1.1.a.nodup h1.1.q hid (fun _ => reqAcks (popJ db k).cfg) hp h1.1.q.cfg
  refine ⟨⟨h.a.armed hj hil hh hd, InvK.arm h1.1.a h1.1.k hpr _ rfl rfl ?_, hq2.1.frame rfl rfl⟩, ?_⟩
  · -- the record just delivered was the only reference to a fresh pending hold
    intro hfp
    have h2 := h.k.k2 hid hfp
    have he := jcL_eraseP db.journal k hid
    rw [hj] at he
    have : (j.isLock && j.hid == some hid) = true := by simp [hil, hh]
    simp only [this, if_true] at he
    have e1 : jc (popJ db k) hid = jcL (db.journal.eraseP (·.key == k)) hid := rfl
    have e2 : tc (popJ db k) hid = tc db hid := rfl
    unfold jc at h2
    constructor <;> omega
  · exact h1.2 ▸ congrArg (answered x [] + ·) ((openN_frame x rfl).trans hq2.2)

theorem opReport_cons (x : Rid) {db : DB} (h : Inv3 db) (id : Nat) (who : Option Nat) (ok : Bool) :
    Inv3 (opReport db id who ok).1 ∧ answered x (opReport db id who ok).2 + openN x (opReport db id who ok).1 = openN x db := by
  have key : ∀ e, db.findId id = some e → (db.getR e.hid).pending = true →
      InvQ (db.modR e.hid (fun r => { r with ack := decU8 r.ack })) ∧ openN x (db.modR e.hid (fun r => { r with ack := decU8 r.ack })) = openN x db := by
    intro e he hp
    have := decU8_succ (h.a.tab_ack ⟨e, List.mem_of_find?_eq_some he, rfl⟩ hp)
    have := (h.q.getR e.hid).ack_le
    exact pendingKeep_cons x h.a.nodup h.q e.hid decU8 hp (by omega)
  have hq : InvQ (opReport db id who ok).1 ∧ answered x (opReport db id who ok).2 + openN x (opReport db id who ok).1 = openN x db := by
    refine opReport_ind (fun d o => InvQ d ∧ answered x o + openN x d = openN x db) id who ok ⟨h.q, by simp⟩ ?_ ?_ ?_
    · intro e _ _
      have := ackDone_cons x (h.a.dropEnt id) (h.q.frame rfl rfl : InvQ (db.dropEnt id)) e.hid false
      exact ⟨this.1, this.2.trans (openN_frame x rfl)⟩
    · intro e he _ hp _
      exact ⟨(key e he hp).1.frame rfl rfl, by rw [answered_nil, Int.zero_add]; exact (openN_frame x rfl).trans (key e he hp).2⟩
    · intro e he hok hp hz
      have := ackDone_cons' x (db := (db.modR e.hid (fun r => { r with ack := decU8 r.ack })).dropEnt id)
        (by show ((modRecs e.hid _ db.recs).map (·.hid)).Nodup; rw [map_hid_modRecs _ _ (by intro _; rfl)]; exact h.a.nodup)
        ((key e he hp).1.frame rfl rfl) e.hid true (fun hf => by cases (AckFacts.of hf).2.2.2)
      exact ⟨this.1, this.2.trans ((openN_frame x rfl).trans (key e he hp).2)⟩
  exact ⟨⟨h.a.opReport .., InvK.opReport h.a h.k h.q .., hq.1⟩, hq.2⟩

theorem opFailAll_cons (x : Rid) {db : DB} (h : Inv3 db) (order : List Nat) :
    Inv3 (opFailAll db order).1 ∧ answered x (opFailAll db order).2 + openN x (opFailAll db order).1 = openN x db :=
  opFailAll_ind (Bal3 x (openN x db)) (fun _ _ hid hd => hd.ackFail hid)
    (fun _ _ hd => ⟨⟨hd.1.a.clearTab, hd.1.k.sub rfl (List.nil_sublist _) (List.Sublist.refl _) rfl,
      hd.1.q.frame rfl rfl⟩, hd.2⟩) db order ⟨h, by simp⟩

def delta (x : Rid) : Ev → Int
  | .lock c => hit x c.rid
  | .unlock c => hit x c.rid
  | _ => 0

theorem step_cons (x : Rid) {db : DB} (h : Inv3 db) (e : Ev) :
    Inv3 (step db e).1 ∧ answered x (step db e).2 + openN x (step db e).1 = openN x db + delta x e := by
  have z : ∀ {d : DB} {o : List Reply}, Inv3 d ∧ answered x o + openN x d = openN x db → Inv3 d ∧ answered x o + openN x d = openN x db + 0 :=
    fun h => ⟨h.1, by rw [h.2]; omega⟩
  have fr : ∀ d : DB, d.recs = db.recs → d.env.toConf.tab = db.tab → d.journal = db.journal → d.nextHid = db.nextHid → d.cfg = db.cfg →
      Inv3 d ∧ answered x [] + openN x d = openN x db :=
    fun d e1 e2 e3 e4 e5 => ⟨⟨h.a.frame e1 e2 e3 e4, h.k.sub e1 (e2 ▸ List.Sublist.refl _) (e3 ▸ List.Sublist.refl _) e5, h.q.frame e1 e5⟩, by
      rw [openN_frame x e1]; simp⟩
  cases e with
  | lock c => exact ⟨⟨h.a.opLock c, InvK.opLock h.a h.k c, (opLock_cons x h.a h.q c).1⟩, (opLock_cons x h.a h.q c).2⟩
  | unlock c => exact ⟨⟨h.a.opUnlock c, InvK.opUnlock h.a h.k c, (opUnlock_cons x h.a h.q c).1⟩, (opUnlock_cons x h.a h.q c).2⟩
  | tick => exact z ⟨⟨h.a.opTick, InvK.opTick h.a h.k, (opTick_cons x h.a h.q).1⟩, (opTick_cons x h.a h.q).2⟩
  | push k => exact z (opPush_cons x h k false)
  | pushW k => exact z (opPush_cons x h k true)
  | aofed id ok =>
    show Inv3 (opAofed db id ok).1 ∧ answered x (opAofed db id ok).2 + openN x (opAofed db id ok).1 = openN x db + 0
    unfold opAofed
    split
    · exact z (opReport_cons x h id none ok)
    · exact ⟨h, by simp⟩
  | acked id f ok => exact z (opReport_cons x h id (some f) ok)
  | role b | closed b => exact z (fr _ rfl rfl rfl rfl rfl)
  | demote o | flush o => exact z (opFailAll_cons x h o)

def issued (x : Rid) : List Ev → Int
  | [] => 0
  | e :: es => delta x e + issued x es

/-- `InvQ` is proved together with the balance of a request id (the record-local facts and the sum move in the same tracker walk), so the
three invariants alone are read off `step_cons` at an arbitrary request id. -/
theorem Inv3.step {db : DB} (h : Inv3 db) (e : Ev) : Inv3 (step db e).1 := (step_cons ((0, 0) : Rid) h e).1

theorem Inv3.run {db : DB} (h : Inv3 db) (evs : List Ev) : Inv3 (run db evs) := by
  unfold Slock.Ack.run
  exact foldl_inv Inv3 (fun d e => (Slock.Ack.step d e).1) (fun d e hd => hd.step e) evs db h

theorem runOut_cons (x : Rid) : ∀ (evs : List Ev) {db : DB}, Inv3 db →
    Inv3 (runOut db evs).1 ∧ answered x (runOut db evs).2.flatten + openN x (runOut db evs).1 = openN x db + issued x evs := by
  intro evs
  induction evs with
  | nil => intro db h; exact ⟨h, by simp [runOut, issued]⟩
  | cons e es ih =>
    intro db h
    have h1 := step_cons x h e
    have h2 := ih (h.step e)
    unfold runOut
    simp only [List.flatten_cons, issued]
    refine ⟨h2.1, ?_⟩
    rw [answered_append]
    have := h1.2; have := h2.2
    omega

theorem Inv3.init (cfg : Cfg) (now : Nat) (hc : reqAcks cfg < NOACK) : Inv3 (DB.init cfg now) :=
  ⟨InvA.init cfg now, InvK.init cfg now hc, ⟨by intro r hr; simp [DB.init] at hr, hc⟩⟩

end Slock.Ack
