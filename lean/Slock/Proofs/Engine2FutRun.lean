import Slock.Proofs.Engine2Fut
import Slock.Proofs.Engine2TightRun
import Slock.Proofs.Engine
/-! Stage-2 engine: every wheel entry of every reachable state is scheduled for a second the sweeper has not passed yet
(`FutDB`, `run_fut`: `tCheck ≤ visit` resp. `eCheck ≤ visit`, where `tCheck = eCheck = now + 1` between operations).

A sweep works off a list of entries fixed when it starts: `Inv sel c db pend` says every entry is scheduled after second `c` or is
still on the sweeper's list `pend`; `Sw` carries both wheels through a tick. A critical section outside a sweep keeps `FutDB` as it is. -/
namespace Slock.Engine2

/-- every `sel`-entry is scheduled after second `c`, or for `c` itself and still on the sweeper's list -/
def Inv (sel : Rec → Option Sched) (c : Nat) (db : DB) (pend : List Ent) : Prop :=
  ∀ k ∈ db.keys, ∀ r ∈ k.recs, ∀ s, sel r = some s → c < s.visit ∨ (s.visit = c ∧ (⟨k.key, r.rid, s.seq⟩ : Ent) ∈ pend)

theorem Inv.mono {sel : Rec → Option Sched} {c : Nat} {db : DB} {p p' : List Ent} (h : Inv sel c db p) (hp : ∀ x ∈ p, x ∈ p') : Inv sel c db p' := by
  intro k hk r hr s hs
  rcases h k hk r hr s hs with h1 | ⟨h1, h2⟩
  · exact Or.inl h1
  · exact Or.inr ⟨h1, hp _ h2⟩

theorem Inv.of_keys {sel : Rec → Option Sched} {c : Nat} {db db' : DB} {p : List Ent} (h : Inv sel c db p) (e : db'.keys = db.keys) : Inv sel c db' p := by
  intro k hk; rw [e] at hk; exact h k hk

theorem inv_commit (sel : Rec → Option Sched) (c : Nat) (db : DB) (e : Ent) (w' : W) (f : Fr (db.openKey e.key) w') (hs : DBside w')
    (nd : w'.gone = false → (w'.k.recs.map (·.rid)).Nodup)
    (ks : ∀ y, w'.k.hasRec y → Step c (πs sel (w'.k.getR y)) (πs sel ((db.getKey e.key).getR y)))
    (hdead : ∀ rid, sel (deadRec rid) = none)
    (pend pend' : List Ent)
    (hp : ∀ x ∈ pend, x = e ∨ x ∈ pend')
    (own : e ∈ pend → w'.gone = false → w'.k.hasRec e.rid → Ahead c (πs sel (w'.k.getR e.rid)) ∨ e ∈ pend')
    (hi : Inv sel c db pend) : Inv sel c w'.commit pend' := by
  intro k' hk' r' hr' s hs'
  rcases mem_commit_open f hs hk' with ⟨hkk, hg, ek⟩ | ⟨hkk, hm⟩
  · rw [ek] at hr'
    have hy : w'.k.hasRec r'.rid := ⟨r', hr', rfl⟩
    have eg : w'.k.getR r'.rid = r' := mem_eq_getR (nd hg) hr'
    have hst := ks r'.rid hy
    rw [eg] at hst
    have hπ : πs sel r' = some (s.visit, s.seq) := by unfold πs; rw [hs']; rfl
    rw [hπ] at hst
    rcases hst with h1 | h1 | ⟨v, q, h1, h2⟩
    · simp at h1
    ·
      have hg0 : (db.openKey e.key).gone = false := gone_of_fr f hg
      have hhas : db.hasKey e.key = true := by simpa [DB.openKey] using hg0
      by_cases hold : (db.getKey e.key).hasRec r'.rid
      · cases hso : sel ((db.getKey e.key).getR r'.rid) with
        | none => unfold πs at h1; rw [hso] at h1; simp at h1
        | some s0 =>
          unfold πs at h1; rw [hso] at h1
          simp only [Option.map_some, Option.some.injEq, Prod.mk.injEq] at h1
          have hinv := hi _ (getKey_mem db e.key hhas) _ (getR_mem hold) s0 hso
          rw [getKey_key, getR_rid, ← h1.1, ← h1.2] at hinv
          rcases hinv with h3 | ⟨h3, h4⟩
          · exact Or.inl h3
          · rcases hp _ h4 with h5 | h5
            · -- it is the entry the step was called for
              have he : e ∈ pend := h5 ▸ h4
              have hrid : e.rid = r'.rid := by rw [← h5]
              rcases own he hg (hrid ▸ hy) with h6 | h6
              · rw [hrid, eg, hπ] at h6
                rcases h6 with h6 | ⟨v, q, h6, h7⟩
                · simp at h6
                · simp only [Option.some.injEq, Prod.mk.injEq] at h6
                  left; rw [h6.1]; exact h7
              · right; rw [hkk]; exact ⟨h3, h5 ▸ h6⟩
            · right; rw [hkk]; exact ⟨h3, h5⟩
      · rw [getR_of_not_hasRec _ _ hold] at h1
        unfold πs at h1; rw [hdead] at h1; simp at h1
    · simp only [Option.some.injEq, Prod.mk.injEq] at h1
      left; rw [h1.1]; exact h2
  · rcases hi k' hm r' hr' s hs' with h1 | ⟨h1, h2⟩
    · exact Or.inl h1
    · rcases hp _ h2 with h3 | h3
      · exfalso; apply hkk; rw [← h3]
      · exact Or.inr ⟨h1, h3⟩

/-- While the sweeps of a tick run on `db`: the record invariant; the clocks are those of `db0`, the check seconds ahead of the swept
seconds `ct` / `ce`; every timeout entry is scheduled after `ct` or is on the sweeper's list `pT`, every expiry entry likewise with
`ce` and `pE`. Between operations it is `FutDB` (both lists empty). -/
structure Sw (ct ce : Nat) (db0 db : DB) (pT pE : List Ent) : Prop where
  dbi : DBI db
  tclk : db.tCheck = db0.tCheck
  eclk : db.eCheck = db0.eCheck
  now : db.now = db0.now
  tc : ct < db0.tCheck
  ec : ce < db0.eCheck
  t : Inv (·.tSched) ct db pT
  e : Inv (·.eSched) ce db pE

namespace Sw
variable {ct ce : Nat} {db0 db : DB} {pT pE pT' pE' : List Ent}

theorem ok0 (h : Sw ct ce db0 db pT pE) (key : Nat) : Ok ct ce (db.openKey key) (db.openKey key) :=
  Ok.refl (h.tclk ▸ h.tc) (h.eclk ▸ h.ec)

/-- a chain of `Ok` steps on the key record of entry `e`, stored back: both lists move along -/
theorem commit (h : Sw ct ce db0 db pT pE) (e : Ent) (w' : W) (f : Fr (db.openKey e.key) w') (lv : LvG w' zero)
    (ok : Ok ct ce (db.openKey e.key) w')
    (hpT : ∀ x ∈ pT, x = e ∨ x ∈ pT')
    (ownT : e ∈ pT → w'.gone = false → w'.k.hasRec e.rid → Ahead ct (πT (w'.k.getR e.rid)) ∨ e ∈ pT')
    (hpE : ∀ x ∈ pE, x = e ∨ x ∈ pE')
    (ownE : e ∈ pE → w'.gone = false → w'.k.hasRec e.rid → Ahead ce (πE (w'.k.getR e.rid)) ∨ e ∈ pE') :
    Sw ct ce db0 w'.commit pT' pE' := by
  have hs := (h.dbi.openKey e.key).of_fr f
  have nd : w'.gone = false → (w'.k.recs.map (·.rid)).Nodup := fun hg => (lv hg).rc.nodup
  obtain ⟨_, _, c3, _, c5, c6⟩ := commit_fields w'
  exact ⟨h.dbi.stepW e.key w' f lv, (c5.trans ok.teq).trans h.tclk, (c6.trans ok.eeq).trans h.eclk, (c3.trans f.now).trans h.now, h.tc, h.ec,
    inv_commit (·.tSched) ct db e w' f hs nd (fun y hy => (ok.ks y hy).t) (fun _ => rfl) pT pT' hpT ownT h.t,
    inv_commit (·.eSched) ce db e w' f hs nd (fun y hy => (ok.ks y hy).e) (fun _ => rfl) pE pE' hpE ownE h.e⟩

theorem keep (h : Sw ct ce db0 db pT pE) (key : Nat) (w' : W) (f : Fr (db.openKey key) w') (lv : LvG w' zero)
    (ok : Ok ct ce (db.openKey key) w') : Sw ct ce db0 w'.commit pT pE :=
  h.commit ⟨key, 0, 0⟩ w' f lv ok (fun _ hx => Or.inr hx) (fun he _ _ => Or.inr he) (fun _ hx => Or.inr hx) (fun he _ _ => Or.inr he)

/-- … the step has dealt with the timeout entry `e` -/
theorem popT {e : Ent} (h : Sw ct ce db0 db (e :: pT) pE) (w' : W) (f : Fr (db.openKey e.key) w') (lv : LvG w' zero)
    (ok : Ok ct ce (db.openKey e.key) w' ∧ (w'.k.hasRec e.rid → Ahead ct (πT (w'.k.getR e.rid)))) : Sw ct ce db0 w'.commit pT pE :=
  h.commit e w' f lv ok.1 (fun _ hx => List.mem_cons.mp hx) (fun _ _ hh => Or.inl (ok.2 hh)) (fun _ hx => Or.inr hx) (fun he _ _ => Or.inr he)

theorem popE {e : Ent} (h : Sw ct ce db0 db pT (e :: pE)) (w' : W) (f : Fr (db.openKey e.key) w') (lv : LvG w' zero)
    (ok : Ok ct ce (db.openKey e.key) w' ∧ (w'.k.hasRec e.rid → Ahead ce (πE (w'.k.getR e.rid)))) : Sw ct ce db0 w'.commit pT pE :=
  h.commit e w' f lv ok.1 (fun _ hx => Or.inr hx) (fun he _ _ => Or.inr he) (fun _ hx => List.mem_cons.mp hx) (fun _ _ hh => Or.inl (ok.2 hh))

end Sw

/-- the scheduling invariant of the states between operations -/
structure FutDB (db : DB) : Prop where
  dbi : DBI db
  tclk : db.tCheck = db.now + 1
  eclk : db.eCheck = db.now + 1
  t : Inv (·.tSched) db.now db []
  e : Inv (·.eSched) db.now db []

theorem FutDB.init (now aofTime : Nat) : FutDB (DB.init now aofTime) :=
  ⟨DBI.init now aofTime, rfl, rfl, by intro k hk; simp [DB.init] at hk, by intro k hk; simp [DB.init] at hk⟩

theorem FutDB.sw {db : DB} (h : FutDB db) : Sw db.now db.now db db [] [] :=
  ⟨h.dbi, rfl, rfl, rfl, by rw [h.tclk]; omega, by rw [h.eclk]; omega, h.t, h.e⟩

theorem Sw.fut {c : Nat} {db0 db : DB} (s : Sw c c db0 db [] []) (ht : db0.tCheck = c + 1) (he : db0.eCheck = c + 1) (hn : db0.now = c) : FutDB db := by
  have e : db.now = c := s.now.trans hn
  exact ⟨s.dbi, by rw [s.tclk, ht, e], by rw [s.eclk, he, e], by rw [e]; exact s.t, by rw [e]; exact s.e⟩

theorem inv_create {sel : Rec → Option Sched} {c : Nat} {db : DB} {p : List Ent} (h : Inv sel c db p) (n : Nat) : Inv sel c (db.create n) p :=
  all_create h n fun _ hr => nomatch hr

theorem FutDB.create {db : DB} (h : FutDB db) (n : Nat) : FutDB (db.create n) := by
  obtain ⟨_, _, c0, _, _, _, c1, c2, _⟩ := create_fields db n
  exact ⟨h.dbi.create n, by rw [c1, c0]; exact h.tclk, by rw [c2, c0]; exact h.eclk, by rw [c0]; exact inv_create h.t n, by rw [c0]; exact inv_create h.e n⟩

/-- a critical section outside a sweep (both lists empty) keeps the scheduling invariant: its chain is an `Ok` chain -/
theorem FutDB.sect {data : Option Bytes} {db : DB} {key : Nat} {w' : W} (h : FutDB db) (s : Sect data db key w') : FutDB w'.commit := by
  obtain ⟨_, _, _, hn⟩ := s.node
  obtain ⟨db0, h0, c⟩ := s.chain
  have h1 : FutDB db0 := by
    rcases h0 with rfl | rfl
    · exact h
    · exact h.create key
  have ok := (Ok.refl (ct := db0.now) (ce := db0.now) (w := db0.openKey key) (by show _ < db0.tCheck; rw [h1.tclk]; omega)
    (by show _ < db0.eCheck; rw [h1.eclk]; omega)).chain c
  exact (h1.sw.keep key w' c.fr (fun hg => ((hn False h.dbi nofun).1.1 hg).lv) ok).fut h1.tclk h1.eclk rfl

section
variable {ct ce : Nat} {db0 : DB}

theorem mem_pass {e : Ent} {X C : List Ent} : ∀ x ∈ e :: X ++ C, x ∈ X ++ (C ++ [e]) := by
  intro x hx
  simp at hx ⊢
  rcases hx with h | h | h <;> simp [h]

theorem Sweep.lvg {db : DB} {key : Nat} {w' : W} (h : DBI db) (s : Sweep db key w') : LvG w' zero :=
  have ⟨_, _, _, hn⟩ := (Sect.sweep (data := none) s).node
  fun hg => ((hn False h nofun).1.1 hg).lv

theorem timeoutStep_fut {pE : List Ent} (slot : Bool) (a : DB × List Ent) (e : Ent) (X : List Ent) (h : Sw ct ce db0 a.1 (e :: X ++ a.2) pE) :
    Sw ct ce db0 (timeoutStep slot a e).1 (X ++ (timeoutStep slot a e).2) pE := by
  unfold timeoutStep
  cases hv : (a.1.openKey e.key).visitTimeout slot e.rid with
  | some w' =>
    exact h.popT w' (W.visitTimeout_fr _ _ _ _ hv) (Sweep.lvg h.dbi (.visitT _ slot e w' hv)) (visitTimeout_ok (h.ok0 e.key) slot e.rid w' hv)
  | none =>
    have h' : Sw ct ce db0 a.1 (X ++ (a.2 ++ [e])) pE := { h with t := h.t.mono mem_pass }
    cases slot
    · exact h'.keep e.key _ (W.collectT_fr _ _) (Sweep.lvg h.dbi (.collectT _ e hv)) ((h.ok0 e.key).chain ((Chain.nil none _).collectT e.rid))
    · exact h'

theorem expireStep_fut {pT : List Ent} (slot : Bool) (a : DB × List Ent) (e : Ent) (X : List Ent) (h : Sw ct ce db0 a.1 pT (e :: X ++ a.2)) :
    Sw ct ce db0 (expireStep slot a e).1 pT (X ++ (expireStep slot a e).2) := by
  unfold expireStep
  cases hv : (a.1.openKey e.key).visitExpire slot e.rid with
  | some w' =>
    exact h.popE w' (W.visitExpire_fr _ _ _ _ hv) (Sweep.lvg h.dbi (.visitE _ slot e w' hv))
      (visitExpire_ok (h.ok0 e.key) slot e.rid w' hv)
  | none => exact { h with e := h.e.mono mem_pass }

theorem fireTimeoutStep_fut {pE : List Ent} (a : DB × List Reply) (e : Ent) (X : List Ent) (h : Sw ct ce db0 a.1 (e :: X) pE) :
    Sw ct ce db0 (fireTimeoutStep a e).1 X pE :=
  h.popT _ (W.fireTimeout_fr _ _) (Sweep.lvg h.dbi (.fireT _ e)) (fireTimeout_ok (h.ok0 e.key) e.rid)

theorem fireExpireStep_fut {pT : List Ent} (a : DB × List Reply) (e : Ent) (X : List Ent) (h : Sw ct ce db0 a.1 pT (e :: X)) :
    Sw ct ce db0 (fireExpireStep a e).1 pT X :=
  h.popE _ (W.fireExpire_fr _ _) (Sweep.lvg h.dbi (.fireE _ e)) (fireExpire_ok (h.ok0 e.key) e.rid)

theorem sweepTimeout_fut {pE : List Ent} (db : DB) (c : Nat)
    (h : Sw c ce db db (tEntries db (fun s => s.visit == c && !s.long) ++ tEntries db (fun s => s.visit == c && s.long)) pE) :
    Sw c ce db (sweepTimeout db c).1 [] pE :=
  sweep_pending (J := fun d X => Sw c ce db d X pE) timeoutStep_fut fireTimeoutStep_fut _ _ db h

theorem sweepExpire_fut {pT : List Ent} (db : DB) (c : Nat)
    (h : Sw ct c db db pT (eEntries db (fun s => s.visit == c && !s.long) ++ eEntries db (fun s => s.visit == c && s.long))) :
    Sw ct c db (sweepExpire db c).1 pT [] :=
  sweep_pending (J := fun d X => Sw ct c db d pT X) expireStep_fut fireExpireStep_fut _ _ db h

end

theorem mem_tEntries (db : DB) (p : Sched → Bool) (k : Key) (hk : k ∈ db.keys) (r : Rec) (hr : r ∈ k.recs) (s : Sched) (hs : r.tSched = some s)
    (hp : p s = true) : (⟨k.key, r.rid, s.seq⟩ : Ent) ∈ tEntries db p := by
  unfold tEntries
  rw [Slock.Engine.mem_sortBySeq_iff]
  exact List.mem_flatMap.mpr ⟨k, hk, List.mem_filterMap.mpr ⟨r, hr, by simp [hs, hp]⟩⟩

theorem mem_eEntries (db : DB) (p : Sched → Bool) (k : Key) (hk : k ∈ db.keys) (r : Rec) (hr : r ∈ k.recs) (s : Sched) (hs : r.eSched = some s)
    (hp : p s = true) : (⟨k.key, r.rid, s.seq⟩ : Ent) ∈ eEntries db p := by
  unfold eEntries
  rw [Slock.Engine.mem_sortBySeq_iff]
  exact List.mem_flatMap.mpr ⟨k, hk, List.mem_filterMap.mpr ⟨r, hr, by simp [hs, hp]⟩⟩

/-- when the sweep of second `c + 1` starts: the entries scheduled for it are those on the sweeper's two lists -/
theorem inv_next {sel : Rec → Option Sched} {ents : DB → (Sched → Bool) → List Ent}
    (hmem : ∀ db p k, k ∈ db.keys → ∀ r ∈ k.recs, ∀ s, sel r = some s → p s = true → (⟨k.key, r.rid, s.seq⟩ : Ent) ∈ ents db p)
    {c : Nat} {db : DB} (h : Inv sel c db []) :
    Inv sel (c + 1) db (ents db (fun s => s.visit == c + 1 && !s.long) ++ ents db (fun s => s.visit == c + 1 && s.long)) := by
  intro k hk r hr s hs
  have hc : c < s.visit := (h k hk r hr s hs).elim id (fun h2 => nomatch h2.2)
  by_cases hv : s.visit = c + 1
  · refine Or.inr ⟨hv, ?_⟩
    cases hl : s.long with
    | false => exact List.mem_append_left _ (hmem db _ k hk r hr s hs (by simp [hv, hl]))
    | true => exact List.mem_append_right _ (hmem db _ k hk r hr s hs (by simp [hv, hl]))
  · exact Or.inl (by omega)

theorem opTick_fut (db : DB) (h : FutDB db) : FutDB (opTick db).1 := by
  unfold opTick
  simp only []
  -- the timeout sweep of second now+1: the timeout check second has moved to now+2
  have t1 := sweepTimeout_fut (ce := db.now) { db with now := db.now + 1, tCheck := db.now + 1 + 1 } (db.now + 1)
    ⟨h.dbi.of_keys rfl rfl rfl, rfl, rfl, rfl, Nat.lt_succ_self _, by show db.now < db.eCheck; rw [h.eclk]; omega,
      (inv_next mem_tEntries h.t).of_keys rfl, h.e.of_keys rfl⟩
  generalize sweepTimeout { db with now := db.now + 1, tCheck := db.now + 1 + 1 } (db.now + 1) = r1 at t1 ⊢
  -- the expiry sweep: the expiry check second moves to now+2
  have t2 := sweepExpire_fut (ct := db.now + 1) { r1.1 with eCheck := db.now + 1 + 1 } (db.now + 1)
    ⟨t1.dbi.of_keys rfl rfl rfl, rfl, rfl, rfl, by show db.now + 1 < r1.1.tCheck; rw [t1.tclk]; exact Nat.lt_succ_self _, Nat.lt_succ_self _,
      t1.t.of_keys rfl, (inv_next mem_eEntries t1.e).of_keys rfl⟩
  exact t2.fut t1.tclk rfl t1.now

theorem step_fut (db : DB) (o : Op) (h : FutDB db) : FutDB (step db o).1 := by
  cases o with
  | lock c d => exact h.sect (.lock db c)
  | unlock c d => exact h.sect (.unlock db c)
  | tick => exact opTick_fut db h
  | setLeader b => exact ⟨h.dbi.of_keys rfl rfl rfl, h.tclk, h.eclk, h.t.of_keys rfl, h.e.of_keys rfl⟩

/-- **every reachable state: every wheel entry is scheduled for a second the sweeper has not passed yet** -/
theorem run_fut (db : DB) (ops : List Op) (h : FutDB db) : FutDB (run db ops) :=
  run_inv ops (fun db o _ h => step_fut db o h) db h

end Slock.Engine2
