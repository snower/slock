import Slock.Proofs.TransStep
/-! M-TRANS: at most one lock / unlock result per request — the per-connection invariant `CInv` behind it, carried along every run that
meets the assumptions about client and leader (`Ok`); and that the loss of its link releases a blocked text handler. -/
namespace Slock.Trans
open Slock.Gen

variable {s : Node} {c : Nat} {x : Conn} {l : Link} {m : ToClient} {short : Bool} {q : Req} {ic : Option (Nat × Nat)} {n : Bool}
  {pre : List Fwd} {msg : LeaderMsg} {early : Bool} {e : Event}

/-- per-connection invariant (ghost bookkeeping against the link's real fields) -/
structure CInv (x : Conn) : Prop where
  gotNodup : x.got.Nodup
  gotAsked : ∀ r ∈ x.got, r ∈ x.asked
  pendAsked : ∀ l, x.link = some l → ∀ r ∈ l.pend, r ∈ x.asked
  pendFresh : ∀ l, x.link = some l → ∀ r ∈ l.pend, r ∉ x.got
  pendNodup : ∀ l, x.link = some l → l.pend.Nodup
  /-- the latest in-flight LOCK / UNLOCK has not been answered -/
  latestPend : ∀ l ct, x.link = some l → l.latestT = some ct → ct = .lock ∨ ct = .unlock → l.latestR ∈ l.pend
  /-- a blocked (text) handler waits for the latest command written to its link, and that one is pending -/
  awaitPend : ∀ a md, x.awaiting = some (a, md) → x.kind = .text ∧
    ∃ l ct, x.link = some l ∧ l.latestT = some ct ∧ (ct = .lock ∨ ct = .unlock) ∧ l.latestR = a ∧ a ∈ l.pend

/-- the assumptions about the environment under which "at most one result" holds: the client does not reuse a
RequestId on a connection; the leader answers a LOCK / UNLOCK only on the link instance it arrived on and only once;
(whether an answer overtakes `Write`'s bookkeeping — `early` — does not matter). -/
def Ok (s : Node) : Event → Prop
  | .request c _ q => ∀ x, s.conns[c]? = some x →
      (∀ rid, reqRid q = some rid → rid ∉ x.asked) ∧ (∀ ct md cmd rep, q = .lk ct md cmd rep → ct = .lock ∨ ct = .unlock)
  | .leaderMsg c (.lockRes r) _ => ∀ x l, s.conns[c]? = some x → x.link = some l → r.rid ∈ l.pend
  | _ => True

def OkRun : Node → List Event → Prop
  | _, [] => True
  | s, e :: es => Ok s e ∧ OkRun (step s e).1 es

def NInv (s : Node) : Prop := ∀ x ∈ s.conns, CInv x

theorem CInv.mono {y : Conn} (h : CInv x) (e1 : y.got = x.got) (e2 : ∀ r ∈ x.asked, r ∈ y.asked) (e3 : y.link = x.link)
    (e4 : y.awaiting = x.awaiting) (e5 : y.kind = x.kind) : CInv y := by
  refine ⟨e1 ▸ h.gotNodup, fun r hr => e2 r (h.gotAsked r (e1 ▸ hr)), fun l hl r hr => e2 r (h.pendAsked l (e3 ▸ hl) r hr), ?_, ?_, ?_, ?_⟩
  all_goals rw [e3]
  · rw [e1]; exact h.pendFresh
  · exact h.pendNodup
  · exact h.latestPend
  · rw [e4, e5]; exact h.awaitPend

theorem nodup_snoc {l : List Nat} {a : Nat} (h : l.Nodup) (ha : a ∉ l) : (l ++ [a]).Nodup :=
  List.nodup_append.mpr ⟨h, List.nodup_cons.mpr ⟨nofun, .nil⟩, fun b hb c hc => by
    cases List.mem_singleton.mp hc; intro e; exact ha (e ▸ hb)⟩

theorem cinv_dispatched (rid : Option Nat) (hx : CInv x) : CInv (dispatched s x rid).1 :=
  hx.mono rfl (fun r hr => by cases rid <;> simp [dispatched, hr]) rfl rfl rfl

theorem cinv_addGot (hx : CInv x) (hfresh : ∀ rid, lockShaped m = some rid → rid ∉ x.got ∧ rid ∈ x.asked)
    (hp : ∀ rid l, lockShaped m = some rid → x.link = some l → rid ∉ l.pend) : CInv (addGot x m) := by
  unfold addGot
  split
  · rename_i rid hrid
    obtain ⟨hng, hask⟩ := hfresh rid hrid
    refine ⟨?_, ?_, hx.pendAsked, ?_, hx.pendNodup, hx.latestPend, hx.awaitPend⟩
    · exact nodup_snoc hx.gotNodup hng
    · intro r hr
      rcases List.mem_append.mp hr with hr | hr
      · exact hx.gotAsked r hr
      · cases List.mem_singleton.mp hr; exact hask
    · intro l hl r hr hg
      rcases List.mem_append.mp hg with hg | hg
      · exact hx.pendFresh l hl r hr hg
      · cases List.mem_singleton.mp hg; exact hp _ l hrid hl hr
  · exact hx

theorem cinv_relink {l' : Link} {aw : Option (Nat × TextMode)} (hx : CInv x)
    (h1 : ∀ r ∈ l'.pend, r ∈ x.asked ∧ r ∉ x.got) (h2 : l'.pend.Nodup)
    (h3 : ∀ ct, l'.latestT = some ct → ct = .lock ∨ ct = .unlock → l'.latestR ∈ l'.pend)
    (h4 : ∀ a md, aw = some (a, md) → x.kind = .text ∧ ∃ ct, l'.latestT = some ct ∧ (ct = .lock ∨ ct = .unlock) ∧ l'.latestR = a ∧ a ∈ l'.pend) :
    CInv { x with link := some l', awaiting := aw } := by
  refine ⟨hx.gotNodup, hx.gotAsked, ?_, ?_, ?_, ?_, ?_⟩
  · intro l hl r hr; cases hl; exact (h1 r hr).1
  · intro l hl r hr; cases hl; exact (h1 r hr).2
  · intro l hl; cases hl; exact h2
  · intro l ct hl; cases hl; exact h3 ct
  · intro a md ha
    obtain ⟨hk, ct, h5, h6, h7, h8⟩ := h4 a md ha
    exact ⟨hk, l', ct, rfl, h5, h6, h7, h8⟩

theorem cinv_unlink {y : Conn} (hx : CInv x) (e1 : y.got = x.got) (e2 : y.asked = x.asked) (hl : y.link = none)
    (ha : y.awaiting = none) : CInv y := by
  refine ⟨e1 ▸ hx.gotNodup, fun r hr => e2 ▸ hx.gotAsked r (e1 ▸ hr), ?_, ?_, ?_, ?_, ?_⟩
  all_goals intros
  all_goals simp_all

theorem checkClient_inv (hx : CInv x) (h : checkClient s x ic = some (l, n, pre)) :
    (∀ r ∈ l.pend, r ∈ x.asked ∧ r ∉ x.got) ∧ l.pend.Nodup ∧
    (∀ ct, l.latestT = some ct → ct = .lock ∨ ct = .unlock → l.latestR ∈ l.pend) := by
  rcases checkClient_some h with ⟨_, hl, _⟩ | ⟨_, _, rfl, _⟩
  · exact ⟨fun r hr => ⟨hx.pendAsked l hl r hr, hx.pendFresh l hl r hr⟩, hx.pendNodup l hl, fun ct => hx.latestPend l ct hl⟩
  · cases ic with
    | none => exact ⟨nofun, .nil, nofun⟩
    | some p => exact ⟨nofun, .nil, fun ct hct hlu => by cases hct; cases hlu <;> contradiction⟩

theorem lockShaped_localRes {ct : CType} {cmd : LockCmd} {res lc lrc : Nat} {d : List Nat} {rid : Nat}
    (h : lockShaped (.lockRes (localRes ct cmd res lc lrc d)) = some rid) : rid = cmd.rid := by
  cases ct <;> simp [lockShaped, localRes] at h
  all_goals exact h.symm

theorem cinv_answer_now {rid : Nat} (hx : CInv x) (hfresh : rid ∉ x.asked)
    (hm : ∀ r, lockShaped m = some r → r = rid) : CInv (addGot (dispatched s x (some rid)).1 m) := by
  apply cinv_addGot (cinv_dispatched (some rid) hx)
  · intro r hr
    cases hm r hr
    exact ⟨fun hg => hfresh (hx.gotAsked _ hg), by simp⟩
  · intro r l hr hl hp
    cases hm r hr
    exact hfresh (hx.pendAsked l hl _ hp)

theorem cinv_forward {rid : Nat} {ct : CType}
    {aw : Option (Nat × TextMode)} (hx : CInv x) (hcc : checkClient s x ic = some (l, n, pre)) (hfresh : rid ∉ x.asked)
    (haw : aw = none ∨ (x.kind = .text ∧ (ct = .lock ∨ ct = .unlock) ∧ ∃ md, aw = some (rid, md))) :
    CInv { (dispatched s x (some rid)).1 with link := some (setLatest l ct rid), awaiting := aw } := by
  obtain ⟨c1, c2, c3⟩ := checkClient_inv hx hcc
  have hnp : rid ∉ l.pend := fun h => hfresh (c1 rid h).1
  apply cinv_relink (cinv_dispatched (s := s) (some rid) hx)
  · intro r hr
    simp only [setLatest] at hr
    split at hr
    · rcases List.mem_append.mp hr with hr | hr
      · exact ⟨by simp [(c1 r hr).1], (c1 r hr).2⟩
      · cases List.mem_singleton.mp hr
        exact ⟨by simp, fun hg => hfresh (hx.gotAsked _ hg)⟩
    · exact ⟨by simp [(c1 r hr).1], (c1 r hr).2⟩
  · simp only [setLatest]
    split
    · exact nodup_snoc c2 hnp
    · exact c2
  · intro ct' hct hlu
    cases hct
    simp [setLatest, hlu]
  · intro a md ha
    rcases haw with h | ⟨hk, hlu, md', h⟩ <;> rw [h] at ha <;> cases ha
    exact ⟨hk, ct, rfl, hlu, rfl, by simp [setLatest, hlu]⟩

theorem cinv_request (hx : CInv x)
    (hfresh : ∀ rid, reqRid q = some rid → rid ∉ x.asked)
    (hty : ∀ ct md cmd rep, q = .lk ct md cmd rep → ct = .lock ∨ ct = .unlock) :
    CInv (applyConn s c x (reqRid q) (classify s x short q)).1 := by
  revert hfresh hty
  -- the leaves of `classify` in the order of its body: the four gates (1–4), `other` (5), LOCK / UNLOCK binary (6 unknown db,
  -- 7 probed, 8 no link, 9 forwarded) and text (10 unknown db, 11 no link, 12 PUSH, 13 forwarded and awaited), INIT (14 text,
  -- 15 no link, 16 forwarded), a will (17), CALL (18, 19 local, 20 no link, 21 forwarded)
  fun_cases classify s x short q <;> intro hfresh hty <;> simp only [applyConn, reqRid]
  case case1 | case2 | case17 => exact hx
  case case3 | case4 | case5 | case14 | case18 | case19 => exact cinv_dispatched _ hx
  case case6 | case7 | case8 => exact cinv_answer_now hx (hfresh _ rfl) (fun r hr => lockShaped_localRes hr)
  case case10 | case11 | case20 => exact cinv_answer_now hx (hfresh _ rfl) (fun _ hr => nomatch hr)
  case case9 hcc | case12 hcc => exact cinv_forward hx hcc (hfresh _ rfl) (.inl rfl)
  case case13 md _ _ hkt _ _ _ _ hcc _ => exact cinv_forward hx hcc (hfresh _ rfl) (.inr ⟨hkt, hty _ _ _ _ rfl, md, rfl⟩)
  case case15 => exact (cinv_dispatched (s := s) (some _) hx).mono rfl (fun _ h => h) rfl rfl rfl
  case case16 _ ha _ _ rid cid _ l n pre hcc =>
    -- a new link is in the state `Open` left it, which is the state the `Write` of this INIT would leave it in
    have hl : (if n = true then l else setLatest l .init rid) = setLatest l .init rid := by
      split
      · rename_i hn
        rcases checkClient_some hcc with ⟨hn', _⟩ | ⟨_, _, rfl, _⟩
        · rw [hn'] at hn; cases hn
        · rfl
      · rfl
    simp only [hl]
    exact (cinv_forward (ct := .init) hx hcc (hfresh _ rfl) (.inl rfl)).mono rfl (fun _ h => h) rfl
      (Option.not_isSome_iff_eq_none.mp ha) rfl
  case case21 _ ha _ _ rid fw _ _ l n pre hcc =>
    exact (cinv_forward (ct := .call) hx hcc (hfresh _ rfl) (.inl rfl)).mono rfl (fun _ h => h) rfl
      (Option.not_isSome_iff_eq_none.mp ha) rfl

theorem cinv_willConn {ct : CType} {cmd : LockCmd} (hx : CInv x) :
    CInv (willConn s c x ct cmd).1 := by
  rcases willConn_conn s c x ct cmd with h | h <;> rw [h]
  · exact hx
  · exact (cinv_dispatched (s := s) (some cmd.rid) hx).mono rfl (fun _ h => h) rfl rfl rfl

theorem clearLatest_latest {r : Nat} {ct : CType} (h : (clearLatest l r).latestT = some ct) :
    l.latestT = some ct ∧ (clearLatest l r).latestR = l.latestR ∧ l.latestR ≠ r := by
  unfold clearLatest at h ⊢
  split at h
  · cases h
  · rename_i hne; rw [if_neg hne]; exact ⟨h, rfl, hne⟩

theorem clearLatestE_pend (e : Bool) (l : Link) (r : Nat) : (clearLatestE e l r).pend = l.pend := by
  unfold clearLatestE clearLatest; split <;> rfl

theorem answeredLk_link {ρ : Nat} (e : Bool) (hx : CInv x) (hl : x.link = some l) :
    (∀ r ∈ (answeredLk e l ρ).pend, r ∈ x.asked ∧ r ∉ x.got) ∧ (answeredLk e l ρ).pend.Nodup ∧
    (∀ ct, (answeredLk e l ρ).latestT = some ct → ct = .lock ∨ ct = .unlock →
        (answeredLk e l ρ).latestR ∈ (answeredLk e l ρ).pend) ∧
    ρ ∉ (answeredLk e l ρ).pend := by
  have hnd := hx.pendNodup l hl
  refine ⟨fun r hr => ?_, hnd.erase _, fun ct hct hlu => ?_, fun hm => ((List.Nodup.mem_erase_iff hnd).mp hm).1 rfl⟩
  · have : r ∈ l.pend := List.mem_of_mem_erase hr
    exact ⟨hx.pendAsked l hl r this, hx.pendFresh l hl r this⟩
  · obtain ⟨h1, h2, h3⟩ := clearLatest_latest hct
    exact h2 ▸ (List.mem_erase_of_ne h3).mpr (hx.latestPend l ct hl h1 hlu)

theorem cinv_deliver {ρ : Nat} {aw : Option (Nat × TextMode)} (e : Bool) (hx : CInv x)
    (hl : x.link = some l) (haw : aw = none) (hm : ∀ rid, lockShaped m = some rid → rid = ρ ∧ ρ ∈ l.pend) :
    CInv (addGot { x with link := some (answeredLk e l ρ), awaiting := aw } m) := by
  obtain ⟨a1, a2, a3, a4⟩ := answeredLk_link (ρ := ρ) e hx hl
  subst haw
  apply cinv_addGot (cinv_relink (aw := none) hx a1 a2 a3 nofun)
  · intro rid h
    obtain ⟨rfl, hp⟩ := hm rid h
    exact ⟨hx.pendFresh l hl _ hp, hx.pendAsked l hl _ hp⟩
  · intro rid l2 h hl2
    obtain ⟨rfl, _⟩ := hm rid h
    cases hl2; exact a4

/-- where a frame from the leader is handed to a binary client as a lock / unlock result, it must answer a command
pending on this link -/
theorem cinv_relay (hx : CInv x) (hl : x.link = some l)
    (hd : ∀ r, msg = .lockRes r → x.kind = .binary → (r.ct = .lock ∨ r.ct = .unlock) → r.rid ∈ l.pend) :
    CInv (relay s c x l msg early).1 := by
  have c1 : ∀ r ∈ l.pend, r ∈ x.asked ∧ r ∉ x.got := fun r hr => ⟨hx.pendAsked l hl r hr, hx.pendFresh l hl r hr⟩
  -- a link that differs from `l` by a cleared latest command (and in `initRes`) only
  have same : ∀ (rid : Nat) (l' : Link), l'.pend = (answered early l rid).pend → l'.latestT = (answered early l rid).latestT →
      l'.latestR = (answered early l rid).latestR → x.awaiting = none → CInv { x with link := some l' } := by
    intro rid l' hp ht hr ha
    have hp' : l'.pend = l.pend := hp.trans (clearLatestE_pend _ _ _)
    refine cinv_relink (aw := x.awaiting) hx (hp' ▸ c1) (hp' ▸ hx.pendNodup l hl) (fun ct h hlu => ?_) (fun a md h => ?_)
    · rw [ht] at h
      rw [hp', hr]
      exact (clearLatest_latest h).2.1 ▸ hx.latestPend l ct hl (clearLatest_latest h).1 hlu
    · rw [ha] at h; cases h
  cases hk : x.kind with
  | binary =>
    have ha : x.awaiting = none := by
      cases ha : x.awaiting with
      | none => rfl
      | some p => have := (hx.awaitPend p.1 p.2 ha).1; rw [hk] at this; cases this
    cases msg with
    | other => rw [relay_binary_eq hk]; exact hx
    | lockRes r =>
      rw [relay_binary_eq hk]
      refine cinv_deliver (aw := x.awaiting) early hx hl ha (fun rid h => ?_)
      simp only [lockShaped] at h
      split at h <;> cases h
      exact ⟨rfl, hd r rfl hk ‹_›⟩
    | callRes rid res ct => rw [relay_binary_eq hk]; exact same rid _ rfl rfl rfl ha
    | initRes rid res it =>
      obtain ⟨l', _, he, hp, ht, hr, _⟩ := relay_binary_init s c l early hk rid res it
      rw [he]
      exact same rid l' hp ht hr ha
  | text =>
    cases msg with
    | lockRes r =>
      obtain ⟨a1, a2, a3, _⟩ := answeredLk_link (ρ := r.rid) early hx hl
      rcases relay_text_lock s c l early hk r with ⟨md, haw, he⟩ | ⟨hne, he⟩ <;> rw [he]
      · obtain ⟨_, l0, ct, hl0, _, _, _, hap⟩ := hx.awaitPend _ md haw
        cases hl.symm.trans hl0
        unfold textDeliver
        by_cases hh : x.half = true
        · -- the client is gone: the write fails, the connection closes
          rw [if_pos hh]; exact cinv_unlink hx rfl rfl rfl rfl
        · rw [if_neg hh]
          refine cinv_deliver early hx hl rfl (fun rid h => ⟨?_, hap⟩)
          cases md <;> exact (Option.some.inj h).symm
      · refine cinv_relink (aw := x.awaiting) hx a1 a2 a3 (fun a md haw => ?_)
        obtain ⟨_, l0, ct, hl0, hct, hlu, hlat, hap⟩ := hx.awaitPend a md haw
        cases hl.symm.trans hl0
        have hne : l.latestR ≠ r.rid := fun e => hne md (haw.trans (by rw [← hlat, e]))
        have hcl : clearLatest l r.rid = l := if_neg hne
        refine ⟨hk, ct, ?_, hlu, ?_, (List.mem_erase_of_ne (hlat ▸ hne)).mpr hap⟩
        · show (clearLatest l r.rid).latestT = _; rw [hcl]; exact hct
        · show (clearLatest l r.rid).latestR = _; rw [hcl]; exact hlat
    | _ => rw [relay_text_eq hk]; exact hx

/-- the connection after `rollbackLatestCommand`, before the link is detached -/
def rolledBack (s : Node) (c : Nat) (x : Conn) (l : Link) : Conn :=
  (match rollbackMsg l with | some m => relay s c x l m | none => (x, [])).1

theorem dropLink_conn (s : Node) (c : Nat) (x : Conn) (l : Link) :
    (dropLink s c x l).1 = if (rolledBack s c x l).closed then rolledBack s c x l else { rolledBack s c x l with link := none } := rfl

/-- after the rollback nobody is blocked any more: a blocked handler waits for the latest command, which is rolled back -/
theorem rollback_unblocks (hx : CInv x) (hl : x.link = some l) :
    (rolledBack s c x l).awaiting = none ∨ (rolledBack s c x l).closed = true := by
  unfold rolledBack
  cases ha : x.awaiting with
  | none =>
    left
    split
    · rename_i m _
      cases hk : x.kind with
      | binary =>
        cases m with
        | lockRes r => rw [relay_binary_eq hk]; exact (addGot_awaiting ..).trans ha
        | initRes rid res it =>
          obtain ⟨_, _, he, _⟩ := relay_binary_init s c l false hk rid res it
          rw [he]; exact ha
        | _ => rw [relay_binary_eq hk]; exact ha
      | text =>
        cases m with
        | lockRes r =>
          rcases relay_text_lock s c l false hk r with ⟨md, h, _⟩ | ⟨_, he⟩
          · rw [ha] at h; cases h
          · rw [he]; exact ha
        | _ => rw [relay_text_eq hk]; exact ha
    · exact ha
  | some p =>
    obtain ⟨a, md⟩ := p
    obtain ⟨hk, l0, ct, hl0, hct, hlu, hlat, _⟩ := hx.awaitPend a md ha
    cases hl.symm.trans hl0
    have hm : rollbackMsg l = some (.lockRes (rollbackRes ct a)) := by
      unfold rollbackMsg
      rw [hct]
      rcases hlu with rfl | rfl <;> simp [hlat]
    rw [hm]
    rcases relay_text_lock s c l false hk (rollbackRes ct a) with ⟨md', _, he⟩ | ⟨hne, _⟩
    · show (relay s c x l _ false).1.awaiting = none ∨ (relay s c x l _ false).1.closed = true
      rw [he]
      unfold textDeliver
      cases x.half
      · exact .inl (addGot_awaiting ..)
      · exact .inr rfl
    · exact absurd ha (hne md)

theorem dropLink_unblocks (hx : CInv x) (hl : x.link = some l) :
    (dropLink s c x l).1.awaiting = none ∨ (dropLink s c x l).1.closed = true := by
  rw [dropLink_conn]
  split <;> exact rollback_unblocks hx hl

theorem cinv_dropLink (hx : CInv x) (hl : x.link = some l) :
    CInv (dropLink s c x l).1 := by
  have hr : CInv (rolledBack s c x l) := by
    unfold rolledBack
    split
    · rename_i m hm
      refine cinv_relay hx hl (fun r hmr _ hlu => ?_)
      subst hmr
      obtain ⟨ct, hct, ⟨_, h⟩ | ⟨_, h⟩⟩ := rollbackMsg_some hm <;> cases h
      exact hx.latestPend l ct hl hct hlu
    · exact hx
  rw [dropLink_conn]
  split
  · exact hr
  · rename_i hnc
    exact cinv_unlink hr rfl rfl rfl ((rollback_unblocks hx hl).resolve_right hnc)

theorem cinv_downConn (hx : CInv x) : CInv (downConn s c x).1 :=
  onLink_ind (P := fun r => CInv r.1) hx (fun _ hl => cinv_dropLink hx hl)

theorem cinv_closeConn {cut : Option Nat} (hx : CInv x) : CInv (closeConn s c x cut).1 := by
  unfold closeConn
  cases x.closed
  · cases ha : x.awaiting
    · exact cinv_unlink hx rfl rfl rfl rfl
    · exact hx.mono rfl (fun _ h => h) rfl ha.symm rfl
  · exact hx

theorem ninv_step (hs : NInv s) (hok : Ok s e) : NInv (step s e).1 := by
  intro y hy
  rcases step_cases s e with ⟨k, _, hc, _⟩ | ⟨a, _, hc, _⟩ | ⟨hc, _⟩ | ⟨c, x, ht, hx, hc, _⟩ <;> rw [hc] at hy
  · rcases List.mem_append.mp hy with hy | hy
    · exact hs y hy
    · cases List.mem_singleton.mp hy
      exact ⟨.nil, by simp, by simp, by simp, by simp, by simp, by simp⟩
  · obtain ⟨j, hj⟩ := List.mem_iff_getElem?.mp hy
    rw [dropAll_get] at hj
    cases hx : s.conns[j]? <;> rw [hx] at hj <;> cases hj
    exact cinv_downConn (hs _ (List.mem_of_getElem? hx))
  · exact hs y hy
  · rcases List.mem_or_eq_of_mem_set hy with hy | rfl
    · exact hs y hy
    have hxi : CInv x := hs x (List.mem_of_getElem? hx)
    cases e with
    | request d short q =>
      cases ht
      rcases will_or_not q with ⟨ct, cmd, rfl⟩ | hq
      · exact cinv_willConn hxi
      · rw [connStep_request hq]; exact cinv_request hxi (hok x hx).1 (hok x hx).2
    | leaderMsg d msg early =>
      cases ht
      exact onLink_ind (P := fun r => CInv r.1) hxi
        (fun l hl => cinv_relay hxi hl (fun r hr _ _ => by subst hr; exact hok x l hx hl))
    | linkDown d => exact cinv_downConn hxi
    | close d => exact cinv_closeConn hxi
    | closeCut d k => exact cinv_closeConn hxi
    | _ => cases ht

theorem ninv_run (evs : List Event) : ∀ {s : Node}, NInv s → OkRun s evs → NInv (runFrom s evs) := by
  induction evs with
  | nil => exact fun hs _ => hs
  | cons e es ih => exact fun hs hok => ih (ninv_step hs hok.1) hok.2

theorem ninv_init : NInv {} := fun _ hx => nomatch hx

/-- `Ok`, executable: for concrete scripts -/
def okb (s : Node) : Event → Bool
  | .request c _ q =>
    match s.conns[c]? with
    | none => true
    | some x =>
      (match reqRid q with | some rid => !x.asked.contains rid | none => true) &&
      (match q with | .lk ct _ _ _ => decide (ct = .lock ∨ ct = .unlock) | _ => true)
  | .leaderMsg c (.lockRes r) early =>
    (match s.conns[c]? with
      | none => true
      | some x => match x.link with | none => true | some l => l.pend.contains r.rid)
  | _ => true

def okRunB : Node → List Event → Bool
  | _, [] => true
  | s, e :: es => okb s e && okRunB (step s e).1 es

theorem okb_ok (h : okb s e = true) : Ok s e := by
  cases e with
  | request c short q =>
    intro x hx
    simp only [okb, hx, Bool.and_eq_true] at h
    refine ⟨fun rid hr => ?_, fun ct md cmd rep hq => ?_⟩
    · rw [hr] at h
      simpa using h.1
    · subst hq
      simpa using h.2
  | leaderMsg c msg early =>
    cases msg with
    | lockRes r =>
      intro x l hx hl
      simp only [okb, hx, hl] at h
      simpa using h
    | _ => trivial
  | _ => trivial

theorem okRunB_ok : ∀ (evs : List Event) (s : Node), okRunB s evs = true → OkRun s evs
  | [], _, _ => trivial
  | e :: es, s, h => by
    simp only [okRunB, Bool.and_eq_true] at h
    exact ⟨okb_ok h.1, okRunB_ok es _ h.2⟩

end Slock.Trans
