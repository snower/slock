import Slock.Proofs.EngineSimTickLife
import Slock.Proofs.EngineSimTickEntryE
import Slock.Proofs.EngineSimTickI1
import Slock.Proofs.EngineSimTickKTTick
import Slock.Proofs.EngineSimTickEntries
/-! Clock-tick simulation (`sim_tick`): the wheel entries still to be processed, against stage 1's items. `PT`: the stage-1 request that
stands for an entry of the timeout wheel — same (RequestId, connection), and the entry is live iff stage 1 still has a request of that
identity; `PE` likewise for the expiry wheel, identity by `hid`. Every sweep step keeps both (from the frame `WFD`) and revives no dead entry. -/
namespace Slock.SimTick
open Slock Slock.Sim Slock.Engine2

/-- no `hasT` conjunct: a record that is not there reads as tombstoned (`deadRec`), and a live request has its timeout-wheel entry by the
invariant `KT.ws` (`hasT_of_liveT`); `liveE` carries `hasE` itself, so that the case equations of `visitExpire` apply without an invariant -/
def liveT (s : DB) (e : Ent) : Bool := !((s.getKey e.key).getR e.rid).timeouted
def viewT (s : DB) (e : Ent) : Engine.Waiter := waiterOf (s.getKey e.key) e.rid

theorem liveT_iff (s : DB) (e : Ent) : liveT s e = true ↔ ((s.getKey e.key).getR e.rid).timeouted = false := by
  unfold liveT; cases ((s.getKey e.key).getR e.rid).timeouted <;> simp
theorem liveT_false_iff (s : DB) (e : Ent) : liveT s e = false ↔ ((s.getKey e.key).getR e.rid).timeouted = true := by
  unfold liveT; cases ((s.getKey e.key).getR e.rid).timeouted <;> simp

theorem hasRec_of_liveT {s : DB} {e : Ent} (h : liveT s e = true) : (s.getKey e.key).hasRec e.rid :=
  hasRec_of_liveWaiter ((liveT_iff s e).mp h)

theorem hasT_of_liveT {s : DB} (kt : DBKT s) {e : Ent} (h : liveT s e = true) : (s.getKey e.key).hasT e.rid = true := by
  have hh := hasRec_of_liveT h
  obtain ⟨sc, hsc, _⟩ := (kt.getKey e.key).ws e.rid hh ((liveT_iff s e).mp h)
  unfold Key.hasT
  rw [(any_iff_hasRec _ _).mpr hh, hsc]; rfl

theorem liveT_mem {s : DB} (kt : DBKT s) {e : Ent} (h : liveT s e = true) : viewT s e ∈ (Key.abs (s.getKey e.key)).waiters :=
  live_mem_abs (kt.getKey e.key) e.rid (hasRec_of_liveT h) ((liveT_iff s e).mp h)

/-- the stage-1 request `w` stands for the wheel entry `e` -/
structure PT (s : DB) (e : Ent) (w : Engine.Waiter) : Prop where
  key : w.cmd.key = e.key
  live : liveT s e = true → rcOf (viewT s e) = rcOf w
  dead : liveT s e = false → ∀ v ∈ (Key.abs (s.getKey e.key)).waiters, rcOf v ≠ rcOf w

theorem PT.of_live {s : DB} {e : Ent} (kt : DBKT s) (k1 : K1 (s.getKey e.key)) (h : liveT s e = true) : PT s e (viewT s e) := by
  refine ⟨?_, fun _ => rfl, fun hd => by rw [h] at hd; exact absurd hd (by simp)⟩
  have := k1.kw _ (liveT_mem kt h)
  exact this.trans (getKey_key s e.key)

/-- every queued request stage 1 sees after a step was one before, under the same (RequestId, connection) -/
theorem waiter_back {seq0 : Nat} {k' k : Key} (F : WFK seq0 k' k) (kt : KT k) {v' : Engine.Waiter}
    (hv : v' ∈ (Key.abs k').waiters) :
    ∃ y, k'.hasRec y ∧ (k'.getR y).timeouted = false ∧ v' = waiterOf k' y ∧ k.hasRec y ∧ (k.getR y).timeouted = false ∧
      rcOf (waiterOf k y) = rcOf v' ∧ waiterOf k y ∈ (Key.abs k).waiters := by
  rw [abs_waiters] at hv
  obtain ⟨y, hy, e⟩ := List.mem_map.mp hv
  have hl' : (k'.getR y).timeouted = false := by
    have := (List.mem_filter.mp hy).2
    unfold Key.deadWaiter at this
    simpa using this
  have hh' : k'.hasRec y := hasRec_of_liveWaiter hl'
  have hh := F.sub y hh'
  have hl := (F.life y hh').nr hl'
  obtain ⟨c1, c2⟩ := (F.life y hh').cc
  refine ⟨y, hh', hl', e.symm, hh, hl, ?_, live_mem_abs kt y hh hl⟩
  rw [← e]
  unfold rcOf waiterOf Rec.toWaiter
  simp only [c1, c2]

theorem live_rid_unique {k : Key} (kt : KT k) (wu : ((Key.abs k).waiters.map rcOf).Nodup) {y z : Nat} (hy : k.hasRec y)
    (hly : (k.getR y).timeouted = false) (hz : k.hasRec z) (hlz : (k.getR z).timeouted = false)
    (e : rcOf (waiterOf k y) = rcOf (waiterOf k z)) : y = z := by
  have hm : ∀ x, k.hasRec x → (k.getR x).timeouted = false → x ∈ (k.wait.map (·.rid)).filter (fun z => !k.deadWaiter z) :=
    fun x hx hl => List.mem_filter.mpr ⟨kt.wq x hx hl, by unfold Key.deadWaiter; rw [hl]; rfl⟩
  rw [abs_waiters, List.map_map] at wu
  exact nodup_map_inj _ _ wu (hm y hy hly) (hm z hz hlz) e

theorem pt_step {s s' : DB} {e : Ent} {w : Engine.Waiter} (F : WFD s' s)
    (kt : KT (s.getKey e.key)) (wu : ((Key.abs (s.getKey e.key)).waiters.map rcOf).Nodup) (h : PT s e w) : PT s' e w := by
  have Fk := F.k e.key
  refine ⟨h.key, ?_, ?_⟩
  · intro hl'
    have hh' := hasRec_of_liveT hl'
    have hl := (Fk.life e.rid hh').nr ((liveT_iff s' e).mp hl')
    obtain ⟨c1, c2⟩ := (Fk.life e.rid hh').cc
    rw [← h.live ((liveT_iff s e).mpr hl)]
    unfold rcOf viewT waiterOf Rec.toWaiter
    simp only [c1, c2]
  · intro hd' v' hv' erc
    obtain ⟨y, hh', hl', ev, hh, hl, hrc, hmem⟩ := waiter_back Fk kt hv'
    cases hle : liveT s e with
    | false => exact h.dead hle _ hmem (hrc.trans erc)
    | true =>
      -- `y` is the entry's own record: then it is still live
      have : y = e.rid := live_rid_unique kt wu hh hl (hasRec_of_liveT hle) ((liveT_iff s e).mp hle)
        ((hrc.trans erc).trans (h.live hle).symm)
      subst this
      have : liveT s' e = true := (liveT_iff s' e).mpr hl'
      rw [this] at hd'; exact absurd hd' (by simp)

theorem deadT_step {s s' : DB} {e : Ent} (F : WFD s' s) (h : liveT s e = false) : liveT s' e = false := by
  cases hl' : liveT s' e with
  | false => rfl
  | true =>
    have := ((F.k e.key).life e.rid (hasRec_of_liveT hl')).nr ((liveT_iff s' e).mp hl')
    rw [(liveT_iff s e).mpr this] at h; exact absurd h (by simp)

theorem k1_of_eql {s : DB} {a : Engine.DB} {S : List WId} (sy : WF s) (he : EqL S (Engine2.abs s) a) (h : I1 a) (key : Nat) : K1 (s.getKey key) := by
  have e : Key.abs (s.getKey key) = clrK S (a.getKey key) := (abs_getKey s sy.dbq.dbt.dbi.kn key).symm.trans (he.keys key)
  have hki := Engine.getKey_inv h.inv key
  refine ⟨?_, ?_, ?_, ?_, ?_⟩
  · rw [e]; exact ⟨hki.sum, hki.pos⟩
  · rw [e]
    intro hw hn
    have hw' : (a.getKey key).waited = true := hw
    apply h.fl.getKey key hw'
    have : (a.getKey key).waiters.map (clr S (a.getKey key).key) = [] := hn
    simpa using this
  · rw [e, clrK_waiters, List.map_map]
    rw [show rcOf ∘ clr S (a.getKey key).key = Engine.rcW from funext (rcW_clr S _)]
    exact Engine.getKey_wu h.s3.wu key
  · rw [e, clrK_waiters]
    intro w hw
    obtain ⟨v, hv, ev⟩ := List.mem_map.mp hw
    rw [← ev, clr_cmd]
    exact (h.kw key v (Engine.waitAt_getKey hv)).trans (getKey_key s key).symm
  · rw [e]
    intro x hx
    exact (h.kh key x (Engine.holdAt_getKey hx)).trans (getKey_key s key).symm

theorem k1_of_equiv {s : DB} {a : Engine.DB} (sy : WF s) (he : Equiv (Engine2.abs s) a) (h : I1 a) (key : Nat) : K1 (s.getKey key) :=
  k1_of_eql sy (EqL.of_equiv he) h key

/-- the entry's record is there with an expiry-wheel entry (`Key.hasE`: `hasRec` and `eSched.isSome`) and its hold has not ended -/
def liveE (s : DB) (e : Ent) : Bool := (s.getKey e.key).hasE e.rid && !((s.getKey e.key).getR e.rid).expried
def viewE (s : DB) (e : Ent) : Engine.Hold := holdOf (s.getKey e.key) e.rid

theorem liveE_spec {s : DB} {e : Ent} (h : liveE s e = true) :
    (s.getKey e.key).hasE e.rid = true ∧ ((s.getKey e.key).getR e.rid).expried = false := by
  unfold liveE at h
  simp only [Bool.and_eq_true, Bool.not_eq_true'] at h
  exact h

theorem liveE_facts {s : DB} (sy : WF s) {e : Ent} (h : liveE s e = true) :
    (s.getKey e.key).hasRec e.rid ∧ 0 < ((s.getKey e.key).getR e.rid).depth ∧ viewE s e ∈ (Key.abs (s.getKey e.key)).holders := by
  obtain ⟨hT, hl⟩ := liveE_spec h
  have hs := hasE_spec _ e.rid hT
  have hdep := depth_pos_of_live (Good.openKey sy.dbq.dbt.dbi sy.dbq.dbt.tight e.key) e.rid hs hl
  exact ⟨hs.1, hdep, live_mem_holders (sy.dbkt.getKey e.key) e.rid hs.1 hdep⟩

theorem liveE_of_depth {s : DB} (sy : WF s) {e : Ent} (hh : (s.getKey e.key).hasRec e.rid) (hd : 0 < ((s.getKey e.key).getR e.rid).depth) :
    liveE s e = true := by
  have ge := Good.openKey sy.dbq.dbt.dbi sy.dbq.dbt.tight e.key
  have hfine : RecFine ((s.getKey e.key).getR e.rid) := recFine_of ge e.rid hh
  have hes := hfine.hold hd
  have hex : ((s.getKey e.key).getR e.rid).expried = false := by
    cases hx : ((s.getKey e.key).getR e.rid).expried with
    | false => rfl
    | true => have := hfine.ended hx; omega
  unfold liveE Key.hasE
  rw [(any_iff_hasRec _ _).mpr hh, hes, hex]; rfl

theorem liveE_false_cases {s : DB} {e : Ent} (h : liveE s e = false) :
    (s.getKey e.key).hasE e.rid = false ∨ ((s.getKey e.key).getR e.rid).expried = true := by
  unfold liveE at h
  cases h1 : (s.getKey e.key).hasE e.rid with
  | false => exact Or.inl rfl
  | true =>
    rw [h1] at h
    simp only [Bool.true_and, Bool.not_eq_false'] at h
    exact Or.inr h

/-- the stage-1 hold `x` stands for the wheel entry `e`. `lt`, `nw`: the wake pass of a sweep step makes NEW holds out of live requests, with
an identity not below the sequence counter (`Life.hh`): `x` is none of them, and the entry's own record is no request that could become one -/
structure PE (s : DB) (e : Ent) (x : Engine.Hold) : Prop where
  key : x.cmd.key = e.key
  lt : x.hid < s.seq
  nw : liveT s e = false
  live : liveE s e = true → (viewE s e).hid = x.hid
  dead : liveE s e = false → ∀ v ∈ (Key.abs (s.getKey e.key)).holders, v.hid ≠ x.hid

theorem PE.of_live {s : DB} {e : Ent} (sy : WF s) (k1 : K1 (s.getKey e.key)) (h : liveE s e = true) : PE s e (viewE s e) := by
  obtain ⟨hh, hd, hm⟩ := liveE_facts sy h
  have hki := sy.dbk.getKey e.key
  refine ⟨?_, hki.hlt e.rid hh hd, ?_, fun _ => rfl, fun hd' => by rw [h] at hd'; exact absurd hd' (by simp)⟩
  · exact (k1.kh _ hm).trans (getKey_key s e.key)
  · exact (liveT_false_iff s e).mpr (hki.ht e.rid ((sy.dbkt.getKey e.key).hq e.rid hh hd))

/-- every hold stage 1 sees after a step was one before under the same identity, or was granted by the step -/
theorem holder_back {seq0 : Nat} {k' k : Key} (F : WFK seq0 k' k) {v' : Engine.Hold} (hv : v' ∈ (Key.abs k').holders) :
    ∃ y, k'.hasRec y ∧ 0 < (k'.getR y).depth ∧ v' = holdOf k' y ∧
      ((k.hasRec y ∧ (k'.getR y).hid = (k.getR y).hid ∧ 0 < (k.getR y).depth) ∨ ((k.getR y).timeouted = false ∧ seq0 ≤ (k'.getR y).hid)) := by
  rw [abs_holders] at hv
  obtain ⟨y, hy, e⟩ := List.mem_map.mp hv
  have hlv : k'.liveHolder y = true := (List.mem_filter.mp hy).2
  have hd : 0 < (k'.getR y).depth := by unfold Key.liveHolder at hlv; simpa using hlv
  have hh' := hasRec_of_depth hd
  refine ⟨y, hh', hd, e.symm, ?_⟩
  rcases (F.life y hh').hh hd with ⟨e1, e2⟩ | h2
  · exact Or.inl ⟨F.sub y hh', e1, e2⟩
  · exact Or.inr h2

theorem pe_step {s s' : DB} {e : Ent} {x : Engine.Hold} (F : WFD s' s) (hseq : s.seq ≤ s'.seq) (sy : WF s) (sy' : WF s')
    (h : PE s e x) : PE s' e x := by
  have Fk := F.k e.key
  have hki := sy.dbk.getKey e.key
  have kt := sy.dbkt.getKey e.key
  refine ⟨h.key, Nat.lt_of_lt_of_le h.lt hseq, deadT_step F h.nw, ?_, ?_⟩
  · intro hl'
    obtain ⟨hh', hd', _⟩ := liveE_facts sy' hl'
    rcases (Fk.life e.rid hh').hh hd' with ⟨e1, e2⟩ | ⟨e1, _⟩
    · have hl := liveE_of_depth sy (Fk.sub e.rid hh') e2
      have := h.live hl
      show ((s'.getKey e.key).getR e.rid).hid = x.hid
      rw [e1]; exact this
    · have := h.nw
      rw [(liveT_iff s e).mpr e1] at this; exact absurd this (by simp)
  · intro hd' v' hv' ehid
    obtain ⟨y, hh', hdy', ev, hcase⟩ := holder_back Fk hv'
    rcases hcase with ⟨hhy, e1, e2⟩ | ⟨_, e2⟩
    · have hmem := live_mem_holders kt y hhy e2
      have hhid : (holdOf (s.getKey e.key) y).hid = x.hid := by
        show ((s.getKey e.key).getR y).hid = x.hid
        rw [← e1, ← ehid, ev]; rfl
      cases hle : liveE s e with
      | false => exact h.dead hle _ hmem hhid
      | true =>
        obtain ⟨hh, hd, _⟩ := liveE_facts sy hle
        have : y = e.rid := hki.hinj y e.rid hhy hh e2 hd (by
          have := h.live hle
          show ((s.getKey e.key).getR y).hid = ((s.getKey e.key).getR e.rid).hid
          rw [show ((s.getKey e.key).getR y).hid = x.hid from hhid]; exact this.symm)
        subst this
        have := liveE_of_depth sy' hh' hdy'
        rw [this] at hd'; exact absurd hd' (by simp)
    · have h1 : v'.hid = ((s'.getKey e.key).getR y).hid := by rw [ev]; rfl
      have := h.lt
      omega

/-- the record of an entry whose hold has ended is not a queued request either, and no sweep step makes it a hold again -/
theorem deadE_step {s s' : DB} {e : Ent} (F : WFD s' s) (sy : WF s) (sy' : WF s') (h : liveE s e = false ∧ liveT s e = false) :
    liveE s' e = false ∧ liveT s' e = false := by
  refine ⟨?_, deadT_step F h.2⟩
  cases hl' : liveE s' e with
  | false => rfl
  | true =>
    obtain ⟨hh', hd', _⟩ := liveE_facts sy' hl'
    rcases ((F.k e.key).life e.rid hh').hh hd' with ⟨_, e2⟩ | ⟨e1, _⟩
    · rw [liveE_of_depth sy ((F.k e.key).sub e.rid hh') e2] at h; exact absurd h.1 (by simp)
    · rw [(liveT_iff s e).mpr e1] at h; exact absurd h.2 (by simp)

end Slock.SimTick
