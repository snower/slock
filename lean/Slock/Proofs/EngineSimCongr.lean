import Slock.Proofs.Engine2SimBase
import Slock.Proofs.EngineSimForms
/-! Stage 1's LOCK and UNLOCK respect `Sim.Equiv` (same scalar fields, same state under every key): they read the database through
`getKey` and the scalar fields only, and write it through `setKey`. -/
namespace Slock.Sim
open Slock Slock.Engine

/-- same scalar fields -/
structure SE (a b : DB) : Prop where
  now : a.now = b.now
  tCheck : a.tCheck = b.tCheck
  eCheck : a.eCheck = b.eCheck
  seq : a.seq = b.seq
  leader : a.leader = b.leader
  ctr : a.ctr = b.ctr

/-- same state under every key -/
def KE (a b : DB) : Prop := ∀ n, a.getKey n = b.getKey n

theorem Equiv.se {a b : DB} (h : Equiv a b) : SE a b := ⟨h.now, h.tCheck, h.eCheck, h.seq, h.leader, h.ctr⟩
theorem Equiv.ke {a b : DB} (h : Equiv a b) : KE a b := h.keys
theorem Equiv.mk' {a b : DB} (s : SE a b) (k : KE a b) : Equiv a b := ⟨s.now, s.tCheck, s.eCheck, s.seq, s.leader, s.ctr, k⟩

theorem SE.refl (a : DB) : SE a a := ⟨rfl, rfl, rfl, rfl, rfl, rfl⟩

theorem KE.of_keys {a b a' b' : DB} (h : KE a b) (ha : a'.keys = a.keys) (hb : b'.keys = b.keys) : KE a' b' := by
  intro n
  rw [getKey_of_keys_eq ha, getKey_of_keys_eq hb]; exact h n

theorem KE.setKey {a b : DB} (h : KE a b) (k : Key) : KE (a.setKey k) (b.setKey k) := by
  intro n
  by_cases e : n = k.key
  · rw [e, getKey_setKey_same, getKey_setKey_same]
  · rw [getKey_setKey_other _ _ _ e, getKey_setKey_other _ _ _ e]; exact h n

theorem setKey_se (a : DB) (k : Key) : SE (a.setKey k) a := by
  unfold DB.setKey
  simp only []
  split <;> exact ⟨rfl, rfl, rfl, rfl, rfl, rfl⟩

theorem SE.trans {a b c : DB} (h1 : SE a b) (h2 : SE b c) : SE a c :=
  ⟨h1.now.trans h2.now, h1.tCheck.trans h2.tCheck, h1.eCheck.trans h2.eCheck, h1.seq.trans h2.seq, h1.leader.trans h2.leader, h1.ctr.trans h2.ctr⟩
theorem SE.symm {a b : DB} (h : SE a b) : SE b a := ⟨h.now.symm, h.tCheck.symm, h.eCheck.symm, h.seq.symm, h.leader.symm, h.ctr.symm⟩

theorem Equiv.store {a b a' b' : DB} (h : Equiv a b) (s : SE a' b') (ha : a'.keys = a.keys) (hb : b'.keys = b.keys) (k : Key) :
    Equiv (a'.setKey k) (b'.setKey k) :=
  Equiv.mk' (((setKey_se a' k).trans s).trans (setKey_se b' k).symm) ((h.ke.of_keys ha hb).setKey k)

theorem grantHold_se {a b : DB} (h : SE a b) (k : Key) (c : Cmd) :
    SE (grantHold a k c).1 (grantHold b k c).1 ∧ (grantHold a k c).2 = (grantHold b k c).2 := by
  unfold grantHold
  simp only []
  rw [h.now, h.eCheck, h.seq, h.ctr]
  exact ⟨⟨rfl, h.tCheck, rfl, rfl, h.leader, rfl⟩, rfl⟩

theorem updateHold_se {a b : DB} (h : SE a b) (hd : Hold) (c : Cmd) :
    SE (updateHold a hd c).1 (updateHold b hd c).1 ∧ (updateHold a hd c).2 = (updateHold b hd c).2 := by
  unfold updateHold
  split
  · exact ⟨h, rfl⟩
  · simp only []
    rw [h.now, h.eCheck, h.seq]
    split
    · split
      · exact ⟨⟨rfl, h.tCheck, rfl, rfl, h.leader, h.ctr⟩, rfl⟩
      · exact ⟨h, rfl⟩
    · exact ⟨h, rfl⟩

theorem wakeIter_se {a b : DB} (h : SE a b) (k : Key) :
    (wakeIter a k = none ∧ wakeIter b k = none) ∨
    (∃ a' b' k' r, wakeIter a k = some (a', k', r) ∧ wakeIter b k = some (b', k', r) ∧ SE a' b') := by
  unfold wakeIter
  cases k.waiters with
  | nil => exact Or.inl ⟨rfl, rfl⟩
  | cons w rest =>
    simp only []
    split
    · exact Or.inl ⟨rfl, rfl⟩
    · split
      · right
        obtain ⟨s1, s2⟩ := grantHold_se (a := { a with ctr := { a.ctr with waitCount := a.ctr.waitCount - 1 } })
          (b := { b with ctr := { b.ctr with waitCount := b.ctr.waitCount - 1 } })
          ⟨h.now, h.tCheck, h.eCheck, h.seq, h.leader, by show ({ a.ctr with waitCount := a.ctr.waitCount - 1 } : Counters) = _; rw [h.ctr]⟩
          { k with waiters := rest } { w.cmd with conn := w.conn }
        refine ⟨_, _, _, _, rfl, ?_, s1⟩
        rw [s2]
      · right
        refine ⟨_, _, _, _, rfl, rfl, ⟨h.now, h.tCheck, h.eCheck, h.seq, h.leader, ?_⟩⟩
        show ({ ({ a.ctr with waitCount := a.ctr.waitCount - 1 } : Counters) with lockCount := _ } : Counters) = _
        rw [h.ctr]

theorem wakePass_se (fuel : Nat) {a b : DB} (h : SE a b) (k : Key) (out : List Reply) :
    SE (wakePass fuel a k out).1 (wakePass fuel b k out).1 ∧ (wakePass fuel a k out).2 = (wakePass fuel b k out).2 := by
  induction fuel generalizing a b k out with
  | zero => unfold wakePass; split <;> exact ⟨h, rfl⟩
  | succ n ih =>
    unfold wakePass
    split
    · exact ⟨h, rfl⟩
    · rcases wakeIter_se h k with ⟨e1, e2⟩ | ⟨a', b', k', r, e1, e2, s'⟩
      · rw [e1, e2]
        simp only []
        split <;> exact ⟨h, rfl⟩
      · rw [e1, e2]
        simp only []
        exact ih s' k' _

theorem wake_se {a b : DB} (h : SE a b) (k : Key) (out : List Reply) :
    SE (wake a k out).1 (wake b k out).1 ∧ (wake a k out).2 = (wake b k out).2 := wakePass_se _ h k out

theorem wake_store {a b a' b' : DB} (h : Equiv a b) (s : SE a' b') (ha : a'.keys = a.keys) (hb : b'.keys = b.keys) (k : Key) (out : List Reply) :
    Equiv ((wake a' k out).1.setKey (wake a' k out).2.1) ((wake b' k out).1.setKey (wake b' k out).2.1) ∧
    (wake a' k out).2.2 = (wake b' k out).2.2 := by
  obtain ⟨s1, s2⟩ := wake_se s k out
  rw [← s2]
  exact ⟨h.store s1 (by rw [wake_keys]; exact ha) (by rw [wake_keys]; exact hb) _, rfl⟩

theorem classifyLock_congr {a b : DB} (h : Equiv a b) (c : Cmd) : classifyLock a c = classifyLock b c := by
  unfold classifyLock
  rw [h.keys c.key, h.leader, h.now]

theorem classifyUnlock_congr {a b : DB} (h : Equiv a b) (c : Cmd) : classifyUnlock a c = classifyUnlock b c := by
  unfold classifyUnlock
  rw [h.keys c.key, h.leader]

theorem SE.withCtr {a b : DB} (s : SE a b) (f : Counters → Counters) : SE { a with ctr := f a.ctr } { b with ctr := f b.ctr } :=
  ⟨s.now, s.tCheck, s.eCheck, s.seq, s.leader, congrArg f s.ctr⟩

theorem dbG_se {a b : DB} (s : SE a b) : SE (dbG a) (dbG b) :=
  ⟨s.now, s.tCheck, s.eCheck, congrArg (· + 1) s.seq, s.leader, congrArg ctrG s.ctr⟩

theorem grantedHold_se {a b : DB} (s : SE a b) (c : Cmd) : Engine.grantedHold a c = Engine.grantedHold b c := by unfold Engine.grantedHold; rw [s.now, s.eCheck, s.seq]

theorem dbQ_se {a b : DB} (s : SE a b) : SE (dbQ a) (dbQ b) :=
  ⟨s.now, s.tCheck, s.eCheck, congrArg (· + 1) s.seq, s.leader,
   congrArg (fun x : Counters => ({ x with waitCount := x.waitCount + 1 } : Counters)) s.ctr⟩

theorem applyLock_congr {a b : DB} (h : Equiv a b) (c : Cmd) (br : LockBranch) :
    Equiv (applyLock a c br).1 (applyLock b c br).1 ∧ (applyLock a c br).2 = (applyLock b c br).2 := by
  have hk := h.keys c.key
  cases br with
  | p0a | p0b | stateError | «show» _ | updateEqual _ | relockNoHold _ | relockRefused _ | unlockedWaitRefused | timeout =>
    simp only [applyLock, hk]
    exact ⟨h, trivial⟩
  | update hd =>
    rw [applyLock_update_eq, applyLock_update_eq, hk]
    obtain ⟨s1, s2⟩ := updateHold_se h.se hd { c with lockId := hd.cmd.lockId }
    rw [← s2]
    exact wake_store h s1 (updateHold_db_keys _ _ _) (updateHold_db_keys _ _ _) _ _
  | relock hd =>
    rw [applyLock_relock_eq, applyLock_relock_eq, hk]
    obtain ⟨s1, s2⟩ := updateHold_se h.se { hd with depth := hd.depth + 1 } c
    rw [← s2]
    exact wake_store h (s1.withCtr _) (updateHold_db_keys _ _ _) (updateHold_db_keys _ _ _) _ _
  | grant =>
    rw [applyLock_grant_eq, applyLock_grant_eq, hk, grantedHold_se h.se]
    split
    · exact wake_store h (dbG_se h.se) rfl rfl _ _
    · exact ⟨h.store (dbG_se h.se) rfl rfl _, rfl⟩
  | grantNoHold =>
    rw [applyLock_grantNoHold_eq, applyLock_grantNoHold_eq, hk]
    split
    · exact wake_store h (h.se.withCtr _) rfl rfl _ _
    · exact ⟨h.store (h.se.withCtr _) rfl rfl _, rfl⟩
  | queue =>
    rw [applyLock_queue_eq, applyLock_queue_eq, hk]
    unfold Engine.newWaiter
    rw [h.now, h.tCheck, h.seq]
    exact ⟨h.store (dbQ_se h.se) rfl rfl _, rfl⟩

theorem opLock_congr {a b : DB} (h : Equiv a b) (c : Cmd) : Equiv (opLock a c).1 (opLock b c).1 ∧ (opLock a c).2 = (opLock b c).2 := by
  unfold opLock
  rw [classifyLock_congr h c]
  exact applyLock_congr h c _

theorem bumpErr_equiv {a b : DB} (h : Equiv a b) : Equiv (bumpErr a) (bumpErr b) :=
  Equiv.mk' (h.se.withCtr fun x => { x with unlockErrorCount := x.unlockErrorCount + 1 }) (h.ke.of_keys rfl rfl)

theorem applyUnlock_congr {a b : DB} (h : Equiv a b) (c : Cmd) (br : UnlockBranch) :
    Equiv (applyUnlock a c br).1 (applyUnlock b c br).1 ∧ (applyUnlock a c br).2 = (applyUnlock b c br).2 := by
  have hk := h.keys c.key
  cases br with
  | stateError | notLocked | unown | cancelNone =>
    simp only [applyUnlock, hk]
    exact ⟨bumpErr_equiv h, trivial⟩
  | cancel w =>
    rw [applyUnlock_cancel_eq, applyUnlock_cancel_eq, hk]
    exact wake_store h (h.se.withCtr _) rfl rfl _ _
  | dec hd c' =>
    rw [applyUnlock_dec_eq, applyUnlock_dec_eq, hk]
    exact wake_store h (h.se.withCtr _) rfl rfl _ _
  | release hd c' =>
    rw [applyUnlock_release_eq, applyUnlock_release_eq, hk]
    exact wake_store h (h.se.withCtr _) rfl rfl _ _

theorem opUnlock_congr {a b : DB} (h : Equiv a b) (c : Cmd) : Equiv (opUnlock a c).1 (opUnlock b c).1 ∧ (opUnlock a c).2 = (opUnlock b c).2 := by
  unfold opUnlock
  rw [classifyUnlock_congr h c]
  exact applyUnlock_congr h c _

theorem setLeader_congr {a b : DB} (h : Equiv a b) (l : Bool) : Equiv { a with leader := l } { b with leader := l } :=
  Equiv.mk' ⟨h.now, h.tCheck, h.eCheck, h.seq, rfl, h.ctr⟩ (h.ke.of_keys rfl rfl)

end Slock.Sim
