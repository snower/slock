import Slock.Proofs.EngineWheel
/-!
The holds on the expiry wheel (C06): every live hold is scheduled for a second still ahead; long-table entries are keyed by
the deadline; slot entries are looked at within `MAX_WAIT` seconds, and within `MAX_WAIT` seconds of the deadline (an update
or re-lock may move the deadline while the slot entry stays). A wheel entry is not after the deadline unless such an update
moved the deadline back (`SOK`, `shortens`). `KeyH lo` says all this of the holds of one key record, with a lower bound `lo`
on their wheel entries, and `HNs lo` of every key record. Lock-record identities (`hid`) are distinct within a key (`HU`).
-/
namespace Slock.Engine

theorem expiryDeadline_ge (now : Nat) (c : Cmd) (h : now < INF_TIME) : now + 1 ≤ expiryDeadline now c := by
  unfold expiryDeadline
  unfold INF_TIME at *
  split
  · omega
  · split <;> omega

/-- wheel facts of a live hold under key id `n` at server time `now` that hold at every moment (also inside a sweep) -/
structure HOKs (now n : Nat) (h : Hold) : Prop where
  key : h.cmd.key = n
  long : h.sched.long = true → h.sched.visit = h.expT
  short : h.sched.long = false → h.sched.visit ≤ now + 1 + MAX_WAIT
  near : now < INF_TIME → h.sched.long = false → h.sched.visit ≤ h.expT + MAX_WAIT

/-- the wheel entry is not after the deadline (true for holds whose deadline was never shortened) -/
def SOK (now : Nat) (h : Hold) : Prop := now < INF_TIME → h.sched.visit ≤ h.expT

/-- The expiry check time is the second of the clock or the next one. Both occur: inside a tick the timeout sweep runs, and may
grant from its wake passes, while the expiry check time is still the old one. -/
def ECk (d : DB) : Prop := d.now ≤ d.eCheck ∧ d.eCheck ≤ d.now + 1

theorem ECk.of_clock {a d : DB} (e : clock a = clock d) (h : ECk d) : ECk a := by
  have ha := clock_fields e
  exact ⟨by rw [ha.1, ha.2.2]; exact h.1, by rw [ha.1, ha.2.2]; exact h.2⟩

theorem ECk.of_eq {d : DB} (h : d.eCheck = d.now ∨ d.eCheck = d.now + 1) : ECk d := by unfold ECk; omega

theorem HOKs.tick {now n : Nat} {h : Hold} (ho : HOKs now n h) : HOKs (now + 1) n h :=
  ⟨ho.key, ho.long, fun hl => by have := ho.short hl; omega, fun hn hl => ho.near (by omega) hl⟩

theorem SOK.tick {now : Nat} {h : Hold} (ho : SOK now h) : SOK (now + 1) h := fun hn => ho (by omega)

/-- a record put on the wheel at a check time of `now` or `now + 1` with a deadline that is ahead (always, below 2^63−1) -/
theorem wheel_hold_ok (now check n seq D N : Nat) (h : Hold) (hk : h.cmd.key = n)
    (he : h.expT = (wheelAdd check seq D N).1) (hs : h.sched = (wheelAdd check seq D N).2)
    (hc1 : now ≤ check) (hc2 : check ≤ now + 1)
    (hD : now < INF_TIME → now + 1 ≤ D) : HOKs now n h ∧ check ≤ h.sched.visit ∧ SOK now h := by
  have ha := wheelAdd_all check seq D N
  rw [← he, ← hs] at ha
  obtain ⟨h1, h2, h3, h4, _⟩ := ha
  refine ⟨⟨hk, h2, fun hl => by have := h3 hl; omega, fun hn _ => ?_⟩, h1, fun hn => ?_⟩ <;>
    (have := h4 (by have := hD hn; omega); omega)

theorem grantedHold_ok (d : DB) (c : Cmd) (hc : ECk d) :
    HOKs d.now c.key (grantedHold d c) ∧ d.eCheck ≤ (grantedHold d c).sched.visit ∧ SOK d.now (grantedHold d c) :=
  wheel_hold_ok d.now d.eCheck c.key d.seq (expiryDeadline d.now c) (initChecked c d.now (expiryDeadline d.now c))
    (grantedHold d c) rfl rfl rfl hc.1 hc.2 (expiryDeadline_ge _ _)

theorem rearmedH_ok (d : DB) (h : Hold) (n : Nat) (hc : ECk d) (hk : h.cmd.key = n) (hd : h.expT > d.now) :
    HOKs d.now n (rearmedH d h) ∧ d.eCheck ≤ (rearmedH d h).sched.visit ∧ SOK d.now (rearmedH d h) :=
  wheel_hold_ok d.now d.eCheck n d.seq h.expT (h.sched.checked + 1) (rearmedH d h) hk rfl rfl hc.1 hc.2 fun _ => hd

theorem rearmedH_hid (d : DB) (h : Hold) : (rearmedH d h).hid = h.hid := rfl

theorem updateHold_hoks (d : DB) (h : Hold) (c : Cmd) (n : Nat) (hc : ECk d)
    (hk : c.key = n) (ho : HOKs d.now n h) : HOKs d.now n (updateHold d h c).2 := by
  rcases updateHold_eq d h c with ⟨_, u⟩ | ⟨_, N, ⟨_, u⟩ | ⟨e4, u⟩⟩ <;> rw [u]
  · exact ⟨hk, ho.long, ho.short, ho.near⟩
  · exact (wheel_hold_ok d.now d.eCheck n d.seq _ N _ hk rfl rfl hc.1 hc.2 (expiryDeadline_ge _ _)).1
  · refine ⟨hk, fun hl' => (ho.long hl').trans (e4 hl').symm, ho.short, fun hn hl' => ?_⟩
    have := ho.short hl'; have := expiryDeadline_ge d.now c hn
    show h.sched.visit ≤ expiryDeadline d.now c + MAX_WAIT; omega

/-- a re-lock or update keeps the wheel entry or makes a new one, which is never before the check time -/
theorem updateHold_lb (d : DB) (h : Hold) (c : Cmd) {lo : Nat} (hlo : lo ≤ d.eCheck) (hl : lo ≤ h.sched.visit) :
    lo ≤ (updateHold d h c).2.sched.visit := by
  rcases updateHold_eq d h c with ⟨_, u⟩ | ⟨_, N, ⟨_, u⟩ | ⟨_, u⟩⟩ <;> rw [u]
  · exact hl
  · exact Nat.le_trans hlo (wheelAdd_all ..).1
  · exact hl

theorem updateHold_sok (d : DB) (h : Hold) (c : Cmd) (hc : ECk d) (hs : SOK d.now h)
    (hns : h.expT ≤ (updateHold d h c).2.expT) : SOK d.now (updateHold d h c).2 := by
  rcases updateHold_eq d h c with ⟨_, u⟩ | ⟨_, N, ⟨_, u⟩ | ⟨_, u⟩⟩ <;> rw [u] at hns ⊢
  · exact hs
  · exact (wheel_hold_ok d.now d.eCheck _ d.seq _ N _ rfl rfl rfl hc.1 hc.2 (expiryDeadline_ge _ _)).2.2
  · exact fun hn => Nat.le_trans (hs hn) hns

def HUl (s : Nat) (hs : List Hold) : Prop := (hs.map (·.hid)).Nodup ∧ ∀ i ∈ hs.map (·.hid), i < s

def HU (db : DB) : Prop := ∀ k ∈ db.keys, HUl db.seq k.holders

theorem HUl.mono {s s' : Nat} {hs : List Hold} (h : HUl s hs) (hle : s ≤ s') : HUl s' hs :=
  ⟨h.1, fun i hi => Nat.lt_of_lt_of_le (h.2 i hi) hle⟩

theorem HUl.nil (s : Nat) : HUl s [] := ⟨by simp, by simp⟩

theorem HUl.replace {s : Nat} {hs : List Hold} {h h' : Hold} (hu : HUl s hs) (e : h'.hid = h.hid) :
    HUl s (replaceHolder hs h h') := by
  unfold HUl; rw [replaceHolder_hids e]; exact hu

theorem HUl.remove {s : Nat} {hs : List Hold} {h : Hold} (hu : HUl s hs) : HUl s (removeHolder hs h) := by
  have hsub := (removeHolder_sublist hs h).map (·.hid)
  exact ⟨List.Nodup.sublist hsub hu.1, fun i hi => hu.2 i (hsub.subset hi)⟩

theorem HUl.grant {d : DB} {hs : List Hold} (c : Cmd) (hu : HUl d.seq hs) : HUl (d.seq + 1) (hs ++ [grantedHold d c]) := by
  constructor
  · rw [List.map_append]
    apply List.nodup_append.mpr
    refine ⟨hu.1, by simp, ?_⟩
    intro a ha b hb
    simp at hb
    have := hu.2 a ha
    rw [hb]; simp only [grantedHold]; omega
  · intro i hi
    rw [List.map_append] at hi
    rcases List.mem_append.mp hi with h1 | h1
    · have := hu.2 i h1; omega
    · simp at h1; rw [h1]; simp only [grantedHold]; omega

theorem getKey_hu {db : DB} (h : HU db) (n : Nat) : HUl db.seq (db.getKey n).holders := by
  rcases getKey_mem_or_empty db n with h1 | h1
  · exact h _ h1
  · rw [h1]; exact HUl.nil _

theorem HU.of_keys_seq {db db' : DB} (h : HU db) (e : db'.keys = db.keys) (hs : db.seq ≤ db'.seq) : HU db' := by
  intro k hk; rw [e] at hk; exact (h k hk).mono hs

variable {db0 db d : DB} {s : Src} {n : Nat} {wk : Bool} {k : Key} {out : List Reply}

theorem HUl.edit (e : Edit db0 db s n wk d k out) (hk : HUl db.seq (db.getKey n).holders) : HUl d.seq k.holders := by
  cases e with
  | update c h => exact (hk.replace (updateHold_hid ..)).mono (updateHold_seq_le ..)
  | relock c h =>
    exact (hk.replace (h := h) (updateHold_hid db { h with depth := h.depth + 1 } c)).mono (updateHold_seq_le db { h with depth := h.depth + 1 } c)
  | grant c => exact HUl.grant c hk
  | grantNoHold | cancel | timeout => exact hk
  | queue | rearmW => exact hk.mono (Nat.le_succ _)
  | dec c h => exact hk.replace (h := h) (h' := { h with depth := h.depth - 1 }) rfl
  | release | expire => exact hk.remove
  | rearmH h => exact (hk.replace (rearmedH_hid db h)).mono (Nat.le_succ _)

theorem HU.edit (e : Edit db0 db s n wk d k out) (h : HU db) : HU (store wk d k out).1 :=
  keysAll_edit (P := fun d k => HUl d.seq k.holders) (fun _ hs h => h.mono hs)
    (fun d q d' q' r _ hp hw => by
      obtain ⟨w, rest, _, _, ⟨_, rfl, rfl, _⟩ | ⟨_, rfl, rfl, _⟩⟩ := wakeIter_some hw
      · exact HUl.grant _ hp
      · exact hp)
    (fun _ _ h => h) e h (HUl.edit e (getKey_hu h n))

theorem NewH.hoks {x : Hold} (h : NewH db s n x) (hc : ECk db)
    (hold : ∀ h0 ∈ (db.getKey n).holders, HOKs db.now n h0) : HOKs db.now n x := by
  cases h with
  | grant c => exact (grantedHold_ok db c hc).1
  | update c h0 hb => exact updateHold_hoks db h0 _ c.key hc rfl (hold h0 (mem_of_update hb))
  | relock c h0 hb =>
    have ho := hold h0 (mem_of_relock hb)
    exact updateHold_hoks db _ c c.key hc rfl ⟨ho.key, ho.long, ho.short, ho.near⟩
  | dec _ _ h0 hm =>
    have ho := hold h0 hm
    exact ⟨ho.key, ho.long, ho.short, ho.near⟩
  | rearm _ _ h0 hk hd => exact (rearmedH_ok db h0 _ hc hk hd).1

theorem NewH.lb {x : Hold} {lo : Nat} (h : NewH db s n x) (hlo : lo ≤ db.eCheck)
    (hold : ∀ h0 ∈ (db.getKey n).holders, lo ≤ h0.sched.visit) : lo ≤ x.sched.visit := by
  cases h with
  | grant | rearm => exact Nat.le_trans hlo (wheelAdd_all ..).1
  | update c h0 hb => exact updateHold_lb db h0 _ hlo (hold h0 (mem_of_update hb))
  | relock c h0 hb => exact updateHold_lb db _ c hlo (hold h0 (mem_of_relock hb))
  | dec _ _ h0 hm => exact hold h0 hm

/-- The LOCK `c` is an update or re-lock that moves the deadline of its hold back. Its absence is the premise of "wheel entry not
after the deadline" (`NewH.sok`, `NS.edit`), and `C06.noShorten` is that premise along a run. -/
def shortens (db : DB) (c : Cmd) : Bool :=
  match classifyLock db c with
  | .update h => decide ((updateHold db h { c with lockId := h.cmd.lockId }).2.expT < h.expT)
  | .relock h => decide ((updateHold db { h with depth := h.depth + 1 } c).2.expT < h.expT)
  | _ => false

theorem NewH.sok {x : Hold} (h : NewH db s n x) (hc : ECk db)
    (hns : ∀ c, s = .lock c → shortens db c = false) (hold : ∀ h0 ∈ (db.getKey n).holders, SOK db.now h0) : SOK db.now x := by
  cases h with
  | grant c => exact (grantedHold_ok db c hc).2.2
  | update c h0 hb =>
    have := hns c rfl
    unfold shortens at this; rw [hb] at this
    exact updateHold_sok db h0 _ hc (hold h0 (mem_of_update hb)) (by simpa using this)
  | relock c h0 hb =>
    have := hns c rfl
    unfold shortens at this; rw [hb] at this
    exact updateHold_sok db { h0 with depth := h0.depth + 1 } c hc (hold h0 (mem_of_relock hb)) (by simpa using this)
  | dec _ _ h0 hm => exact hold h0 hm
  | rearm _ _ h0 hk hd => exact (rearmedH_ok db h0 _ hc hk hd).2.2

/-- a hold that a wake pass grants goes on the wheel relative to the check time, so not before it -/
theorem wake_lb {lo : Nat} (d : DB) (k : Key) (out : List Reply) (hc : ECk d)
    (hlo : lo ≤ d.eCheck) (H0 : List Hold) (h : ∀ x ∈ k.holders, x ∈ H0 ∨ lo ≤ x.sched.visit) :
    ∀ x ∈ (wake d k out).2.1.holders, x ∈ H0 ∨ lo ≤ x.sched.visit := by
  refine (wake_ind (fun a q => clock a = clock d ∧ ∀ x ∈ q.holders, x ∈ H0 ∨ lo ≤ x.sched.visit) ?_ (fun _ _ hq => hq)
    d k out ⟨rfl, h⟩).2
  intro a q a' q' r hq hw
  obtain ⟨w, rest, _, _, ⟨_, rfl, rfl, _⟩ | ⟨_, rfl, rfl, _⟩⟩ := wakeIter_some hw
  · refine ⟨hq.1, fun x hx => ?_⟩
    rcases List.mem_append.mp hx with hx | hx
    · exact hq.2 x hx
    · rw [List.mem_singleton.mp hx]
      have := (grantedHold_ok { a with ctr := { a.ctr with waitCount := a.ctr.waitCount - 1 } } { w.cmd with conn := w.conn }
        (hc.of_clock hq.1)).2.1
      exact Or.inr (Nat.le_trans hlo ((clock_fields hq.1).2.2 ▸ this))
  · exact hq

/-! `lo ≤ visit` is kept by EVERY edit and every wake iteration as long as `lo` is not above the expiry check time, because
`wheelAdd` never schedules before the check time: `lo = now + 1` between operations, `lo = c` through the timeout sweep of
second `c` (the check time is still `c` then), and only the expiry sweep of `c` has to raise it. -/

/-- what holds of the holds of a key record between any two critical sections, also inside a tick; a queued request names the
key it is queued under (a wake pass makes holds of them) -/
structure KeyH (lo : Nat) (d : DB) (k : Key) : Prop where
  kw : ∀ w ∈ k.waiters, w.cmd.key = k.key
  hu : HUl d.seq k.holders
  ok : ∀ x ∈ k.holders, HOKs d.now k.key x
  lb : ∀ x ∈ k.holders, lo ≤ x.sched.visit

theorem KeyH.empty (lo : Nat) (d : DB) (n : Nat) : KeyH lo d (emptyKey n) :=
  ⟨(fun _ h => nomatch h), HUl.nil _, (fun _ h => nomatch h), (fun _ h => nomatch h)⟩

theorem KeyH.mono {lo : Nat} {a b : DB} {x : Key} (e : clock b = clock a) (hs : a.seq ≤ b.seq) (h : KeyH lo a x) : KeyH lo b x :=
  ⟨h.kw, h.hu.mono hs, (clock_fields e).1 ▸ h.ok, h.lb⟩

theorem KeyH.edit {lo : Nat} (e : Edit db0 db s n wk d k out) (hc : ECk db)
    (hlo : lo ≤ db.eCheck) (h : KeyH lo db (db.getKey n)) : KeyH lo d k := by
  have hn := e.frame.2.2.2
  have hnow := (clock_fields e.frame.2.1).1
  have hh : ∀ x ∈ k.holders, HOKs db.now n x ∧ lo ≤ x.sched.visit := fun x hx =>
    (e.holders x hx).elim (fun h1 => ⟨getKey_key db n ▸ h.ok x h1, h.lb x h1⟩) fun h1 =>
      ⟨h1.hoks hc fun h0 hm => getKey_key db n ▸ h.ok h0 hm, h1.lb hlo h.lb⟩
  exact ⟨fun w hw => hn ▸ (e.waiters w hw).elim (fun h1 => (h.kw w h1).trans (getKey_key db n)) NewW.key, HUl.edit e h.hu,
    fun x hx => hn ▸ hnow ▸ (hh x hx).1, fun x hx => (hh x hx).2⟩

theorem KeyH.wake {lo : Nat} {d d' : DB} {k k' : Key} {r : Reply} (hc : ECk d)
    (hlo : lo ≤ d.eCheck) (h : KeyH lo d k) (hw : wakeIter d k = some (d', k', r)) : KeyH lo d' k' := by
  obtain ⟨w, rest, e, _, ⟨_, rfl, rfl, _⟩ | ⟨_, rfl, rfl, _⟩⟩ := wakeIter_some hw
  · have hg := grantedHold_ok { d with ctr := { d.ctr with waitCount := d.ctr.waitCount - 1 } } { w.cmd with conn := w.conn } hc
    refine ⟨fun x hx => h.kw x (e ▸ List.mem_cons_of_mem _ hx), HUl.grant _ h.hu, fun x hx => ?_, fun x hx => ?_⟩ <;>
      rcases List.mem_append.mp hx with hx | hx
    · exact h.ok x hx
    · rw [List.mem_singleton.mp hx]; exact h.kw w (e ▸ List.mem_cons_self ..) ▸ hg.1
    · exact h.lb x hx
    · rw [List.mem_singleton.mp hx]; exact Nat.le_trans hlo hg.2.1
  · exact ⟨fun x hx => h.kw x (e ▸ List.mem_cons_of_mem _ hx), h.hu, h.ok, h.lb⟩

structure HNs (lo : Nat) (d : DB) : Prop where
  ec : ECk d
  le : lo ≤ d.eCheck
  keys : ∀ k ∈ d.keys, KeyH lo d k

theorem HNs.getKey {lo : Nat} (h : HNs lo d) (n : Nat) : KeyH lo d (d.getKey n) :=
  KeysAll.getKey (P := KeyH lo d) h.keys (KeyH.empty lo d) n

theorem HNs.edit {lo : Nat} (e : Edit db0 db s n wk d k out) (h : HNs lo db) : HNs lo (store wk d k out).1 := by
  have ce := (clock_store wk d k out).trans e.frame.2.1
  exact ⟨h.ec.of_clock ce, (clock_fields ce).2.2 ▸ h.le,
    keysAll_edit (P := KeyH lo) (fun ec hs hq => hq.mono ec hs)
      (fun a q a' q' r ec hq hk => hq.wake (h.ec.of_clock ec) ((clock_fields ec).2.2 ▸ h.le) hk)
      (fun _ _ hq => ⟨hq.kw, hq.hu, hq.ok, hq.lb⟩) e h.keys ((h.getKey n).edit e h.ec h.le)⟩

theorem HNs.kw {lo : Nat} (h : HNs lo d) : KW d := fun _ w ⟨x, hx, hn, hw⟩ => hn ▸ (h.keys x hx).kw w hw
theorem HNs.hu {lo : Nat} (h : HNs lo d) : HU d := fun x hx => (h.keys x hx).hu
theorem HNs.ok {lo : Nat} (h : HNs lo d) : ∀ n x, HoldAt d n x → HOKs d.now n x :=
  fun _ x ⟨q, hq, hk, hx⟩ => hk ▸ (h.keys q hq).ok x hx
theorem HNs.lb {lo : Nat} (h : HNs lo d) : ∀ n x, HoldAt d n x → lo ≤ x.sched.visit :=
  fun _ x ⟨q, hq, _, hx⟩ => (h.keys q hq).lb x hx

end Slock.Engine
