import Slock.Proofs.ConnClose
/-! Every event is a sequence of a few primitive changes of the state (`Prim`; a will registration is treated on its
own: it is the one change of the ghost list `reg`), each of which preserves `Good`, `Safe` and "alive": so they hold along every event sequence. -/
namespace Slock.Conn

theorem closeOne_noop {t : Server} {j : Nat} {x : Conn} (h : t.conns[j]? = some x) (hc : x.closed = true) :
    closeOne t j = (t, .noop) := by
  unfold closeOne; simp [h, hc]

theorem closeOne_defer {t : Server} {j : Nat} {x : Conn} (h : t.conns[j]? = some x) (hc : x.closed = false)
    (ha : x.awaiting ≠ 0) :
    closeOne t j = ({ t with conns := t.conns.set j { x with halfClosed := true } }, .deferred) := by
  unfold closeOne; simp [h, hc, ha]

theorem closeOne_do {t : Server} {j : Nat} {x : Conn} (h : t.conns[j]? = some x) (hc : x.closed = false)
    (ha : x.awaiting = 0) :
    closeOne t j = ((doClose t j x).1, .closed (doClose t j x).2.1 (doClose t j x).2.2) := by
  unfold closeOne; simp [h, hc, ha]

theorem stepWill_cases (s : Server) (c tok : Nat) (imm sf : Bool) :
    stepWill s c tok imm sf = (s, .ignored) ∨
    ∃ x, s.conns[c]? = some x ∧ x.closed = false ∧
      stepWill s c tok imm sf =
        ({ s with conns := s.conns.set c { x with wills := x.wills ++ [{ tok := tok, imm := imm, self := sf }],
                                                    reg := x.reg ++ [tok] } }, .ok) := by
  fun_cases stepWill s c tok imm sf
  case case3 x hx hcond => exact .inr ⟨x, hx, Bool.not_eq_true _ ▸ fun h => hcond (.inl h), rfl⟩
  all_goals exact .inl rfl

/-- every state `stepClose` can return is reached from `s` by `closeOne` steps and one `halfClosed` mark -/
theorem stepClose_ind (P : Server → Prop) (s : Server) (c : Nat) (h0 : P s)
    (h1 : ∀ t j, P t → P (closeOne t j).1)
    (h2 : ∀ (t : Server) (j : Nat) (x : Conn), P t → t.conns[j]? = some x →
      P { t with conns := t.conns.set j { x with halfClosed := true } }) :
    P (stepClose s c).1 := by
  -- the leaves of `stepClose`: 1 no nested protocol runs; the nested one 2, 3 closes, then the connection; 4, 5 is blocked, the
  -- connection is marked; 6 anything else
  fun_cases stepClose s c
  case case1 => exact h1 s _ h0
  case case2 n _ _ _ _ _ _ _ _ | case3 n _ _ _ _ _ _ => exact h1 _ (streamOf s c) (h1 s n h0)
  case case4 n _ _ _ y hy => exact h2 _ _ y (h1 s n h0) hy
  case case5 n _ _ _ _ | case6 n _ _ _ _ => exact h1 s n h0

/-- The primitive changes of the state of which every event other than a will registration is composed: the `owner` map
changes; a record changes in fields no invariant reads; `INIT`; a closed connection's proxy is adopted; a record is
appended; `Close()` of an open record. -/
inductive Prim : Server → Server → Prop
  | owner (t : Server) (ow : List (Nat × Nat)) : Prim t { t with owner := ow }
  | minor {t : Server} {c : Nat} {x : Conn} (hx : t.conns[c]? = some x) (a : Nat) (h : Bool) (n : Option Nat) :
      Prim t { t with conns := t.conns.set c { x with awaiting := a, halfClosed := h, nested := n } }
  | init {t : Server} {c : Nat} {x : Conn} (hx : t.conns[c]? = some x) (ho : x.closed = false) (hk : x.kind = .binary)
      (cid : Nat) :
      Prim t { t with conns := t.conns.set c { x with cid := cid, inited := true, announced := cid :: x.announced },
                      clients := aput (if x.inited = true ∧ aget t.clients x.cid = some c then adel t.clients x.cid
                        else t.clients) cid c }
  | adopt {t : Server} {o d : Nat} {x : Conn} (hx : t.conns[o]? = some x) (ht : x.target = .default) (hnz : x.cid ≠ 0)
      (hl : aget t.clients x.cid = some d) (hop : isOpen t d = true) :
      Prim t { t with conns := t.conns.set o { x with target := .conn d } }
  | open (t : Server) (k : Kind) (o : Option Nat) : Prim t { t with conns := t.conns ++ [{ kind := k, outer := o }] }
  | close {t : Server} {c : Nat} {x : Conn} (hx : t.conns[c]? = some x) (ho : x.closed = false) : Prim t (doClose t c x).1

inductive Steps : Server → Server → Prop
  | refl (s : Server) : Steps s s
  | tail {s t u : Server} : Steps s t → Prim t u → Steps s u

theorem Steps.trans {s t u : Server} (h1 : Steps s t) (h2 : Steps t u) : Steps s u := by
  induction h2 with
  | refl => exact h1
  | tail _ p ih => exact ih.tail p

theorem Steps.ind {P : Server → Prop} (hP : ∀ t u, Prim t u → P t → P u) {s t : Server} (h : Steps s t) (h0 : P s) : P t := by
  induction h with
  | refl => exact h0
  | tail _ p ih => exact hP _ _ p ih

theorem closeOne_steps (t : Server) (j : Nat) : Steps t (closeOne t j).1 := by
  -- the leaves of `closeOne`: 1 no record, 2 closed already, 3 a blocked handler (marked `halfClosed`), 4 `doClose`
  fun_cases closeOne t j
  case case3 x hx _ _ => exact (Steps.refl t).tail (.minor hx x.awaiting true x.nested)
  case case4 x hx ho _ _ => exact (Steps.refl t).tail (.close hx (Bool.not_eq_true _ ▸ ho))
  all_goals exact .refl t

theorem stepClose_steps (s : Server) (c : Nat) : Steps s (stepClose s c).1 :=
  stepClose_ind (Steps s) s c (.refl s) (fun t j h => h.trans (closeOne_steps t j))
    (fun _ _ x h hx => h.tail (.minor hx x.awaiting true x.nested))

theorem route_steps (s : Server) (tok : Nat) : Steps s (route s tok).1 := by
  -- only leaf 7 of `route` changes the state: the proxy of a closed issuer is adopted by the open connection registered under its id
  fun_cases route s tok
  case case7 o _ x hx ht hnz d hl hop => exact (Steps.refl s).tail (.adopt hx ht hnz hl hop)
  all_goals exact .refl s

theorem settle_steps (s : Server) (dst : Dest) : Steps s (settle s dst).1 := by
  -- `settle` changes the state where the reply reached a text connection (leaf 1: `awaiting` is zeroed) and where it was lost
  -- with the connection's stream (leaves 4 and 5: `awaiting` is zeroed, then the stream's connection closes)
  fun_cases settle s dst
  case case1 d y hy _ => exact (Steps.refl s).tail (.minor hy 0 y.halfClosed y.nested)
  case case4 d y hy _ _ _ _ | case5 d y hy _ _ =>
    exact ((Steps.refl s).tail (.minor hy 0 y.halfClosed y.nested)).trans (stepClose_steps _ d)
  all_goals exact .refl s

theorem step_steps (s : Server) (e : Event) (hw : ∀ c tok imm sf, e ≠ .will c tok imm sf) : Steps s (step s e).1 := by
  cases hd : s.dead with
  | some f => simp only [step, hd]; exact .refl s
  | none =>
    cases e <;> simp only [step, hd]
    case «open» k => rw [← hd]; exact (Steps.refl s).tail (.open s k none)
    case init c cid =>
      fun_cases stepInit s c cid
      case case3 x hx hcond _ _ =>
        have ho : x.closed = false := Bool.not_eq_true _ ▸ fun h => hcond (.inl h)
        have hk : x.kind = .binary := by
          cases h : x.kind
          · rfl
          · exact absurd (.inr (.inl h)) hcond
        exact (Steps.refl s).tail (.init hx ho hk cid)
      all_goals exact .refl s
    case will c tok imm sf => exact absurd rfl (hw c tok imm sf)
    case request c tok =>
      fun_cases stepRequest s c tok
      case case3 => exact (Steps.refl s).tail (.owner s _)
      case case4 x hx _ _ =>
        exact ((Steps.refl s).tail (.owner s (aput s.owner tok c))).tail
          (.minor (t := { s with owner := aput s.owner tok c }) hx tok x.halfClosed x.nested)
      all_goals exact .refl s
    case deliver tok => exact (route_steps s tok).trans (settle_steps (route s tok).1 (route s tok).2)
    case close c _ => exact stepClose_steps s c
    case admin c =>
      fun_cases stepAdmin s c
      case case3 x hx _ =>
        exact ((Steps.refl s).tail (.minor hx x.awaiting x.halfClosed (some s.conns.length))).tail (.open _ .text (some c))
      all_goals exact .refl s

theorem good_init {s : Server} (hg : Good s) {c : Nat} {x : Conn} (hx : s.conns[c]? = some x) (ho : x.closed = false)
    (hk : x.kind = .binary) (cid : Nat) :
    Good { s with conns := s.conns.set c { x with cid := cid, inited := true, announced := cid :: x.announced },
                  clients := aput (if x.inited = true ∧ aget s.clients x.cid = some c then adel s.clients x.cid
                    else s.clients) cid c } := by
  have r := hg.recOk hx
  refine good_update hg hx _ _ s.owner s.willLog s.dead
    ⟨fun h => (nomatch ho.symm.trans h), r.openShape, r.willsOpen, fun _ => List.mem_cons_self ..⟩ (fun d h => ?_)
    (.inl ⟨rfl, fun k hk' => List.mem_cons_of_mem _ hk'⟩) (fun k d hkd => ?_) (fun h => (nomatch ho.symm.trans h))
    (fun _ _ => rfl)
  · exact nomatch (r.openShape ho).symm.trans h
  · rw [aget_aput] at hkd
    split at hkd
    · cases hkd
      exact .inl ⟨rfl, ho, rfl, ‹k = cid›.symm, ‹k = cid› ▸ List.mem_cons_self .., hk⟩
    · -- an older entry: it does not point to `c`, whose own entry (if any) has just been removed
      refine .inr ?_
      split at hkd
      · obtain ⟨h1, h2⟩ := aget_adel_some hkd
        refine ⟨fun e' => ?_, h1⟩
        subst e'
        obtain ⟨z, hz, _, _, e1, _⟩ := hg.clientsOk k d h1
        cases hx.symm.trans hz
        exact h2 e1.symm
      · rename_i hc
        refine ⟨fun e' => ?_, hkd⟩
        subst e'
        obtain ⟨z, hz, _, b, e1, _⟩ := hg.clientsOk k d hkd
        cases hx.symm.trans hz
        exact hc ⟨b, e1 ▸ hkd⟩

theorem isOpen_spec {s : Server} {d : Nat} (h : isOpen s d = true) : ∃ y, s.conns[d]? = some y ∧ y.closed = false := by
  revert h
  fun_cases isOpen s d <;> intro h
  case case1 y hy => exact ⟨y, hy, by simpa using h⟩
  case case2 => cases h

theorem good_adopt {s : Server} (hg : Good s) {o d : Nat} {x : Conn} (hx : s.conns[o]? = some x) (ht : x.target = .default)
    (hnz : x.cid ≠ 0) (hl : aget s.clients x.cid = some d) (hop : isOpen s d = true) :
    Good { s with conns := s.conns.set o { x with target := .conn d } } := by
  obtain ⟨y, hy, hyo⟩ := isOpen_spec hop
  have hxc : x.closed = true := hg.closed_of_target hx (ht ▸ nofun)
  have r := hg.recOk hx
  have hdo : d ≠ o := fun e => by subst e; cases hx.symm.trans hy; exact nomatch hxc.symm.trans hyo
  refine good_update hg hx _ s.clients s.owner s.willLog s.dead
    ⟨fun _ => ⟨(r.closedShape hxc).1, nofun, (r.closedShape hxc).2.2⟩, fun h => (nomatch hxc.symm.trans h),
      fun h => (nomatch hxc.symm.trans h), r.announcedOwn⟩ (fun d' h => ?_) (.inl ⟨rfl, fun _ h => h⟩) (fun k d' hk => ?_)
    (fun _ => hg.willsClosed o x hx hxc) (fun _ _ => rfl)
  · cases h
    obtain ⟨z, hz, _, _, _, f, _⟩ := hg.clientsOk x.cid d hl
    cases hy.symm.trans hz
    exact ⟨hdo, hnz, y, hy, hyo, f⟩
  · refine .inr ⟨fun e => ?_, hk⟩
    subst e
    obtain ⟨z, hz, zo, _⟩ := hg.clientsOk k d' hk
    cases hx.symm.trans hz
    exact nomatch hxc.symm.trans zo

theorem Prim.gsa {t u : Server} (p : Prim t u) (h : GSA t) : GSA u := by
  obtain ⟨hg, hs, hd⟩ := h
  cases p with
  | owner ow => exact ⟨good_owner hg ow, ⟨hs.engRange, hs.execOpen⟩, hd⟩
  | minor hx a h n =>
    have r := hg.recOk hx
    exact ⟨good_update_same hg hx _ t.owner rfl rfl rfl rfl rfl rfl ⟨r.closedShape, r.openShape, r.willsOpen, r.announcedOwn⟩
      (fun _ => rfl), safe_set hs hx _ _ _ id, hd⟩
  | init hx ho hk cid => exact ⟨good_init hg hx ho hk cid, safe_set hs hx _ _ _ id, hd⟩
  | adopt hx ht hnz hl hop => exact ⟨good_adopt hg hx ht hnz hl hop, safe_set hs hx _ _ _ id, hd⟩
  | «open» k o => exact ⟨good_open hg k o, safe_open hs k o, hd⟩
  | close hx ho => exact gsa_doClose ⟨hg, hs, hd⟩ hx ho

theorem gsa_step {s : Server} (h : GSA s) (e : Event) : GSA (step s e).1 := by
  by_cases hw : ∃ c tok imm sf, e = .will c tok imm sf
  · obtain ⟨c, tok, imm, sf, rfl⟩ := hw
    obtain ⟨hg, hs, hd⟩ := h
    have e1 : step s (.will c tok imm sf) = stepWill s c tok imm sf := by unfold step; rw [hd]
    rw [e1]
    rcases stepWill_cases s c tok imm sf with e | ⟨x, hx, ho, e⟩ <;> rw [e]
    · exact ⟨hg, hs, hd⟩
    · have r := hg.recOk hx
      refine ⟨good_update_same hg hx _ s.owner rfl rfl rfl rfl rfl rfl ⟨fun h => (nomatch ho.symm.trans h), r.openShape, fun _ => ?_,
        r.announcedOwn⟩ (fun h => (nomatch ho.symm.trans h)), safe_set hs hx _ _ _ id, hd⟩
      show x.reg ++ [tok] = List.map Will.tok (x.wills ++ [⟨tok, imm, sf⟩])
      rw [List.map_append, r.willsOpen ho]; rfl
  · exact (step_steps s e fun c tok imm sf he => hw ⟨c, tok, imm, sf, he⟩).ind (fun _ _ => Prim.gsa) h

theorem gsa_run (evs : List Event) : GSA (run evs) := by
  have no : ∀ {p : Prop} (c : Nat) (x : Conn), ({} : Server).conns[c]? = some x → p := fun c x h => by simp at h
  have h0 : GSA ({} : Server) :=
    ⟨⟨fun c x h => no c x h, fun c x h => no c x h, fun c x _ h => no c x h, fun _ _ h => (nomatch h), fun c x h => no c x h,
      fun c x h => no c x h, fun c x h => no c x h⟩, ⟨fun _ h => (nomatch h), fun c x h => no c x h⟩, rfl⟩
  unfold run
  generalize ({} : Server) = s at h0
  induction evs generalizing s with
  | nil => exact h0
  | cons e es ih => exact ih _ (gsa_step h0 e)

theorem step_close {s : Server} (hd : s.dead = none) (c : Nat) (k : Cause) : step s (.close c k) = stepClose s c := by
  unfold step; rw [hd]

theorem step_dead {s : Server} (e : Event) (f : Fatal) (h : s.dead = some f) : (step s e).1 = s := by
  unfold step; simp [h]

end Slock.Conn
