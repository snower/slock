import Slock.Proofs.EngineWake
/-! The state-changing branches of stage 1's LOCK and UNLOCK in normal form — (database, key, replies) stored back directly or through
the wake pass (`wakeStore`): one equation per branch, each by unfolding. The congruence proofs (`EngineSimCongr`) and the simulation
(`Engine2Sim*`) both reason about these forms. -/
namespace Slock.Sim
open Slock Slock.Engine

def wakeStore (a : DB) (k : Key) (out : List Reply) : DB × List Reply := ((wake a k out).1.setKey (wake a k out).2.1, (wake a k out).2.2)

def ctrG (c : Counters) : Counters := { c with lockCount := c.lockCount + 1, lockedCount := c.lockedCount + 1 }
def keyG (k : Key) (h : Hold) : Key := { k with holders := k.holders ++ [h], locked := k.locked + 1 }
def dbG (a : DB) : DB := { a with seq := a.seq + 1, ctr := ctrG a.ctr }

theorem grantHold_eq (a : DB) (k : Key) (c : Cmd) : grantHold a k c = (dbG a, keyG k (Engine.grantedHold a c)) := rfl

theorem applyLock_grant_eq (a : DB) (c : Cmd) :
    applyLock a c .grant =
      if (a.getKey c.key).waited then
        wakeStore (dbG a) (keyG (a.getKey c.key) (Engine.grantedHold a c)) [mkReply c RESULT_SUCCED (keyG (a.getKey c.key) (Engine.grantedHold a c)).locked 1]
      else ((dbG a).setKey (keyG (a.getKey c.key) (Engine.grantedHold a c)), [mkReply c RESULT_SUCCED (keyG (a.getKey c.key) (Engine.grantedHold a c)).locked 1]) := by
  unfold applyLock
  simp only [grantHold_eq]
  split <;> rfl

def ctrL (c : Counters) : Counters := { c with lockCount := c.lockCount + 1 }
def ctrW (c : Counters) : Counters := { c with waitCount := c.waitCount - 1 }
def ctrU (c : Counters) : Counters := { c with unLockCount := c.unLockCount + 1 }

theorem applyLock_grantNoHold_eq (a : DB) (c : Cmd) :
    applyLock a c .grantNoHold =
      if (a.getKey c.key).waited then
        wakeStore { a with ctr := ctrL a.ctr } (a.getKey c.key) [mkReply c RESULT_SUCCED (a.getKey c.key).locked 0]
      else (({ a with ctr := ctrL a.ctr } : DB).setKey (a.getKey c.key), [mkReply c RESULT_SUCCED (a.getKey c.key).locked 0]) := by
  unfold applyLock
  simp only []
  split <;> rfl

def keyRep (k : Key) (h h' : Hold) (n : Nat) : Key := { k with holders := replaceHolder k.holders h h', locked := n }

theorem applyLock_update_eq (a : DB) (c : Cmd) (hd : Hold) :
    applyLock a c (.update hd) =
      wakeStore (updateHold a hd { c with lockId := hd.cmd.lockId }).1
        (keyRep (a.getKey c.key) hd (updateHold a hd { c with lockId := hd.cmd.lockId }).2 (a.getKey c.key).locked)
        [mkReply { c with lockId := hd.cmd.lockId } RESULT_LOCKED_ERROR (a.getKey c.key).locked hd.depth] := rfl


theorem applyLock_relock_eq (a : DB) (c : Cmd) (hd : Hold) :
    applyLock a c (.relock hd) =
      wakeStore { (updateHold a { hd with depth := hd.depth + 1 } c).1 with ctr := ctrG (updateHold a { hd with depth := hd.depth + 1 } c).1.ctr }
        (keyRep (a.getKey c.key) hd (updateHold a { hd with depth := hd.depth + 1 } c).2 ((a.getKey c.key).locked + 1))
        [mkReply c RESULT_SUCCED ((a.getKey c.key).locked + 1) (updateHold a { hd with depth := hd.depth + 1 } c).2.depth] := rfl

def keyQ (k : Key) (w : Waiter) : Key := { k with waiters := insertWaiter k.waiters w, waited := true }
def dbQ (a : DB) : DB := { a with seq := a.seq + 1, ctr := { a.ctr with waitCount := a.ctr.waitCount + 1 } }

theorem applyLock_queue_eq (a : DB) (c : Cmd) : applyLock a c .queue = ((dbQ a).setKey (keyQ (a.getKey c.key) (Engine.newWaiter a c)), []) := rfl

def keyCancel (k : Engine.Key) (w : Engine.Waiter) : Engine.Key :=
  { k with waiters := Engine.removeWaiter k.waiters w, waited := if (Engine.removeWaiter k.waiters w).isEmpty then false else k.waited }

def ctrCancel (x : Counters) : Counters := { x with waitCount := x.waitCount - 1, unLockCount := x.unLockCount + 1 }

theorem applyUnlock_cancel_eq (a : DB) (c : Cmd) (w : Waiter) :
    applyUnlock a c (.cancel w) =
      wakeStore { a with ctr := ctrCancel a.ctr } (keyCancel (a.getKey c.key) w)
        [mkReply c RESULT_LOCKED_ERROR (a.getKey c.key).locked 0, mkReply { w.cmd with conn := w.conn } RESULT_UNLOCK_ERROR (a.getKey c.key).locked 0] := rfl

def keyDec (k : Key) (h : Hold) : Key := { k with holders := replaceHolder k.holders h { h with depth := h.depth - 1 }, locked := k.locked - 1 }
def ctrDec (x : Counters) : Counters := { x with unLockCount := x.unLockCount + 1, lockedCount := x.lockedCount - 1 }

theorem applyUnlock_dec_eq (a : DB) (c : Cmd) (h : Hold) (c' : Cmd) :
    applyUnlock a c (.dec h c') =
      wakeStore { a with ctr := ctrDec a.ctr } (keyDec (a.getKey c.key) h) [mkReply c' RESULT_SUCCED (keyDec (a.getKey c.key) h).locked (h.depth - 1)] := rfl

def keyRel (k : Key) (h : Hold) : Key := { k with holders := removeHolder k.holders h, locked := k.locked - h.depth }
def ctrRel (n : Nat) (x : Counters) : Counters := { x with unLockCount := x.unLockCount + n, lockedCount := x.lockedCount - n }

theorem applyUnlock_release_eq (a : DB) (c : Cmd) (h : Hold) (c' : Cmd) :
    applyUnlock a c (.release h c') =
      wakeStore { a with ctr := ctrRel h.depth a.ctr } (keyRel (a.getKey c.key) h) [mkReply c' RESULT_SUCCED (keyRel (a.getKey c.key) h).locked 0] := rfl

end Slock.Sim
