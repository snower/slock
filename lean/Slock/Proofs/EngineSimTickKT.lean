import Slock.Proofs.Engine2SimInv
import Slock.Proofs.Engine2SimEdit
import Slock.Proofs.Engine2Step
/-! Clock-tick simulation (`sim_tick`): the record-level invariant `KT` of one key record the sweeps need beyond `Sim.KI` —
a lock record that is a live queued request sits in the wait queue and carries a timeout-wheel entry that caches its back-off counter
(stage 1 re-arms with `sched.checked + 1`, the record-level model with `tChecked + 1`); a lock record that is a hold sits in
`currentLock` / the holder queue. -/
namespace Slock.SimTick
open Slock Slock.Sim Slock.Engine2

structure KT (k : Key) : Prop where
  wq : ∀ y, k.hasRec y → (k.getR y).timeouted = false → y ∈ k.wait.map (·.rid)
  ws : ∀ y, k.hasRec y → (k.getR y).timeouted = false → ∃ sc, (k.getR y).tSched = some sc ∧ sc.checked = (k.getR y).tChecked
  hq : ∀ y, k.hasRec y → 0 < (k.getR y).depth → y ∈ k.current.toList ++ k.locks

theorem KT.newKey (n : Nat) : KT (Engine2.newKey n) := by
  have hno : ∀ y, ¬ (Engine2.newKey n).hasRec y := by intro y ⟨r, hr, _⟩; simp [Slock.Engine2.newKey] at hr
  exact ⟨fun y h => absurd h (hno y), fun y h => absurd h (hno y), fun y h => absurd h (hno y)⟩

/-- every key record of the database satisfies `KT`, the key-record invariant the tick needs -/
def DBKT (s : DB) : Prop := ∀ k ∈ s.keys, KT k

theorem DBKT.init (now aofTime : Nat) : DBKT (DB.init now aofTime) := by intro k hk; simp [DB.init] at hk

theorem DBKT.getKey {s : DB} (h : DBKT s) (n : Nat) : KT (s.getKey n) := all_getKey h n (KT.newKey _)

theorem DBKT.of_keys {s s' : DB} (h : DBKT s) (e : s'.keys = s.keys) : DBKT s' := by
  intro k hk; rw [e] at hk; exact h k hk

/-! `KT` through the steps on one key record: the projections `KT` reads, the step relation `KTK` between two versions of a key record
(records outside `XW` keep their wait-queue side, records outside `XH` keep their depth; live entries stay in the wait queue, holds stay
in the holder queue), its working-state version `TK`, the working-state invariant `WT`. -/
open Slock.Engine (has)

/-- the wait-queue side of a lock record: tombstone, the back-off counter cached in the timeout-wheel entry, the record's counter -/
def πW (r : Rec) : Bool × Option Nat × Nat := (r.timeouted, r.tSched.map (·.checked), r.tChecked)
def πD (r : Rec) : Nat := r.depth
def πT (r : Rec) : (Bool × Option Nat × Nat) × Nat := (πW r, πD r)

theorem ins_πW : Ins πW := ⟨fun _ _ => rfl, fun _ _ => rfl, fun _ _ => rfl, fun _ _ => rfl⟩
theorem ins_πD : Ins πD := ⟨fun _ _ => rfl, fun _ _ => rfl, fun _ _ => rfl, fun _ _ => rfl⟩
/-- the timeout-wheel entry caches the back-off counter -/
def WS (r : Rec) : Prop := r.tSched.map (·.checked) = some r.tChecked

theorem ws_iff (r : Rec) : (∃ sc, r.tSched = some sc ∧ sc.checked = r.tChecked) ↔ WS r := by
  unfold WS
  cases h : r.tSched with
  | none => simp
  | some s => simp

theorem ws_of_πW {r r' : Rec} (h : πW r' = πW r) : WS r' ↔ WS r := by
  have e2 : r'.tSched.map (·.checked) = r.tSched.map (·.checked) := congrArg (fun t => t.2.1) h
  have e3 : r'.tChecked = r.tChecked := congrArg (fun t => t.2.2) h
  unfold WS; rw [e2, e3]

theorem to_of_πW {r r' : Rec} (h : πW r' = πW r) : r'.timeouted = r.timeouted := congrArg (fun t => t.1) h

theorem pkx_modRec {α : Type} {π : Rec → α} {X : Nat → Prop} (k : Key) (rid : Nat) (f : Rec → Rec) (hf : ∀ r, (f r).rid = r.rid)
    (h : X rid ∨ ∀ r, π (f r) = π r) : PKeepX π X (k.modRec rid f) k := by
  rcases h with hx | hp
  · exact PKeepX.modRec k rid f hf hx
  · exact PKeepX.of_pk (PKeep.modRec k rid f hf hp)

structure KTK (XW XH : Nat → Prop) (k' k : Key) : Prop where
  pw : PKeepX πW XW k' k
  pd : PKeepX πD XH k' k
  qw : ∀ y, ¬ XW y → (k'.getR y).timeouted = false → y ∈ k.wait.map (·.rid) → y ∈ k'.wait.map (·.rid)
  qh : ∀ y, ¬ XH y → 0 < (k'.getR y).depth → y ∈ k.current.toList ++ k.locks → y ∈ k'.current.toList ++ k'.locks

namespace KTK
variable {XW XH : Nat → Prop}

theorem refl (k : Key) : KTK XW XH k k := ⟨PKeepX.refl _, PKeepX.refl _, fun _ _ _ h => h, fun _ _ _ h => h⟩

theorem trans {a b c : Key} (h1 : KTK XW XH a b) (h2 : KTK XW XH b c) : KTK XW XH a c := by
  refine ⟨h1.pw.trans h2.pw, h1.pd.trans h2.pd, ?_, ?_⟩
  · intro y hx hl hm
    have hh := hasRec_of_liveWaiter hl
    have e := to_of_πW (h1.pw.val y hx hh)
    exact h1.qw y hx hl (h2.qw y hx (by rw [← e]; exact hl) hm)
  · intro y hx hd hm
    have hh := hasRec_of_depth hd
    have e : (a.getR y).depth = (b.getR y).depth := h1.pd.val y hx hh
    exact h1.qh y hx hd (h2.qh y hx (by rw [← e]; exact hd) hm)

theorem of_pk {k' k : Key} (q : k'.queues = k.queues) (p : PKeep πT k' k) : KTK XW XH k' k := by
  obtain ⟨q1, q2, q3⟩ := queues_eq q
  exact ⟨⟨fun y _ => p.sub y, fun y _ h => congrArg Prod.fst (p.val y h)⟩, ⟨fun y _ => p.sub y, fun y _ h => congrArg Prod.snd (p.val y h)⟩,
    fun _ _ _ h => by rw [q3]; exact h, fun _ _ _ h => by rw [q1, q2]; exact h⟩

theorem modRec (k : Key) (rid : Nat) (f : Rec → Rec) (hf : ∀ r, (f r).rid = r.rid)
    (hw : XW rid ∨ ∀ r, πW (f r) = πW r) (hd : XH rid ∨ ∀ r, πD (f r) = πD r) : KTK XW XH (k.modRec rid f) k :=
  ⟨pkx_modRec k rid f hf hw, pkx_modRec k rid f hf hd, fun _ _ _ h => h, fun _ _ _ h => h⟩

end KTK

/-- the records in `XW` / `XH` are argued for directly -/
theorem KT.step {k k' : Key} (h : KT k) {XW XH : Nat → Prop} (d : KTK XW XH k' k)
    (xw : ∀ y, XW y → (k'.getR y).timeouted = false → y ∈ k'.wait.map (·.rid) ∧ WS (k'.getR y))
    (xh : ∀ y, XH y → 0 < (k'.getR y).depth → y ∈ k'.current.toList ++ k'.locks) : KT k' := by
  refine ⟨?_, ?_, ?_⟩
  · intro y hy hl
    by_cases hx : XW y
    · exact (xw y hx hl).1
    · have v := d.pw.val y hx hy
      exact d.qw y hx hl (h.wq y (d.pw.sub y hx hy) (by rw [← to_of_πW v]; exact hl))
  · intro y hy hl
    apply (ws_iff _).mpr
    by_cases hx : XW y
    · exact (xw y hx hl).2
    · have v := d.pw.val y hx hy
      exact (ws_of_πW v).mpr ((ws_iff _).mp (h.ws y (d.pw.sub y hx hy) (by rw [← to_of_πW v]; exact hl)))
  · intro y hy hd
    by_cases hx : XH y
    · exact xh y hx hd
    · have v : (k'.getR y).depth = (k.getR y).depth := d.pd.val y hx hy
      exact d.qh y hx hd (h.hq y (d.pd.sub y hx hy) (by rw [← v]; exact hd))

abbrev NoX : Nat → Prop := fun _ => False

theorem KT.quiet {k k' : Key} (h : KT k) (d : KTK NoX NoX k' k) : KT k' :=
  h.step d (fun _ hx => absurd hx id) (fun _ hx => absurd hx id)

/-- `KT` of the key record being worked on, as long as it is linked -/
def WT (w : W) : Prop := w.gone = false → KT w.k

structure TK (XW XH : Nat → Prop) (w w' : W) : Prop where
  g : w'.gone = w.gone
  k : KTK XW XH w'.k w.k

theorem WT.tk {w w' : W} (h : WT w) {XW XH : Nat → Prop} (d : TK XW XH w w')
    (xw : KT w.k → ∀ y, XW y → (w'.k.getR y).timeouted = false → y ∈ w'.k.wait.map (·.rid) ∧ WS (w'.k.getR y))
    (xh : KT w.k → ∀ y, XH y → 0 < (w'.k.getR y).depth → y ∈ w'.k.current.toList ++ w'.k.locks) : WT w' := by
  intro hg
  have h0 := h (by rw [← d.g]; exact hg)
  exact h0.step d.k (xw h0) (xh h0)

/-- no record is argued for directly -/
theorem WT.tk_nox {w w' : W} (h : WT w) (d : TK NoX NoX w w') : WT w' :=
  h.tk d (fun _ _ hx => absurd hx id) (fun _ _ hx => absurd hx id)

theorem WT.removeIfZero {w : W} (h : WT w) : WT w.removeIfZero := by
  rcases removeIfZero_cases w with e | ⟨hg, _⟩
  · rw [e]; exact h
  · intro hg'; rw [hg] at hg'; exact absurd hg' (by simp)

/-- a `Quiet` helper step is one `KT` does not see -/
theorem _root_.Slock.Sim.Quiet.tk {XW XH : Nat → Prop} {w w' : W} (d : Quiet w w') : TK XW XH w w' :=
  ⟨d.g, KTK.of_pk d.q (d.p.comp fun t => ((t.i.timeouted, t.tck, t.tChecked), t.i.depth))⟩

namespace TK
variable {XW XH : Nat → Prop}

theorem refl (w : W) : TK XW XH w w := ⟨rfl, KTK.refl _⟩
theorem trans {a b c : W} (h1 : TK XW XH a b) (h2 : TK XW XH b c) : TK XW XH a c := ⟨h2.g.trans h1.g, h2.k.trans h1.k⟩
theorem modR (w : W) (rid : Nat) (f : Rec → Rec) (hf : ∀ r, (f r).rid = r.rid)
    (hw : XW rid ∨ ∀ r, πW (f r) = πW r) (hd : XH rid ∨ ∀ r, πD (f r) = πD r) : TK XW XH w (w.modR rid f) :=
  ⟨rfl, KTK.modRec w.k rid f hf hw hd⟩
theorem modK (w : W) (f : Key → Key) (h1 : (f w.k).recs = w.k.recs) (h2 : (f w.k).queues = w.k.queues) : TK XW XH w (w.modK f) :=
  ⟨rfl, KTK.of_pk h2 (PKeep.of_eq h1)⟩
theorem of_pk {w w' : W} (g : w'.gone = w.gone) (q : w'.k.queues = w.k.queues) (p : PK πT w' w) : TK XW XH w w' := ⟨g, KTK.of_pk q p⟩
theorem pushLockAofN (n : Nat) (w : W) (rid : Nat) : TK XW XH w (W.pushLockAofN n w rid) := (Quiet.pushLockAofN n w rid).tk
theorem schedExpried (w : W) (rid : Nat) : TK XW XH w (w.schedExpried rid) :=
  of_pk rfl rfl (pk_schedExpried w rid (fun _ _ => rfl))
end TK

theorem _root_.Slock.Sim.Edit.pkx {α : Type} {π : Rec → α} {X : Nat → Prop} {h : Nat} {f : Rec → Rec} {g : Nat → Nat} {n : Nat} {w w' : W}
    (e : Edit h f g n w w') (hπ : ∀ r, π r = π r.vis) (hx : X h ∨ ∀ r, π (f r) = π r) : PKeepX π X w'.k w.k := by
  rcases hx with a | a
  · exact ⟨fun y _ hy => (e.hasRec y).mp hy, fun y hy _ => by rw [hπ, e.other y (fun e' => hy (e' ▸ a)), ← hπ]⟩
  · exact PKeepX.of_pk (e.pk hπ a)

/-- a chain in edit normal form, as `KT` sees it: the queues stay, and so does every record but (at most) the edited one -/
theorem _root_.Slock.Sim.Edit.tk {XW XH : Nat → Prop} {h : Nat} {f : Rec → Rec} {g : Nat → Nat} {n : Nat} {w w' : W} (e : Edit h f g n w w')
    (hw : XW h ∨ ∀ r, πW (f r) = πW r) (hd : XH h ∨ ∀ r, πD (f r) = πD r) : TK XW XH w w' := by
  obtain ⟨q1, q2, q3⟩ := queues_eq e.q
  exact ⟨e.gone, e.pkx (fun _ => rfl) hw, e.pkx (fun _ => rfl) hd, fun _ _ _ hm => by rw [q3]; exact hm, fun _ _ _ hm => by rw [q1, q2]; exact hm⟩

end Slock.SimTick
