import Slock.Proofs.EngineCount
/-!
Conservation of request ids (C03). For a request id `x`, `answered x` (terminal replies) + `queued x` (queue entries) is left
as it is by every edit but for the command's own id, which is added once: an issued id is still queued or has been answered
exactly once. The counts are in `Int`, so that the law is an equation and `omega` carries it. That queued ids are pairwise
distinct (`QU`) follows when ids are issued once, which is a matter of the run (`C03.Once.qu`).
-/
namespace Slock.Engine

abbrev Rid := Nat × Nat   -- (connection, request id)

def Reply.rid (r : Reply) : Rid := (r.conn, r.req)
def Waiter.rid (w : Waiter) : Rid := (w.conn, w.cmd.req)

/-- terminal = anything but the asynchronous EXPRIED notice -/
def terminal (r : Reply) : Bool := r.result != RESULT_EXPRIED

def answered (x : Rid) (out : List Reply) : Int := ((out.filter terminal).map Reply.rid).count x

def queuedIn (x : Rid) (k : Key) : Int := (k.waiters.map Waiter.rid).count x

def queued (x : Rid) (ks : List Key) : Int := (ks.map (queuedIn x)).sum

@[simp] theorem answered_nil (x : Rid) : answered x [] = 0 := rfl
theorem answered_append (x : Rid) (a b : List Reply) : answered x (a ++ b) = answered x a + answered x b := by
  unfold answered; simp [List.filter_append, List.count_append]

theorem answered_single (x : Rid) (r : Reply) :
    answered x [r] = if terminal r = true ∧ r.rid = x then 1 else 0 := by
  unfold answered
  by_cases ht : terminal r = true
  · by_cases hx : r.rid = x
    · simp [List.filter, ht, hx]
    · simp [List.filter, ht, hx]
  · have : terminal r = false := by simpa using ht
    simp [List.filter, this]

theorem answered_nonneg (x : Rid) (out : List Reply) : 0 ≤ answered x out := by unfold answered; omega
theorem queuedIn_nonneg (x : Rid) (k : Key) : 0 ≤ queuedIn x k := by unfold queuedIn; omega

theorem queued_cons (x : Rid) (k : Key) (ks : List Key) : queued x (k :: ks) = queuedIn x k + queued x ks := by
  simp [queued]

theorem queued_nonneg (x : Rid) (ks : List Key) : 0 ≤ queued x ks := by
  induction ks with
  | nil => exact Int.le_refl 0
  | cons k ks ih => rw [queued_cons]; have := queuedIn_nonneg x k; omega

theorem queuedIn_empty (x : Rid) (n : Nat) : queuedIn x (emptyKey n) = 0 := rfl

theorem queued_setKey (x : Rid) {db : DB} (h : KN db) (k : Key) :
    queued x (db.setKey k).keys = queued x db.keys - queuedIn x (db.getKey k.key) + queuedIn x k :=
  totF_setKey (queuedIn x) (queuedIn_empty x) h k

theorem answered_grants (x : Rid) : ∀ (gs : List Waiter) (more : List Reply),
    more.map (fun r => (r.conn, r.req, r.result)) = gs.map (fun w => (w.conn, w.cmd.req, RESULT_SUCCED)) →
    answered x more = (gs.map Waiter.rid).count x
  | [], [], _ => rfl
  | [], _ :: _, h => nomatch h
  | _ :: _, [], h => nomatch h
  | w :: gs, r :: more, h => by
    simp only [List.map_cons, List.cons.injEq, Prod.mk.injEq] at h
    have ht : terminal r = true := by unfold terminal; rw [h.1.2.2]; decide
    have hr : r.rid = w.rid := by unfold Reply.rid Waiter.rid; rw [h.1.1, h.1.2.1]
    rw [show r :: more = [r] ++ more from rfl, answered_append, answered_single, answered_grants x gs more h.2, ht, hr,
      List.map_cons, List.count_cons]
    by_cases hx : w.rid = x <;> simp [hx] <;> omega

theorem wake_cons (x : Rid) (db : DB) (k : Key) (out : List Reply) :
    answered x (wake db k out).2.2 + queuedIn x (wake db k out).2.1 = answered x out + queuedIn x k := by
  obtain ⟨gs, more, e1, e2, e3⟩ := (wake_frame db k out).grants
  unfold queuedIn
  rw [e2, answered_append, answered_grants x gs more e3, e1, List.map_append, List.count_append]
  omega

theorem wake_store_cons (x : Rid) {db0 db : DB} (hk : KN db0) (e : db.keys = db0.keys) (k : Key) (n : Nat) (hn : k.key = n)
    (out : List Reply) :
    answered x (wake db k out).2.2 + queued x ((wake db k out).1.setKey (wake db k out).2.1).keys =
      answered x out + queued x db0.keys - queuedIn x (db0.getKey n) + queuedIn x k := by
  have hkn : KN (wake db k out).1 := hk.of_keys_eq (by rw [wake_keys, e])
  rw [queued_setKey x hkn, wake_key, hn]
  have hg : (wake db k out).1.getKey n = db0.getKey n := getKey_of_keys_eq (by rw [wake_keys, e]) n
  have hq : queued x (wake db k out).1.keys = queued x db0.keys := by unfold queued; rw [wake_keys, e]
  rw [hg, hq]
  have := wake_cons x db k out
  omega

def hit (x y : Rid) : Int := if y = x then 1 else 0

/-- `queuedIn` of a key record, as a function of its queue (the edits change the queue) -/
def qW (x : Rid) (ws : List Waiter) : Int := (ws.map Waiter.rid).count x

theorem queuedIn_eq (x : Rid) (k : Key) : queuedIn x k = qW x k.waiters := rfl

theorem answered_own (x : Rid) {c : Cmd} {r : Reply} (hr : (r.conn, r.req) = (c.conn, c.req)) (hres : r.result ≠ RESULT_EXPRIED) :
    answered x [r] = hit x (c.conn, c.req) := by
  have ht : terminal r = true := by unfold terminal; simpa using hres
  rw [answered_single, ht, show r.rid = (c.conn, c.req) from hr]
  unfold hit; simp

theorem answered_mk_expried (x : Rid) (c : Cmd) (l lr : Nat) : answered x [mkReply c RESULT_EXPRIED l lr] = 0 := by
  rw [answered_single]
  have : terminal (mkReply c RESULT_EXPRIED l lr) = false := by unfold terminal mkReply; simp
  simp [this]

theorem qW_insert (x : Rid) (ws : List Waiter) (w : Waiter) : qW x (insertWaiter ws w) = qW x ws + hit x w.rid := by
  obtain ⟨l1, l2, e1, e2, _, _⟩ := insertWaiter_split ws w
  unfold qW hit
  rw [e2, e1]
  by_cases hx : w.rid = x
  · simp [hx, List.count_append]; omega
  · simp [hx, List.count_append]

theorem qW_remove (x : Rid) {ws : List Waiter} {w : Waiter} (hm : w ∈ ws) :
    qW x (removeWaiter ws w) + hit x w.rid = qW x ws := by
  obtain ⟨l1, y, l2, e, e1, e2, er⟩ := removeWaiter_split hm
  have hy : y.rid = w.rid := by unfold Waiter.rid; rw [e1, e2]
  unfold qW hit
  rw [er, e]
  by_cases hx : w.rid = x <;> simp [hx, hy, List.count_append] <;> omega

theorem store_cons (x : Rid) (db0 : DB) {db : DB} {k : Key} (n : Nat) (hk : KN db0) (e : db.keys = db0.keys) (hn : k.key = n) :
    queued x (db.setKey k).keys = queued x db0.keys - qW x (db0.getKey n).waiters + qW x k.waiters := by
  rw [queued_setKey x (hk.of_keys_eq e), hn, getKey_of_keys_eq e]
  have : queued x db.keys = queued x db0.keys := by unfold queued; rw [e]
  rw [this, queuedIn_eq, queuedIn_eq]

theorem store_answered (x : Rid) (db0 : DB) {d : DB} {k : Key} (n : Nat) (wk : Bool) (out : List Reply) (hk : KN db0)
    (e : d.keys = db0.keys) (hn : k.key = n) :
    answered x (store wk d k out).2 + queued x (store wk d k out).1.keys =
      answered x out + queued x db0.keys - qW x (db0.getKey n).waiters + qW x k.waiters := by
  unfold store
  split
  · exact wake_store_cons x hk e k n hn out
  · dsimp only; rw [store_cons x db0 n hk e hn]; omega

theorem qW_map_same (x : Rid) (ws : List Waiter) (f : Waiter → Waiter) (hf : ∀ w ∈ ws, (f w).rid = w.rid) :
    qW x (ws.map f) = qW x ws := by
  unfold qW
  induction ws with
  | nil => rfl
  | cons y ys ih =>
    have h1 := hf y (by simp)
    have h2 := ih (fun w hw => hf w (List.mem_cons_of_mem _ hw))
    simp only [List.map_cons, List.count_cons, h1]
    simp only [List.map_map] at h2 ⊢
    omega

section
variable {db0 db d : DB} {s : Src} {n : Nat} {wk : Bool} {k : Key} {out : List Reply}

/-- the request id an edit answers for: the command's own -/
def Src.own (x : Rid) : Src → Int
  | .lock c | .unlock c => hit x (c.conn, c.req)
  | _ => 0

theorem Edit.cons (e : Edit db0 db s n wk d k out) (x : Rid) :
    answered x out + qW x k.waiters = Src.own x s + qW x (db.getKey n).waiters := by
  cases e with
  | update | relock | grantNoHold | grant => rw [answered_own x rfl (by simp only [mkReply]; decide)]; rfl
  | queue c =>
    rw [qW_insert, answered_nil]
    show _ + (_ + hit x (c.conn, c.req)) = hit x (c.conn, c.req) + _
    omega
  | cancel c w hb =>
    have := qW_remove x (classifyUnlock_cancel_mem db c w hb)
    rw [show ∀ a b : Reply, [a, b] = [a] ++ [b] from fun _ _ => rfl, answered_append,
      answered_own x rfl (by simp only [mkReply]; decide), answered_own (c := { w.cmd with conn := w.conn }) x rfl
        (by simp only [mkReply]; decide)]
    show _ + hit x w.rid + qW x (removeWaiter (db.getKey c.key).waiters w) = hit x (c.conn, c.req) + _
    omega
  | dec c h c' hb => rw [answered_own x (UnlockFacts.of hb).1.rid (by simp only [mkReply]; decide)]; rfl
  | release c h c' hb => rw [answered_own x (UnlockFacts.of hb).rid (by simp only [mkReply]; decide)]; rfl
  | timeout key w hm =>
    have := qW_remove x hm
    rw [answered_own (c := { w.cmd with conn := w.conn }) x rfl (by simp only [mkReply]; decide)]
    show hit x w.rid + qW x (removeWaiter _ w) = 0 + _
    omega
  | expire => rw [answered_mk_expried]; rfl
  | rearmW w =>
    rw [answered_nil]
    show 0 + qW x (List.map _ _) = 0 + _
    rw [qW_map_same]
    intro y _
    split
    · rename_i hm
      simp only [Bool.and_eq_true, beq_iff_eq] at hm
      show (w.conn, w.cmd.req) = (y.conn, y.cmd.req)
      rw [hm.1, hm.2]
    · rfl
  | rearmH => rfl

theorem cons_edit (e : Edit db0 db s n wk d k out) (x : Rid) (hk : KN db) :
    answered x (store wk d k out).2 + queued x (store wk d k out).1.keys = Src.own x s + queued x db.keys := by
  rw [store_answered x db n wk out hk e.frame.1 e.frame.2.2.2]
  have := e.cons x
  omega

theorem KN_store {db0 d : DB} (wk : Bool) (k : Key) (out : List Reply) (h : KN db0) (e : d.keys = db0.keys) :
    KN (store wk d k out).1 := by
  unfold store
  split
  · exact KN_setKey (h.of_keys_eq ((wake_keys d k out).trans e)) _
  · exact KN_setKey (h.of_keys_eq e) _

theorem KN.edit (e : Edit db0 db s n wk d k out) (h : KN db) : KN (store wk d k out).1 := KN_store wk k out h e.frame.1

theorem opLock_cinv_kn (db : DB) (c : Cmd) (h : KN db) : KN (opLock db c).1 := opLock_keeps KN.edit db c h

theorem opUnlock_kn (db : DB) (c : Cmd) (h : KN db) : KN (opUnlock db c).1 := opUnlock_keeps KN.edit db c (h.of_keys_eq rfl) h

theorem opLock_cons (x : Rid) (db : DB) (c : Cmd) (hk : KN db) :
    answered x (opLock db c).2 + queued x (opLock db c).1.keys = hit x (c.conn, c.req) + queued x db.keys :=
  opLock_edit db c (Q := fun p => answered x p.2 + queued x p.1.keys = hit x (c.conn, c.req) + queued x db.keys)
    (fun _ hr hres => by rw [answered_own x hr hres]) fun _ _ _ _ e => cons_edit e x hk

theorem opUnlock_cons (x : Rid) (db : DB) (c : Cmd) (hk : KN db) :
    answered x (opUnlock db c).2 + queued x (opUnlock db c).1.keys = hit x (c.conn, c.req) + queued x db.keys :=
  opUnlock_edit db c (Q := fun p => answered x p.2 + queued x p.1.keys = hit x (c.conn, c.req) + queued x db.keys)
    (fun _ hr hres => by rw [answered_own x hr hres]; rfl) fun _ _ _ e => cons_edit e x hk

theorem opTick_cons (x : Rid) (db : DB) (hk : KN db) :
    KN (opTick db).1 ∧ answered x (opTick db).2 + queued x (opTick db).1.keys = queued x db.keys := by
  let P : DB → List Reply → Prop := fun d out => KN d ∧ answered x out + queued x d.keys = queued x db.keys
  have step : ∀ {s : Src} (d : DB) (out : List Reply) n wk d1 k o, Src.own x s = 0 → Edit db d s n wk d1 k o →
      P d out → P (store wk d1 k o).1 (out ++ (store wk d1 k o).2) := by
    intro s d out n wk d1 k o hs e h
    have := cons_edit e x h.1
    have := h.2
    exact ⟨KN.edit e h.1, by rw [answered_append]; omega⟩
  exact opTick_edit (P := P) (Q := P) db ⟨hk.of_keys_eq rfl, by rw [answered_nil]; exact Int.zero_add _⟩
    (fun d out n wk d1 k o => step d out n wk d1 k o rfl) (fun _ _ h => ⟨h.1.of_keys_eq rfl, h.2⟩)
    (fun d out n wk d1 k o => step d out n wk d1 k o rfl)

end

def QU (db : DB) : Prop := ∀ x : Rid, queued x db.keys ≤ 1

theorem queuedIn_le_queued (x : Rid) (ks : List Key) (k : Key) (hk : k ∈ ks) : queuedIn x k ≤ queued x ks := by
  induction ks with
  | nil => simp at hk
  | cons y ys ih =>
    rw [queued_cons]
    rcases List.mem_cons.mp hk with h1 | h1
    · rw [h1]; have := queued_nonneg x ys; omega
    · have := ih h1; have := queuedIn_nonneg x y; omega

theorem queued_pos_of_waitAt {db : DB} {n : Nat} {w : Waiter} (h : WaitAt db n w) : 1 ≤ queued w.rid db.keys := by
  obtain ⟨k, hk, _, hw⟩ := h
  have h1 := queuedIn_le_queued w.rid db.keys k hk
  have h2 : 1 ≤ queuedIn w.rid k := by
    unfold queuedIn
    have : w.rid ∈ k.waiters.map Waiter.rid := List.mem_map.mpr ⟨w, hw, rfl⟩
    have := List.count_pos_iff.mpr this
    omega
  omega

end Slock.Engine
