import Slock.Proofs.Engine2SimShape
import Slock.Proofs.Engine2SimEnqShape
import Slock.Proofs.Engine2SimInvGrant
import Slock.Proofs.Engine2SimInvUpd
/-! Simulation stage 2 → stage 1: `QS` through the steps that touch what it reads; then the live raw head `HL` through the steps that
leave the wait queue and the tombstones alone, a new lock record and `AddTimeOut`, with the record facts those need. -/
namespace Slock.Sim
open Slock Slock.Engine2
open Slock.Engine (has)

/-! `waitPrio` is kept by everything but `rePush` and the reclaim. -/

theorem addLock_wp (k : Key) (rid : Nat) (f : Rec → Rec) : (k.addLock rid f).waitPrio = k.waitPrio :=
  (hclosed_wp _).addLock (fun _ _ h => h) rid f rfl

theorem removeLock_wp (k : Key) (rid : Nat) : (k.removeLock rid).waitPrio = k.waitPrio :=
  (hclosed_wp _).removeLock (fun _ _ h => h) rid rfl rfl

theorem waitSkip_wp (l : List WEnt) (k : Key) : (waitSkip l k).1.waitPrio = k.waitPrio := by
  induction l generalizing k with
  | nil => rfl
  | cons e rest ih =>
    unfold waitSkip
    split
    · exact (ih _).trans (unref_queues _ e.rid).2.2.2.2.1
    · rfl

theorem QS.removeIfZero {w : W} (h : QS w.k) : QS w.removeIfZero.k := by
  unfold W.removeIfZero
  split
  · exact .of_nil rfl
  · exact h

theorem QS.quiet {w w' : W} (h : QS w.k) (d : Quiet w w') : QS w'.k := h.of_qr (QR.of_quiet d h.emp)

theorem QR.getWaitLock (k : Key) (he : k.waited = false → k.wait = []) : QR k k.getWaitLock.1 := by
  obtain ⟨pre, hp⟩ := waitSkip_suffix k.wait k rfl
  obtain ⟨c1, c2⟩ := waitSkip_cl k.wait k
  have hsub : k.getWaitLock.1.wait.Sublist k.wait := by
    have : k.wait = pre ++ k.getWaitLock.1.wait := hp
    rw [this]; exact List.sublist_append_right _ _
  have hwd : k.getWaitLock.1.waited = k.waited := (closed_waited _).waitSkip _ rfl
  have p := PKeep.getWaitLock ins_πCmd k
  refine ⟨hsub, fun h => ?_, waitSkip_wp _ _, fun e _ hh => ⟨p.sub e.rid hh, by unfold prOf; exact congrArg Engine.cmdPriority (p.val e.rid hh)⟩,
    fun y hy => Or.inl ?_⟩
  · have := he (hwd ▸ h)
    rw [this] at hsub
    exact List.eq_nil_of_sublist_nil hsub
  · have e1 : k.getWaitLock.1.current = k.current := c1
    have e2 : k.getWaitLock.1.locks = k.locks := c2
    rw [← e1, ← e2]; exact hy

theorem QS.getWaitLock {k : Key} (h : QS k) : QS k.getWaitLock.1 := h.of_qr (QR.getWaitLock k h.emp)

theorem QS.clearWaited {k : Key} (hw : k.wait = []) : QS (Engine2.clearWaited k) := .of_nil hw

theorem QS.settleWait {k : Key} (h : QS k) : QS k.settleWait := by
  unfold Key.settleWait
  cases hr : k.getWaitLock.2 with
  | none =>
    simp only [Option.isNone_none, if_true]
    exact QS.clearWaited (waitSkip_none k.wait k rfl hr)
  | some rid =>
    simp only [Option.isNone_some, Bool.false_eq_true, if_false]
    exact h.getWaitLock

theorem QS.of_pk {k k' : Key} (h : QS k) (q : k'.queues = k.queues) (hwd : k'.waited = k.waited) (hwp : k'.waitPrio = k.waitPrio) (p : PKeep πCmd k' k) : QS k' :=
  h.of_qr (QR.of_pk q hwd hwp h.emp p)

/-- one record `rid` changes (every other record keeps its stage-1 view); `rid` keeps its command, or is not in the wait queue -/
theorem QS.step_sx {w w' : W} (h : QS w.k) (rid : Nat) (sx : SX (· = rid) w w') (hwp : w'.k.waitPrio = w.k.waitPrio)
    (hx : rid ∈ w.k.wait.map (·.rid) → w'.k.hasRec rid → w.k.hasRec rid ∧ (w'.k.getR rid).cmd = (w.k.getR rid).cmd) : QS w'.k := by
  obtain ⟨q1, q2, q3⟩ := queues_eq sx.q
  refine h.of_qr ⟨by rw [q3]; exact List.Sublist.refl _, fun hf => by rw [q3]; exact h.emp (sx.waited ▸ hf), hwp, fun e he hh => ?_,
    fun y hy => Or.inl (by rw [← q1, ← q2]; exact hy)⟩
  by_cases hX : e.rid = rid
  · rw [hX] at hh ⊢
    obtain ⟨a, b⟩ := hx (by rw [← hX]; exact List.mem_map.mpr ⟨e, q3 ▸ he, rfl⟩) hh
    exact ⟨a, by unfold prOf; rw [b]⟩
  · have hv := sx.p.val e.rid hX hh
    exact ⟨sx.p.sub e.rid hX hh, by unfold prOf; rw [cmd_of_πA hv]⟩

theorem QS.modR1 {w : W} (h : QS w.k) (rid : Nat) (f : Rec → Rec) (hf : ∀ r, (f r).rid = r.rid) (hc : ∀ r, (f r).cmd = r.cmd) : QS (w.modR rid f).k :=
  h.of_pk rfl rfl rfl (PKeep.modRec w.k rid f hf hc)

theorem QS.newLock {w : W} (h : QS w.k) (l : Lv w zero) (c : Engine.Cmd) (d : Option Bytes) : QS (w.newLock c d).1.k := by
  refine h.step_sx w.db.nextRid ((SX.refl w).newLock c d rfl) rfl ?_
  intro hm _
  exfalso
  exact nextRid_fresh l (l.has (qRefs_pos_of_wait_mem w.k _ hm))

theorem QS.grant {w : W} (h : QS w.k) (rid : Nat) (g : Grantable w.k rid) (hnt : rid ∉ w.k.wait.tail.map (·.rid)) : QS (w.grant rid).k := by
  obtain ⟨w1, _, _⟩ := grant_wait_t w rid
  have e := grantTail_edit ((w.addLock rid).modK incLocked) rid
  have a : (w.grant rid).k.waited = w.k.waited := e.waited.trans (addLock_kw w.k rid _).1
  have b : (w.grant rid).k.waitPrio = w.k.waitPrio := e.wp.trans (addLock_wp w.k rid _)
  obtain ⟨_, _, _, r4, _⟩ := grant_recI w rid g.has
  have px := grant_others ins_πA w rid
  refine h.of_qr ⟨by rw [w1]; exact List.Sublist.refl _, fun hf => by rw [w1]; exact h.emp (a ▸ hf), b, fun e he hh => ?_, fun y hy => ?_⟩
  · by_cases hX : e.rid = rid
    · rw [hX]
      exact ⟨g.has, by unfold prOf; rw [r4]⟩
    · have hv := px.val e.rid hX hh
      exact ⟨px.sub e.rid hX hh, by unfold prOf; rw [cmd_of_πA hv]⟩
  · rcases grant_sub w rid y hy with h1 | h1
    · exact Or.inl h1
    · right; rw [h1, w1]; exact hnt

theorem QS.removeLock {k : Key} (h : QS k) (rid : Nat) : QS (k.removeLock rid) := by
  have p := PKeep.removeLock ins_πCmd (fun _ _ => rfl) k rid
  refine h.of_qr ⟨by rw [removeLock_wait]; exact List.Sublist.refl _, fun hf => by rw [removeLock_wait]; exact h.emp ((removeLock_waited k rid) ▸ hf),
    removeLock_wp k rid, fun e _ hh => ⟨p.sub e.rid hh, by unfold prOf; exact congrArg Engine.cmdPriority (p.val e.rid hh)⟩,
    fun y hy => Or.inl ((removeLock_sublist k rid).subset hy)⟩

theorem QS.addTimeOut {w : W} (h : QS w.k) (rid : Nat) : QS (w.addTimeOut rid).k :=
  h.of_pk rfl rfl rfl (PKeep.modRec w.k rid _)

theorem W3.newLock {w : W} (h : W3 w) (l : Lv w zero) (c : Engine.Cmd) (d : Option Bytes) : W3 (w.newLock c d).1 := ⟨h.wi.newLock l c d, h.qs.newLock l c d⟩

theorem HL.of_pk {k k' : Key} (h : HL k) (hw : k'.wait = k.wait) (p : PKeep (·.timeouted) k' k) (hrec : ∀ e ∈ k'.wait, k'.hasRec e.rid) : HL k' := by
  intro e rest he
  have := h e rest (hw ▸ he)
  unfold Key.deadWaiter at this ⊢
  rw [p.val e.rid (hrec e (by rw [he]; simp))]; exact this

theorem addTimeOut_live (w : W) (rid : Nat) (hh : w.k.hasRec rid) : ((w.addTimeOut rid).k.getR rid).timeouted = false := by
  show ((w.k.modRec rid (Rec.armT (Engine.wheelAdd w.db.tCheck w.db.seq (w.k.getR rid).timeoutT (w.k.getR rid).tChecked))).getR rid).timeouted = false
  rw [getR_modRec_same w.k rid (Rec.armT (Engine.wheelAdd w.db.tCheck w.db.seq (w.k.getR rid).timeoutT (w.k.getR rid).tChecked)) hh]
  rfl

theorem addTimeOut_other (w : W) (rid y : Nat) (hne : y ≠ rid) : (w.addTimeOut rid).k.getR y = w.k.getR y :=
  getR_modRec_other _ _ _ _ hne

theorem addTimeOut_hasRec (w : W) (rid y : Nat) : (w.addTimeOut rid).k.hasRec y ↔ w.k.hasRec y :=
  hasRec_modRec w.k rid y (Rec.armT (Engine.wheelAdd w.db.tCheck w.db.seq (w.k.getR rid).timeoutT (w.k.getR rid).tChecked))

theorem ref_timeouted (w : W) (rid y : Nat) : ((w.ref rid).k.getR y).timeouted = (w.k.getR y).timeouted :=
  getR_modRec_proj (·.timeouted) w.k rid y _ (fun _ => rfl)

/-- a new record, which no queue entry names, leaves the raw head live -/
theorem HL.newLock {w : W} (h : HL w.k) (c : Engine.Cmd) (d : Option Bytes) : HL (w.newLock c d).1.k := by
  intro e rest hw
  have := h e rest hw
  have hh : w.k.hasRec e.rid := hasRec_of_liveWaiter this
  unfold Key.deadWaiter at this ⊢
  show ((w.k.addRec _).getR e.rid).timeouted = false
  rw [getR_addRec _ _ _ hh]; exact this

end Slock.Sim
