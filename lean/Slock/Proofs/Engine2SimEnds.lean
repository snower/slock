import Slock.Proofs.Engine2SimBase
import Slock.Proofs.Engine2QI
import Slock.Proofs.Engine2SimPop
/-! Simulation stage 2 → stage 1, the two ends of a LOCK / UNLOCK that every branch shares. At the start: the record-level classification
reads the same decision tree as stage 1's, on the stage-1 view (`classify_lock_refines`, `classify_unlock_refines`). At the end: the key
record is stored back, which is stage 1's `setKey` of the stage-1 key (`sim_lock_finish`, `sim_unlock_finish`). -/
namespace Slock.Sim
open Slock
open Slock.Engine (has)

def absLB (k : Engine2.Key) : Engine2.LockBranch → Engine.LockBranch
  | .p0a => .p0a | .p0b => .p0b | .stateError => .stateError
  | .show cur => .show (holdOf k cur)
  | .updateEqual h => .updateEqual (holdOf k h)
  | .updateEqualData h => .updateEqual (holdOf k h)      -- needs a journalled value: outside stage 1's domain
  | .update h => .update (holdOf k h)
  | .relockNoHold h => .relockNoHold (holdOf k h)
  | .relock h => .relock (holdOf k h)
  | .relockRefused h => .relockRefused (holdOf k h)
  | .unlockedWaitRefused => .unlockedWaitRefused
  | .grant => .grant | .grantNoHold => .grantNoHold | .queue => .queue | .timeout => .timeout

theorem abs_locked (k : Engine2.Key) : (Engine2.Key.abs k).locked = k.locked := rfl
theorem abs_waited (k : Engine2.Key) : (Engine2.Key.abs k).waited = k.waited := rfl

theorem checkLockedEqual_lockId (now : Nat) (h : Engine.Hold) (c : Engine.Cmd) (n : Nat) :
    Engine.checkLockedEqual now h { c with lockId := n } = Engine.checkLockedEqual now h c := rfl

/-- with no value frame and no value the data-flagged update never takes the equal-terms shortcut: the record-level update
leaf is the stage-1 one -/
theorem updBranch_no_frame (s : Engine2.DB) (c : Engine.Cmd) (h : Nat) (c' : Engine.Cmd) (hcell : (s.getKey c.key).cell = none) :
    Engine2.updBranch s c none h c' =
      if !has c'.flag Engine.F_CONTAINS_DATA && Engine.checkLockedEqual s.now (holdOf (s.getKey c.key) h) c' then .updateEqual h
      else .update h := by
  have hds : Engine2.dataSettled
      (({ db := s, k := s.getKey c.key } : Engine2.W).procData .lock c' (Engine2.frameOf c' none) h).k h = false := by
    have : Engine2.frameOf c' none = none := by unfold Engine2.frameOf; split <;> rfl
    rw [this]; unfold Engine2.W.procData Engine2.dataSettled; simp only [hcell]; rfl
  unfold Engine2.updBranch
  simp only [hds, Bool.false_and, Bool.false_eq_true, if_false]
  show (if has c'.flag Engine2.F_DATA = true then _ else _) = if (!has c'.flag Engine2.F_DATA && _) = true then _ else _
  cases has c'.flag Engine2.F_DATA <;> rfl

/-- no value frame, the key has no value, and the two forms of the waiter-priority test agree — they are only evaluated for a
command with the priority flag -/
theorem classify_lock_refines (s : Engine2.DB) (hq : Engine2.DBQ s) (c : Engine.Cmd)
    (hcell : (s.getKey c.key).cell = none)
    (hp : has c.tflag Engine.TF_PRIORITY = true →
      Engine.checkWaitPriority (Engine2.Key.abs (s.getKey c.key)) c = Engine2.checkWaitPriority (s.getKey c.key) c) :
    Engine.classifyLock (Engine2.abs s) c = absLB (s.getKey c.key) (Engine2.classifyLock s c none) := by
  have hl : Engine2.CurLive (s.getKey c.key) := Engine2.cur_getKey hq.dbt.tight c.key
  have hn : Engine2.CurNone (s.getKey c.key) := (Engine2.qi_getKey hq.qi c.key).cn
  -- both sides are the same tree: push `absLB` to the leaves, rename the holds, and compare the update leaf
  rw [Engine.classifyLock_tree, Engine2.classifyLock_tree, Engine.lockTree_comp (absLB (s.getKey c.key)),
    abs_getKey s hq.dbt.dbi.kn c.key, abs_head _ hl hn, abs_findHolder, abs_doLock _ hl hn, Engine.lockTree_map,
    Engine.lockTree_cwp (h := hp)]
  simp only [updBranch_no_frame _ _ _ _ hcell]
  have e : ∀ (h : Nat) (v : Bool), Engine.checkLockedEqual s.now (holdOf (s.getKey c.key) h)
      (if v = true then { c with lockId := ((s.getKey c.key).getR h).cmd.lockId } else c) =
      Engine.checkLockedEqual s.now (holdOf (s.getKey c.key) h) c := by intro h v; cases v <;> rfl
  have e2 : ∀ (h : Nat) (v : Bool),
      (if v = true then ({ c with lockId := ((s.getKey c.key).getR h).cmd.lockId } : Engine.Cmd) else c).flag = c.flag := by
    intro h v; cases v <;> rfl
  simp only [e, e2, apply_ite (absLB (s.getKey c.key))]
  rfl

/-- the stage-1 branch of a record-level UNLOCK branch (an UNLOCK on a key without key record is refused like one on an unheld key) -/
def absUB (k : Engine2.Key) (c : Engine.Cmd) : Engine2.UnlockBranch → Engine.UnlockBranch
  | .noManager => if has c.flag Engine.UF_CANCEL then .cancelNone else .notLocked
  | .stateError => .stateError
  | .notLocked => .notLocked
  | .unown => .unown
  | .cancelNone => .cancelNone
  | .cancel x => .cancel (waiterOf k x)
  | .dec h c' => .dec (holdOf k h) { c' with mgr := true }
  | .release h c' => .release (holdOf k h) { c' with mgr := true }

theorem abs_isEmpty_newKey (n : Nat) : (Engine2.Key.abs (Engine2.newKey n)).isEmpty = true := by rw [abs_newKey]; rfl

/-- `mgr` = does the key record exist -/
theorem classify_unlock_refines (s : Engine2.DB) (hq : Engine2.DBQ s) (c : Engine.Cmd) :
    Engine.classifyUnlock (Engine2.abs s) { c with mgr := s.hasKey c.key } = absUB (s.getKey c.key) c (Engine2.classifyUnlock s c) := by
  have hl : Engine2.CurLive (s.getKey c.key) := Engine2.cur_getKey hq.dbt.tight c.key
  have hn : Engine2.CurNone (s.getKey c.key) := (Engine2.qi_getKey hq.qi c.key).cn
  rw [Engine.classifyUnlock_tree, Engine2.classifyUnlock_tree]
  show Engine.unlockTree _ _ ((Engine2.abs s).getKey c.key).locked (Engine.findHolder ((Engine2.abs s).getKey c.key) c.lockId)
    ((Engine2.abs s).getKey c.key).holders.head? (Engine.findCancel ((Engine2.abs s).getKey c.key).waiters c.lockId) _ _ _ _ _ _ _ _ _ = _
  rw [abs_getKey s hq.dbt.dbi.kn c.key, abs_head _ hl hn, abs_findHolder, abs_findCancel, Engine.unlockTree_map]
  cases hh : s.hasKey c.key with
  | false =>
    rw [Engine2.getKey_of_not_hasKey s c.key hh]
    show _ = (if has c.flag Engine.UF_CANCEL = true then Engine.UnlockBranch.cancelNone else Engine.UnlockBranch.notLocked)
    unfold Engine.unlockTree Engine.cancelLeaf
    rw [abs_isEmpty_newKey]
    simp only [Bool.not_true, Bool.or_false, Bool.and_false, Bool.false_eq_true, if_false]
    cases has c.flag Engine.UF_CANCEL <;> rfl
  | true =>
    show _ = absUB _ c (Engine.unlockTree ..)
    rw [Engine.unlockTree_comp (absUB (s.getKey c.key) c)]
    simp only [Bool.true_or, Bool.and_true]
    rfl

open Slock.Engine2

theorem Equiv.setKey_self (a : Engine.DB) (n : Nat) : Equiv (a.setKey (a.getKey n)) a := by
  refine ⟨rfl, rfl, rfl, rfl, rfl, rfl, fun m => ?_⟩
  by_cases e : m = n
  · subst e
    have := getKey_setKey_same a (a.getKey m)
    rw [Engine.getKey_key] at this
    exact this
  · exact getKey_setKey_other _ _ _ (by rw [Engine.getKey_key]; exact e)

/-- a key record without lock records shows nothing to stage 1 — and in a reachable state there is no such key record -/
theorem abs_empty_of_gone (s : Engine2.DB) (hq : Engine2.DBQ s) (key : Nat) (h : (s.getKey key).recs = []) :
    (Engine2.Key.abs (s.getKey key)).isEmpty = true := by
  cases hh : s.hasKey key with
  | true => exact absurd h (hq.dbt.tight _ (Engine2.getKey_mem s key hh)).2.1
  | false => rw [Engine2.getKey_of_not_hasKey s key hh]; exact abs_isEmpty_newKey key

theorem lockBase_other (s : Engine2.DB) (c : Engine.Cmd) (b : Engine2.LockBranch) :
    ∀ n, n ≠ c.key → (Engine2.lockBase s c b).db.getKey n = s.getKey n := by
  intro n _
  cases b <;> first | rfl | (show (s.enter c.key).db.getKey n = _; rw [Engine2.enter_db, Engine2.getKey_create])

theorem abs_ctr_self (s : Engine2.DB) : ({ Engine2.abs s with ctr := s.ctr } : Engine.DB) = Engine2.abs s := rfl

theorem lockBase_key (s : Engine2.DB) (c : Engine.Cmd) (b : Engine2.LockBranch) : (Engine2.lockBase s c b).k.key = c.key := by
  rw [(Engine2.lockBase_db s c b).2.2.2.1]; exact Engine2.getKey_key _ _

/-- the end state `w` of a record-level operation and the result `p` of stage 1's agree: stored back, `w` is `Equiv` to stage 1's database,
and the replies are the same -/
def Agrees (w : W) (p : Engine.DB × List Engine.Reply) : Prop := Equiv (Engine2.abs w.commit) p.1 ∧ w.out.map (·.r) = p.2

/-- storing back the end state `w` of an operation of `s` on the record of `key` is stage 1's `setKey` of what stage 1 holds for it -/
def Commits (s : DB) (key : Nat) (w : W) : Prop :=
  ∀ (a1 : Engine.DB) (k' : Engine.Key), a1.keys = (Engine2.abs s).keys → k'.key = key → Scal a1 w.db → Loc w k' →
    Equiv (Engine2.abs w.commit) (a1.setKey k')

theorem sim_commit (s : Engine2.DB) (key : Nat) (w0 w : Engine2.W) (f : Engine2.Fr w0 w)
    (h0k : w0.k.key = key) (h0 : ∀ n, n ≠ key → w0.db.getKey n = s.getKey n)
    (hs : Engine2.DBside w) (hn : (s.keys.map (·.key)).Nodup) (hn' : (w.commit.keys.map (·.key)).Nodup) : Commits s key w := by
  intro a1 k' hkeys hk' hsc hloc
  have hkey : w.k.key = key := f.key.trans h0k
  obtain ⟨c1, _, c3, c4, c5, c6⟩ := Engine2.commit_fields w
  have cseq : w.commit.seq = w.db.seq := by
    unfold Engine2.W.commit
    split
    · rfl
    · exact (Engine2.setKey_fields w.db w.k).2.2.2.2.2.2.1
  refine ⟨c3.trans hsc.now.symm, c5.trans hsc.tCheck.symm, c6.trans hsc.eCheck.symm, cseq.trans hsc.seq.symm, c1.trans hsc.leader.symm,
    c4.trans hsc.ctr.symm, ?_⟩
  intro n
  rw [abs_getKey _ hn']
  by_cases e : n = key
  · subst e
    rw [← hk', getKey_setKey_same, hk']
    cases hg : w.gone with
    | false =>
      have := Engine2.commit_getKey w hg
      rw [hkey] at this
      rw [this]; exact hloc.1 hg
    | true =>
      have hh : w.commit.hasKey n = false := by rw [Engine2.commit_of_gone w hg]; rw [← hkey]; exact hs.absent hg
      rw [Engine2.getKey_of_not_hasKey _ _ hh, abs_newKey]
      have := isEmpty_eq k' (hloc.2 hg)
      rw [hk'] at this
      exact this.symm
  · rw [getKey_setKey_other _ _ _ (by rw [hk']; exact e), Engine.getKey_of_keys_eq hkeys n, abs_getKey _ hn]
    rw [commit_getKey_other _ _ (by rw [hkey]; exact e), fr_getKey_other f n (by rw [h0k]; exact e), h0 n e]

theorem sim_lock_finish (s : DB) (hq : DBQ s) (c : Engine.Cmd) (data : Option Bytes) (b : LockBranch) (hcls : classifyLock s c data = b) :
    Commits s c.key (applyLock s c data b) := by
  have hdbi := hq.dbt.dbi
  have hkn' := (hdbi.toF.sect (.lock s c (data := data))).1.kn
  rw [hcls] at hkn'
  have f := applyLock_fr s c data b
  exact sim_commit s c.key _ _ f (lockBase_key s c b) (lockBase_other s c b) ((DBside.lockBase hdbi c b).of_fr f) hdbi.kn hkn'

theorem sim_unlock_finish (s : DB) (hq : DBQ s) (c : Engine.Cmd) (data : Option Bytes) (b : UnlockBranch) (hcls : classifyUnlock s c = b) :
    Commits s c.key (applyUnlock s c data b) := by
  have hdbi := hq.dbt.dbi
  have hkn' := (hdbi.toF.sect (.unlock s c (data := data))).1.kn
  rw [hcls] at hkn'
  have f := applyUnlock_fr s c data b
  exact sim_commit s c.key _ _ f (getKey_key _ _) (fun _ _ => rfl) ((hdbi.openKey c.key).of_fr f) hdbi.kn hkn'

end Slock.Sim
