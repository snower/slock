import Slock.Proofs.EngineSimTickEntryT
/-! Clock-tick simulation (`sim_tick`): the sweeper and ONE entry of the expiry wheel, on the record level against stage 1: the entry of a
record whose hold has ended is dropped (stuttering), a live hold not yet due is re-armed (stage 1's `rearmHold`), and `doExpried` of a
collected hold where it is not deferred (on the leader; `W.fireExpire`): `RemoveLock`, the sweeper's reference dropped, EXPRIED sent, then the
wake pass — stage 1's `fireExpire` of that hold. -/
namespace Slock.SimTick
open Slock Slock.Sim Slock.Engine2

theorem depth_pos_of_live {w : W} (g : Good w) (rid : Nat) (hs : w.k.hasRec rid ∧ (w.k.getR rid).eSched.isSome = true)
    (he : (w.k.getR rid).expried = false) : 0 < (w.k.getR rid).depth := by
  apply Nat.pos_of_ne_zero
  intro hz
  have := (recFine_of g rid hs.1).fin hz hs.2
  rw [he] at this; exact absurd this (by simp)

/-- **`doExpried` of an entry whose record's hold has ended** (no such entry: `wheelBroken`; `expried` set: `dropE`): a stuttering step, no
reply -/
theorem sim_fireE_stutter (s : DB) (hq : DBQ s) (hk : DBK s) (key rid : Nat) (k1 : K1 (s.getKey key))
    (h : (s.getKey key).hasE rid = false ∨ ((s.getKey key).getR rid).expried = true) :
    Equiv (Engine2.abs (fireExpire s key rid).1) (Engine2.abs s) ∧ (fireExpire s key rid).2 = [] := by
  have r0 := rel_openKey s hq key (hk.getKey key)
  unfold fireExpire
  cases hT : (s.getKey key).hasE rid with
  | false =>
    rw [fireExpire_broken (s.openKey key) rid hT]
    exact ⟨rel_commit_same s hq key _ (Fr.wheelBroken _) (rel_wheelBroken r0), rfl⟩
  | true =>
    have hto : ((s.getKey key).getR rid).expried = true := h.resolve_left (by rw [hT]; simp)
    have hs := hasE_spec _ rid hT
    have hd0 : ((s.openKey key).k.getR rid).depth = 0 := (recFine_of (Good.openKey hq.dbt.dbi hq.dbt.tight key) rid hs.1).ended hto
    have r1 := rel_dropE r0 (openKey_live_of_hasRec s key rid hs.1) k1.ki k1.fl rid ⟨hs.1, hs.2, hd0⟩
    rw [fireExpire_ended (s.openKey key) rid hT hto]
    exact ⟨rel_commit_same s hq key _ (Fr.dropE _ _) r1, by simpa using r1.out⟩

theorem sim_visitE_stutter (s : DB) (hq : DBQ s) (hk : DBK s) (key rid : Nat) (slot : Bool) (k1 : K1 (s.getKey key))
    (h : (s.getKey key).hasE rid = false ∨ ((s.getKey key).getR rid).expried = true) :
    ∃ w', (s.openKey key).visitExpire slot rid = some w' ∧ Equiv (Engine2.abs w'.commit) (Engine2.abs s) :=
  ⟨_, visitExpire_dead (s.openKey key) slot rid h, (sim_fireE_stutter s hq hk key rid k1 h).1⟩

theorem live_mem_holders {k : Key} (kt : KT k) (rid : Nat) (hh : k.hasRec rid) (hd : 0 < (k.getR rid).depth) :
    holdOf k rid ∈ (Key.abs k).holders :=
  mem_abs_holders (kt.hq rid hh hd) hd

theorem _root_.Slock.Sim.Edit.depth_pos {h n : Nat} {f : Rec → Rec} {g : Nat → Nat} {w w' : W} (_ : Edit h f g n w w') (hf : ∀ r, (f r).depth = r.depth)
    (hd : 0 < (w.k.getR h).depth) : 0 < (f (w.k.getR h)).depth := by rw [hf]; exact hd

theorem rearmE_rel {w : W} {a : Engine.DB} {out1 : List Engine.Reply} (r0 : Rel w a (Key.abs w.k) out1) (hg : w.gone = false) (kt : KT w.k) (rid : Nat)
    (hT : w.k.hasE rid = true) (hl : (w.k.getR rid).expried = false) (hdue : (w.k.getR rid).expT > w.db.now) :
    w.visitExpire true rid = some ((w.modR rid bumpE).addExpried rid) ∧
    Rel ((w.modR rid bumpE).addExpried rid) (seqUp a)
      (replK (Key.abs w.k) (holdOf w.k rid) (rearmH w.db.eCheck w.db.seq (holdOf w.k rid))) out1 := by
  have l := r0.live hg
  have hs := hasE_spec _ rid hT
  have hv : w.visitExpire true rid = some ((w.modR rid bumpE).addExpried rid) := by
    rw [visitE_live_cases _ true rid hT hl]
    simp [hdue]
  refine ⟨hv, ?_⟩
  have hdep := depth_pos_of_live l.good rid hs hl
  have T := (visitExpire_tf (full := True) l.wk (fun _ => recs_ne_of_hasRec hs.1) true rid _ hv).1
  have e := ((Edit.refl (h := rid) w).modR bumpE (fun _ => rfl) (fun _ => rfl)).addExpried
  have hg' := e.gone.trans hg
  obtain ⟨sc0, hsc⟩ := Option.isSome_iff_exists.mp hs.2
  have hck : sc0.checked = (w.k.getR rid).eChecked := l.wi.ck rid hs.1 sc0 hsc
  -- the re-armed record is stage 1's re-armed hold (`+ 0`: the sequence numbers `Edit` counts as spent before `addExpried`)
  have hview : (Rec.armE (Engine.wheelAdd w.db.eCheck (w.db.seq + 0) (bumpE (w.k.getR rid)).expT (bumpE (w.k.getR rid)).eChecked)
      (bumpE (w.k.getR rid))).toHold = rearmH w.db.eCheck w.db.seq (holdOf w.k rid) := by
    unfold rearmH holdOf Rec.toHold Rec.armE bumpE
    simp only [hsc, Option.getD_some, hck]
    rfl
  have r : Rel ((w.modR rid bumpE).addExpried rid) (seqUp a) (keyRep (Key.abs w.k) (holdOf w.k rid)
      (Rec.armE (Engine.wheelAdd w.db.eCheck (w.db.seq + 0) (bumpE (w.k.getR rid)).expT (bumpE (w.k.getR rid)).eChecked)
        (bumpE (w.k.getR rid))).toHold (Key.abs w.k).locked) out1 :=
    r0.edit hg e (e.scal r0.sc) (kt.hq rid hs.1 hdep) hdep (e.depth_pos (fun _ => rfl) hdep)
    (fun _ => rfl) (T hg') (l.wi.rearmE rid bumpE (fun _ => rfl) (fun _ => rfl) (fun _ => ⟨rfl, rfl, rfl, rfl, rfl⟩))
  rw [hview] at r
  exact r

/-- **re-arm**: the record-level step (`eChecked + 1`, `AddExpried`) is stage 1's `rearmHold` of that hold -/
theorem sim_rearmE (s : DB) (hq : DBQ s) (hk : DBK s) (hkt : DBKT s) (key rid : Nat) (k1 : K1 (s.getKey key))
    (hT : (s.getKey key).hasE rid = true) (hl : ((s.getKey key).getR rid).expried = false)
    (hdue : ((s.getKey key).getR rid).expT > s.now) :
    (s.openKey key).visitExpire true rid = some (((s.openKey key).modR rid bumpE).addExpried rid) ∧
    Equiv (Engine2.abs (((s.openKey key).modR rid bumpE).addExpried rid).commit)
      (Engine.rearmHold (Engine2.abs s) (holdOf (s.getKey key) rid)) := by
  have hs := hasE_spec _ rid hT
  have r0 := rel_openKey s hq key (hk.getKey key)
  have hg := openKey_live_of_hasRec s key rid hs.1
  obtain ⟨hv, rel⟩ := rearmE_rel r0 hg (hkt.getKey key) rid hT hl hdue
  refine ⟨hv, ?_⟩
  have hdep := depth_pos_of_live (r0.live hg).good rid hs hl
  have hkw : (holdOf (s.getKey key) rid).cmd.key = key := (k1.kh _ (live_mem_holders (hkt.getKey key) rid hs.1 hdep)).trans (getKey_key s key)
  have e1 := rel_commit s hq key _ (W.visitExpire_fr _ _ _ _ hv) rel rfl (getKey_key _ _)
  rw [rearmHold_eq, hkw, abs_getKey s hq.dbt.dbi.kn key]
  exact e1

theorem expire_live {w : W} (l : Live none w (Key.abs w.k)) (kt : KT w.k) (rid : Nat) (hT : w.k.hasE rid = true) (hl : (w.k.getR rid).expried = false) :
    Live none (endE w rid) (keyRel (Key.abs w.k) (holdOf w.k rid)) ∧
    ((endE w rid).k.hasRec rid ∧ ((endE w rid).k.getR rid).eSched.isSome = true ∧
      ((endE w rid).k.getR rid).depth = 0) := by
  have hs := hasE_spec _ rid hT
  have hdep := depth_pos_of_live l.good rid hs hl
  have e := preE_edit w rid
  have k2 := ((l.wk.exempt rid).modR_ex exR).modK (subL (w.k.getR rid).depth) rfl rfl rfl
  have k3 : Wk True (preE w rid) (some rid) := k2.when _ _ (k2.book (book_pushUnLockAof _ _ _ _ _ _))
  -- `RemoveLock`: stage 1's `removeHolder`; the record is still in transit
  have l4 := l.removeLock e k3
    (l.wi.edit e id id (fun hd => ⟨hd, rfl⟩) id) (kt.hq rid hs.1 hdep) hdep (fun _ => rfl) (fun _ => rfl) (fun _ => rfl)
  unfold endE
  generalize preE w rid = w3 at e k3 l4 ⊢
  have hh3 : w3.k.hasRec rid := (e.hasRec rid).mpr hs.1
  have hes3 : (w3.k.getR rid).eSched.isSome = true := by rw [e.getR hs.1 (·.eSched) (fun _ => rfl)]; exact hs.2
  obtain ⟨m1, m2, _⟩ := removeLock_keep zero_nonneg k3.lv.rc rid rid hh3 (wheel_of_e hes3)
  have hes4 : ((w3.modK (·.removeLock rid)).k.getR rid).eSched.isSome = true := by
    show ((w3.k.removeLock rid).getR rid).eSched.isSome = true
    rw [m2]; exact hes3
  have hd4 : ((w3.modK (·.removeLock rid)).k.getR rid).depth = 0 := removeLock_depth _ rid m1
  have hx4 : ((w3.modK (·.removeLock rid)).k.getR rid).expried = true := by
    show ((w3.k.removeLock rid).getR rid).expried = true
    rw [(PKeep.removeLock ins_expried (fun _ _ => rfl) _ rid).val rid m1, e.getR hs.1 (·.expried) (fun _ => rfl)]; rfl
  -- the sweeper's reference keeps the record: it is in order again
  have k4' : Wk True (w3.modK (·.removeLock rid)) none := by
    refine l4.wk.clear (fun _ hh => ⟨?_, ?_, fun _ => hd4, fun _ _ => hx4⟩)
    · have := l4.wk.lv.rc.refCount_of hh
      have hw := wheel_of_e hes4
      simp only [zero] at this
      omega
    · intro hd; rw [hd4] at hd; exact absurd hd (by simp)
  exact ⟨⟨k4', l4.cn, l4.wi, l4.abs⟩, m1, hes4, hd4⟩

theorem keyRel_fl (k : Engine.Key) (x : Engine.Hold) (h : k.waited = true → k.waiters ≠ []) : (keyRel k x).waited = true → (keyRel k x).waiters ≠ [] := h

theorem fireE_rel {w : W} {a : Engine.DB} {out1 : List Engine.Reply} (r0 : Rel w a (Key.abs w.k) out1) (hg : w.gone = false) (kt : KT w.k) (hk1 : K1 w.k) (rid : Nat)
    (hT : w.k.hasE rid = true) (hl : (w.k.getR rid).expried = false) :
    Rel (answer ((endE w rid).dropE rid) (ctrE (w.k.getR rid).depth)
        { (w.k.getR rid).cmd with conn := (w.k.getR rid).conn } Engine.RESULT_EXPRIED)
      (exDb a (w.k.getR rid).depth) (keyRel (Key.abs w.k) (holdOf w.k rid))
      (out1 ++ [exReply (Key.abs w.k) (holdOf w.k rid)]) := by
  have l := r0.live hg
  have hs := hasE_spec _ rid hT
  have hdep := depth_pos_of_live l.good rid hs hl
  obtain ⟨lv, m1, m2, m3⟩ := expire_live l kt rid hT hl
  have sc4 : SC w (endE w rid) := (preE_edit w rid).sc.trans (SC.modK _ _)
  have ki1 : Engine.KeyInv (keyRel (Key.abs w.k) (holdOf w.k rid)) := Engine.release_inv hk1.ki (live_mem_holders kt rid hs.1 hdep)
  have r4 : Rel (endE w rid) a (keyRel (Key.abs w.k) (holdOf w.k rid)) out1 :=
    Rel.of_live (sc4.gone.trans hg) (sc4.scal r0.sc) (by rw [sc4.out]; exact r0.out) lv
  exact rel_answer (rel_dropE r4 (sc4.gone.trans hg) ki1 (keyRel_fl _ _ hk1.fl) rid ⟨m1, m2, m3⟩) (ctrE (w.k.getR rid).depth) _ _

theorem sim_fireE_live (s : DB) (hq : DBQ s) (hk : DBK s) (hkt : DBKT s) (key rid : Nat) (k1 : K1 (s.getKey key))
    (hT : (s.getKey key).hasE rid = true) (hl : ((s.getKey key).getR rid).expried = false)
    (hdf : deferExpiry s ((s.getKey key).getR rid) = false) :
    Equiv (Engine2.abs (fireExpire s key rid).1) (Engine.fireExpire (Engine2.abs s) key (holdOf (s.getKey key) rid)).1 ∧
    (fireExpire s key rid).2.map (·.r) = (Engine.fireExpire (Engine2.abs s) key (holdOf (s.getKey key) rid)).2 := by
  have r0 := rel_openKey s hq key (hk.getKey key)
  have hg := openKey_live_of_hasRec s key rid (hasE_spec _ rid hT).1
  have rel : Rel _ (exDb (Engine2.abs s) ((s.getKey key).getR rid).depth) (keyRel (Key.abs (s.getKey key)) (holdOf (s.getKey key) rid))
      [exReply (Key.abs (s.getKey key)) (holdOf (s.getKey key) rid)] := fireE_rel r0 hg (hkt.getKey key) k1 rid hT hl
  have f := W.fireExpire_fr (s.openKey key) rid
  unfold fireExpire
  rw [fireExpire_live_eq (s.openKey key) rid hT hl hdf] at f ⊢
  rw [fireExpire_eq, abs_getKey s hq.dbt.dbi.kn key]
  have hdep := depth_pos_of_live (r0.live hg).good rid (hasE_spec _ rid hT) hl
  simp only []
  exact rel_wake_commit s hq key _ f rel (Engine.release_inv k1.ki (live_mem_holders (hkt.getKey key) rid (hasE_spec _ rid hT).1 hdep)) rfl
    (getKey_key s key)

end Slock.SimTick
