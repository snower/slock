import Slock.Model.MsWheel
import Slock.Gen.Kernels
/-! G3 tie of M-MSWHEEL: the park time, the hand-over decision and the second-wheel deadline are REGENERATED from
`AddMillisecondTimeOut` / `checkMillisecondTimeOut` / `AddMillisecondExpried` / `checkMillisecondExpried` on every run and
proved equal to the model's; likewise the follower re-arm of `doExpried` (`followerDefer_generated`) and the `forcedExpried` argument at
the sweeps' call sites (`sweep_call_sites_do_not_force`). -/
namespace Slock.Ms
open Slock.Gen

theorem parkEnd_generated (nowMs T : Nat) :
    K.msParkEndTimeout nowMs T = (parkEnd nowMs T : Int) ∧ K.msParkEndExpried nowMs T = (parkEnd nowMs T : Int) := by
  unfold K.msParkEndTimeout K.msParkEndExpried parkEnd QLEN
  constructor <;> simp

theorem afterPark_ge {start T : Nat} (h : QLEN ≤ T) : afterPark start T = .second (start + T / 1000 + 1) := if_pos h

theorem afterPark_lt {start T : Nat} (h : T < QLEN) : afterPark start T = .fire := if_neg (Nat.not_le.mpr h)

theorem afterPark_generated (start T : Nat) :
    afterPark start T = (if K.msToSecondWheelTimeout T then .second (K.msSecondDeadlineTimeout start T).toNat else .fire) ∧
    afterPark start T = (if K.msToSecondWheelExpried T then .second (K.msSecondDeadlineExpried start T).toNat else .fire) := by
  unfold K.msToSecondWheelTimeout K.msSecondDeadlineTimeout K.msToSecondWheelExpried K.msSecondDeadlineExpried
  by_cases hT : QLEN ≤ T
  · rw [afterPark_ge hT, if_pos (decide_eq_true (show T ≥ 3000 from hT))]
    exact ⟨congrArg _ (by omega), congrArg _ (by omega)⟩
  · rw [afterPark_lt (Nat.not_le.mp hT), if_neg (by simpa [QLEN] using hT)]
    exact ⟨rfl, rfl⟩

theorem followerDefer_generated (now : Nat) : K.followerRearm now = (followerDefer now : Int) := by
  unfold K.followerRearm followerDefer REARM; simp

/-- Call-site facts (regenerated): the sweeps of BOTH wheels reach `doExpried` / `doTimeOut` with `forcedExpried = false`, i.e. through the
branch that defers to the leader on a follower; only the flush-on-close paths force. A call site that starts passing `true` (ending
replicated holds on a follower's own clock) changes the regenerated list and this theorem stops checking. -/
theorem sweep_call_sites_do_not_force :
    K.doExpriedCalls_checkMillisecondExpried = [["lock", "false", "true"]] ∧
    K.doExpriedCalls_checkTimeExpried = [["lock", "false", "false"]] ∧
    K.doTimeOutCalls_checkMillisecondTimeOut = [["lock", "false", "true"]] ∧
    K.doTimeOutCalls_checkTimeTimeOut = [["lock", "false", "false"]] := by
  decide

end Slock.Ms
