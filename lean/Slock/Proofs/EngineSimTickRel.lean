import Slock.Proofs.Engine2SimRelease
import Slock.Proofs.Engine2SimTomb
import Slock.Proofs.Engine2SimKeyRun
import Slock.Proofs.EngineSimTickCases
/-! Clock-tick simulation (`sim_tick`), record-level side, generic pieces: the working state of a sweep step on one key record against
stage 1 (`Sim.Rel`), the sweeper dropping its reference to a tombstoned record (`dropT` / `dropE`: a stuttering step — the record may
be freed and the key record reclaimed), storing the key record back; `preE_edit`: `doExpried` of a live hold up to `RemoveLock`, as an `Edit`. -/
namespace Slock.SimTick
open Slock Slock.Sim Slock.Engine2

/-- an edit of record `rid` that stage 1 does not see -/
theorem abs_eq_hidden {k' k : Key} (rid : Nat) (h1 : k'.key = k.key) (h2 : k'.locked = k.locked) (h3 : k'.waited = k.waited)
    (q : k'.queues = k.queues) (p : PKeepX πA (· = rid) k' k)
    (hrec : ∀ y ∈ k.current.toList ++ k.locks ++ k.wait.map (·.rid), y ≠ rid → k'.hasRec y)
    (hd : (k'.getR rid).depth = (k.getR rid).depth) (hH : 0 < (k.getR rid).depth → (k'.getR rid).toHold = (k.getR rid).toHold)
    (ht : (k'.getR rid).timeouted = (k.getR rid).timeouted)
    (hW : (k.getR rid).timeouted = false → (k'.getR rid).toWaiter = (k.getR rid).toWaiter) : Key.abs k' = Key.abs k := by
  obtain ⟨q1, q2, q3⟩ := queues_eq q
  refine abs_ext h1 h2 (abs_holders_eq q1 q2 fun y hy => ?_) (abs_waiters_eq q3 fun y hy => ?_) h3
  · by_cases e : y = rid
    · subst e
      unfold Key.liveHolder
      rw [hd]
      exact ⟨rfl, fun hl => hH (by simpa using hl)⟩
    · exact ⟨(p.holder e (hrec y (List.mem_append_left _ hy) e)).1, fun _ => (p.holder e (hrec y (List.mem_append_left _ hy) e)).2⟩
  · by_cases e : y = rid
    · subst e
      unfold Key.deadWaiter
      rw [ht]
      exact ⟨rfl, fun hl => hW (by simpa using hl)⟩
    · exact ⟨(p.waiter e (hrec y (List.mem_append_right _ hy) e)).1, fun _ => (p.waiter e (hrec y (List.mem_append_right _ hy) e)).2⟩

theorem rel_stepK {w w' : W} {a : Engine.DB} {k1 : Engine.Key} {out1 : List Engine.Reply} (h : Rel w a k1 out1) (hg : w.gone = false)
    (sc : SC w w') (l : Live none w' k1) : Rel w' a k1 out1 :=
  Rel.of_live (sc.gone.trans hg) (sc.scal h.sc) (by rw [sc.out]; exact h.out) l

/-- the common part of `dropT` / `dropE` on a linked key record: the record's wheel entry is cleared by `clr` (one reference less),
`refCount--`, freed at 0, reclaim check — given that stage 1 does not see the edit -/
theorem Rel.dropGen {w : W} {a : Engine.DB} {k1 : Engine.Key} {out1 : List Engine.Reply} (h : Rel w a k1 out1) (hg : w.gone = false)
    (ki : Engine.KeyInv k1) (hfl : k1.waited = true → k1.waiters ≠ []) (rid : Nat) {clr : Rec → Rec} {on : Rec → Bool} (u : Unwheel clr on)
    (hh : w.k.hasRec rid) (hon : on (w.k.getR rid) = true) (hc : ∀ r, (clr r).vis = (clr r.vis).vis)
    (hdep : ∀ r, (clr r).depth = r.depth) (hto : (clr (w.k.getR rid)).timeouted = (w.k.getR rid).timeouted)
    (hfine : RecFine (w.k.getR rid) → RecFine (clr (w.k.getR rid)))
    (hH : 0 < (w.k.getR rid).depth → (clr (w.k.getR rid)).toHold = (w.k.getR rid).toHold)
    (hW : (w.k.getR rid).timeouted = false → (clr (w.k.getR rid)).toWaiter = (w.k.getR rid).toWaiter)
    (hwi : WI w → WI (w.modR rid clr)) :
    Rel ((w.modR rid clr).unrefCheck rid) a k1 out1 := by
  let w2 := (w.modR rid clr).modK (·.unrefOnly rid)
  show Rel (w2.when ((w2.k.getR rid).refCount == 0) (·.freeCheck rid)) a k1 out1
  have l := h.live hg
  have g := l.good
  have e : Edit rid clr id 0 w w2 := (Edit.refl w).unwheel clr u.rid hc
  have l2 : Lv w2 zero := g.lv.unwheelUnref u rid hh hon
  have n2 : Nz w2 (some rid) := ((g.nz.weaken (some rid)).modR_ex rid clr u.rid).modR_ex rid _ (fun _ => rfl)
  have c2 : CurLive w2.k := l.cl.of_dk (DK.trans (b := w.modR rid clr) (dk_modK _ _ (DepthKeep.modRec _ rid _)) (dk_modR w rid clr u.rid hdep)) l2
  have l2' : Live (some rid) w2 k1 := ⟨⟨l2, fun _ => n2, fun _ => c2⟩, l.cn.of_cl rfl rfl, (hwi l.wi).quiet (Quiet.unrefOnly _ rid),
    (abs_eq_hidden rid e.key e.locked e.waited e.q e.sx.p (fun y hy _ => hasRec_of_queues l2 e.q y hy)
      ((e.getR hh (·.depth) (fun _ => rfl)).trans (hdep _)) (fun hd => (e.getR hh Rec.toHold (fun _ => rfl)).trans (hH hd))
      ((e.getR hh (·.timeouted) (fun _ => rfl)).trans hto) (fun ht => (e.getR hh Rec.toWaiter (fun _ => rfl)).trans (hW ht))).trans l.abs⟩
  cases hz : ((w2.k.getR rid).refCount == 0) with
  | false =>
    have hnz : (w2.k.getR rid).refCount ≠ 0 := by simpa using hz
    have q := hfine (g.nz.nz _ (getR_mem hh) (by simp))
    refine rel_stepK (w' := w2) h hg e.sc { l2' with wk := ⟨l2, fun _ => n2.clear rid (fun _ => ?_), fun _ => c2⟩ }
    have g2 : w2.k.getR rid = _ := (getR_unwheelUnref w.k rid clr u.rid hh).2
    rw [g2] at hnz ⊢
    exact ⟨Nat.pos_of_ne_zero hnz, q.hold, q.ended, q.fin⟩
  | true =>
    exact (rel_stepK (w' := w2.modK (·.free rid)) h hg (e.sc.trans (SC.modK _ _)) (l2'.free (l2.unreferenced rid (by simpa using hz)))).removeIfZero ki hfl

/-- **the sweeper drops its reference to a record that is not a live queued request any more** (`dropT`): nothing stage 1 sees changes -/
theorem rel_dropT {w : W} {a : Engine.DB} {k1 : Engine.Key} {out1 : List Engine.Reply} (h : Rel w a k1 out1) (hg : w.gone = false)
    (ki : Engine.KeyInv k1) (hfl : k1.waited = true → k1.waiters ≠ []) (rid : Nat)
    (hs : w.k.hasRec rid ∧ (w.k.getR rid).tSched.isSome = true ∧ (w.k.getR rid).timeouted = true) :
    Rel (w.dropT rid) a k1 out1 :=
  Rel.dropGen h hg ki hfl rid unwheelT hs.1 hs.2.1 (fun _ => rfl) (fun _ => rfl) rfl (fun f => ⟨f.pos, f.hold, f.ended, f.fin⟩) (fun _ => rfl)
    (fun ht => by rw [hs.2.2] at ht; exact absurd ht (by simp)) (fun i => KI.of_pk i rfl (PKeep.modRec w.k rid _))

/-- **the sweeper drops its reference to a record whose hold has ended** (`dropE`) -/
theorem rel_dropE {w : W} {a : Engine.DB} {k1 : Engine.Key} {out1 : List Engine.Reply} (h : Rel w a k1 out1) (hg : w.gone = false)
    (ki : Engine.KeyInv k1) (hfl : k1.waited = true → k1.waiters ≠ []) (rid : Nat)
    (hs : w.k.hasRec rid ∧ (w.k.getR rid).eSched.isSome = true ∧ (w.k.getR rid).depth = 0) :
    Rel (w.dropE rid) a k1 out1 :=
  have hd0 : ¬ 0 < (w.k.getR rid).depth := by rw [hs.2.2]; simp
  Rel.dropGen h hg ki hfl rid unwheelE hs.1 hs.2.1 (fun _ => rfl) (fun _ => rfl) rfl
    (fun f => ⟨f.pos, fun hd => absurd hd hd0, f.ended, fun _ he => nomatch he⟩) (fun hd => absurd hd hd0) (fun _ => rfl)
    (fun i => i.edit ((Edit.refl _).modR _ (fun _ => rfl) (fun _ => rfl)) id (fun _ _ h => nomatch h) (fun hd => ⟨hd, rfl⟩) id)

theorem equiv_commit (s : DB) (hq : DBQ s) (key : Nat) (w : W) (f : Fr (s.openKey key) w) (hl : LvG w zero) : Commits s key w :=
  sim_commit s key _ _ f (getKey_key _ _) (fun _ _ => rfl) ((hq.dbt.dbi.openKey key).of_fr f) hq.dbt.dbi.kn (hq.dbt.dbi.stepW key w f hl).kn

theorem rel_commit (s : DB) (hq : DBQ s) (key : Nat) (w : W) (f : Fr (s.openKey key) w) {a1 : Engine.DB} {k1 : Engine.Key} {out1 : List Engine.Reply}
    (h : Rel w a1 k1 out1) (hkeys : a1.keys = (Engine2.abs s).keys) (hk1 : k1.key = key) :
    Equiv (Engine2.abs w.commit) (a1.setKey k1) :=
  (h.stop (equiv_commit s hq key w f (fun hg => (h.live hg).good.lv)) rfl hkeys hk1).1

theorem rel_answer {w : W} {a : Engine.DB} {k1 : Engine.Key} {out1 : List Engine.Reply} (h : Rel w a k1 out1)
    (f : Engine.Counters → Engine.Counters) (c : Engine.Cmd) (res : Nat) :
    Rel (answer w f c res) { a with ctr := f a.ctr } k1 (out1 ++ [Engine.mkReply c res k1.locked 0]) := (h.ctr f).reply c res 0 _

theorem rel_wake_commit (s : DB) (hq : DBQ s) (key : Nat) (w : W) (f : Fr (s.openKey key) w.wake) {a1 : Engine.DB} {k1 : Engine.Key}
    {out1 : List Engine.Reply} (h : Rel w a1 k1 out1) (ki : Engine.KeyInv k1) (hkeys : a1.keys = (Engine2.abs s).keys)
    (hk1 : k1.key = key) :
    Agrees w.wake (wakeStore a1 k1 out1) :=
  h.wake_end (equiv_commit s hq key _ f (LvG.wake fun hg => (h.live hg).good.lv)) ki rfl hkeys hk1

theorem rel_commit_same (s : DB) (hq : DBQ s) (key : Nat) (w : W) (f : Fr (s.openKey key) w) {out1 : List Engine.Reply}
    (h : Rel w (Engine2.abs s) (Key.abs (s.getKey key)) out1) : Equiv (Engine2.abs w.commit) (Engine2.abs s) := by
  have e1 := rel_commit s hq key w f h rfl (getKey_key _ _)
  have e2 := Equiv.setKey_self (Engine2.abs s) key
  rw [abs_getKey s hq.dbt.dbi.kn key] at e2
  exact e1.trans e2

/-- the body of `doExpried` up to `RemoveLock`, as an edit of the expiring record -/
theorem preE_edit (w : W) (rid : Nat) : Edit rid exR (· - (w.k.getR rid).depth) 0 w (preE w rid) :=
  (((Edit.refl w).modR exR (fun _ => rfl) (fun _ => rfl)).modK (subL (w.k.getR rid).depth) (· - (w.k.getR rid).depth) rfl rfl rfl rfl rfl rfl).when _
    (fun e => e.pushUnLockAof rid _ false false AOF_EXPRIED)

end Slock.SimTick
