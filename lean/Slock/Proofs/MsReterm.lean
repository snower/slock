import Slock.Proofs.MsWheel
/-! G3 tie of M-MSWHEEL's re-term decision: the "same terms" shortcut and the deadline written by `UpdateLockedLock` are the kernels
REGENERATED from `LockManager.CheckLockedEqual` / `LockManager.UpdateLockedLock` on every run, for the flag words the harness sends
(seconds: 0, milliseconds: 0x0400). An edit of `CheckLockedEqual` in /repo regenerates a different `K.checkLockedEqual` and these
proofs stop checking. -/
namespace Slock.Ms
open Slock.Gen

theorem sameTerms_generated (now expT : Nat) (ms : Bool) (val : Nat) (countsEq : Bool) :
    sameTerms now expT ms val countsEq = K.checkLockedEqual (now : Int) (expT : Int) (eflagOf ms) val countsEq := by
  unfold sameTerms K.checkLockedEqual eflagOf
  cases ms
  · simp only [Bool.false_eq_true, if_false, Nat.zero_and, bne_self_eq_false, beq_self_eq_true, if_true]
    by_cases hg : now + val + 1 > expT
    · rw [if_pos hg, if_pos (decide_eq_true (by omega))]
      exact congrArg (· && countsEq) (decide_eq_decide.mpr (by omega))
    · rw [if_neg hg, if_neg (by simpa using (by omega : ¬ (now : Int) + val + 1 > expT))]
      exact congrArg (· && countsEq) (decide_eq_decide.mpr (by omega))
  · simp

theorem newDeadline_generated (now : Nat) (ms : Bool) (val : Nat) :
    K.expUpdate (now : Int) (eflagOf ms) val = (newDeadline now ms val : Int) := by
  unfold K.expUpdate newDeadline eflagOf
  cases ms
  · simp only [Bool.false_eq_true, if_false, Nat.zero_and, bne_self_eq_false, beq_self_eq_true, if_true]
    omega
  · simp [Int.tdiv_eq_ediv_of_nonneg]

theorem reterm_ignored_iff_generated (place : Place) (isUpdate countsEq : Bool) (now expT : Nat) (ms : Bool) (val : Nat) :
    reterm place isUpdate countsEq now expT ms val = .ignored ↔
      (isUpdate = true ∧ K.checkLockedEqual (now : Int) (expT : Int) (eflagOf ms) val countsEq = true) := by
  rw [← sameTerms_generated, ← Bool.and_eq_true]
  unfold reterm
  split
  · next h => exact ⟨fun _ => h, fun _ => rfl⟩
  · next h =>
    refine ⟨fun hc => ?_, fun hc => absurd hc h⟩
    cases place <;> dsimp only at hc
    · cases hc
    · split at hc
      · cases hc
      · split at hc <;> cases hc
    · cases hc
    · cases hc

/-- what the park goroutine does with a stale entry is `afterPark` (tied by `afterPark_generated`) on the NEW value -/
theorem staleAfterPark_generated (now val : Nat) :
    staleAfterPark now val = (if K.msToSecondWheelExpried val then .second (K.msSecondDeadlineExpried now val).toNat else .fire) :=
  (afterPark_generated now val).2

end Slock.Ms
