import Slock.Proofs.EngineSimTickRel
/-! Clock-tick simulation (`sim_tick`): what a sweep step may do to a lock record as stage 1 identifies it (`Life`): command and
connection stay; a record that is not a live queued request does not become one; a hold keeps its identity — or the record was a live
queued request granted by the step's wake pass, with an identity not below the sequence counter the step started from. `WFK`: every
record of the key record the step leaves behind was there before and has lived on that way; `WFD`: so under every key, and the sequence counter does not go down. The step's own
record is no exception: nothing is said here of how the VIEW of a record that stays a request or a hold changes — what pairs a wheel
entry with its stage-1 item is the identity alone (`PT`, `PE`), and that the item itself is still the same stage 1 knows (`Matched`, in EngineSimTickFold). -/
namespace Slock.SimTick
open Slock Slock.Sim Slock.Engine2

structure Life (seq0 : Nat) (r' r : Rec) : Prop where
  cc : r'.cmd = r.cmd ∧ r'.conn = r.conn
  nr : r'.timeouted = false → r.timeouted = false
  hh : 0 < r'.depth → (r'.hid = r.hid ∧ 0 < r.depth) ∨ (r.timeouted = false ∧ seq0 ≤ r'.hid)

/-- what `Life` reads of a lock record: command, connection, `timeouted`, hold identity, depth -/
def πL (r : Rec) : Engine.Cmd × Nat × Bool × Nat × Nat := (r.cmd, r.conn, r.timeouted, r.hid, r.depth)
theorem ins_πL : Ins πL := ⟨fun _ _ => rfl, fun _ _ => rfl, fun _ _ => rfl, fun _ _ => rfl⟩
theorem πL_of_πA {r' r : Rec} (h : πA r' = πA r) : πL r' = πL r := by
  have h1 : r'.toHold = r.toHold := congrArg (·.1) h
  have h2 : r'.toWaiter = r.toWaiter := congrArg (·.2.1) h
  have h3 : r'.timeouted = r.timeouted := congrArg (·.2.2) h
  have c1 : r'.cmd = r.cmd := congrArg Engine.Waiter.cmd h2
  have c2 : r'.conn = r.conn := congrArg Engine.Waiter.conn h2
  have c3 : r'.hid = r.hid := congrArg Engine.Hold.hid h1
  have c4 : r'.depth = r.depth := congrArg Engine.Hold.depth h1
  unfold πL; rw [c1, c2, h3, c3, c4]

namespace Life
variable {seq0 : Nat}

theorem of_eq {r' r : Rec} (h : πL r' = πL r) : Life seq0 r' r := by
  have c1 : r'.cmd = r.cmd := congrArg (·.1) h
  have c2 : r'.conn = r.conn := congrArg (·.2.1) h
  have c3 : r'.timeouted = r.timeouted := congrArg (·.2.2.1) h
  have c4 : r'.hid = r.hid := congrArg (·.2.2.2.1) h
  have c5 : r'.depth = r.depth := congrArg (·.2.2.2.2) h
  exact ⟨⟨c1, c2⟩, fun h' => c3 ▸ h', fun hd => Or.inl ⟨c4, c5 ▸ hd⟩⟩

theorem trans {seq1 : Nat} {a b c : Rec} (h1 : Life seq1 a b) (h2 : Life seq0 b c) (hs : seq0 ≤ seq1) : Life seq0 a c := by
  refine ⟨⟨h1.cc.1.trans h2.cc.1, h1.cc.2.trans h2.cc.2⟩, fun h => h2.nr (h1.nr h), fun hd => ?_⟩
  rcases h1.hh hd with ⟨e1, e2⟩ | ⟨e1, e2⟩
  · rcases h2.hh e2 with ⟨e1', e2'⟩ | ⟨e1', e2'⟩
    · exact Or.inl ⟨e1.trans e1', e2'⟩
    · exact Or.inr ⟨e1', by omega⟩
  · exact Or.inr ⟨h2.nr e1, by omega⟩

end Life

/-- the frame of a sweep step on one key record: `k'` is `k` after the step, which began at sequence counter `seq0` -/
structure WFK (seq0 : Nat) (k' k : Key) : Prop where
  sub : ∀ y, k'.hasRec y → k.hasRec y
  life : ∀ y, k'.hasRec y → Life seq0 (k'.getR y) (k.getR y)

namespace WFK
variable {seq0 : Nat}

theorem of_pk {k' k : Key} (p : PKeep πL k' k) : WFK seq0 k' k := ⟨p.sub, fun y hy => Life.of_eq (p.val y hy)⟩

theorem refl (k : Key) : WFK seq0 k k := of_pk (PKeep.refl k)

theorem trans {seq1 : Nat} {a b c : Key} (h1 : WFK seq1 a b) (h2 : WFK seq0 b c) (hs : seq0 ≤ seq1) : WFK seq0 a c :=
  ⟨fun y hy => h2.sub y (h1.sub y hy), fun y hy => (h1.life y hy).trans (h2.life y (h1.sub y hy)) hs⟩

theorem of_pkx {k' k : Key} {rid : Nat} (p : PKeepX πA (· = rid) k' k) (hx : k'.hasRec rid → k.hasRec rid ∧ Life seq0 (k'.getR rid) (k.getR rid)) :
    WFK seq0 k' k := by
  refine ⟨fun y hy => ?_, fun y hy => ?_⟩
  · by_cases h : y = rid
    · exact h ▸ (hx (h ▸ hy)).1
    · exact p.sub y h hy
  · by_cases h : y = rid
    · subst h; exact (hx hy).2
    · exact Life.of_eq (πL_of_πA (p.val y h hy))

end WFK

def πC (r : Rec) : Engine.Cmd × Nat := (r.cmd, r.conn)
theorem ins_πC : Ins πC := ⟨fun _ _ => rfl, fun _ _ => rfl, fun _ _ => rfl, fun _ _ => rfl⟩

theorem pk_reply {α : Type} {π : Rec → α} (w : W) (c : Engine.Cmd) (res lr : Nat) (d : Option Bytes) : PK π (w.reply c res lr d) w := PK.of_k rfl
theorem pk_ctr {α : Type} {π : Rec → α} (w : W) (f : Engine.Counters → Engine.Counters) : PK π (w.ctr f) w := PK.of_k rfl

theorem pkC_grant (w : W) (rid : Nat) : PK πC (w.grant rid) w := by
  have hf := addLockF_fields w.db w.k
  refine ((pk_reply _ _ _ _ _).trans ((pk_ctr _ _).trans ((pk_ref ins_πC _ rid).trans ((pk_addExpried ins_πC _ rid (fun _ _ => rfl)).trans
    ((pk_modR _ rid (fun r => { r with data := none })).trans (pk_procData ins_πC _ _ _ _ _)))))).trans ?_
  refine PK.trans (b := w.addLock rid) (pk_modK (w.addLock rid) incLocked (PKeep.of_eq rfl)) ?_
  exact pk_modK w _ (PKeep.addLock ins_πC w.k rid _ (fun r => (hf r).rid) (fun r => by
    unfold πC; rw [(hf r).cmd, (hf r).conn]))

theorem pkC_wakeOne (w : W) (rid : Nat) : PK πC (w.wakeOne rid) w := by
  have p0 : PK πC (wakePre w rid) w :=
    (pk_ctr _ _).trans ((pk_dropLongT ins_πC _ rid (fun _ _ => rfl)).trans (pk_modR w rid (fun r => { r with timeouted := true })))
  rw [wakeOne_eq]
  split
  · exact (pkC_grant _ rid).trans p0
  · exact (pk_reply _ _ _ _ _).trans ((pk_ctr _ _).trans ((pk_grantNoHold ins_πC _ rid).trans p0))

theorem wakeOne_wfk (w : W) (rid : Nat) (hd : w.k.deadWaiter rid = false) : WFK w.db.seq (w.wakeOne rid).k w.k := by
  have hl : (w.k.getR rid).timeouted = false := hd
  have hh := hasRec_of_liveWaiter hd
  obtain ⟨_, s2, _⟩ := wakeOne_spec w rid
  refine WFK.of_pkx (wakeOne_others w rid) fun hy => ⟨hh, ?_, fun hl' => by rw [s2 hy] at hl'; exact absurd hl' (by simp), fun hdp => ?_⟩
  · exact Prod.mk.inj ((pkC_wakeOne w rid).val rid hy)
  · rw [wakeOne_eq] at hdp hy ⊢
    split at hdp
    · -- a hold after the step: its identity is the sequence number spent on the grant
      rename_i hc
      rw [if_pos hc] at hy ⊢
      rw [(grant_recI (wakePre w rid) rid ((pkC_grant _ rid).sub rid hy)).1, wakePre_seq w rid]
      exact Or.inr ⟨hl, Nat.le_refl _⟩
    · -- no hold is made: identity and depth are as they were
      rename_i hc
      rw [if_neg hc] at hy ⊢
      have ins : Ins (fun r : Rec => (r.hid, r.depth)) := ⟨fun _ _ => rfl, fun _ _ => rfl, fun _ _ => rfl, fun _ _ => rfl⟩
      have p0 : PK (fun r : Rec => (r.hid, r.depth)) (wakePre w rid) w :=
        (pk_ctr _ _).trans ((pk_dropLongT ins _ rid (fun _ _ => rfl)).trans (pk_modR w rid (fun r => { r with timeouted := true })))
      have hv := ((pk_reply _ _ _ _ _).trans ((pk_ctr _ _).trans ((pk_grantNoHold ins _ rid).trans p0))).val rid hy
      obtain ⟨e1, e2⟩ := Prod.mk.inj hv
      exact Or.inl ⟨e1, e2 ▸ hdp⟩

theorem wakePass_wfk (fuel : Nat) (w : W) : WFK w.db.seq (W.wakePass fuel w).k w.k := by
  induction fuel generalizing w with
  | zero => exact WFK.refl _
  | succ n ih =>
    unfold W.wakePass
    simp only []
    have p1 : WFK w.db.seq (w.modK (·.getWaitLock.1)).k w.k := WFK.of_pk (PKeep.getWaitLock ins_πL w.k)
    split
    · refine WFK.trans (b := (w.modK (·.getWaitLock.1)).k) (WFK.of_pk (PKeep.of_eq ?_)) p1 (Nat.le_refl _)
      show ((w.modK (·.getWaitLock.1)).modK clearWaited).removeIfZero.k.recs = _
      rw [removeIfZero_recs]; rfl
    · rename_i rid hr
      split
      · exact p1
      · obtain ⟨_, _, _, _, hd⟩ := getWaitLock_some w.k rid hr
        exact (ih ((w.modK (·.getWaitLock.1)).wakeOne rid)).trans ((wakeOne_wfk _ rid hd).trans p1 (Nat.le_refl _))
          (Fr.wakeOne (w.modK (·.getWaitLock.1)) rid).seq

theorem wake_wfk (w : W) : WFK w.db.seq w.wake.k w.k := by
  unfold W.wake W.when
  split
  · exact wakePass_wfk _ w
  · exact WFK.refl _

theorem dropT_wfk {seq0 : Nat} (w : W) (rid : Nat) : WFK seq0 (w.dropT rid).k w.k := WFK.of_pk (pk_dropT ins_πL w rid (fun _ _ => rfl))
theorem dropE_wfk {seq0 : Nat} (w : W) (rid : Nat) : WFK seq0 (w.dropE rid).k w.k := WFK.of_pk (pk_dropE ins_πL w rid (fun _ _ => rfl))

theorem fireT_dead_wfk {seq0 : Nat} (w : W) (rid : Nat) (h : w.k.hasT rid = false ∨ (w.k.getR rid).timeouted = true) :
    WFK seq0 (w.fireTimeout rid).k w.k := by
  cases hT : w.k.hasT rid with
  | false => rw [fireTimeout_broken w rid hT]; exact WFK.refl _
  | true => rw [fireTimeout_tomb w rid hT (h.resolve_left (by rw [hT]; simp))]; exact dropT_wfk w rid

theorem visitTimeout_wfk {seq0 : Nat} (w : W) (slot : Bool) (rid : Nat) (w' : W) (hv : w.visitTimeout slot rid = some w') : WFK seq0 w'.k w.k := by
  by_cases h : w.k.hasT rid = false ∨ (w.k.getR rid).timeouted = true
  · rw [visitTimeout_dead w slot rid h] at hv
    injection hv with hv; rw [← hv]; exact fireT_dead_wfk w rid h
  · simp only [not_or, Bool.not_eq_false, Bool.not_eq_true] at h
    rw [visitT_live_cases w slot rid h.1 h.2] at hv
    split at hv
    · injection hv with hv; rw [← hv]
      -- `AddTimeOut` writes `timeouted := false`: on a live request, nothing
      refine WFK.of_pk (PKeep.trans (b := (w.modR rid bumpT).k) (PKeep.modRec_at _ rid _ (fun _ => rfl) fun hh => ?_) (pk_modR (π := πL) w rid bumpT (fun _ => rfl)))
      have : ((w.modR rid bumpT).k.getR rid).timeouted = false := by
        rw [show (w.modR rid bumpT).k.getR rid = bumpT (w.k.getR rid) from
          getR_modRec_same w.k rid bumpT ((hasRec_modR w rid rid bumpT (fun _ => rfl)).mp hh)]
        exact h.2
      unfold πL Rec.armT
      simp only [this]
    · exact absurd hv (by simp)

theorem collectT_wfk {seq0 : Nat} (w : W) (rid : Nat) : WFK seq0 (w.collectT rid).k w.k :=
  WFK.of_pk (pk_modR (π := πL) w rid unlongT (fun _ => rfl))

theorem fireE_dead_wfk {seq0 : Nat} (w : W) (rid : Nat) (h : w.k.hasE rid = false ∨ (w.k.getR rid).expried = true) :
    WFK seq0 (w.fireExpire rid).k w.k := by
  cases hT : w.k.hasE rid with
  | false => rw [fireExpire_broken w rid hT]; exact WFK.refl _
  | true => rw [fireExpire_ended w rid hT (h.resolve_left (by rw [hT]; simp))]; exact dropE_wfk w rid

theorem visitExpire_wfk {seq0 : Nat} (w : W) (slot : Bool) (rid : Nat) (w' : W) (hv : w.visitExpire slot rid = some w') : WFK seq0 w'.k w.k := by
  by_cases h : w.k.hasE rid = false ∨ (w.k.getR rid).expried = true
  · rw [visitExpire_dead w slot rid h] at hv
    injection hv with hv; rw [← hv]; exact fireE_dead_wfk w rid h
  · simp only [not_or, Bool.not_eq_false, Bool.not_eq_true] at h
    rw [visitE_live_cases w slot rid h.1 h.2] at hv
    split at hv
    · injection hv with hv; rw [← hv]
      exact WFK.of_pk ((pk_addExpried ins_πL _ rid (fun _ _ => rfl)).trans (pk_modR (π := πL) w rid bumpE (fun _ => rfl)))
    · exact absurd hv (by simp)

/-- `p2` and `hseq` speak of the variable `pre`: stated about `answer pre …`, the unifier
would try to identify that term with the caller's `W.dropT …` and evaluate the reference-count test inside it. -/
theorem wfk_finish {w pre : W} {f : Engine.Counters → Engine.Counters} {c : Engine.Cmd} {res : Nat}
    (p2 : WFK w.db.seq pre.k w.k) (hseq : w.db.seq ≤ pre.db.seq) : WFK w.db.seq (answer pre f c res).wake.k w.k :=
  (wake_wfk (answer pre f c res)).trans p2 hseq

theorem fireTimeout_wfk (w : W) (rid : Nat) : WFK w.db.seq (w.fireTimeout rid).k w.k := by
  by_cases h : w.k.hasT rid = false ∨ (w.k.getR rid).timeouted = true
  · exact fireT_dead_wfk w rid h
  simp only [not_or, Bool.not_eq_false, Bool.not_eq_true] at h
  obtain ⟨hT, hl⟩ := h
  rw [fireTimeout_live_eq _ rid hT hl]
  have hh := (hasT_spec _ rid hT).1
  have p1 : WFK w.db.seq ((w.modR rid tombR).modK (·.settleWait)).k w.k := by
    refine WFK.trans (b := (w.modR rid tombR).k) (WFK.of_pk (PKeep.settleWait ins_πL _)) ?_ (Nat.le_refl _)
    refine WFK.of_pkx (PKeepX.modRec (X := (· = rid)) w.k rid tombR (fun _ => rfl) rfl) fun _ => ⟨hh, ?_⟩
    rw [show (w.modR rid tombR).k.getR rid = tombR (w.k.getR rid) from getR_modRec_same w.k rid tombR hh]
    exact ⟨⟨rfl, rfl⟩, fun _ => hl, fun hd => Or.inl ⟨rfl, hd⟩⟩
  exact wfk_finish ((dropT_wfk (preT w rid) rid).trans p1 (Nat.le_refl _)) (Fr.dropT (preT w rid) rid).seq

theorem fireExpire_wfk (w : W) (rid : Nat) : WFK w.db.seq (w.fireExpire rid).k w.k := by
  by_cases h : w.k.hasE rid = false ∨ (w.k.getR rid).expried = true
  · exact fireE_dead_wfk w rid h
  simp only [not_or, Bool.not_eq_false, Bool.not_eq_true] at h
  obtain ⟨hT, hl⟩ := h
  cases hdf : deferExpiry w.db (w.k.getR rid) with
  | true =>
    rw [fireExpire_deferred w rid hT hl hdf]
    exact WFK.of_pk ((pk_addExpried ins_πL _ rid (fun _ _ => rfl)).trans (pk_modR (π := πL) w rid _ (fun _ => rfl)))
  | false =>
    rw [fireExpire_live_eq _ rid hT hl hdf]
    have sc4 : SC w (endE w rid) := (preE_edit w rid).sc.trans (SC.modK _ _)
    have p0 : PK πL (preE w rid) w := (preE_edit w rid).pk (fun _ => rfl) (fun _ => rfl)
    -- `RemoveLock` sets the depth of `rid` to 0: no hold afterwards
    have p1 : WFK w.db.seq (endE w rid).k w.k := by
      refine WFK.trans (b := (preE w rid).k) (WFK.of_pkx (removeLock_others _ rid) fun hh => ?_) (WFK.of_pk p0) (Nat.le_refl _)
      have pc : PKeep (fun r => (r.cmd, r.conn, r.timeouted)) ((preE w rid).k.removeLock rid) (preE w rid).k :=
        PKeep.removeLock ⟨fun _ _ => rfl, fun _ _ => rfl, fun _ _ => rfl, fun _ _ => rfl⟩ (fun _ _ => rfl) _ rid
      have hv := pc.val rid hh
      refine ⟨pc.sub rid hh, ⟨congrArg (·.1) hv, congrArg (·.2.1) hv⟩, fun ht => ?_, fun hd => ?_⟩
      · have e : (((preE w rid).k.removeLock rid).getR rid).timeouted = ((preE w rid).k.getR rid).timeouted := congrArg (·.2.2) hv
        exact e ▸ ht
      · have hd' : 0 < (((preE w rid).k.removeLock rid).getR rid).depth := hd
        rw [removeLock_depth (preE w rid).k rid hh] at hd'; exact absurd hd' (by simp)
    exact wfk_finish ((dropE_wfk (endE w rid) rid).trans p1 (Nat.le_refl _))
      (Nat.le_trans (Nat.le_of_eq sc4.seq.symm) (Fr.dropE (endE w rid) rid).seq)

/-- … on the database -/
structure WFD (s' s : DB) : Prop where
  seq : s.seq ≤ s'.seq
  k : ∀ n, WFK s.seq (s'.getKey n) (s.getKey n)

theorem WFD.refl (s : DB) : WFD s s := ⟨Nat.le_refl _, fun _ => WFK.refl _⟩

theorem wfd_commit (s : DB) (hq : DBQ s) (key : Nat) (w' : W) (f : Fr (s.openKey key) w') (h : WFK s.seq w'.k (s.getKey key)) : WFD w'.commit s := by
  have hs := (hq.dbt.dbi.openKey key).of_fr f
  have hkey : w'.k.key = key := f.key.trans (getKey_key s key)
  refine ⟨by rw [commit_seq]; exact f.seq, fun n => ?_⟩
  by_cases e : n = key
  · subst e
    cases hg : w'.gone with
    | true =>
      have hh : w'.commit.hasKey n = false := by rw [commit_of_gone w' hg, ← hkey]; exact hs.absent hg
      rw [getKey_of_not_hasKey _ _ hh]
      have hno : ∀ y, ¬ (newKey n).hasRec y := by intro y ⟨r, hr, _⟩; simp [newKey] at hr
      exact ⟨fun y hy => absurd hy (hno y), fun y hy => absurd hy (hno y)⟩
    | false =>
      have := commit_getKey w' hg
      rw [hkey] at this
      rw [this]
      exact h
  · rw [commit_getKey_other _ _ (by rw [hkey]; exact e), fr_getKey_other f n (by show n ≠ (s.getKey key).key; rw [getKey_key]; exact e)]
    exact WFK.refl _

theorem timeoutStep_wfd (slot : Bool) (s : DB) (C : List Ent) (e : Ent) (hq : DBQ s) : WFD (timeoutStep slot (s, C) e).1 s := by
  unfold timeoutStep
  split
  · rename_i w hw
    exact wfd_commit s hq e.key w (W.visitTimeout_fr _ _ _ _ hw) (visitTimeout_wfk _ slot e.rid w hw)
  · cases slot
    · exact wfd_commit s hq e.key _ (W.collectT_fr _ _) (collectT_wfk _ e.rid)
    · exact WFD.refl _

theorem expireStep_wfd (slot : Bool) (s : DB) (C : List Ent) (e : Ent) (hq : DBQ s) : WFD (expireStep slot (s, C) e).1 s := by
  unfold expireStep
  split
  · rename_i w hw
    exact wfd_commit s hq e.key w (W.visitExpire_fr _ _ _ _ hw) (visitExpire_wfk _ slot e.rid w hw)
  · exact WFD.refl _

theorem fireTimeoutStep_wfd (s : DB) (o : List Reply) (e : Ent) (hq : DBQ s) : WFD (fireTimeoutStep (s, o) e).1 s :=
  wfd_commit s hq e.key _ (W.fireTimeout_fr _ _) (fireTimeout_wfk (s.openKey e.key) e.rid)

theorem fireExpireStep_wfd (s : DB) (o : List Reply) (e : Ent) (hq : DBQ s) : WFD (fireExpireStep (s, o) e).1 s :=
  wfd_commit s hq e.key _ (W.fireExpire_fr _ _) (fireExpire_wfk (s.openKey e.key) e.rid)

end Slock.SimTick
