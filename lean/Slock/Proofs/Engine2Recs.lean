import Slock.Proofs.Engine2Chain
import Slock.Proofs.Engine2Frame
/-! Stage-2 engine: the lock records of one key record, without any invariant — what the step tier and the count invariants both
read: lookup and edit of a record, what `free` / `unref` leave alone, the two pop loops as equations. And the BOOK-KEEPING chains
(`Chain data true q`): the value operation, the journalling helpers, a grant without a hold, counters and replies write only a
record's `data` / `aofData` / `isAof`, the value cell, `locked`, and the counters, journal and error flag of the database. No relation
about reference counts or queues reads any of these, so each has one lemma about such chains, next to its definition, and not one per
helper; `Chain.book` is what they all go through. -/
namespace Slock.Engine2

def Key.hasRec (k : Key) (rid : Nat) : Prop := ∃ r ∈ k.recs, r.rid = rid

theorem hasRec_find (k : Key) (rid : Nat) (h : k.hasRec rid) : ∃ r, k.recs.find? (·.rid == rid) = some r := by
  obtain ⟨r, hr, e⟩ := h
  cases hf : k.recs.find? (·.rid == rid) with
  | some x => exact ⟨x, rfl⟩
  | none =>
    have := List.find?_eq_none.mp hf r hr
    simp [e] at this

theorem getR_modRec_same (k : Key) (rid : Nat) (f : Rec → Rec) (h : k.hasRec rid) (hf : ∀ r, (f r).rid = r.rid := by intro _; rfl) :
    (k.modRec rid f).getR rid = f (k.getR rid) := by
  obtain ⟨x, hx⟩ := hasRec_find k rid h
  unfold Key.getR Key.modRec
  simp only []
  rw [find_map_if Rec.rid _ _ _ (fun r e => by rw [hf, e]), hx]; rfl

theorem getR_modRec_other (k : Key) (rid rid' : Nat) (f : Rec → Rec) (hne : rid' ≠ rid) (hf : ∀ r, (f r).rid = r.rid := by intro _; rfl) :
    (k.modRec rid f).getR rid' = k.getR rid' := by
  unfold Key.getR Key.modRec
  simp only []
  rw [find_map_if_other Rec.rid _ _ _ _ (fun r e => by rw [hf, e]) hne]

theorem getR_modRec_proj {α : Type} (π : Rec → α) (k : Key) (rid y : Nat) (f : Rec → Rec)
    (hp : ∀ r, π (f r) = π r) (hf : ∀ r, (f r).rid = r.rid := by intro _; rfl) : π ((k.modRec rid f).getR y) = π (k.getR y) := by
  by_cases e : y = rid
  · subst e
    unfold Key.getR Key.modRec
    simp only []
    rw [find_map_if Rec.rid _ _ _ (fun r e => by rw [hf, e])]
    cases k.recs.find? (·.rid == y) with
    | none => rfl
    | some r => exact hp r
  · rw [getR_modRec_other _ _ _ _ e hf]

theorem getR_modRec_eSome (k : Key) (rid y : Nat) (f : Rec → Rec) (hf : ∀ r, (f r).rid = r.rid) (hp : ∀ r, (f r).eSched.isSome = r.eSched.isSome) :
    ((k.modRec rid f).getR y).eSched.isSome = (k.getR y).eSched.isSome := getR_modRec_proj (·.eSched.isSome) k rid y f hp hf

theorem getR_rid (k : Key) (rid : Nat) : (k.getR rid).rid = rid := find_getD_key Rec.rid _ rid _ rfl

theorem getR_setRec_same (k : Key) (r : Rec) (h : k.hasRec r.rid) : (k.setRec r).getR r.rid = r := by
  obtain ⟨x, hx⟩ := hasRec_find k r.rid h
  unfold Key.getR Key.setRec Key.modRec
  simp only []
  rw [find_map_if Rec.rid _ _ _ (fun _ _ => rfl), hx]; rfl

theorem hasRec_modRec (k : Key) (rid rid' : Nat) (f : Rec → Rec) (hf : ∀ r, (f r).rid = r.rid := by intro _; rfl) :
    (k.modRec rid f).hasRec rid' ↔ k.hasRec rid' := by
  unfold Key.hasRec Key.modRec
  simp only [List.mem_map]
  constructor
  · rintro ⟨r, ⟨x, hx, e⟩, hr⟩
    refine ⟨x, hx, ?_⟩
    rw [← hr, ← e]; split
    · rw [hf]
    · rfl
  · rintro ⟨r, hr, e⟩
    refine ⟨_, ⟨r, hr, rfl⟩, ?_⟩
    split
    · rw [hf]; exact e
    · exact e

theorem getR_of_not_hasRec (k : Key) (x : Nat) (h : ¬ k.hasRec x) : k.getR x = deadRec x := by
  unfold Key.getR
  cases hf : k.recs.find? (·.rid == x) with
  | none => rfl
  | some r =>
    exfalso; apply h
    exact ⟨r, List.mem_of_find?_eq_some hf, by have := List.find?_some hf; simpa using this⟩

section book
variable {data : Option Bytes} {q : Bool} {w0 w : W}

/-- what a property of the working state has to survive to survive a book-keeping chain -/
theorem Chain.book {J : W → Prop} (he : ∀ w rid f, REdit true f → J w → J (w.modR rid f))
    (hk : ∀ (w : W) c n, J w → J { w with k := { w.k with cell := c, locked := n } })
    (hd : ∀ (w : W) c a p, J w → J { w with db := { w.db with ctr := c, aofOut := a, panicked := p } })
    (ho : ∀ (w : W) o, J w → J { w with out := o }) (c : Chain data true q w0 w) (h0 : J w0) : J w :=
  c.ind (fun w _ p j =>
    match p with
    | .edit _ rid f hf => he w rid f hf j
    | .locked _ n => hk w w.k.cell n j
    | .cell _ c' _ => hk w c' w.k.locked j
    | .cellAof _ c _ => hk w _ w.k.locked j
    | .reply _ _ _ _ _ => ho w _ j
    | .out _ o _ => ho w o j
    | .ctr _ f => hd w (f w.db.ctr) w.db.aofOut w.db.panicked j
    | .panic _ => hd w w.db.ctr w.db.aofOut true j
    | .journal _ jr _ => hd w w.db.ctr (w.db.aofOut ++ [jr]) w.db.panicked j) h0

theorem Chain.gone (h : Chain data true q w0 w) : w.gone = w0.gone :=
  h.book (J := fun w => w.gone = w0.gone) (fun _ _ _ _ j => j) (fun _ _ _ j => j) (fun _ _ _ _ j => j) (fun _ _ j => j) rfl
theorem Chain.waited (h : Chain data true q w0 w) : w.k.waited = w0.k.waited :=
  h.book (J := fun w => w.k.waited = w0.k.waited) (fun _ _ _ _ j => j) (fun _ _ _ j => j) (fun _ _ _ _ j => j) (fun _ _ j => j) rfl

end book

theorem book_ctr (w : W) (f : Counters → Counters) : Chain none true true w (w.ctr f) := Chain.refl.ctr f
theorem book_reply (w : W) (c : Cmd) (a b : Nat) (d : Option Bytes) : Chain none true false w (w.reply c a b d) := Chain.refl.reply c a b d
theorem book_procData (w : W) (ct : Slock.Value.CmdType) (c : Cmd) (f : Option Bytes) (rid : Nat) : Chain f true false w (w.procData ct c f rid) :=
  Chain.refl.procData ct c f rid Or.inl
theorem book_pushLockAof (w : W) (rid flag : Nat) : Chain none true true w (w.pushLockAof rid flag) := Chain.refl.pushLockAof rid flag
theorem book_pushLockAofN (n : Nat) (w : W) (rid : Nat) : Chain none true true w (W.pushLockAofN n w rid) := Chain.refl.pushLockAofN n rid
/-- `AddExpried` after its edit of the record (`schedExpried`): journalling only -/
theorem book_addExpried (w : W) (rid : Nat) : Chain none true true (w.schedExpried rid) (w.addExpried rid) :=
  Chain.refl.when _ _ (·.pushLockAofN _ rid)
theorem book_pushUnLockAof (w : W) (rid : Nat) (lc : Cmd) (fa ia : Bool) (flag : Nat) : Chain none true true w (w.pushUnLockAof rid lc fa ia flag) :=
  Chain.refl.pushUnLockAof rid lc fa ia flag
theorem book_journalLock (w : W) (rid flag : Nat) : Chain none true true w (w.journalLock rid flag) := Chain.refl.journalLock rid flag
theorem book_journalUnlock (w : W) (rid : Nat) (fa ia : Bool) (flag : Nat) : Chain none true true w (w.journalUnlock rid fa ia flag) :=
  Chain.refl.journalUnlock rid fa ia flag
theorem book_grantNoHold (w : W) (rid : Nat) : Chain none true false w (w.grantNoHold rid) := Chain.refl.grantNoHold rid

theorem pushLockAof_off_leader (w : W) (rid flag : Nat) (h : w.db.leader = false) : w.pushLockAof rid flag = w := by
  unfold W.pushLockAof; simp [h]
theorem pushLockAofN_off_leader (n : Nat) (w : W) (rid : Nat) (h : w.db.leader = false) : W.pushLockAofN n w rid = w := by
  induction n with
  | zero => rfl
  | succ n ih => unfold W.pushLockAofN; rw [pushLockAof_off_leader w rid 0 h]; exact ih
theorem pushUnLockAof_off_leader (w : W) (rid : Nat) (lc : Cmd) (fa ia : Bool) (flag : Nat) (h : w.db.leader = false) :
    w.pushUnLockAof rid lc fa ia flag = w := by
  unfold W.pushUnLockAof; simp [h]

theorem addExpried_off_leader (w : W) (rid : Nat) (h : w.db.leader = false) : w.addExpried rid = w.schedExpried rid := by
  unfold W.addExpried
  simp only []
  cases (!(w.k.getR rid).isAof && (w.k.getR rid).aofTime != 0xff && decide (w.db.now - (w.k.getR rid).startT ≥ (w.k.getR rid).aofTime))
  · rfl
  · simp only [W.when, if_true]
    exact pushLockAofN_off_leader _ _ _ (by simpa [W.schedExpried] using h)

/-- the deferral branch of `doExpried`, spelled out field by field (the case equation itself is `SimTick.fireExpire_deferred` in
EngineSimTickCases) -/
theorem fireExpire_deferred (w : W) (rid : Nat) (hm : w.k.hasRec rid) (hs : (w.k.getR rid).eSched.isSome = true) (hl : w.db.leader = false)
    (hd : deferExpiry w.db (w.k.getR rid) = true) (he : (w.k.getR rid).expried = false) :
    (w.fireExpire rid).out = w.out ∧ (w.fireExpire rid).gone = w.gone ∧ (w.fireExpire rid).k.key = w.k.key ∧
    (w.fireExpire rid).k.getR rid =
      { (w.k.getR rid) with expried := false,
                            expT := (Slock.Engine.wheelAdd w.db.eCheck w.db.seq (w.db.now + 30) (w.k.getR rid).eChecked).1,
                            eSched := some (Slock.Engine.wheelAdd w.db.eCheck w.db.seq (w.db.now + 30) (w.k.getR rid).eChecked).2 } ∧
    (w.fireExpire rid).k.locked = w.k.locked ∧ (w.fireExpire rid).k.current = w.k.current ∧ (w.fireExpire rid).k.locks = w.k.locks ∧
    (w.fireExpire rid).db.keys = w.db.keys := by
  have hE : w.k.hasE rid = true := by
    unfold Key.hasE
    simp only [hs, Bool.and_true]
    obtain ⟨r, hr, e⟩ := hm
    exact List.any_eq_true.mpr ⟨r, hr, by simp [e]⟩
  unfold W.fireExpire
  simp only [hE, he, hd, Bool.not_true, Bool.false_eq_true, if_false, if_true]
  rw [addExpried_off_leader _ _ (by simpa using hl)]
  have h2 : (w.k.modRec rid fun r => { r with expT := w.db.now + 30 }).hasRec rid := by
    rw [hasRec_modRec _ _ _ _]; exact hm
  have hr : (w.k.modRec rid fun r => { r with expT := w.db.now + 30 }).getR rid = { (w.k.getR rid) with expT := w.db.now + 30 } := by
    rw [getR_modRec_same _ _ _ hm]
  unfold W.schedExpried
  simp only [modR_k, modR_db, modR_out, modR_gone, hr]
  refine ⟨trivial, trivial, rfl, ?_, rfl, rfl, rfl, trivial⟩
  rw [getR_modRec_same _ _ _ h2, hr]
  rfl

theorem mem_modRec {k : Key} {rid : Nat} {f : Rec → Rec} {r : Rec} (h : r ∈ (k.modRec rid f).recs) :
    ∃ r0 ∈ k.recs, (r0.rid = rid ∧ r = f r0) ∨ (r0.rid ≠ rid ∧ r = r0) := by
  unfold Key.modRec at h
  simp only [List.mem_map] at h
  obtain ⟨r0, hr0, e⟩ := h
  refine ⟨r0, hr0, ?_⟩
  split at e
  · rename_i hc; exact Or.inl ⟨by simpa using hc, e.symm⟩
  · rename_i hc; exact Or.inr ⟨by simpa using hc, e.symm⟩

theorem any_iff_hasRec (k : Key) (rid : Nat) : k.recs.any (·.rid == rid) = true ↔ k.hasRec rid := by
  unfold Key.hasRec
  simp [List.any_eq_true]

theorem hasRec_free_sub (k : Key) (rid y : Nat) (h : (k.free rid).hasRec y) : k.hasRec y ∧ (k.hasRec rid → y ≠ rid) := by
  unfold Key.free at h
  split at h
  · obtain ⟨r, hr, e⟩ := h
    have := List.mem_filter.mp hr
    refine ⟨⟨r, this.1, e⟩, fun _ e' => ?_⟩
    have h2 : r.rid ≠ rid := by simpa using this.2
    exact h2 (e.trans e')
  · rename_i hn
    refine ⟨h, fun hh => ?_⟩
    exact absurd ((any_iff_hasRec k rid).mpr hh) hn

theorem free_queues (k : Key) (rid : Nat) :
    (k.free rid).locks = k.locks ∧ (k.free rid).wait = k.wait ∧ (k.free rid).current = k.current ∧ (k.free rid).waited = k.waited ∧
    (k.free rid).waitPrio = k.waitPrio ∧ (k.free rid).locksPopped = k.locksPopped ∧ (k.free rid).waitPopped = k.waitPopped ∧
    (k.free rid).locksCap = k.locksCap ∧ (k.free rid).waitCap = k.waitCap := by
  unfold Key.free; split <;> simp

theorem unref_queues (k : Key) (rid : Nat) :
    (k.unref rid).locks = k.locks ∧ (k.unref rid).wait = k.wait ∧ (k.unref rid).current = k.current ∧ (k.unref rid).waited = k.waited ∧
    (k.unref rid).waitPrio = k.waitPrio ∧ (k.unref rid).locksPopped = k.locksPopped ∧ (k.unref rid).waitPopped = k.waitPopped ∧
    (k.unref rid).locksCap = k.locksCap ∧ (k.unref rid).waitCap = k.waitCap := by
  unfold Key.unref
  simp only []
  split
  · obtain ⟨a, b, c, d, e, f, g, h, i⟩ := free_queues (k.unrefOnly rid) rid
    exact ⟨a, b, c, d, e, f, g, h, i⟩
  · exact ⟨rfl, rfl, rfl, rfl, rfl, rfl, rfl, rfl, rfl⟩

theorem hclosed_wait (a : List WEnt) : HClosed (·.wait = a) := ⟨fun k x h => (unref_queues k x).2.1.trans h, fun _ _ _ _ h => h⟩

/-- guarded: a reclaim overwrites the manager's `refCount`, so the key record is `Key.unref` of the old one only while it is linked -/
theorem unrefCheck_live (w : W) (rid : Nat) (hg : (w.unrefCheck rid).gone = false) :
    (w.unrefCheck rid).k = w.k.unref rid ∧ (w.unrefCheck rid).db = w.db := by
  unfold W.unrefCheck W.when at hg ⊢
  unfold Key.unref
  cases hz : ((w.k.unrefOnly rid).getR rid).refCount == 0 with
  | false => simp only [modK_k, hz]; exact ⟨rfl, rfl⟩
  | true =>
    simp only [modK_k, hz, if_true] at hg ⊢
    rcases removeIfZero_cases ((w.modK (·.unrefOnly rid)).modK (·.free rid)) with e | ⟨g, _⟩
    · unfold W.freeCheck; rw [e]; exact ⟨rfl, rfl⟩
    · exact absurd (g.symm.trans hg) (by simp)

theorem hclosed_current (c : Option Nat) : HClosed (·.current = c) := ⟨fun k x h => (unref_queues k x).2.2.1.trans h, fun _ _ _ _ h => h⟩

theorem wclosed_current (c : Option Nat) : WClosed (·.current = c) := ⟨fun k x h => (unref_queues k x).2.2.1.trans h, fun _ _ _ _ _ h => h⟩

theorem wclosed_locks (l : List Nat) : WClosed (·.locks = l) := ⟨fun k x h => (unref_queues k x).1.trans h, fun _ _ _ _ _ h => h⟩

theorem getR_free_other (k : Key) (x y : Nat) (h : y ≠ x) : (k.free x).getR y = k.getR y := by
  unfold Key.free
  split
  · unfold Key.getR
    dsimp only
    rw [find_filter_other Rec.rid _ _ _ h]
  · rfl

theorem getR_unref_other (k : Key) (x y : Nat) (h : y ≠ x) : (k.unref x).getR y = k.getR y := by
  unfold Key.unref
  simp only []
  have h1 : (k.unrefOnly x).getR y = k.getR y := getR_modRec_other _ _ _ _ h
  split
  · rw [getR_free_other _ _ _ h, h1]
  · exact h1

theorem getR_addRec_same (k : Key) (r : Rec) (hn : ¬ k.hasRec r.rid) : (k.addRec r).getR r.rid = r := by
  unfold Key.getR Key.addRec
  dsimp only
  rw [find_append_new Rec.rid _ _ (fun r0 hr0 he => hn ⟨r0, hr0, he⟩) r rfl]; rfl

theorem getR_addRec_other (k : Key) (r : Rec) (y : Nat) (hne : y ≠ r.rid) : (k.addRec r).getR y = k.getR y := by
  unfold Key.getR Key.addRec
  dsimp only
  rw [find_append_other Rec.rid _ _ _ r rfl hne]

structure AddLockFKeeps (db : DB) (k : Key) (r : Rec) : Prop where
  rid : (addLockF db k r).rid = r.rid
  timeouted : (addLockF db k r).timeouted = r.timeouted
  eSched : (addLockF db k r).eSched = r.eSched
  tSched : (addLockF db k r).tSched = r.tSched
  refCount : (addLockF db k r).refCount = r.refCount + 1
  depth : (addLockF db k r).depth = 1
  cmd : (addLockF db k r).cmd = r.cmd
  data : (addLockF db k r).data = r.data
  conn : (addLockF db k r).conn = r.conn
  hid : (addLockF db k r).hid = db.seq
  startT : (addLockF db k r).startT = db.now
  expT : (addLockF db k r).expT = Slock.Engine.expiryDeadline db.now r.cmd
  eChecked : (addLockF db k r).eChecked = Slock.Engine.initChecked r.cmd db.now (Slock.Engine.expiryDeadline db.now r.cmd)

theorem addLockF_fields (db : DB) (k : Key) (r : Rec) : AddLockFKeeps db k r := by constructor <;> simp [addLockF]

theorem hasRec_modR (w : W) (rid x : Nat) (f : Rec → Rec) (hf : ∀ r, (f r).rid = r.rid := by intro _; rfl) : (w.modR rid f).k.hasRec x ↔ w.k.hasRec x :=
  hasRec_modRec _ _ _ _ hf

theorem procData_proj {α : Type} (π : Rec → α) (hπ : ∀ r b, π { r with aofData := b } = π r) (w : W) (ct : Slock.Value.CmdType) (c : Cmd)
    (f : Option Bytes) (rid y : Nat) : π ((w.procData ct c f rid).k.getR y) = π (w.k.getR y) := by
  unfold W.procData
  split
  · rfl
  · simp only []
    split
    · rfl
    · split
      · rename_i cell' _ _
        exact getR_modRec_proj π ({ w.k with cell := cell' } : Key) rid y _ (fun r => hπ r true)
      · rfl

structure UpdFKeeps (db : DB) (sole : Bool) (c : Cmd) (r : Rec) : Prop where
  rid : (updF db sole c r).rid = r.rid
  refCount : (updF db sole c r).refCount = r.refCount
  tSched : (updF db sole c r).tSched = r.tSched
  eSched : (updF db sole c r).eSched.isSome = r.eSched.isSome
  timeouted : (updF db sole c r).timeouted = r.timeouted
  depth : (updF db sole c r).depth = r.depth
  expried : (updF db sole c r).expried = r.expried
  data : (updF db sole c r).data = r.data

theorem updF_fields (db : DB) (sole : Bool) (c : Cmd) (r : Rec) : UpdFKeeps db sole c r := by
  cases h1 : (Slock.Engine.has c.eflag Slock.Engine.EF_UNLIMITED && decide (c.expried ≥ 0xffff)) <;> cases sole <;> constructor <;> simp [updF, h1]

def Key.queues (k : Key) : Option Nat × List Nat × List WEnt := (k.current, k.locks, k.wait)

theorem queues_eq {k' k : Key} (h : k'.queues = k.queues) : k'.current = k.current ∧ k'.locks = k.locks ∧ k'.wait = k.wait := by
  unfold Key.queues at h
  have h1 := (Prod.mk.inj h).1
  have h2 := (Prod.mk.inj (Prod.mk.inj h).2)
  exact ⟨h1, h2.1, h2.2⟩

theorem queues_mk {k' k : Key} (h1 : k'.current = k.current) (h2 : k'.locks = k.locks) (h3 : k'.wait = k.wait) : k'.queues = k.queues := by
  unfold Key.queues; rw [h1, h2, h3]

theorem Chain.queues {data : Option Bytes} {q : Bool} {w0 w : W} (h : Chain data true q w0 w) : w.k.queues = w0.k.queues :=
  h.book (J := fun w => w.k.queues = w0.k.queues) (fun _ _ _ _ j => j) (fun _ _ _ j => j) (fun _ _ _ _ j => j) (fun _ _ j => j) rfl

theorem queues_procData (w : W) (ct : Slock.Value.CmdType) (c : Cmd) (f : Option Bytes) (rid : Nat) :
    (w.procData ct c f rid).k.queues = w.k.queues := (book_procData w ct c f rid).queues

theorem getR_free_self (k : Key) (x : Nat) : (k.free x).getR x = deadRec x := by
  apply getR_of_not_hasRec
  intro h
  have := hasRec_free_sub k x x h
  by_cases hk : k.hasRec x
  · exact this.2 hk rfl
  · exact hk this.1

/-- dropping the reference of a record that reads like a freed one (tombstoned, no hold) changes no record's reading -/
theorem getR_unref_dead {α : Type} (π : Rec → α) (hπ : ∀ r : Rec, π { r with refCount := decU8 r.refCount } = π r) (k : Key) (x y : Nat)
    (hx : π (k.getR x) = π (deadRec x)) : π ((k.unref x).getR y) = π (k.getR y) := by
  by_cases e : y = x
  · subst e
    unfold Key.unref
    simp only []
    split
    · rw [getR_free_self]; exact hx.symm
    · exact getR_modRec_proj π k y y _ hπ
  · rw [getR_unref_other _ _ _ e]

theorem deadWaiter_unref (k : Key) (x y : Nat) (hx : k.deadWaiter x = true) : (k.unref x).deadWaiter y = k.deadWaiter y :=
  getR_unref_dead (·.timeouted) (fun _ => rfl) k x y hx

theorem liveHolder_unref (k : Key) (x y : Nat) (hx : k.liveHolder x = false) : (k.unref x).liveHolder y = k.liveHolder y :=
  getR_unref_dead (fun r => decide (r.depth > 0)) (fun _ => rfl) k x y hx

theorem filter_dropWhile {α : Type} {p q : α → Bool} (h : ∀ a, p a = true → q a = false) (l : List α) : (l.dropWhile p).filter q = l.filter q := by
  induction l with
  | nil => rfl
  | cons a t ih =>
    by_cases ha : p a = true
    · rw [List.dropWhile_cons_of_pos ha, List.filter_cons_of_neg (by simp [h a ha]), ih]
    · rw [List.dropWhile_cons_of_neg ha]

theorem mem_dropWhile {α : Type} {p : α → Bool} {a : α} {l : List α} (hm : a ∈ l) (hp : p a = false) : a ∈ l.dropWhile p :=
  (List.mem_filter.mp ((filter_dropWhile (p := p) (q := fun x => !p x) (fun _ h => by simp [h]) l).symm ▸ List.mem_filter.mpr ⟨hm, by simp [hp]⟩)).1

/-- `GetWaitLock`: the queue loses its longest prefix of tombstoned entries, READ IN THE RECORD IT STARTS FROM (a pop changes no
record's `timeouted`) -/
theorem waitSkip_eq (l : List WEnt) (k : Key) (hl : k.wait = l) :
    (waitSkip l k).1.wait = l.dropWhile (fun e => k.deadWaiter e.rid) ∧
    (waitSkip l k).2 = (l.dropWhile (fun e => k.deadWaiter e.rid)).head?.map (·.rid) ∧
    ∀ y, (waitSkip l k).1.deadWaiter y = k.deadWaiter y ∧ (k.deadWaiter y = false → (waitSkip l k).1.getR y = k.getR y) := by
  induction l generalizing k with
  | nil => exact ⟨hl, rfl, fun _ => ⟨rfl, fun _ => rfl⟩⟩
  | cons e rest ih =>
    unfold waitSkip
    by_cases hd : k.deadWaiter e.rid = true
    · rw [if_pos hd, List.dropWhile_cons_of_pos (by exact hd)]
      have hu := fun y => deadWaiter_unref { k with wait := rest, waitPopped := if k.waitPrio then k.waitPopped else k.waitPopped + 1 } e.rid y hd
      obtain ⟨i1, i2, i3⟩ := ih _ (unref_queues { k with wait := rest, waitPopped := if k.waitPrio then k.waitPopped else k.waitPopped + 1 } e.rid).2.1
      rw [funext fun e' : WEnt => hu e'.rid] at i1 i2
      exact ⟨i1, i2, fun y => ⟨(i3 y).1.trans (hu y), fun hy =>
        ((i3 y).2 ((hu y).trans hy)).trans (getR_unref_other _ _ _ fun e' => by rw [e', hd] at hy; cases hy)⟩⟩
    · rw [if_neg hd, List.dropWhile_cons_of_neg (by exact hd)]
      exact ⟨hl, rfl, fun _ => ⟨rfl, fun _ => rfl⟩⟩

/-- the same for the holder queue and released entries -/
theorem locksSkip_eq (take : Bool) (l : List Nat) (k : Key) (hl : k.locks = l) :
    (locksSkip take l k).2 = (l.dropWhile (fun x => !k.liveHolder x)).head? ∧
    (if take then (locksSkip take l k).2.toList else []) ++ (locksSkip take l k).1.locks = l.dropWhile (fun x => !k.liveHolder x) ∧
    ∀ y, (locksSkip take l k).1.liveHolder y = k.liveHolder y ∧ (k.liveHolder y = true → (locksSkip take l k).1.getR y = k.getR y) := by
  induction l generalizing k with
  | nil => cases take <;> exact ⟨rfl, hl, fun _ => ⟨rfl, fun _ => rfl⟩⟩
  | cons x rest ih =>
    unfold locksSkip
    by_cases hv : k.liveHolder x = true
    · rw [if_pos hv, List.dropWhile_cons_of_neg (by simp [hv])]
      cases take
      · exact ⟨rfl, hl, fun _ => ⟨rfl, fun _ => rfl⟩⟩
      · exact ⟨rfl, rfl, fun _ => ⟨rfl, fun _ => rfl⟩⟩
    · rw [if_neg hv, List.dropWhile_cons_of_pos (by simp [hv])]
      have hv' : k.liveHolder x = false := by simpa using hv
      have hu := fun y => liveHolder_unref { k with locks := rest, locksPopped := k.locksPopped + 1 } x y hv'
      obtain ⟨i1, i2, i3⟩ := ih _ (unref_queues { k with locks := rest, locksPopped := k.locksPopped + 1 } x).1
      rw [funext fun y : Nat => congrArg not (hu y)] at i1 i2
      exact ⟨i1, i2, fun y => ⟨(i3 y).1.trans (hu y), fun hy =>
        ((i3 y).2 ((hu y).trans hy)).trans (getR_unref_other _ _ _ fun e' => by rw [e', hv'] at hy; cases hy)⟩⟩

theorem getWaitLock_some (k : Key) (rid : Nat) (h : k.getWaitLock.2 = some rid) :
    ∃ e rest, k.getWaitLock.1.wait = e :: rest ∧ e.rid = rid ∧ k.getWaitLock.1.deadWaiter rid = false := by
  obtain ⟨e1, e2, e3⟩ := waitSkip_eq k.wait k rfl
  have hn := List.head?_dropWhile_not (fun e : WEnt => k.deadWaiter e.rid) k.wait
  generalize k.wait.dropWhile (fun e => k.deadWaiter e.rid) = d at e1 e2 hn
  match d, e2.symm.trans h, hn with
  | [], h, _ => nomatch h
  | a :: t, h, hn => exact ⟨a, t, e1, Option.some.inj h, (e3 rid).1.trans (Option.some.inj h ▸ hn)⟩

/-- does `AddWaitLock(rid)` switch the queue to priority mode first? -/
def _root_.Slock.Sim.rePushes (k : Key) (rid : Nat) : Bool :=
  k.waited && !k.waitPrio &&
    (match k.wait.head? with
     | some e => Slock.Engine.cmdPriority (k.getR rid).cmd != Slock.Engine.cmdPriority (k.getR e.rid).cmd
     | none => false)

theorem _root_.Slock.Sim.addWaitLock_eq (k : Key) (rid : Nat) :
    k.addWaitLock rid = { ((if Sim.rePushes k rid then k.rePush else k).waitPush ⟨rid, Slock.Engine.cmdPriority (k.getR rid).cmd⟩).modRec rid
      (fun r => { r with refCount := r.refCount + 1 }) with waited := true } := by
  unfold Key.addWaitLock Sim.rePushes
  cases k.waited <;> cases k.waitPrio <;> cases k.wait.head? <;> rfl

end Slock.Engine2
