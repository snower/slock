import Slock.Proofs.Queue2Ring
/-!
# The inline fast queue and LockManagerLockQueue (holder queue)

The compaction loop keeps exactly the live non-nil entries in order and decrements the refCount of
exactly the tombstoned ones.
-/
namespace Slock.Queue2

def liveSlot (live : Elem → Bool) : Slot → Bool
  | none => false
  | some e => live e

def tombs (live : Elem → Bool) : List Slot → List Elem
  | [] => []
  | none :: l => tombs live l
  | some e :: l => if live e then tombs live l else e :: tombs live l

def decRef (e : Elem) : Elem := { e with refCount := dec8 e.refCount }

theorem compact_fst (live : Elem → Bool) (l : List Slot) :
    (compact live l).1 = l.filter (liveSlot live) := by
  fun_induction compact live l with
  | case1 => rfl
  | case2 rest ih => simpa [liveSlot] using ih
  | case3 e rest r h ih => simpa [liveSlot, h] using ih
  | case4 e rest r h ih => simpa [liveSlot, h] using ih

theorem compact_snd (live : Elem → Bool) (l : List Slot) :
    (compact live l).2 = (tombs live l).map decRef := by
  fun_induction compact live l with
  | case1 => rfl
  | case2 rest ih => simpa [tombs] using ih
  | case3 e rest r h ih => simpa [tombs, h] using ih
  | case4 e rest r h ih => simpa [tombs, h, decRef] using ih

theorem tombs_mem (live : Elem → Bool) (l : List Slot) (e : Elem) :
    e ∈ tombs live l ↔ some e ∈ l ∧ live e = false := by
  fun_induction tombs live l with
  | case1 => simp
  | case2 l ih => simpa using ih
  | case3 a l h ih =>
    simp only [ih, List.mem_cons, Option.some.injEq]
    exact ⟨fun ⟨h1, h2⟩ => ⟨Or.inr h1, h2⟩, fun ⟨h1, h2⟩ => ⟨h1.resolve_left fun e' => by simp [e', h] at h2, h2⟩⟩
  | case4 a l h ih =>
    simp only [ih, List.mem_cons, Option.some.injEq]
    exact ⟨fun h1 => h1.elim (fun e' => ⟨Or.inl e', e' ▸ Bool.eq_false_iff.mpr h⟩) fun ⟨h1, h2⟩ => ⟨Or.inr h1, h2⟩,
      fun ⟨h1, h2⟩ => h1.imp_right fun h1 => ⟨h1, h2⟩⟩
  
theorem tombs_of_all_live (live : Elem → Bool) (l : List Slot)
    (h : ∀ s ∈ l, liveSlot live s = true) : tombs live l = [] := by
  fun_induction tombs live l with
  | case1 => rfl
  | case2 l ih => simpa [liveSlot] using h none
  | case3 a l _ ih => exact ih fun t ht => h t (List.mem_cons_of_mem _ ht)
  | case4 a l h' ih => simpa [liveSlot, h'] using h (some a)

/-- If compaction of `l[i:]` does not shorten `l`, nothing in `l[i:]` was tombstoned. -/
theorem compact_full (live : Elem → Bool) (l : List Slot) (i : Nat)
    (h : ¬ ((l.drop i).filter (liveSlot live)).length < l.length) : tombs live (l.drop i) = [] := by
  have h1 := List.length_filter_le (liveSlot live) (l.drop i)
  have h2 : (l.drop i).length = l.length - i := List.length_drop
  exact tombs_of_all_live live _ (List.length_filter_eq_length_iff.mp (by omega))

/-- What a holder/wait `Push` may do to the content: append, or drop every tombstoned and nil entry
and append.  `dropped` are exactly the tombstoned entries, refCount decremented. -/
def PushSpec (live : Elem → Bool) (old new : List Slot) (x : Slot) (dropped : List Elem) : Prop :=
  (new = old ++ [x] ∧ dropped = []) ∨
  (new = old.filter (liveSlot live) ++ [x] ∧ dropped = (tombs live old).map decRef)

/-- lock.go:220-259 / 418-455: what `Push` of the holder queue and of the wait queue does to a non-nil
`fastQueue` read from index `i`: the new slice and index, or `none` when the lock goes to the overflow
container instead; and the locks whose refCount the compaction loop decremented. -/
def fastPush (grow : Nat → Nat) (live : Elem → Bool) (f : FastQ) (i : Nat) (x : Slot) :
    Option (FastQ × Nat) × List Elem :=
  if f.data.length < f.cap then (some (⟨f.data ++ [x], f.cap⟩, i), [])
  else if i ≥ f.data.length then
    let r := goAppend grow [] f.cap x
    (some (⟨r.1, r.2⟩, 0), [])
  else
    let c := compact live (f.data.drop i)
    if c.1.length < f.data.length then
      let r := goAppend grow c.1 f.cap x
      (some (⟨r.1, r.2⟩, 0), c.2)
    else if f.cap ≤ 128 then
      let r := goAppend grow f.data f.cap x
      (some (⟨r.1, r.2⟩, i), c.2)
    else (none, c.2)

/-- The overflow container is reached only when the compaction found nothing to drop. -/
theorem fastPush_spec (grow : Nat → Nat) (hg : GrowOK grow) (live : Elem → Bool) (f : FastQ) (i : Nat)
    (x : Slot) (hcap : f.data.length ≤ f.cap) (hi : i ≤ f.data.length) :
    match fastPush grow live f i x with
    | (some (f', i'), d) => f'.data.length ≤ f'.cap ∧ i' ≤ f'.data.length ∧
        PushSpec live (f.data.drop i) (f'.data.drop i') x d
    | (none, d) => d = [] := by
  fun_cases fastPush grow live f i x with
  | case1 h1 => exact ⟨by simp; omega, by simp; omega, .inl ⟨List.drop_append_of_le_length hi, rfl⟩⟩
  | case2 h1 h2 r =>
    exact ⟨by simpa [r, goAppend_fst] using goAppend_cap grow hg [] f.cap x (by simp), by simp,
      .inl ⟨by simp [r, goAppend_fst, List.drop_eq_nil_of_le h2], rfl⟩⟩
  | case3 h1 h2 c h3 r =>
    simp only [c, compact_fst] at h3
    exact ⟨by simpa [r, c, compact_fst, goAppend_fst] using goAppend_cap grow hg _ f.cap x (by omega), by simp,
      .inr ⟨by simp [r, c, compact_fst, goAppend_fst], by simp [c, compact_snd]⟩⟩
  | case4 h1 h2 c h3 h4 r =>
    simp only [c, compact_fst] at h3
    exact ⟨by simpa [r, goAppend_fst] using goAppend_cap grow hg _ f.cap x hcap, by simp [r, goAppend_fst]; omega,
      .inl ⟨by simpa [r, goAppend_fst] using List.drop_append_of_le_length hi,
        by simp [c, compact_snd, compact_full live f.data i h3]⟩⟩
  | case5 h1 h2 c h3 h4 =>
    simp only [c, compact_fst] at h3
    simp [c, compact_snd, compact_full live f.data i h3]

def fastAbs (fast : Option FastQ) (i : Nat) : List Slot :=
  match fast with
  | some f => f.data.drop i
  | none => []

def scaleAbs (scale : Option Scale) : List Slot :=
  match scale with
  | some s => s.q
  | none => []

def HolderQ.abs (q : HolderQ) : List Slot := fastAbs q.fast q.fastIndex ++ scaleAbs q.scale

def HolderQ.Inv (q : HolderQ) : Prop :=
  (∀ f, q.fast = some f → f.data.length ≤ f.cap ∧ q.fastIndex ≤ f.data.length) ∧
  (q.fast = none → q.fastIndex = 0)

theorem HolderQ.inv_some (f : FastQ) (i : Nat) (scale : Option Scale)
    (h1 : f.data.length ≤ f.cap) (h2 : i ≤ f.data.length) : (HolderQ.mk (some f) i scale).Inv := by
  refine ⟨?_, by simp⟩
  intro f' hf'; simp at hf'; subst hf'; exact ⟨h1, h2⟩

theorem HolderQ.new_inv : HolderQ.new.Inv := by simp [HolderQ.new, HolderQ.Inv]
theorem HolderQ.new_abs : HolderQ.new.abs = [] := rfl

theorem HolderQ.push_fast (grow : Nat → Nat) (f : FastQ) (i : Nat) (x : Slot) :
    HolderQ.push grow ⟨some f, i, none⟩ x = match fastPush grow holderLive f i x with
      | (some (f', i'), d) => .ok (⟨some f', i', none⟩, ⟨d⟩)
      | (none, d) => match Scale.new.push x with
        | .ok s => .ok (⟨some f, i, some s⟩, ⟨d⟩)
        | .panic => .panic := by
  unfold HolderQ.push
  fun_cases fastPush grow holderLive f i x <;> simp +zetaDelta only [*, if_true, if_false] <;> rfl

/-- Covers every representation (nil fastQueue, room left, all popped, compaction, growth up to cap 128,
switch to the scale queue).  Tombstoned = `locked = 0`; the dropped locks whose refCount reaches 0 are the
ones handed to FreeLock: `PushOut.freed`. -/
theorem HolderQ.push_refines (grow : Nat → Nat) (hg : GrowOK grow) (q : HolderQ) (e : Elem) (h : q.Inv) :
    ∃ q' o, q.push grow (some e) = .ok (q', o) ∧ q'.Inv ∧
      PushSpec holderLive q.abs q'.abs (some e) o.dropped := by
  obtain ⟨fast, i, scale⟩ := q
  cases scale with
  | some s =>
    exact ⟨⟨fast, i, some ⟨s.q ++ [some e], mapsInsert e.lockIdKey e s.maps⟩⟩, {}, rfl, h,
      .inl ⟨by simp [HolderQ.abs, scaleAbs], rfl⟩⟩
  | none =>
    cases fast with
    | none =>
      have h0 : i = 0 := h.2 rfl
      exact ⟨_, _, rfl, HolderQ.inv_some _ _ _ (by simp) (by simp [h0]),
        .inl ⟨by simp [HolderQ.abs, fastAbs, scaleAbs, h0], rfl⟩⟩
    | some f =>
      obtain ⟨hcap, hidx⟩ := h.1 f rfl
      have sp := fastPush_spec grow hg holderLive f i (some e) hcap hidx
      rw [HolderQ.push_fast]
      cases hp : fastPush grow holderLive f i (some e) with
      | mk o d =>
        rw [hp] at sp
        cases o with
        | some fi =>
          exact ⟨_, _, rfl, HolderQ.inv_some _ _ _ sp.1 sp.2.1,
            by simpa [HolderQ.abs, fastAbs, scaleAbs] using sp.2.2⟩
        | none =>
          exact ⟨_, _, rfl, h, .inl ⟨by simp [HolderQ.abs, fastAbs, scaleAbs, Scale.new], sp⟩⟩

theorem tail_append_drop (l : List Slot) (i : Nat) (b : List Slot) (h : i < l.length) :
    (l.drop i ++ b).tail = l.drop (i + 1) ++ b := by
  rw [List.tail_append_of_ne_nil]
  · rw [List.tail_drop]
  · intro hn; have := List.drop_eq_nil_iff.mp hn; omega

theorem headD_append_drop (l : List Slot) (i : Nat) (b : List Slot) (h : i < l.length) :
    (l.drop i ++ b).headD none = (l[i]?).getD none := by
  rw [← headD_drop]
  cases hd : l.drop i with
  | nil => have := List.drop_eq_nil_iff.mp hd; omega
  | cons a t => rfl

theorem Scale.pop_refines (s : Scale) : s.pop.1.q = s.q.tail ∧ s.pop.2 = s.q.headD none := by
  cases hq : s.q <;> simp [Scale.pop, hq]

theorem HolderQ.pop_refines (q : HolderQ) (h : q.Inv) :
    q.pop.1.Inv ∧ q.pop.1.abs = q.abs.tail ∧ q.pop.2 = q.abs.headD none := by
  fun_cases HolderQ.pop q with
  | case1 f hf h1 =>
    obtain ⟨hcap, hidx⟩ := h.1 f hf
    refine ⟨HolderQ.inv_some _ _ _ (by simp; omega) (by simp; omega), ?_, ?_⟩
    · simp only [HolderQ.abs, fastAbs, hf]
      rw [tail_append_drop _ _ _ h1, List.drop_set_of_lt (by omega)]
    · simp only [HolderQ.abs, fastAbs, hf]
      rw [headD_append_drop _ _ _ h1]
  | case2 f hf h1 s hs r =>
    have hd : f.data.drop q.fastIndex = [] := List.drop_eq_nil_of_le (by omega)
    have := Scale.pop_refines s
    exact ⟨h, by simp [HolderQ.abs, fastAbs, scaleAbs, hf, hs, hd, r, this],
      by simp [HolderQ.abs, fastAbs, scaleAbs, hf, hs, hd, r, this]⟩
  | case3 f hf h1 hs =>
    have hd : f.data.drop q.fastIndex = [] := List.drop_eq_nil_of_le (by omega)
    exact ⟨h, by simp [HolderQ.abs, fastAbs, scaleAbs, hf, hs, hd], by simp [HolderQ.abs, fastAbs, scaleAbs, hf, hs, hd]⟩
  | case4 hf s hs r =>
    have := Scale.pop_refines s
    exact ⟨h, by simp [HolderQ.abs, fastAbs, scaleAbs, hf, hs, r, this], by simp [HolderQ.abs, fastAbs, scaleAbs, hf, hs, r, this]⟩
  | case5 hf hs => simp [HolderQ.abs, fastAbs, scaleAbs, hf, hs, h]

theorem HolderQ.head_refines (q : HolderQ) : q.head = q.abs.headD none := by
  fun_cases HolderQ.head q <;>
    simp [HolderQ.abs, fastAbs, scaleAbs, *, List.headD_eq_head?_getD, List.drop_eq_nil_of_le, Nat.le_of_not_lt]

theorem HolderQ.len_refines (q : HolderQ) (h : q.Inv) : q.len = (q.abs.length : Int) := by
  fun_cases HolderQ.len q <;> simp [HolderQ.abs, fastAbs, scaleAbs, *] <;> have := (h.1 _ ‹_›).2 <;> omega

theorem HolderQ.reset_refines (q : HolderQ) (h : q.Inv) : q.reset.Inv ∧ q.reset.abs = [] := by
  fun_cases HolderQ.reset q with
  | case1 f hf h1 => simp [HolderQ.Inv, HolderQ.abs, fastAbs, scaleAbs]
  | case2 f hf h1 h2 => simp [HolderQ.Inv, HolderQ.abs, fastAbs, scaleAbs]
  | case3 f hf h1 h2 =>
    simp [HolderQ.Inv, HolderQ.abs, fastAbs, scaleAbs, List.eq_nil_of_length_eq_zero (Nat.eq_zero_of_not_pos h2)]
  | case4 hf => simp [HolderQ.Inv, HolderQ.abs, fastAbs, scaleAbs, h.2 hf]

theorem HolderQ.resize_refines (q : HolderQ) : q.resize = q := rfl

/-- IterNodes: fast part (one node, possibly empty when a scale queue exists) then the scale content. -/
theorem HolderQ.iterNodes_refines (q : HolderQ) :
    q.iterNodes.1.flatten ++ (q.iterNodes.2.getD []) = q.abs := by
  unfold HolderQ.iterNodes HolderQ.abs
  cases hf : q.fast with
  | none => cases hs : q.scale <;> simp [fastAbs, scaleAbs]
  | some f =>
    simp only
    by_cases h1 : q.fastIndex < f.data.length
    · cases hs : q.scale <;> simp [fastAbs, scaleAbs, h1]
    · have hd : f.data.drop q.fastIndex = [] := List.drop_eq_nil_of_le (by omega)
      cases hs : q.scale <;> simp [fastAbs, scaleAbs, h1, hd]

end Slock.Queue2
