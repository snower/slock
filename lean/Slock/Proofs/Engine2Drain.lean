import Slock.Proofs.Engine2FutRun
import Slock.Proofs.Engine2QI
import Slock.Proofs.EngineSimTickCases
/-! Stage-2 engine: the sweeps on a state in which nothing is held or queued any more. Every wheel entry is a tombstone: whatever the
sweeper does with it drops it (`refCount--`, the record is freed at 0, the key record unlinked with its last record); nothing is
re-armed. So a second of server time only takes entries away (`tick_dead`); as every entry is scheduled ahead of the clock
(`FutDB`), after as many seconds as the furthest entry is ahead none is left (`ticks_dead`). -/
namespace Slock.Engine2

/-- nothing is held or queued: no lock record is a hold (depth > 0) or a waiting request (`timeouted = false`) -/
def Dead (db : DB) : Prop := ∀ k ∈ db.keys, ∀ r ∈ k.recs, r.depth = 0 ∧ r.timeouted = true

/-- `r'` is `r` with possibly fewer wheel entries (and another count) -/
structure RShr (r' r : Rec) : Prop where
  rid : r'.rid = r.rid
  depth : r'.depth = r.depth
  timeouted : r'.timeouted = r.timeouted
  expried : r'.expried = r.expried
  t : r'.tSched = none ∨ r'.tSched = r.tSched
  e : r'.eSched = none ∨ r'.eSched = r.eSched

theorem shr_trans {α} {a b c : Option α} (h1 : a = none ∨ a = b) (h2 : b = none ∨ b = c) : a = none ∨ a = c := by
  rcases h1 with h | h
  · exact Or.inl h
  · exact h ▸ h2

theorem shr_some {α} {a b : Option α} {s : α} (h : a = none ∨ a = b) (hs : a = some s) : b = some s :=
  h.elim (fun h0 => absurd (h0.symm.trans hs) nofun) (·.symm.trans hs)

theorem RShr.refl (r : Rec) : RShr r r := ⟨rfl, rfl, rfl, rfl, Or.inr rfl, Or.inr rfl⟩
theorem RShr.trans {a b c : Rec} (h1 : RShr a b) (h2 : RShr b c) : RShr a c :=
  ⟨h1.rid.trans h2.rid, h1.depth.trans h2.depth, h1.timeouted.trans h2.timeouted, h1.expried.trans h2.expried,
    shr_trans h1.t h2.t, shr_trans h1.e h2.e⟩

def KShr (k' k : Key) : Prop := ∀ r' ∈ k'.recs, ∃ r ∈ k.recs, RShr r' r

theorem KShr.of_sub {k' k : Key} (h : ∀ r ∈ k'.recs, r ∈ k.recs) : KShr k' k := fun r hr => ⟨r, h r hr, RShr.refl r⟩
theorem KShr.refl (k : Key) : KShr k k := KShr.of_sub fun _ h => h
theorem KShr.trans {a b c : Key} (h1 : KShr a b) (h2 : KShr b c) : KShr a c := by
  intro r hr
  obtain ⟨r1, hr1, s1⟩ := h1 r hr
  obtain ⟨r2, hr2, s2⟩ := h2 r1 hr1
  exact ⟨r2, hr2, s1.trans s2⟩
/-- nothing is held or queued in `k` and no wheel entry is scheduled after second `b` -/
def KDead (b : Nat) (k : Key) : Prop :=
  ∀ r ∈ k.recs, (r.depth = 0 ∧ r.timeouted = true) ∧ (∀ s, r.tSched = some s → s.visit ≤ b) ∧ (∀ s, r.eSched = some s → s.visit ≤ b)

theorem KDead.of_shr {b : Nat} {k' k : Key} (h : KDead b k) (s : KShr k' k) : KDead b k' := by
  intro r' hr'
  obtain ⟨r, hr, rs⟩ := s r' hr'
  obtain ⟨⟨h1, h2⟩, h3, h4⟩ := h r hr
  exact ⟨⟨rs.depth.trans h1, rs.timeouted.trans h2⟩, fun s hs => h3 s (shr_some rs.t hs), fun s hs => h4 s (shr_some rs.e hs)⟩

theorem dead_getKey {db : DB} (hd : Dead db) (key : Nat) : ∀ r ∈ (db.getKey key).recs, r.depth = 0 ∧ r.timeouted = true :=
  all_getKey hd key fun _ hr => nomatch hr

theorem KShr.modRec (k : Key) (rid : Nat) (f : Rec → Rec) (hf : ∀ r, RShr (f r) r) : KShr (k.modRec rid f) k := by
  intro r' hr'
  obtain ⟨r, hr, e⟩ := List.mem_map.mp hr'
  refine ⟨r, hr, ?_⟩
  rw [← e]; split
  · exact hf r
  · exact RShr.refl r

theorem kshr_unrefCheck (w : W) (rid : Nat) : KShr (w.unrefCheck rid).k w.k := by
  refine KShr.trans (b := w.k.unrefOnly rid) (KShr.of_sub ?_) (KShr.modRec w.k rid _ fun r => ⟨rfl, rfl, rfl, rfl, Or.inr rfl, Or.inr rfl⟩)
  rw [unrefCheck_recs]; unfold Key.unref
  simp only []
  split
  · unfold Key.free
    split
    · exact fun r hr => (List.mem_filter.mp hr).1
    · exact fun _ h => h
  · exact fun _ h => h

theorem kshr_drop (w : W) (rid : Nat) (clr : Rec → Rec) (hc : ∀ r, RShr (clr r) r) : KShr ((w.modR rid clr).unrefCheck rid).k w.k :=
  (kshr_unrefCheck (w.modR rid clr) rid).trans (KShr.modRec w.k rid clr hc)

/-- firing the entry of a tombstone — or one that is not there — drops it; visiting it is firing it (`EngineSimTickCases`) -/
theorem kshr_fireT (w : W) (rid : Nat) (h : w.k.hasT rid = false ∨ (w.k.getR rid).timeouted = true) : KShr (w.fireTimeout rid).k w.k := by
  cases hT : w.k.hasT rid with
  | false => rw [SimTick.fireTimeout_broken w rid hT]; exact KShr.refl _
  | true =>
    rw [SimTick.fireTimeout_tomb w rid hT (h.resolve_left (by rw [hT]; simp))]
    exact kshr_drop w rid _ fun _ => ⟨rfl, rfl, rfl, rfl, Or.inl rfl, Or.inr rfl⟩

theorem kshr_fireE (w : W) (rid : Nat) (h : w.k.hasE rid = false ∨ (w.k.getR rid).expried = true) : KShr (w.fireExpire rid).k w.k := by
  cases hT : w.k.hasE rid with
  | false => rw [SimTick.fireExpire_broken w rid hT]; exact KShr.refl _
  | true =>
    rw [SimTick.fireExpire_ended w rid hT (h.resolve_left (by rw [hT]; simp))]
    exact kshr_drop w rid _ fun _ => ⟨rfl, rfl, rfl, rfl, Or.inr rfl, Or.inl rfl⟩

theorem dead_sweep {db : DB} {key : Nat} {w' : W} (h : DBQ db) (hd : Dead db) (s : Sweep db key w') : KShr w'.k (db.getKey key) := by
  have dT : ∀ rid, (db.openKey key).k.hasT rid = false ∨ ((db.openKey key).k.getR rid).timeouted = true := fun rid => by
    cases hg : (db.openKey key).k.hasT rid
    · exact Or.inl rfl
    · exact Or.inr (dead_getKey hd key _ (getR_mem (hasT_spec _ _ hg).1)).2
  -- an expiry entry of a record that is not a hold is a tombstone
  have dE : ∀ rid, (db.openKey key).k.hasE rid = false ∨ ((db.openKey key).k.getR rid).expried = true := fun rid => by
    cases hg : (db.openKey key).k.hasE rid
    · exact Or.inl rfl
    · exact Or.inr ((recFine_of (Good.openKey h.dbt.dbi h.dbt.tight key) rid (hasE_spec _ _ hg).1).fin
        (dead_getKey hd key _ (getR_mem (hasE_spec _ _ hg).1)).1 (hasE_spec _ _ hg).2)
  cases s with
  | visitT slot e _ hv => rw [SimTick.visitTimeout_dead _ slot e.rid (dT e.rid)] at hv; cases hv; exact kshr_fireT _ _ (dT e.rid)
  | collectT e hv => rw [SimTick.visitTimeout_dead _ false e.rid (dT e.rid)] at hv; cases hv
  | visitE slot e _ hv => rw [SimTick.visitExpire_dead _ slot e.rid (dE e.rid)] at hv; cases hv; exact kshr_fireE _ _ (dE e.rid)
  | fireT e => exact kshr_fireT _ _ (dT e.rid)
  | fireE e => exact kshr_fireE _ _ (dE e.rid)

/-- a second of server time on such a state: the sweeps only take entries away, so the bound `b` stands -/
theorem tick_dead {b : Nat} (db : DB) (h : DBQ db) (hd : ∀ k ∈ db.keys, KDead b k) : DBQ (opTick db).1 ∧ ∀ k ∈ (opTick db).1.keys, KDead b k :=
  opTick_sweep (J := fun d => DBQ d ∧ ∀ k ∈ d.keys, KDead b k)
    (fun _ key _ s ⟨h, hd⟩ =>
      have f := (s.chain (data := none)).fr
      ⟨h.sect (data := none) (.sweep s), fun _ hk => (mem_commit_open f ((h.dbt.dbi.openKey key).of_fr f) hk).elim
        (fun a => a.2.2 ▸ (all_getKey hd key fun _ hr => nomatch hr).of_shr (dead_sweep h (fun k hk r hr => (hd k hk r hr).1) s)) (fun a => hd _ a.2)⟩)
    (fun _ _ _ _ ⟨h, hd⟩ => ⟨h.of_keys rfl rfl rfl, hd⟩) db ⟨h, hd⟩

/-- every wheel entry is scheduled for one of the next `n` seconds -/
def Within (db : DB) (n : Nat) : Prop :=
  ∀ k ∈ db.keys, ∀ r ∈ k.recs,
    (∀ s, r.tSched = some s → db.now < s.visit ∧ s.visit ≤ db.now + n) ∧ (∀ s, r.eSched = some s → db.now < s.visit ∧ s.visit ≤ db.now + n)

theorem run_append (db : DB) (a b : List Op) : run db (a ++ b) = run (run db a) b := by
  unfold run; rw [List.foldl_append]

/-- `hd`: nothing is held or queued, no entry is scheduled later than `n` seconds ahead; that each is scheduled ahead of the clock is `FutDB` -/
theorem ticks_dead (n : Nat) (db : DB) (h : DBQ db) (hf : FutDB db) (hd : ∀ k ∈ db.keys, KDead (db.now + n) k) :
    DBQ (run db (List.replicate n .tick)) ∧ Dead (run db (List.replicate n .tick)) ∧
    ∀ k ∈ (run db (List.replicate n .tick)).keys, ∀ r ∈ k.recs, r.tSched = none ∧ r.eSched = none := by
  induction n generalizing db with
  | zero =>
    refine ⟨h, fun k hk r hr => (hd k hk r hr).1, fun k hk r hr => ⟨?_, ?_⟩⟩
    · cases hs : r.tSched with
      | none => rfl
      | some s => have := (hd k hk r hr).2.1 s hs; exact (hf.t k hk r hr s hs).elim (by omega) (fun x => nomatch x.2)
    · cases hs : r.eSched with
      | none => rfl
      | some s => have := (hd k hk r hr).2.2 s hs; exact (hf.e k hk r hr s hs).elim (by omega) (fun x => nomatch x.2)
  | succ n ih =>
    obtain ⟨h1, hd1⟩ := tick_dead db h hd
    have e : run db (List.replicate (n + 1) .tick) = run (opTick db).1 (List.replicate n .tick) := by
      unfold run; rw [List.replicate_succ, List.foldl_cons]; rfl
    rw [e]
    exact ih (opTick db).1 h1 (opTick_fut db hf) (by rw [opTick_now, Nat.add_right_comm]; exact hd1)

/-- executable forms of `Dead` and `Within`, for concrete instances -/
def deadB (db : DB) : Bool := db.keys.all (fun k => k.recs.all (fun r => r.depth == 0 && r.timeouted))
def okS (now n : Nat) : Option Sched → Bool
  | some s => decide (now < s.visit) && decide (s.visit ≤ now + n)
  | none => true
def withinB (db : DB) (n : Nat) : Bool := db.keys.all (fun k => k.recs.all (fun r => okS db.now n r.tSched && okS db.now n r.eSched))

theorem dead_of_b (db : DB) (h : deadB db = true) : Dead db := by
  intro k hk r hr
  unfold deadB at h
  have := List.all_eq_true.mp (List.all_eq_true.mp h k hk) r hr
  simpa using this

theorem within_of_b (db : DB) (n : Nat) (h : withinB db n = true) : Within db n := by
  intro k hk r hr
  unfold withinB at h
  have := List.all_eq_true.mp (List.all_eq_true.mp h k hk) r hr
  simp only [Bool.and_eq_true] at this
  refine ⟨fun s hs => ?_, fun s hs => ?_⟩
  · have h1 := this.1; rw [hs] at h1; simpa [okS] using h1
  · have h1 := this.2; rw [hs] at h1; simpa [okS] using h1

end Slock.Engine2
