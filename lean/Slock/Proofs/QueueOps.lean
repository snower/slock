import Slock.Proofs.QueueFlat
/-! Per-operation refinement lemmas for the segmented deque (server/queue.go): each operation, from any state
satisfying `QInv`, does not panic, re-establishes `QInv`, acts on `abs` like the list operation and keeps `HeadClean`. -/
namespace Slock.Queue

@[simp] theorem Res.ok_bind {α β : Type} (a : α) (f : α → Res β) : (Res.ok a >>= f) = f a := rfl
@[simp] theorem Res.pure_eq {α : Type} (a : α) : (pure a : Res α) = Res.ok a := rfl

/-- a refinement statement without its last conjunct (the one about `HeadClean`) -/
theorem init3 {α : Type} {p r s t : α → Prop} (h : ∃ x, p x ∧ r x ∧ s x ∧ t x) : ∃ x, p x ∧ r x ∧ s x :=
  h.imp fun _ h => ⟨h.1, h.2.1, h.2.2.1⟩

theorem doubled_bounds (qs : Int) (h1 : 0 < qs) (h2 : qs < 1073741824) :
    0 < doubled qs ∧ doubled qs < 1073741824 := by
  have hw : wrap32 (qs * 2) = qs * 2 := by unfold wrap32; omega
  have hm : (maxMalloc : Int) = 67108863 := by simp [maxMalloc, Slock.Gen.C.QUEUE_MAX_MALLOC_SIZE]
  unfold doubled
  simp only [hw, hm]
  split <;> omega

theorem shape_append (L : List (Option Arr)) (a : Arr) : shape (L ++ [some a]) = shape L ++ [some a.length] := by
  simp [shape]

theorem writeRef_node {q : Q} {j i : Nat} {a : Arr} (v : Elem) (hj : q.queues[j]? = some (some a)) (hi : i < a.length) :
    writeRef q (.node j) i v = .ok { q with queues := q.queues.set j (some (a.set i v)) } := by
  simp [writeRef, hj, hi]

theorem readRef_node {q : Q} {j i : Nat} {a : Arr} (hj : q.queues[j]? = some (some a)) (hi : i < a.length) :
    readRef q (.node j) i = .ok a[i] := by
  simp [readRef, refArr, hj, hi]

theorem push_frame {q : Q} (h : QInv q) (x : Elem) (hroom : q.tqi + 1 < q.tqs ∨ q.tni + 1 ≤ q.nodeIndex) :
    ∃ q', push q x = .ok q' ∧ QInv q' ∧ shape q'.queues = shape q.queues ∧
      F q'.queues = (F q.queues).set (off q.queues q.tni + q.tqi) x ∧
      q'.hni = q.hni ∧ q'.hqi = q.hqi ∧ q'.nodeIndex = q.nodeIndex ∧
      off q'.queues q'.tni + q'.tqi = off q.queues q.tni + q.tqi + 1 ∧ q'.baseQueueSize = q.baseQueueSize := by
  obtain ⟨a, ha, hal, s2⟩ := h.tailNode
  have hi : q.tqi < a.length := hal ▸ h.tlt
  have hs := shape_set_cell q.queues q.tni q.tqi a x ha
  have hF := F_set_cell q.queues q.tni q.tqi a x ha hi
  unfold push
  rw [h.tq, writeRef_node x ha hi]
  simp only [Res.ok_bind]
  by_cases c : q.tqi + 1 ≥ q.tqs
  · have c2 : q.tni + 1 ≤ q.nodeIndex := hroom.resolve_left (Nat.not_lt.mpr c)
    have c1 : ¬ (q.tni + 1 ≥ q.nodeSize) := by have := h.niLt; omega
    obtain ⟨a', ha', hsz', hpos', _⟩ := h.node c2
    have ha'' : (q.queues.set q.tni (some (a.set q.tqi x)))[q.tni + 1]? = some (some a') := by
      rw [List.getElem?_set_ne (Nat.ne_of_lt (Nat.lt_succ_self _))]; exact ha'
    refine ⟨{ q with queues := q.queues.set q.tni (some (a.set q.tqi x)), tqi := 0, tni := q.tni + 1,
                     tailQueue := .node (q.tni + 1), tqs := a'.length }, ?_, ?_, hs, hF, rfl, rfl, rfl, ?_, rfl⟩
    · simp only [c, if_true, mallocQueue, c1, if_false, ha'', Res.ok_bind, mkRef, size, hsz', Res.pure_eq]
    · exact h.setTail hs ⟨rfl, hsz', hpos'⟩ c2 (Nat.le_succ_of_le h.hle)
        fun e => absurd (e ▸ h.hle) (Nat.not_succ_le_self _)
    · show off (q.queues.set q.tni (some (a.set q.tqi x))) (q.tni + 1) + 0 = _
      have := h.tlt
      rw [off_shape hs, s2]; omega
  · refine ⟨_, by simp only [c, if_false, Res.pure_eq],
      h.setTail hs ⟨h.tq, h.tqs, Nat.lt_of_not_le c⟩ h.tle h.hle fun e => Nat.le_succ_of_le (h.ord e),
      hs, hF, rfl, rfl, rfl, ?_, rfl⟩
    show off (q.queues.set q.tni (some (a.set q.tqi x))) q.tni + (q.tqi + 1) = _
    rw [off_shape hs]; rfl

theorem QInv.extend {q : Q} (h : QInv q) (hni : q.nodeIndex = q.tni) {ns : List Nat} {k : Nat} (T : Table q ns k)
    {Q' : List (Option Arr)} {S' : List Nat} {k' n cap : Nat} {d : Int}
    (hQ : shape Q' = (ns ++ [n]).map some ++ List.replicate k' none) (hS : S' = (ns ++ [n]) ++ List.replicate k' 0)
    (hcap : cap = (ns ++ [n]).length + k') (hn : 0 < n ∧ n < 1073741824) (hd : 0 < d ∧ d < 1073741824)
    (hc : S'[q.hni]? = q.sizes[q.hni]?) :
    QInv { q with queues := Q', sizes := S', tqi := 0, tni := q.tni + 1, queueSize := d, nodeIndex := q.nodeIndex + 1,
                  nodeSize := cap, tailQueue := .node (q.tni + 1), tqs := n } := by
  have hns : ns.length = q.tni + 1 := by rw [T.ni, hni]
  refine .of ⟨ns ++ [n], k', hQ, hS, by rw [List.length_append, T.ni]; rfl, hcap, ?_, T.base⟩
    (h.headCur.congr hc) ⟨rfl, ?_, hn.1⟩ (Nat.le_succ_of_le h.hle) (Nat.succ_le_succ h.tle)
    (fun e => absurd (e ▸ h.hle) (Nat.not_succ_le_self _)) hd.1 hd.2
  · exact List.forall_mem_append.mpr ⟨T.bnd, fun m hm => List.mem_singleton.mp hm ▸ hn⟩
  · show S'[q.tni + 1]? = some n
    rw [hS, List.getElem?_append_left (by rw [List.length_append, hns]; exact Nat.lt_succ_self _), ← hns,
      List.getElem?_concat_length]

theorem malloc_alloc {q : Q} (h : QInv q) (hni : q.nodeIndex = q.tni) {L' : List (Option Arr)}
    (hs : shape L' = shape q.queues) :
    ∃ q', mallocQueue { q with queues := L', tqi := q.tqi + 1 } = .ok q' ∧ QInv q' ∧
      q'.hni = q.hni ∧ q'.hqi = q.hqi ∧ q'.tni = q.tni + 1 ∧ q'.tqi = 0 ∧
      q'.queues.take (q.tni + 1) = L'.take (q.tni + 1) := by
  have hd := doubled_bounds q.queueSize h.qsPos h.qsLt
  have hneg : ¬ doubled q.queueSize < 0 := by omega
  have hn : 0 < (doubled q.queueSize).toNat ∧ (doubled q.queueSize).toNat < 1073741824 := by omega
  obtain ⟨ns, k, T⟩ := h.toTInv
  have hns : ns.length = q.tni + 1 := by rw [T.ni, hni]
  have hlen : L'.length = q.nodeSize := by rw [← shape_length, hs]; exact h.lenQ
  have hh : q.hni < q.tni + 1 := Nat.lt_succ_of_le h.hle
  generalize hN : (doubled q.queueSize).toNat = n at hn
  cases k with
  | zero =>
    -- the table is full: append a node
    have hsz : q.nodeSize = q.tni + 1 := by rw [T.cap, hns]
    have c1 : q.tni + 1 ≥ q.nodeSize := Nat.le_of_eq hsz
    have hQ : shape (L' ++ [some (List.replicate n none)]) = (ns ++ [n]).map some ++ List.replicate 0 none := by
      rw [shape_append, hs, T.shp, List.length_replicate]; simp
    have hS : q.sizes ++ [n] = (ns ++ [n]) ++ List.replicate 0 0 := by rw [T.szs]; simp
    have e1 : (L' ++ [some (List.replicate n none)])[q.tni + 1]? = some (some (List.replicate n none)) := by
      rw [← hsz, ← hlen, List.getElem?_concat_length]
    have e2 : (q.sizes ++ [n])[q.tni + 1]? = some n := by rw [← hsz, ← h.lenS, List.getElem?_concat_length]
    refine ⟨_, ?_, h.extend (cap := q.nodeSize + 1) hni T hQ hS (by rw [hsz, List.length_append, hns]; rfl) hn hd
      (List.getElem?_append_left (by rw [h.lenS, hsz]; exact hh)), rfl, rfl, rfl, rfl,
      List.take_append_of_le_length (by rw [hlen, hsz]; exact Nat.le_refl _)⟩
    simp only [mallocQueue, c1, if_true, hneg, if_false, hN, Res.ok_bind, mkRef, size, e1, e2, Res.pure_eq]
  | succ k =>
    -- the slot behind the tail node is nil: allocate it
    have hsz : q.tni + 1 < q.nodeSize := by rw [T.cap, hns]; omega
    have c1 : ¬ q.tni + 1 ≥ q.nodeSize := Nat.not_le.mpr hsz
    have hnil : L'[q.tni + 1]? = some none := shape_none (hs ▸ (T.free (hni ▸ Nat.lt_succ_self _) hsz).1)
    have hQ : shape (L'.set (q.tni + 1) (some (List.replicate n none))) =
        (ns ++ [n]).map some ++ List.replicate k none := by
      rw [shape_set, hs, T.shp, ← hns, ← List.length_map (f := some), List.replicate_succ, set_length_append_cons]
      simp
    have hS : q.sizes.set (q.tni + 1) n = (ns ++ [n]) ++ List.replicate k 0 := by
      rw [T.szs, ← hns, List.replicate_succ, set_length_append_cons]; simp
    have e1 : (L'.set (q.tni + 1) (some (List.replicate n none)))[q.tni + 1]? = some (some (List.replicate n none)) :=
      List.getElem?_set_self (hlen ▸ hsz)
    have e2 : (q.sizes.set (q.tni + 1) n)[q.tni + 1]? = some n := List.getElem?_set_self (h.lenS ▸ hsz)
    refine ⟨_, ?_, h.extend (cap := q.nodeSize) hni T hQ hS (by rw [T.cap, List.length_append, List.length_singleton, Nat.add_assoc, Nat.add_comm 1 k]) hn hd
      (List.getElem?_set_ne (Nat.ne_of_gt hh)), rfl, rfl, rfl, rfl, List.take_set_of_le (Nat.le_refl _)⟩
    simp only [mallocQueue, c1, if_false, hnil, hneg, h.lenS, hsz, if_true, hN, Res.ok_bind, mkRef, size, e1, e2, Res.pure_eq]

theorem push_spec {q : Q} (h : QInv q) (x : Elem) :
    ∃ q', push q x = .ok q' ∧ QInv q' ∧ abs q' = abs q ++ [x] ∧ (HeadClean q → HeadClean q') := by
  obtain ⟨p1, p2, p3⟩ := h.pos
  have hT : off q.queues q.tni + q.tqi < (F q.queues).length := Nat.lt_of_lt_of_le p2 p3
  by_cases hroom : q.tqi + 1 < q.tqs ∨ q.tni + 1 ≤ q.nodeIndex
  · obtain ⟨q', e, hq', hs, hF, e1, e2, _, hp, _⟩ := push_frame h x hroom
    refine ⟨q', e, hq', ?_, fun hc => ?_⟩
    · unfold abs absL
      rw [hp, e1, e2, off_shape hs, hF]
      exact window_push x p1 hT
    · unfold HeadClean cleanL
      rw [e1, e2, off_shape hs, hF]
      exact clean_set (Or.inl p1) hc
  · -- the tail node is full and it is the last allocated one
    obtain ⟨a, ha, hal, s2⟩ := h.tailNode
    have hfull : q.tqi + 1 = q.tqs := by have := h.tlt; omega
    have hi : q.tqi < a.length := hal ▸ h.tlt
    have hs := shape_set_cell q.queues q.tni q.tqi a x ha
    obtain ⟨q', e, hq', e1, e2, e3, e4, e5⟩ := malloc_alloc h (by have := h.tle; omega) hs
    have hb : off (q.queues.set q.tni (some (a.set q.tqi x))) q.hni + q.hqi ≤
        off (q.queues.set q.tni (some (a.set q.tqi x))) (q.tni + 1) := by
      rw [off_shape hs, off_shape hs]; omega
    refine ⟨q', ?_, hq', ?_, fun hc => ?_⟩
    · unfold push
      rw [h.tq, writeRef_node x ha hi]
      simp only [Res.ok_bind, hfull, Nat.le_refl, ge_iff_le, if_true]
      exact e
    · unfold abs
      rw [e1, e2, e3, e4, absL_prefix e5 (Nat.le_succ_of_le h.hle) (Nat.le_refl _) (Nat.le_refl _),
        absL_set _ _ _ _ _ ha hi, s2, Nat.add_zero, ← hfull, ← Nat.add_assoc]
      exact window_push x p1 hT
    · unfold HeadClean
      rw [e1, e2]
      exact cleanL_prefix e5 (Nat.le_succ_of_le h.hle) hb
        ((cleanL_set _ _ _ _ _ ha hi _ _).mpr (clean_set (Or.inl p1) hc))

theorem push_refines {q : Q} (h : QInv q) (x : Elem) :
    ∃ q', push q x = .ok q' ∧ QInv q' ∧ abs q' = abs q ++ [x] := init3 (push_spec h x)

theorem QInv.empty_abs {q : Q} (h : QInv q) (he : isEmpty q = true) : abs q = [] := by
  simp only [isEmpty, Bool.and_eq_true, decide_eq_true_eq] at he
  have e1 : q.hni = q.tni := Nat.le_antisymm h.hle he.2
  have e2 : q.hqi = q.tqi := Nat.le_antisymm (h.ord e1) he.1
  unfold abs absL
  rw [e1, e2]
  exact List.drop_eq_nil_of_le (by rw [List.length_take]; exact Nat.min_le_left _ _)

theorem QInv.nonempty {q : Q} (h : QInv q) (he : ¬ isEmpty q = true) :
    off q.queues q.hni + q.hqi < off q.queues q.tni + q.tqi ∧ (q.hni = q.tni → q.hqi < q.tqi) ∧ (q.tqi = 0 → q.hni < q.tni) := by
  simp only [isEmpty, Bool.and_eq_true, decide_eq_true_eq, not_and] at he
  obtain ⟨_, _, _, s2⟩ := h.headNode
  have hlt := h.hlt
  have hle := h.hle
  by_cases e : q.hni = q.tni
  · have := h.ord e
    have : q.hqi < q.tqi := by omega
    exact ⟨by rw [e]; omega, fun _ => this, fun _ => by omega⟩
  · have : off q.queues (q.hni + 1) ≤ off q.queues q.tni := off_mono _ (by omega)
    exact ⟨by omega, fun e' => absurd e' e, fun _ => by omega⟩

theorem QInv.headCell {q : Q} (h : QInv q) (he : ¬ isEmpty q = true) :
    ∃ a, ∃ hi : q.hqi < a.length, q.queues[q.hni]? = some (some a) ∧
      abs q = a[q.hqi] :: ((F q.queues).take (off q.queues q.tni + q.tqi)).drop (off q.queues q.hni + q.hqi + 1) := by
  obtain ⟨a, ha, hal, _⟩ := h.headNode
  have hi : q.hqi < a.length := hal ▸ h.hlt
  exact ⟨a, hi, ha, window_cons (h.nonempty he).1 (F_get_cell _ _ _ _ ha hi)⟩

/-- `Head` answers nil for a hole as for an empty queue. -/
theorem head_refines {q : Q} (h : QInv q) : head q = .ok (abs q).head?.join := by
  unfold head
  by_cases he : isEmpty q = true
  · simp [he, h.empty_abs he]
  · obtain ⟨a, hi, ha, hab⟩ := h.headCell he
    simp only [he, if_false, Bool.false_eq_true, h.hq, readRef_node ha hi, hab, List.head?_cons, Option.join_some]

theorem pop_spec {q : Q} (h : QInv q) :
    ∃ q', pop q = .ok (q', (abs q).head?.join) ∧ QInv q' ∧ abs q' = (abs q).tail ∧ (HeadClean q → HeadClean q') := by
  unfold pop
  by_cases he : isEmpty q = true
  · refine ⟨q, ?_, h, ?_, id⟩ <;> simp [he, h.empty_abs he]
  · obtain ⟨_, pe, _⟩ := h.nonempty he
    obtain ⟨a, hi, ha, hab⟩ := h.headCell he
    obtain ⟨_, _, hal, s2⟩ := h.headNode
    have hs := shape_set_cell q.queues q.hni q.hqi a none ha
    have key : ∀ n i, off q.queues n + i = off q.queues q.hni + q.hqi + 1 →
        absL (q.queues.set q.hni (some (a.set q.hqi none))) n i q.tni q.tqi =
          ((F q.queues).take (off q.queues q.tni + q.tqi)).drop (off q.queues q.hni + q.hqi + 1) ∧
        (HeadClean q → cleanL (q.queues.set q.hni (some (a.set q.hqi none))) n i) := by
      intro n i hni
      rw [absL_set _ _ _ _ _ ha hi, cleanL_set _ _ _ _ _ ha hi, hni, window_set none (Or.inl (Nat.lt_add_one _))]
      exact ⟨rfl, clean_set_succ⟩
    simp only [he, if_false, Bool.false_eq_true, h.hq, readRef_node ha hi, writeRef_node none ha hi, Res.ok_bind, hab,
      List.head?_cons, Option.join_some, List.tail_cons]
    by_cases c : q.hqi + 1 ≥ q.hqs
    · have hfull : q.hqi + 1 = q.hqs := Nat.le_antisymm h.hlt c
      have hlt : q.hni < q.tni := by
        refine Nat.lt_of_le_of_ne h.hle fun e => ?_
        have := pe e; have := h.tlt
        have : q.hqs = q.tqs := Option.some.inj (h.hqs.symm.trans (e ▸ h.tqs))
        omega
      obtain ⟨a', ha', hsz', hpos', _⟩ := h.node (Nat.le_trans hlt h.tle)
      have ha'' : (q.queues.set q.hni (some (a.set q.hqi none)))[q.hni + 1]? = some (some a') := by
        rw [List.getElem?_set_ne (Nat.ne_of_lt (Nat.lt_succ_self _))]; exact ha'
      obtain ⟨k1, k2⟩ := key (q.hni + 1) 0 (by omega)
      refine ⟨{ q with queues := q.queues.set q.hni (some (a.set q.hqi none)), hni := q.hni + 1, hqi := 0,
                       headQueue := .node (q.hni + 1), hqs := a'.length }, ?_,
        h.setHead hs ⟨rfl, hsz', hpos'⟩ hlt fun _ => Nat.zero_le _, k1, k2⟩
      simp only [c, if_true, mkRef, ha'', size, hsz', Res.ok_bind, Res.pure_eq]
    · obtain ⟨k1, k2⟩ := key q.hni (q.hqi + 1) (Nat.add_assoc _ _ _).symm
      refine ⟨{ q with queues := q.queues.set q.hni (some (a.set q.hqi none)), hqi := q.hqi + 1, headQueue := .node q.hni }, ?_,
        h.setHead hs ⟨rfl, h.hqs, Nat.lt_of_not_le c⟩ h.hle pe, k1, k2⟩
      simp only [c, if_false, Res.pure_eq]

theorem pop_refines {q : Q} (h : QInv q) :
    ∃ q', pop q = .ok (q', (abs q).head?.join) ∧ QInv q' ∧ abs q' = (abs q).tail := init3 (pop_spec h)

theorem QInv.lastCell {q : Q} (h : QInv q) (he : ¬ isEmpty q = true) {n i : Nat} {a : Arr}
    (ha : q.queues[n]? = some (some a)) (hi : i < a.length)
    (hp : off q.queues n + i + 1 = off q.queues q.tni + q.tqi) :
    abs q = ((F q.queues).take (off q.queues n + i)).drop (off q.queues q.hni + q.hqi) ++ [a[i]] := by
  have := (h.nonempty he).1
  unfold abs absL
  rw [← hp]
  exact window_snoc (by omega) (F_get_cell _ _ _ _ ha hi)

theorem popRight_at {q : Q} (h : QInv q) (he : ¬ isEmpty q = true) {n i s : Nat} {r : Ref} {a : Arr}
    (c : Cur q.sizes n i s r) (ha : q.queues[n]? = some (some a)) (hi : i < a.length) (hn : n ≤ q.nodeIndex)
    (hle : q.hni ≤ n) (ho : q.hni = n → q.hqi ≤ i) (hp : off q.queues n + i + 1 = off q.queues q.tni + q.tqi) :
    ∃ q', (do
        let x ← readRef { q with tni := n, tqi := i, tailQueue := r, tqs := s } r i
        let q2 ← writeRef { q with tni := n, tqi := i, tailQueue := r, tqs := s } r i none
        pure (q2, x) : Res (Q × Elem)) = .ok (q', (abs q).getLast?.join) ∧ QInv q' ∧ abs q' = (abs q).dropLast ∧
      (HeadClean q → HeadClean q') := by
  have hpos := (h.nonempty he).1
  have hab := h.lastCell he ha hi hp
  have hr := c.ref
  subst hr
  refine ⟨{ q with queues := q.queues.set n (some (a.set i none)), tni := n, tqi := i, tailQueue := .node n, tqs := s }, ?_,
    h.setTail (shape_set_cell _ _ _ _ _ ha) c hn hle ho, ?_, fun hc => ?_⟩
  · rw [readRef_node (q := { q with tni := n, tqi := i, tailQueue := .node n, tqs := s }) ha hi,
      writeRef_node (q := { q with tni := n, tqi := i, tailQueue := .node n, tqs := s }) none ha hi, hab,
      List.getLast?_concat]
    rfl
  · show absL (q.queues.set n (some (a.set i none))) q.hni q.hqi n i = _
    rw [absL_set _ _ _ _ _ ha hi, window_set none (Or.inr (Nat.le_refl _)), hab, List.dropLast_concat]
  · exact (cleanL_set _ _ _ _ _ ha hi q.hni q.hqi).mpr (clean_set (Or.inl (by omega)) hc)

theorem popRight_spec {q : Q} (h : QInv q) :
    ∃ q', popRight q = .ok (q', (abs q).getLast?.join) ∧ QInv q' ∧ abs q' = (abs q).dropLast ∧
      (HeadClean q → HeadClean q') := by
  unfold popRight
  by_cases he : isEmpty q = true
  · refine ⟨q, ?_, h, ?_, id⟩ <;> simp [he, h.empty_abs he]
  · obtain ⟨_, pe, pz⟩ := h.nonempty he
    simp only [he, if_false, Bool.false_eq_true]
    by_cases c : q.tqi = 0
    · have hlt := pz c
      have c0 : ¬ q.tni = 0 := Nat.ne_of_gt (Nat.lt_of_le_of_lt (Nat.zero_le _) hlt)
      obtain ⟨a, ha, hsz, hpos, _, s2⟩ := h.node (j := q.tni - 1) (Nat.le_trans (Nat.sub_le _ _) h.tle)
      rw [Nat.sub_add_cancel (Nat.pos_of_ne_zero c0)] at s2
      have hi : a.length - 1 < a.length := Nat.sub_one_lt (Nat.ne_of_gt hpos)
      simp only [c, if_true, c0, if_false, size, hsz, mkRef, ha, Nat.ne_of_gt hpos, Res.ok_bind]
      refine popRight_at h he ⟨rfl, hsz, hi⟩ ha hi (Nat.le_trans (Nat.sub_le _ _) h.tle) (Nat.le_sub_one_of_lt hlt)
        (fun e' => ?_) (by rw [c, s2, Nat.add_assoc, Nat.sub_add_cancel hpos]; rfl)
      rw [Option.some.inj (hsz.symm.trans (e' ▸ h.hqs))]
      exact Nat.le_sub_one_of_lt h.hlt
    · obtain ⟨a, ha, hal, _⟩ := h.tailNode
      have hi : q.tqi - 1 < q.tqs := Nat.lt_of_le_of_lt (Nat.sub_le _ _) h.tlt
      simp only [c, if_false, Res.ok_bind]
      exact popRight_at h he ⟨h.tq, h.tqs, hi⟩ ha (hal ▸ hi) h.tle h.hle
        (fun e' => Nat.le_sub_one_of_lt (pe e')) (by rw [Nat.add_assoc, Nat.sub_add_cancel (Nat.pos_of_ne_zero c)])

theorem pushLeft_full (q : Q) (x : Elem) (hf : q.hni = 0 ∧ q.hqi = 0) : pushLeft q x = .ok (q, false) := by
  simp [pushLeft, hf.1, hf.2]

theorem pushLeft_at {q : Q} (h : QInv q) (x : Elem) {n i s : Nat} {r : Ref} {a : Arr}
    (c : Cur q.sizes n i s r) (ha : q.queues[n]? = some (some a)) (hi : i < a.length)
    (hle : n ≤ q.tni) (ho : n = q.tni → i ≤ q.tqi) (hp : off q.queues n + i + 1 = off q.queues q.hni + q.hqi) :
    ∃ q', (do
        let q2 ← writeRef { q with hni := n, hqi := i, headQueue := r, hqs := s } r i x
        pure (q2, true) : Res (Q × Bool)) = .ok (q', true) ∧ QInv q' ∧ abs q' = x :: abs q ∧
      (HeadClean q → HeadClean q') := by
  obtain ⟨p1, p2, p3⟩ := h.pos
  have hr := c.ref
  subst hr
  refine ⟨{ q with queues := q.queues.set n (some (a.set i x)), hni := n, hqi := i, headQueue := .node n, hqs := s }, ?_,
    h.setHead (shape_set_cell _ _ _ _ _ ha) c hle ho, ?_, fun hc => ?_⟩
  · rw [writeRef_node (q := { q with hni := n, hqi := i, headQueue := .node n, hqs := s }) x ha hi]
    rfl
  · show absL (q.queues.set n (some (a.set i x))) n i q.tni q.tqi = _
    rw [absL_set _ _ _ _ _ ha hi,
      window_cons (by omega) (List.getElem?_set_self (by omega) : ((F q.queues).set (off q.queues n + i) x)[_]? = _),
      window_set x (Or.inl (Nat.lt_add_one _)), hp]
    rfl
  · refine (cleanL_set _ _ _ _ _ ha hi n i).mpr (clean_set (Or.inl (Nat.le_refl _)) fun e he => hc e ?_)
    exact List.take_subset_take_left _ (by omega) he

theorem pushLeft_spec {q : Q} (h : QInv q) (x : Elem) (hnf : ¬ (q.hni = 0 ∧ q.hqi = 0)) :
    ∃ q', pushLeft q x = .ok (q', true) ∧ QInv q' ∧ abs q' = x :: abs q ∧ (HeadClean q → HeadClean q') := by
  have hnf' : ¬ (q.hni ≤ 0 ∧ q.hqi ≤ 0) := fun e => hnf ⟨Nat.le_zero.mp e.1, Nat.le_zero.mp e.2⟩
  unfold pushLeft
  simp only [hnf', if_false]
  by_cases c : q.hqi = 0
  · have c0 : ¬ q.hni = 0 := fun e => hnf ⟨e, c⟩
    have hle : q.hni - 1 ≤ q.tni := Nat.le_trans (Nat.sub_le _ _) h.hle
    obtain ⟨a, ha, hsz, hpos, _, s2⟩ := h.node (j := q.hni - 1) (Nat.le_trans hle h.tle)
    rw [Nat.sub_add_cancel (Nat.pos_of_ne_zero c0)] at s2
    have hi : a.length - 1 < a.length := Nat.sub_one_lt (Nat.ne_of_gt hpos)
    simp only [c, if_true, size, hsz, mkRef, ha, Nat.ne_of_gt hpos, if_false, Res.ok_bind]
    refine pushLeft_at h x ⟨rfl, hsz, hi⟩ ha hi hle (fun e' => ?_)
      (by rw [c, s2, Nat.add_assoc, Nat.sub_add_cancel hpos]; rfl)
    exact absurd (e' ▸ h.hle) (Nat.not_le.mpr (Nat.sub_one_lt c0))
  · obtain ⟨a, ha, hal, _⟩ := h.headNode
    have hi : q.hqi - 1 < q.hqs := Nat.lt_of_le_of_lt (Nat.sub_le _ _) h.hlt
    simp only [c, if_false, Res.ok_bind]
    exact pushLeft_at h x ⟨h.hq, h.hqs, hi⟩ ha (hal ▸ hi) h.hle
      (fun e' => Nat.le_trans (Nat.sub_le _ _) (h.ord e')) (by rw [Nat.add_assoc, Nat.sub_add_cancel (Nat.pos_of_ne_zero c)])

theorem tail_refines {q : Q} (h : QInv q) : tail q = .ok (abs q).getLast?.join := by
  unfold tail
  by_cases he : isEmpty q = true
  · simp [he, h.empty_abs he]
  · obtain ⟨_, _, pz⟩ := h.nonempty he
    simp only [he, if_false, Bool.false_eq_true]
    by_cases c : q.tqi = 0
    · have c0 : ¬ q.tni = 0 := Nat.ne_of_gt (Nat.lt_of_le_of_lt (Nat.zero_le _) (pz c))
      obtain ⟨a, ha, hsz, hpos, _, s2⟩ := h.node (j := q.tni - 1) (Nat.le_trans (Nat.sub_le _ _) h.tle)
      rw [Nat.sub_add_cancel (Nat.pos_of_ne_zero c0)] at s2
      have hi : a.length - 1 < a.length := Nat.sub_one_lt (Nat.ne_of_gt hpos)
      simp only [c, if_true, c0, if_false, slot, ha, size, hsz, Nat.ne_of_gt hpos, Res.ok_bind,
        List.getElem?_eq_getElem hi,
        h.lastCell he ha hi (by rw [c, s2, Nat.add_assoc, Nat.sub_add_cancel hpos]; rfl), List.getLast?_concat,
        Option.join_some]
    · obtain ⟨a, ha, hal, _⟩ := h.tailNode
      have hi : q.tqi - 1 < a.length := hal ▸ Nat.lt_of_le_of_lt (Nat.sub_le _ _) h.tlt
      simp only [c, if_false, h.tq, readRef_node ha hi,
        h.lastCell he ha hi (by rw [Nat.add_assoc, Nat.sub_add_cancel (Nat.pos_of_ne_zero c)]), List.getLast?_concat,
        Option.join_some]

theorem sumSizes_spec {q : Q} (h : QInv q) (n i : Nat) (hb : i + n ≤ q.nodeIndex + 1) :
    ∃ s, sumSizes q i n = .ok s ∧ off q.queues i + s = off q.queues (i + n) := by
  induction n generalizing i with
  | zero => exact ⟨0, rfl, rfl⟩
  | succ n ih =>
    obtain ⟨a, ha, hsz, _, _, s2⟩ := h.node (j := i) (Nat.le_of_succ_le_succ (Nat.le_trans (Nat.succ_le_succ (Nat.le_add_right i n)) hb))
    obtain ⟨s, e, hs⟩ := ih (i + 1) (by rw [Nat.add_right_comm]; exact hb)
    refine ⟨a.length + s, by simp only [sumSizes, size, hsz, Res.ok_bind, e, Res.pure_eq], ?_⟩
    rw [← Nat.add_assoc, ← s2, hs, Nat.add_right_comm]; rfl

theorem QInv.abs_length {q : Q} (h : QInv q) :
    off q.queues q.hni + q.hqi + (abs q).length = off q.queues q.tni + q.tqi := by
  obtain ⟨p1, p2, p3⟩ := h.pos
  have : (abs q).length = _ := window_length _ _ (Nat.le_trans (Nat.le_of_lt p2) p3)
  rw [this, Nat.add_sub_cancel' p1]

/-- holes count in `Len`, as in the Go code -/
theorem len_refines {q : Q} (h : QInv q) : len q = .ok ((abs q).length : Int) := by
  have hl := h.abs_length
  unfold len
  by_cases c : q.tni ≤ q.hni
  · have e : q.hni = q.tni := Nat.le_antisymm h.hle c
    rw [e] at hl
    simp only [c, if_true]
    congr 1; omega
  · obtain ⟨_, _, _, s2⟩ := h.headNode
    have e : q.hni + 1 + (q.tni - (q.hni + 1)) = q.tni := Nat.add_sub_cancel' (Nat.lt_of_not_le c)
    obtain ⟨s, es, hs⟩ := sumSizes_spec h (q.tni - (q.hni + 1)) (q.hni + 1) (by rw [e]; exact Nat.le_succ_of_le h.tle)
    rw [e] at hs
    simp only [c, if_false, size, h.hqs, Res.ok_bind, es, Res.pure_eq]
    clear e es
    congr 1; omega

end Slock.Queue
