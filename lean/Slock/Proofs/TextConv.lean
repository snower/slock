import Slock.Model.TextCmd
import Slock.Proofs.TextNum
/-! M-TEXT: key/id normalisation, and the LOCK/UNLOCK converter on rendered keyword/value settings (C14 text part). -/
namespace Slock.Text

theorem hexDecode_length : ∀ (k v : Bytes), hexDecode k = some v → k.length = 2 * v.length
  | [], v, h => by simp [hexDecode] at h; subst h; rfl
  | [_], v, h => by simp [hexDecode] at h
  | a :: b :: rest, v, h => by
    unfold hexDecode at h
    cases ha : hexNib a <;> cases hb : hexNib b <;> cases hr : hexDecode rest <;> simp [ha, hb, hr] at h
    subst h
    have := hexDecode_length rest _ hr
    simp only [List.length_cons]; omega

theorem leftPad16_full (k : Bytes) (h : k.length = 16) : leftPad16 k = k := by
  simp [leftPad16, h]

theorem padLoop_eq (k : Bytes) (h : k.length < 16) :
    (List.range 16).map (fun i => if i < 16 - k.length then (0 : UInt8) else k.getD (i - (16 - k.length)) 0) = leftPad16 k := by
  apply List.ext_getElem
  · simp [leftPad16]; omega
  · intro i h1 h2
    simp only [List.getElem_map, List.getElem_range, leftPad16]
    by_cases hi : i < 16 - k.length
    · simp [hi]
    · simp only [hi, if_false]
      rw [List.getElem_append_right (by simp; omega)]
      simp only [List.length_replicate]
      simp only [List.length_map, List.length_range] at h1
      rw [List.getD_eq_getElem?_getD, List.getElem?_eq_getElem (by omega)]
      simp

theorem key_eq_doc (h : Bytes → Bytes) (hh : ∀ x, (h x).length = 16) (k : Bytes) :
    convertString2LockKey h k = docRule h k := by
  unfold convertString2LockKey docRule
  by_cases h16 : k.length = 16
  · simp [h16, leftPad16_full k h16]
  · by_cases hgt : k.length > 16
    · have hle : ¬ k.length ≤ 16 := by omega
      simp only [h16, hgt, hle, if_false, if_true]
      by_cases h32 : k.length = 32
      · simp only [h32, if_true]
        cases hd : hexDecode k with
        | none => simp [List.take_of_length_le, hh]
        | some v =>
          have := hexDecode_length k v hd
          simp only
          rw [List.take_of_length_le (by omega)]
      · simp [h32, List.take_of_length_le, hh]
    · have hle : k.length ≤ 16 := by omega
      simp [h16, hgt, hle]

theorem argId_eq_key (h : Bytes → Bytes) (k : Bytes) :
    convertArgId2LockId h k = convertString2LockKey h k := by
  unfold convertArgId2LockId convertString2LockKey
  by_cases h16 : k.length = 16
  · simp [h16]
  · by_cases hgt : k.length > 16
    · simp [h16, hgt]
    · simp only [h16, hgt, if_false]
      exact padLoop_eq k (by omega)

theorem argId_eq_doc (h : Bytes → Bytes) (hh : ∀ x, (h x).length = 16) (k : Bytes) :
    convertArgId2LockId h k = docRule h k := by
  rw [argId_eq_key, key_eq_doc h hh]

theorem u16_natCast (v : Nat) : u16 (v : Int) = v % 65536 :=
  (congrArg Int.toNat (Int.natCast_emod v 65536).symm).trans (Int.toNat_natCast _)

theorem u8_natCast (v : Nat) : u8 (v : Int) = v % 256 :=
  (congrArg Int.toNat (Int.natCast_emod v 256).symm).trans (Int.toNat_natCast _)

theorem u16_natCast_div (v : Nat) : u16 ((v : Int) / 65536) = v / 65536 % 65536 :=
  (congrArg u16 (Int.natCast_ediv v 65536).symm).trans (u16_natCast _)

/-- COUNT is stored −1 in 16 bits: 65536 wraps to 0 first, and 0 − 1 wraps to 65535 -/
theorem u16_pred (v : Nat) (h1 : 1 ≤ v) (h2 : v ≤ 65536) : u16 ((u16 v : Int) - 1) = v - 1 := by
  rw [u16_natCast]
  rcases Nat.lt_or_eq_of_le h2 with h | rfl
  · rw [Nat.mod_eq_of_lt h, ← Int.natCast_one, ← Int.natCast_sub h1, u16_natCast,
      Nat.mod_eq_of_lt (Nat.lt_of_le_of_lt (Nat.sub_le _ _) h)]
  · decide

theorem u8_pred (v : Nat) (h1 : 1 ≤ v) (h2 : v ≤ 256) : u8 ((u8 v : Int) - 1) = v - 1 := by
  rw [u8_natCast]
  rcases Nat.lt_or_eq_of_le h2 with h | rfl
  · rw [Nat.mod_eq_of_lt h, ← Int.natCast_one, ← Int.natCast_sub h1, u8_natCast,
      Nat.mod_eq_of_lt (Nat.lt_of_le_of_lt (Nat.sub_le _ _) h)]
  · decide

theorem lockLoop_nil (f : Nat) (ctx : Ctx) (name : Bytes) (c : LockCmd) (hasId : Bool) :
    lockLoop (f + 1) ctx name [] c hasId =
      if hasId then .ok c
      else if name = kLOCK then .ok { c with hdr := { c.hdr with lockId := .req } }
      else .ok { c with hdr := { c.hdr with lockId := .proto } } := by
  rw [lockLoop]

/-- one `KEYWORD value` setting of a text LOCK / UNLOCK command, by the binary field it sets -/
inductive KV
  | lockId (id : Bytes)
  | flag (f : Nat)
  | timeout (t : Nat)
  | expried (e : Nat)
  | count (c : Nat)
  | rcount (r : Nat)

/-- values that fit the binary fields (TIMEOUT/EXPRIED carry the 16-bit flag word in their upper half) -/
def KV.wf : KV → Prop
  | .lockId _ => True
  | .flag f => f < 256
  | .timeout t => t < 4294967296
  | .expried e => e < 4294967296
  | .count c => 1 ≤ c ∧ c ≤ 65536
  | .rcount r => 1 ≤ r ∧ r ≤ 256

/-- the two arguments the setting is written as (numbers in decimal) -/
def KV.render : KV → List Bytes
  | .lockId id => [kLOCK_ID, id]
  | .flag f => [kFLAG, natToDec f]
  | .timeout t => [kTIMEOUT, natToDec t]
  | .expried e => [kEXPRIED, natToDec e]
  | .count c => [kCOUNT, natToDec c]
  | .rcount r => [kRCOUNT, natToDec r]

/-- the setting stored into the command header (COUNT and RCOUNT are stored −1) -/
def KV.apply (md5 : Bytes → Bytes) (h : Hdr) : KV → Hdr
  | .lockId id => { h with lockId := .bytes (docRule md5 id) }
  | .flag f => { h with flag := f }
  | .timeout t => { h with timeout := t % 65536, timeoutFlag := t / 65536 }
  | .expried e => { h with expried := e % 65536, expriedFlag := e / 65536 }
  | .count c => { h with count := c - 1 }
  | .rcount r => { h with rcount := r - 1 }

def KV.isId : KV → Bool
  | .lockId _ => true
  | _ => false

def renderAll : List KV → List Bytes
  | [] => []
  | kv :: kvs => kv.render ++ renderAll kvs

theorem renderAll_length (kvs : List KV) : (renderAll kvs).length = 2 * kvs.length := by
  induction kvs with
  | nil => rfl
  | cons kv kvs ih => cases kv <;> simp [renderAll, KV.render, ih] <;> omega

/-- without a LOCK_ID setting the lock id is the request id (LOCK) or the connection's last lock id (UNLOCK) -/
def finishId (name : Bytes) (hasId : Bool) (h : Hdr) : Hdr :=
  if hasId then h else if name = kLOCK then { h with lockId := .req } else { h with lockId := .proto }

/-- One round of the LOCK/UNLOCK loop on a rendered setting: the keyword is found in the `if` chain (the tests before
it fail, its own succeeds — all on constants), the decimal value is read back by `atoi`, and the 8/16-bit truncations
are the identity on values that fit. -/
theorem lockLoop_kv (ctx : Ctx) (hmd5 : ∀ x, (ctx.md5 x).length = 16) (kv : KV) (hkv : kv.wf) (f : Nat) (name : Bytes)
    (rest : List Bytes) (h : Hdr) (hasId : Bool) :
    lockLoop (f + 1) ctx name (kv.render ++ rest) { hdr := h } hasId =
      lockLoop f ctx name rest { hdr := kv.apply ctx.md5 h } (hasId || kv.isId) := by
  cases kv
  all_goals
    rw [KV.render, List.cons_append, List.cons_append, List.nil_append, lockLoop]
    dsimp only
  case lockId id =>
    rw [if_pos (by decide), argId_eq_doc _ hmd5]
    exact congrArg _ (Bool.or_true _).symm
  case flag v =>
    have hv : v < 256 := hkv
    rw [if_neg (by decide), if_pos (by decide), atoi_natToDec v (by omega)]
    dsimp only
    rw [u8_natCast, Nat.mod_eq_of_lt hv]
    exact congrArg _ (Bool.or_false _).symm
  case timeout v =>
    have hv : v < 4294967296 := hkv
    rw [if_neg (by decide), if_neg (by decide), if_pos (by decide), atoi_natToDec v (by omega)]
    dsimp only
    rw [u16_natCast, u16_natCast_div, Nat.mod_eq_of_lt (Nat.div_lt_of_lt_mul hv)]
    exact congrArg _ (Bool.or_false _).symm
  case expried v =>
    have hv : v < 4294967296 := hkv
    rw [if_neg (by decide), if_neg (by decide), if_neg (by decide), if_pos (by decide), atoi_natToDec v (by omega)]
    dsimp only
    rw [u16_natCast, u16_natCast_div, Nat.mod_eq_of_lt (Nat.div_lt_of_lt_mul hv)]
    exact congrArg _ (Bool.or_false _).symm
  case count v =>
    have hv : 1 ≤ v ∧ v ≤ 65536 := hkv
    rw [if_neg (by decide), if_neg (by decide), if_neg (by decide), if_neg (by decide), if_pos (by decide),
      atoi_natToDec v (by omega)]
    dsimp only
    rw [if_pos (by omega), u16_pred v hv.1 hv.2]
    exact congrArg _ (Bool.or_false _).symm
  case rcount v =>
    have hv : 1 ≤ v ∧ v ≤ 256 := hkv
    rw [if_neg (by decide), if_neg (by decide), if_neg (by decide), if_neg (by decide), if_neg (by decide),
      if_pos (by decide), atoi_natToDec v (by omega)]
    dsimp only
    rw [if_pos (by omega), u8_pred v hv.1 hv.2]
    exact congrArg _ (Bool.or_false _).symm

theorem lockLoop_kvs (ctx : Ctx) (hmd5 : ∀ x, (ctx.md5 x).length = 16) (name : Bytes) (kvs : List KV)
    (hwf : ∀ kv ∈ kvs, kv.wf) (f : Nat) (hf : kvs.length < f) (h : Hdr) (hasId : Bool) :
    lockLoop f ctx name (renderAll kvs) { hdr := h } hasId =
      .ok { hdr := finishId name (hasId || kvs.any KV.isId) (kvs.foldl (KV.apply ctx.md5) h) } := by
  induction kvs generalizing f h hasId with
  | nil =>
    cases f with
    | zero => simp at hf
    | succ f =>
      rw [renderAll, lockLoop_nil, List.any_nil, Bool.or_false, List.foldl_nil, finishId]
      split
      · rfl
      · split <;> rfl
  | cons kv kvs ih =>
    cases f with
    | zero => simp at hf
    | succ f =>
      rw [renderAll, lockLoop_kv ctx hmd5 kv (hwf kv (List.mem_cons_self ..)),
        ih (fun x hx => hwf x (List.mem_cons_of_mem _ hx)) f (Nat.lt_of_succ_lt_succ hf),
        List.any_cons, Bool.or_assoc, List.foldl_cons]

end Slock.Text
