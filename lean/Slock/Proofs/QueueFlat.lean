import Slock.Model.Queue
import Slock.Proofs.QueueList
/-! The flat view of the segmented deque (all cells in node order), the abstraction function and the invariant.
The invariant `QInv` is taken apart into the node table (`Table`), the two cursors (`Cur`) and their order, so that
an operation re-establishes only the part it touches. -/
namespace Slock.Queue

def nodeOf : Option Arr → Arr
  | some a => a
  | none => []

def F : List (Option Arr) → Arr
  | [] => []
  | s :: r => nodeOf s ++ F r

/-- global position of cell 0 of node `j` -/
def off (L : List (Option Arr)) (j : Nat) : Nat := (F (L.take j)).length

theorem F_append (A B : List (Option Arr)) : F (A ++ B) = F A ++ F B := by
  induction A with
  | nil => rfl
  | cons s r ih => simp only [List.cons_append, F, ih, List.append_assoc]

theorem off_zero (L : List (Option Arr)) : off L 0 = 0 := rfl

theorem off_succ (L : List (Option Arr)) (j : Nat) (h : j < L.length) :
    off L (j + 1) = off L j + (nodeOf L[j]).length := by
  unfold off
  rw [List.take_add_one, List.getElem?_eq_getElem h, F_append, List.length_append]
  simp [F]

theorem off_mono (L : List (Option Arr)) {j k : Nat} (h : j ≤ k) : off L j ≤ off L k := by
  unfold off
  rw [← List.take_append_drop j (L.take k), List.take_take, Nat.min_eq_left h, F_append, List.length_append]
  exact Nat.le_add_right _ _

theorem F_take_drop (L : List (Option Arr)) (j : Nat) : F L = F (L.take j) ++ F (L.drop j) := by
  rw [← F_append, List.take_append_drop]

theorem F_take_off (L : List (Option Arr)) (j : Nat) : (F L).take (off L j) = F (L.take j) := by
  rw [F_take_drop L j, off]
  simp

theorem off_le_length (L : List (Option Arr)) (j : Nat) : off L j ≤ (F L).length := by
  rw [F_take_drop L j, List.length_append]
  exact Nat.le_add_right _ _

theorem off_take (L : List (Option Arr)) (m k : Nat) (h : k ≤ m) : off (L.take m) k = off L k := by
  unfold off
  rw [List.take_take, Nat.min_eq_left h]

theorem off_add (L : List (Option Arr)) (h j : Nat) : off L (h + j) = off L h + off (L.drop h) j := by
  unfold off
  rw [List.take_add, F_append, List.length_append]

theorem F_set (L : List (Option Arr)) {j : Nat} (s : Option Arr) (hj : j < L.length) :
    F (L.set j s) = F (L.take j) ++ (nodeOf s ++ F (L.drop (j + 1))) := by
  rw [List.set_eq_take_append_cons_drop, if_pos hj, F_append]
  rfl

theorem F_split {L : List (Option Arr)} {j : Nat} {s : Option Arr} (hj : L[j]? = some s) :
    F L = F (L.take j) ++ (nodeOf s ++ F (L.drop (j + 1))) := by
  have := F_set L s (List.getElem?_eq_some_iff.mp hj).1
  rwa [set_of_getElem? hj] at this

theorem F_set_cell (L : List (Option Arr)) (j i : Nat) (a : Arr) (v : Elem)
    (hj : L[j]? = some (some a)) (hi : i < a.length) :
    F (L.set j (some (a.set i v))) = (F L).set (off L j + i) v := by
  rw [F_set L _ (List.getElem?_eq_some_iff.mp hj).1, F_split hj, off,
    List.set_append_right _ _ (Nat.le_add_right _ _), Nat.add_sub_cancel_left]
  exact congrArg _ (List.set_append_left _ _ hi).symm

theorem F_get_cell (L : List (Option Arr)) (j i : Nat) (a : Arr)
    (hj : L[j]? = some (some a)) (hi : i < a.length) :
    (F L)[off L j + i]? = some a[i] := by
  rw [F_split hj, off, List.getElem?_append_right (Nat.le_add_right _ _), Nat.add_sub_cancel_left]
  exact (List.getElem?_append_left hi).trans (List.getElem?_eq_getElem hi)

theorem F_node_slice (L : List (Option Arr)) (j lo hi : Nat) (a : Arr) (hj : L[j]? = some (some a)) (hhi : hi ≤ a.length) :
    ((F L).take (off L j + hi)).drop (off L j + lo) = (a.take hi).drop lo := by
  rw [F_split hj, off, List.take_length_add_append, List.drop_length_add_append]
  exact congrArg _ (List.take_append_of_le_length hhi)

def absL (L : List (Option Arr)) (hni hqi tni tqi : Nat) : List Elem :=
  ((F L).take (off L tni + tqi)).drop (off L hni + hqi)

/-- `abs`: the cells from the head cursor (inclusive) to the tail cursor (exclusive), holes included -/
def abs (q : Q) : List Elem := absL q.queues q.hni q.hqi q.tni q.tqi

def cleanL (L : List (Option Arr)) (h hi : Nat) : Prop := ∀ e ∈ (F L).take (off L h + hi), e = none

/-- every cell before the head cursor is nil (Pop nils the cells it leaves behind; preserved by every operation) -/
def HeadClean (q : Q) : Prop := cleanL q.queues q.hni q.hqi

instance (q : Q) : Decidable (HeadClean q) := by unfold HeadClean cleanL; exact inferInstance

theorem HeadClean_origin {q : Q} (h1 : q.hni = 0) (h2 : q.hqi = 0) : HeadClean q := by
  unfold HeadClean cleanL; rw [h1, h2, off_zero]; simp

theorem off_prefix {L1 L2 : List (Option Arr)} {m : Nat} (hp : L1.take m = L2.take m) {j : Nat} (hj : j ≤ m) :
    off L1 j = off L2 j := by
  rw [← off_take L1 m j hj, hp, off_take L2 m j hj]

theorem F_take_prefix {L1 L2 : List (Option Arr)} {m : Nat} (hp : L1.take m = L2.take m) {P : Nat}
    (hP : P ≤ off L2 m) : (F L1).take P = (F L2).take P := by
  have h1 := F_take_off L1 m
  rw [off_prefix hp (Nat.le_refl m), hp, ← F_take_off L2 m] at h1
  have := congrArg (List.take P) h1
  rwa [List.take_take, List.take_take, Nat.min_eq_left hP] at this

theorem absL_prefix {L1 L2 : List (Option Arr)} {m : Nat} (hp : L1.take m = L2.take m) {h hi t ti : Nat}
    (hh : h ≤ m) (ht : t ≤ m) (hb : off L2 t + ti ≤ off L2 m) : absL L1 h hi t ti = absL L2 h hi t ti := by
  unfold absL
  rw [off_prefix hp hh, off_prefix hp ht, F_take_prefix hp hb]

theorem cleanL_prefix {L1 L2 : List (Option Arr)} {m : Nat} (hp : L1.take m = L2.take m) {h hi : Nat}
    (hh : h ≤ m) (hb : off L2 h + hi ≤ off L2 m) (hc : cleanL L2 h hi) : cleanL L1 h hi := by
  unfold cleanL at *
  rwa [off_prefix hp hh, F_take_prefix hp hb]

theorem absL_drop (L : List (Option Arr)) (h hi t ti : Nat) :
    absL L h hi (h + t) ti = absL (L.drop h) 0 hi t ti := by
  unfold absL
  rw [off_add, off_zero, Nat.zero_add, Nat.add_assoc, F_take_drop L h, off, List.take_length_add_append,
    List.drop_length_add_append]

theorem cleanL_iff (L : List (Option Arr)) (h hi : Nat) :
    cleanL L h hi ↔ (∀ e ∈ F (L.take h), e = none) ∧ ∀ e ∈ (F (L.drop h)).take hi, e = none := by
  unfold cleanL
  rw [F_take_drop L h, off, List.take_length_add_append]
  exact List.forall_mem_append

def shape (L : List (Option Arr)) : List (Option Nat) := L.map (Option.map List.length)

theorem shape_length (L : List (Option Arr)) : (shape L).length = L.length := by simp [shape]

theorem shape_some {L : List (Option Arr)} {j n : Nat} (h : (shape L)[j]? = some (some n)) :
    ∃ a, L[j]? = some (some a) ∧ a.length = n := by
  simp only [shape, List.getElem?_map] at h
  cases hj : L[j]? with
  | none => simp [hj] at h
  | some s =>
    cases s with
    | none => simp [hj] at h
    | some a => exact ⟨a, rfl, by simpa [hj] using h⟩

theorem shape_none {L : List (Option Arr)} {j : Nat} (h : (shape L)[j]? = some none) : L[j]? = some none := by
  simp only [shape, List.getElem?_map] at h
  cases hj : L[j]? with
  | none => simp [hj] at h
  | some s =>
    cases s with
    | none => rfl
    | some a => simp [hj] at h

theorem shape_set (L : List (Option Arr)) (j : Nat) (s : Option Arr) :
    shape (L.set j s) = (shape L).set j (s.map List.length) := by
  simp [shape, List.map_set]

theorem F_length_shape {L1 L2 : List (Option Arr)} (h : shape L1 = shape L2) : (F L1).length = (F L2).length := by
  induction L1 generalizing L2 with
  | nil =>
    cases L2 with
    | nil => rfl
    | cons _ _ => simp [shape] at h
  | cons s r ih =>
    cases L2 with
    | nil => simp [shape] at h
    | cons s2 r2 =>
      simp only [shape, List.map_cons, List.cons.injEq] at h
      have hr : shape r = shape r2 := h.2
      have hs : (nodeOf s).length = (nodeOf s2).length := by
        cases s <;> cases s2 <;> simp [nodeOf] at h ⊢
        exact h.1
      simp only [F, List.length_append, ih hr, hs]

theorem off_shape {L1 L2 : List (Option Arr)} (h : shape L1 = shape L2) (j : Nat) : off L1 j = off L2 j := by
  unfold off
  apply F_length_shape
  simp only [shape]
  have := congrArg (List.take j) h
  simpa [shape, List.map_take] using this

theorem shape_set_cell (L : List (Option Arr)) (j i : Nat) (a : Arr) (v : Elem) (hj : L[j]? = some (some a)) :
    shape (L.set j (some (a.set i v))) = shape L := by
  rw [shape_set]
  exact set_of_getElem? (by simp [shape, hj])

theorem absL_set (L : List (Option Arr)) (j i : Nat) (a : Arr) (v : Elem) (hj : L[j]? = some (some a)) (hi : i < a.length)
    (h hi' t ti : Nat) :
    absL (L.set j (some (a.set i v))) h hi' t ti =
      (((F L).set (off L j + i) v).take (off L t + ti)).drop (off L h + hi') := by
  unfold absL
  rw [F_set_cell _ _ _ _ _ hj hi, off_shape (shape_set_cell L j i a v hj), off_shape (shape_set_cell L j i a v hj)]

theorem cleanL_set (L : List (Option Arr)) (j i : Nat) (a : Arr) (v : Elem) (hj : L[j]? = some (some a)) (hi : i < a.length)
    (h hi' : Nat) :
    cleanL (L.set j (some (a.set i v))) h hi' ↔ ∀ e ∈ ((F L).set (off L j + i) v).take (off L h + hi'), e = none := by
  unfold cleanL
  rw [F_set_cell _ _ _ _ _ hj hi, off_shape (shape_set_cell L j i a v hj)]

/-- `QInv`: cursor / size / node-table consistency of the segmented deque.  Nodes `0..nodeIndex` are allocated with
the recorded positive sizes, the rest are nil; both cursors point at an existing cell, head not after tail; the
aliases are the cursor nodes; the next allocation size is sane. -/
structure QInv (q : Q) : Prop where
  lenQ : (shape q.queues).length = q.nodeSize
  lenS : q.sizes.length = q.nodeSize
  niLt : q.nodeIndex < q.nodeSize
  alloc : ∀ j, j ≤ q.nodeIndex → ∃ n, (shape q.queues)[j]? = some (some n) ∧ q.sizes[j]? = some n ∧ 0 < n ∧ n < 1073741824
  free : ∀ j, q.nodeIndex < j → j < q.nodeSize → (shape q.queues)[j]? = some none ∧ q.sizes[j]? = some 0
  hle : q.hni ≤ q.tni
  tle : q.tni ≤ q.nodeIndex
  hq : q.headQueue = .node q.hni
  tq : q.tailQueue = .node q.tni
  hqs : q.sizes[q.hni]? = some q.hqs
  tqs : q.sizes[q.tni]? = some q.tqs
  hlt : q.hqi < q.hqs
  tlt : q.tqi < q.tqs
  ord : q.hni = q.tni → q.hqi ≤ q.tqi
  base : 1 ≤ q.baseNodeSize
  qsPos : 0 < q.queueSize
  qsLt : q.queueSize < 1073741824

/-- The node table: the nodes `0 .. nodeIndex` are allocated with the sizes `ns`, then come `k` nil slots. -/
structure Table (q : Q) (ns : List Nat) (k : Nat) : Prop where
  shp : shape q.queues = ns.map some ++ List.replicate k none
  szs : q.sizes = ns ++ List.replicate k 0
  ni : ns.length = q.nodeIndex + 1
  cap : q.nodeSize = ns.length + k
  bnd : ∀ n ∈ ns, 0 < n ∧ n < 1073741824
  base : 1 ≤ q.baseNodeSize

def TInv (q : Q) : Prop := ∃ ns k, Table q ns k

structure Cur (S : List Nat) (ni qi qs : Nat) (r : Ref) : Prop where
  ref : r = .node ni
  size : S[ni]? = some qs
  lt : qi < qs

theorem Table.alloc {q : Q} {ns : List Nat} {k : Nat} (T : Table q ns k) {j : Nat} (hj : j ≤ q.nodeIndex) :
    ∃ n, (shape q.queues)[j]? = some (some n) ∧ q.sizes[j]? = some n ∧ 0 < n ∧ n < 1073741824 := by
  have hl : j < ns.length := by rw [T.ni]; omega
  refine ⟨ns[j], ?_, ?_, T.bnd _ (List.getElem_mem hl)⟩
  · rw [T.shp, List.getElem?_append_left (by rwa [List.length_map]), List.getElem?_map, List.getElem?_eq_getElem hl]
    rfl
  · rw [T.szs, List.getElem?_append_left hl, List.getElem?_eq_getElem hl]

theorem Table.free {q : Q} {ns : List Nat} {k : Nat} (T : Table q ns k) {j : Nat} (h1 : q.nodeIndex < j)
    (h2 : j < q.nodeSize) : (shape q.queues)[j]? = some none ∧ q.sizes[j]? = some 0 := by
  have hl : ns.length ≤ j := by rw [T.ni]; omega
  have hk : j - ns.length < k := by rw [T.cap] at h2; omega
  constructor
  · rw [T.shp, List.getElem?_append_right (by rwa [List.length_map]), List.length_map, List.getElem?_replicate, if_pos hk]
  · rw [T.szs, List.getElem?_append_right hl, List.getElem?_replicate, if_pos hk]

theorem Cur.congr {S S' : List Nat} {ni qi qs : Nat} {r : Ref} (c : Cur S ni qi qs r) (h : S'[ni]? = S[ni]?) :
    Cur S' ni qi qs r := ⟨c.ref, h.trans c.size, c.lt⟩

theorem QInv.headCur {q : Q} (h : QInv q) : Cur q.sizes q.hni q.hqi q.hqs q.headQueue := ⟨h.hq, h.hqs, h.hlt⟩
theorem QInv.tailCur {q : Q} (h : QInv q) : Cur q.sizes q.tni q.tqi q.tqs q.tailQueue := ⟨h.tq, h.tqs, h.tlt⟩

theorem QInv.toTInv {q : Q} (h : QInv q) : TInv q := by
  have hl : (q.sizes.take (q.nodeIndex + 1)).length = q.nodeIndex + 1 :=
    List.length_take_of_le (by rw [h.lenS]; exact h.niLt)
  have hcap : q.nodeSize = q.nodeIndex + 1 + (q.nodeSize - (q.nodeIndex + 1)) := by have := h.niLt; omega
  refine ⟨q.sizes.take (q.nodeIndex + 1), q.nodeSize - (q.nodeIndex + 1), ?_, ?_, hl, by rwa [hl], ?_, h.base⟩
  · refine eq_append_replicate (by rw [List.length_map, hl, h.lenQ]; exact hcap) (fun j hj => ?_) (fun j hj hj2 => ?_)
    · rw [List.length_map, hl] at hj
      obtain ⟨n, a1, a2, _⟩ := h.alloc j (Nat.le_of_lt_succ hj)
      rw [a1, List.getElem?_map, List.getElem?_take_of_lt hj, a2]; rfl
    · rw [List.length_map, hl] at hj
      exact (h.free j hj (h.lenQ ▸ hj2)).1
  · refine eq_append_replicate (by rw [hl, h.lenS]; exact hcap) (fun j hj => ?_) (fun j hj hj2 => ?_)
    · rw [List.getElem?_take_of_lt (hl ▸ hj)]
    · rw [hl] at hj
      exact (h.free j hj (h.lenS ▸ hj2)).2
  · intro n hn
    obtain ⟨j, hj, e⟩ := (mem_take_iff _ _ _).mp hn
    obtain ⟨m, _, a2, a3⟩ := h.alloc j (Nat.le_of_lt_succ hj)
    rw [a2] at e
    cases e
    exact a3

theorem QInv.of {q : Q} (t : TInv q) (hc : Cur q.sizes q.hni q.hqi q.hqs q.headQueue)
    (tc : Cur q.sizes q.tni q.tqi q.tqs q.tailQueue) (hle : q.hni ≤ q.tni) (tle : q.tni ≤ q.nodeIndex)
    (ord : q.hni = q.tni → q.hqi ≤ q.tqi) (qp : 0 < q.queueSize) (ql : q.queueSize < 1073741824) : QInv q := by
  obtain ⟨ns, k, T⟩ := t
  refine ⟨?_, ?_, ?_, fun j => T.alloc, fun j => T.free, hle, tle, hc.ref, tc.ref, hc.size, tc.size, hc.lt, tc.lt, ord,
    T.base, qp, ql⟩
  · rw [T.shp, T.cap]; simp
  · rw [T.szs, T.cap]; simp
  · rw [T.cap, T.ni]; omega

theorem TInv.congr {q q' : Q} (t : TInv q) (h1 : shape q'.queues = shape q.queues) (h2 : q'.sizes = q.sizes)
    (h3 : q'.nodeIndex = q.nodeIndex) (h4 : q'.nodeSize = q.nodeSize) (h5 : q'.baseNodeSize = q.baseNodeSize) :
    TInv q' :=
  let ⟨ns, k, T⟩ := t
  ⟨ns, k, h1 ▸ T.shp, h2 ▸ T.szs, h3 ▸ T.ni, h4 ▸ T.cap, T.bnd, h5 ▸ T.base⟩

theorem TInv.node {q : Q} (t : TInv q) {j : Nat} (hj : j ≤ q.nodeIndex) :
    ∃ a, q.queues[j]? = some (some a) ∧ q.sizes[j]? = some a.length ∧ 0 < a.length ∧ a.length < 1073741824 ∧
      off q.queues (j + 1) = off q.queues j + a.length := by
  obtain ⟨ns, k, T⟩ := t
  obtain ⟨n, h1, h2, h3, h4⟩ := T.alloc hj
  obtain ⟨a, ha, rfl⟩ := shape_some h1
  obtain ⟨hl, he⟩ := List.getElem?_eq_some_iff.mp ha
  exact ⟨a, ha, h2, h3, h4, by rw [off_succ _ _ hl, he]; rfl⟩

theorem QInv.node {q : Q} (h : QInv q) {j : Nat} (hj : j ≤ q.nodeIndex) :
    ∃ a, q.queues[j]? = some (some a) ∧ q.sizes[j]? = some a.length ∧ 0 < a.length ∧ a.length < 1073741824 ∧
      off q.queues (j + 1) = off q.queues j + a.length := h.toTInv.node hj

theorem QInv.tailNode {q : Q} (h : QInv q) :
    ∃ a, q.queues[q.tni]? = some (some a) ∧ a.length = q.tqs ∧
      off q.queues (q.tni + 1) = off q.queues q.tni + q.tqs := by
  obtain ⟨a, h1, h2, _, _, h5⟩ := h.node h.tle
  have e : a.length = q.tqs := Option.some.inj (h2.symm.trans h.tqs)
  exact ⟨a, h1, e, e ▸ h5⟩

theorem QInv.headNode {q : Q} (h : QInv q) :
    ∃ a, q.queues[q.hni]? = some (some a) ∧ a.length = q.hqs ∧
      off q.queues (q.hni + 1) = off q.queues q.hni + q.hqs := by
  obtain ⟨a, h1, h2, _, _, h5⟩ := h.node (Nat.le_trans h.hle h.tle)
  have e : a.length = q.hqs := Option.some.inj (h2.symm.trans h.hqs)
  exact ⟨a, h1, e, e ▸ h5⟩

theorem QInv.lenQ' {q : Q} (h : QInv q) : q.queues.length = q.nodeSize := by
  rw [← shape_length]; exact h.lenQ

theorem QInv.pos {q : Q} (h : QInv q) :
    off q.queues q.hni + q.hqi ≤ off q.queues q.tni + q.tqi ∧
    off q.queues q.tni + q.tqi < off q.queues (q.tni + 1) ∧
    off q.queues (q.tni + 1) ≤ (F q.queues).length := by
  obtain ⟨_, _, _, st⟩ := h.tailNode
  obtain ⟨_, _, _, sh⟩ := h.headNode
  have hlt := h.hlt
  have tlt := h.tlt
  refine ⟨?_, by omega, off_le_length _ _⟩
  by_cases e : q.hni = q.tni
  · have := h.ord e; rw [e]; omega
  · have : off q.queues (q.hni + 1) ≤ off q.queues q.tni := off_mono _ (by have := h.hle; omega)
    omega

theorem QInv.setQueues {q : Q} (h : QInv q) {L' : List (Option Arr)} (hs : shape L' = shape q.queues) :
    QInv { q with queues := L' } :=
  .of (h.toTInv.congr hs rfl rfl rfl rfl) h.headCur h.tailCur h.hle h.tle h.ord h.qsPos h.qsLt

theorem QInv.setTail {q : Q} (h : QInv q) {L' : List (Option Arr)} (hs : shape L' = shape q.queues) {n i s : Nat} {r : Ref}
    (c : Cur q.sizes n i s r) (hn : n ≤ q.nodeIndex) (hle : q.hni ≤ n) (ho : q.hni = n → q.hqi ≤ i) :
    QInv { q with queues := L', tni := n, tqi := i, tailQueue := r, tqs := s } :=
  .of (h.toTInv.congr hs rfl rfl rfl rfl) h.headCur c hle hn ho h.qsPos h.qsLt

theorem QInv.setHead {q : Q} (h : QInv q) {L' : List (Option Arr)} (hs : shape L' = shape q.queues) {n i s : Nat} {r : Ref}
    (c : Cur q.sizes n i s r) (hle : n ≤ q.tni) (ho : n = q.tni → i ≤ q.tqi) :
    QInv { q with queues := L', hni := n, hqi := i, headQueue := r, hqs := s } :=
  .of (h.toTInv.congr hs rfl rfl rfl rfl) c h.tailCur hle h.tle ho h.qsPos h.qsLt

end Slock.Queue
