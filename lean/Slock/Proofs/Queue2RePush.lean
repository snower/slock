import Slock.Proofs.Queue2Wait
/-!
# RePushPriorityRingQueue, and what the stable-priority specification means
-/
namespace Slock.Queue2

def specSortInto (acc : List Slot) (l : List Slot) : List Slot := l.foldl (fun a x => specPushPrio x a) acc

def specSortPrio (l : List Slot) : List Slot := specSortInto [] l

theorem specSortInto_append (acc a b : List Slot) :
    specSortInto acc (a ++ b) = specSortInto (specSortInto acc a) b := by
  simp [specSortInto, List.foldl_append]

def SortedDesc (l : List Slot) : Prop := l.Pairwise (fun a b => prioOf a ≥ prioOf b)

theorem specPushPrio_perm (x : Slot) (l : List Slot) : (specPushPrio x l).Perm (x :: l) := specPushPrio_ord.perm l x

theorem mem_specPushPrio (x y : Slot) (l : List Slot) : y ∈ specPushPrio x l ↔ y = x ∨ y ∈ l :=
  (specPushPrio_perm x l).mem_iff.trans List.mem_cons

theorem SortedDesc.ord {l : List Slot} (h : SortedDesc l) : l.Pairwise (fun a b => ¬ prioOf b > prioOf a) := h.imp Nat.not_lt.mpr

theorem specPushPrio_sorted (x : Slot) (l : List Slot) (h : SortedDesc l) : SortedDesc (specPushPrio x l) :=
  (specPushPrio_ord.sorted l x h.ord).imp Nat.le_of_not_lt

/-- stability: among the elements of any one priority, `x` comes last and the rest keep their order -/
theorem specPushPrio_stable (x : Slot) (l : List Slot) (p : Nat) (h : SortedDesc l) :
    (specPushPrio x l).filter (fun y => prioOf y == p) =
      l.filter (fun y => prioOf y == p) ++ [x].filter (fun y => prioOf y == p) := by
  cases hp : prioOf x == p with
  | false => rw [specPushPrio_ord.filter_skip _ l x hp, List.filter_cons, hp]; simp
  | true =>
    rw [specPushPrio_ord.filter_stable _ l x h.ord hp fun y _ hy => by rw [beq_iff_eq.mp hp, beq_iff_eq.mp hy]; exact Nat.lt_irrefl p,
      List.filter_cons, hp]; rfl

theorem specSortInto_sorted (acc l : List Slot) (h : SortedDesc acc) : SortedDesc (specSortInto acc l) := by
  induction l generalizing acc with
  | nil => exact h
  | cons x l ih => exact ih _ (specPushPrio_sorted x acc h)

theorem specSortInto_perm (acc l : List Slot) : (specSortInto acc l).Perm (acc ++ l) := by
  induction l generalizing acc with
  | nil => simp [specSortInto]
  | cons x l ih =>
    refine (ih (specPushPrio x acc)).trans ?_
    refine ((specPushPrio_perm x acc).append_right l).trans ?_
    simp only [List.cons_append]
    exact (List.perm_middle (l₁ := acc) (a := x) (l₂ := l)).symm

theorem specSortInto_stable (acc l : List Slot) (p : Nat) (h : SortedDesc acc) :
    (specSortInto acc l).filter (fun y => prioOf y == p) =
      acc.filter (fun y => prioOf y == p) ++ l.filter (fun y => prioOf y == p) := by
  induction l generalizing acc with
  | nil => simp [specSortInto]
  | cons x l ih =>
    show (specSortInto (specPushPrio x acc) l).filter _ = _
    rw [ih _ (specPushPrio_sorted x acc h), specPushPrio_stable x acc p h]
    simp [List.filter_cons]
    split <;> simp

/-- `specSortPrio` IS the stable descending sort: sorted, a permutation, and order-preserving
within every priority class (these three determine it uniquely). -/
theorem stable_sort_spec (l : List Slot) :
    SortedDesc (specSortPrio l) ∧ (specSortPrio l).Perm l ∧
      ∀ p, (specSortPrio l).filter (fun y => prioOf y == p) = l.filter (fun y => prioOf y == p) := by
  unfold specSortPrio
  refine ⟨specSortInto_sorted [] l (by simp [SortedDesc]), ?_, ?_⟩
  · simpa using specSortInto_perm [] l
  · intro p
    simpa using specSortInto_stable [] l p (by simp [SortedDesc])

theorem pushAll_refines (grow : Nat → Nat) (hg : GrowOK grow) (l : List Slot) (p : PRing) (h : p.Inv)
    (hl : ∀ s ∈ l, s ≠ none) :
    ∃ p', pushAll grow p l = .ok p' ∧ p'.Inv ∧ p'.abs = specSortInto p.abs l := by
  induction l generalizing p with
  | nil => exact ⟨p, rfl, h, rfl⟩
  | cons x l ih =>
    cases x with
    | none => exact absurd rfl (hl none (by simp))
    | some e =>
      obtain ⟨p1, h1, h2, h3, _⟩ := PRing.push_refines grow hg p e h
      obtain ⟨p2, g1, g2, g3⟩ := ih p1 h2 (fun s hs => hl s (by simp [hs]))
      refine ⟨p2, ?_, g2, ?_⟩
      · simp only [pushAll, h1, g1]
      · rw [g3, h3]; rfl

theorem drainInto_ring (grow : Nat → Nat) (fuel : Nat) (r : Ring) (p : PRing) (h : r.Inv)
    (hl : ∀ s ∈ r.abs, s ≠ none) (hf : r.abs.length < fuel) :
    drainInto grow fuel (.ring r) p = pushAll grow p r.abs := by
  induction fuel generalizing r p with
  | zero => omega
  | succ fuel ih =>
    obtain ⟨a, b, c⟩ := Ring.pop_refines r h
    cases hab : r.abs with
    | nil =>
      rw [hab] at c
      simp only [drainInto, WRing.pop, c, List.headD_nil, pushAll]
    | cons s t =>
      rw [hab] at b c
      simp only [List.tail_cons] at b
      simp only [List.headD_cons] at c
      cases s with
      | none => exact absurd rfl (hl none (by simp [hab]))
      | some e =>
        simp only [drainInto, WRing.pop, c, pushAll]
        cases p.push grow (some e) with
        | panic => rfl
        | ok p' =>
          simp only
          rw [ih r.pop.1 p' a (fun s hs => hl s (by rw [hab]; rw [b] at hs; simp [hs]))
            (by rw [b]; rw [hab] at hf; simp at hf; omega), b]

theorem drainInto_nil (grow : Nat → Nat) (fuel : Nat) (p : PRing) :
    drainInto grow fuel .nil p = .ok p := by
  cases fuel <;> simp [drainInto, WRing.pop]

/-- RePushPriorityRingQueue in FIFO mode, no nil lock queued: switches to priority mode and the new
content is the stable descending sort of the old content.  (In priority mode it does nothing.) -/
theorem WaitQ.rePush_refines (grow : Nat → Nat) (hg : GrowOK grow) (q : WaitQ) (h : q.Inv)
    (hm : 0 ≤ q.fastIndex) (hnn : ∀ s ∈ q.abs, s ≠ none) :
    ∃ q', q.rePush grow = .ok q' ∧ q'.Inv ∧ q'.fastIndex < 0 ∧ q'.abs = specSortPrio q.abs := by
  obtain ⟨hr, hfast, hnone, hge, hmode⟩ := h
  have hneg : ¬ q.fastIndex < 0 := by omega
  obtain ⟨p1, a1, a2, a3⟩ := pushAll_refines grow hg q.fastPart (PRing.new 16) (PRing.new_inv 16)
    (fun s hs => hnn s (by simp [WaitQ.abs, hs]))
  rw [PRing.new_abs] at a3
  have hdrain : ∃ p2, drainInto grow (q.ring.len.toNat + 1) q.ring p1 = .ok p2 ∧ p2.Inv ∧
      p2.abs = specSortInto p1.abs q.ring.abs := by
    cases hw : q.ring with
    | prio p => exact absurd (hmode.mpr ⟨p, hw⟩) hneg
    | nil => exact ⟨p1, drainInto_nil _ _ _, a2, rfl⟩
    | ring r =>
      rw [hw] at hr
      have hl : ∀ s ∈ r.abs, s ≠ none := fun s hs => hnn s (by simp [WaitQ.abs, hw, WRing.abs, hs])
      have hlen : r.abs.length < (WRing.ring r).len.toNat + 1 := by
        have := Ring.len_refines r hr
        simp only [WRing.len, this]; omega
      rw [drainInto_ring grow _ r p1 hr hl hlen]
      exact pushAll_refines grow hg r.abs p1 a2 hl
  obtain ⟨p2, b1, b2, b3⟩ := hdrain
  refine ⟨⟨(match q.fastActive with | some f => some ⟨[], f.cap⟩ | none => q.fast), -1, .prio p2⟩,
    ?_, ?_, by simp, ?_⟩
  · unfold WaitQ.rePush
    rw [if_neg hneg]
    have : q.fastSlice = q.fastPart := rfl
    simp only [this, a1, b1]
    cases q.fastActive <;> rfl
  · refine ⟨b2, ?_, ?_, by simp, ?_⟩
    · intro f hf
      cases hfa : q.fastActive with
      | some f0 =>
        rw [hfa] at hf; simp at hf; subst hf; simp
      | none =>
        rw [hfa] at hf
        have := (hfast f hf).1
        simp only; omega
    · intro _; simp
    · simp
  · rw [WaitQ.abs_prio _ (by simp)]
    simp only [WaitQ.abs, WRing.abs, b3, a3, specSortPrio, specSortInto_append]

theorem WaitQ.rePush_prio (grow : Nat → Nat) (q : WaitQ) (hm : q.fastIndex < 0) :
    q.rePush grow = .ok q := by
  simp [WaitQ.rePush, hm]

end Slock.Queue2
