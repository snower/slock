import Slock.Model.Engine2
/-! Clock-tick simulation: what the sweeper does with one wheel entry (`W.visitTimeout`, `W.fireTimeout`, `W.visitExpire`,
`W.fireExpire`), case by case, with names for the record edits and the intermediate states of the two firing chains. -/
namespace Slock.SimTick
open Slock Slock.Engine2

def bumpT (r : Rec) : Rec := { r with tChecked := r.tChecked + 1 }
def unlongT (r : Rec) : Rec := { r with tSched := r.tSched.map (fun s => { s with long := false }) }
def tombR (r : Rec) : Rec := { r with timeouted := true }
def ctrW (y : Engine.Counters) : Engine.Counters := { y with waitCount := y.waitCount - 1 }
def ctrT (y : Engine.Counters) : Engine.Counters := { y with timeoutedCount := y.timeoutedCount + 1 }

def bumpE (r : Rec) : Rec := { r with eChecked := r.eChecked + 1 }
def exR (r : Rec) : Rec := { r with expried := true }
def subL (n : Nat) (k : Key) : Key := { k with locked := k.locked - n }
def ctrE (n : Nat) (y : Engine.Counters) : Engine.Counters := { y with lockedCount := y.lockedCount - n, expriedCount := y.expriedCount + 1 }

/-- a live request just before the sweeper drops its reference: tombstoned, the wait queue settled, `WaitCount--` -/
def preT (w : W) (rid : Nat) : W := ((w.modR rid tombR).modK (·.settleWait)).ctr ctrW

/-- a live hold just before `RemoveLock` -/
def preE (w : W) (rid : Nat) : W :=
  ((w.modR rid exR).modK (subL (w.k.getR rid).depth)).when (w.k.getR rid).isAof (·.pushUnLockAof rid (w.k.getR rid).cmd false false AOF_EXPRIED)

def endE (w : W) (rid : Nat) : W := (preE w rid).modK (·.removeLock rid)

def answer (w : W) (f : Engine.Counters → Engine.Counters) (c : Engine.Cmd) (res : Nat) : W := (w.ctr f).reply c res 0 (w.ctr f).lockData

theorem fireTimeout_broken (w : W) (rid : Nat) (hT : w.k.hasT rid = false) : w.fireTimeout rid = w.wheelBroken := by
  unfold W.fireTimeout
  simp only [hT, Bool.not_false, if_true]

theorem fireTimeout_tomb (w : W) (rid : Nat) (hT : w.k.hasT rid = true) (hl : (w.k.getR rid).timeouted = true) : w.fireTimeout rid = w.dropT rid := by
  unfold W.fireTimeout
  simp only [hT, hl, Bool.not_true, Bool.false_eq_true, if_false, if_true]

theorem fireTimeout_live_eq (w : W) (rid : Nat) (hT : w.k.hasT rid = true) (hl : (w.k.getR rid).timeouted = false) :
    w.fireTimeout rid =
      (answer ((preT w rid).dropT rid) ctrT { (w.k.getR rid).cmd with conn := (w.k.getR rid).conn } Engine.RESULT_TIMEOUT).wake := by
  unfold W.fireTimeout
  simp only [hT, hl, Bool.not_true, Bool.false_eq_true, if_false]
  rfl

theorem visitTimeout_dead (w : W) (slot : Bool) (rid : Nat) (h : w.k.hasT rid = false ∨ (w.k.getR rid).timeouted = true) :
    w.visitTimeout slot rid = some (w.fireTimeout rid) := by
  unfold W.visitTimeout
  cases hT : w.k.hasT rid with
  | false => rw [fireTimeout_broken w rid hT]; simp only [Bool.not_false, if_true]
  | true =>
    have hl : (w.k.getR rid).timeouted = true := h.resolve_left (by rw [hT]; simp)
    rw [fireTimeout_tomb w rid hT hl]
    simp only [hl, Bool.not_true, Bool.false_eq_true, if_false, if_true]

theorem visitT_live_cases (w : W) (slot : Bool) (rid : Nat) (hT : w.k.hasT rid = true) (hl : (w.k.getR rid).timeouted = false) :
    w.visitTimeout slot rid = if slot && (w.k.getR rid).timeoutT > w.db.now then some ((w.modR rid bumpT).addTimeOut rid) else none := by
  unfold W.visitTimeout
  simp only [hT, hl, Bool.not_true, Bool.false_eq_true, if_false]
  rfl

theorem fireExpire_broken (w : W) (rid : Nat) (hT : w.k.hasE rid = false) : w.fireExpire rid = w.wheelBroken := by
  unfold W.fireExpire
  simp only [hT, Bool.not_false, if_true]

theorem fireExpire_ended (w : W) (rid : Nat) (hT : w.k.hasE rid = true) (hl : (w.k.getR rid).expried = true) : w.fireExpire rid = w.dropE rid := by
  unfold W.fireExpire
  simp only [hT, hl, Bool.not_true, Bool.false_eq_true, if_false, if_true]

/-- a follower re-arms a replicated hold 30 s ahead instead of ending it: the case equation (`Engine2.fireExpire_deferred` in Engine2Recs
spells out the fields of the result, for C10) -/
theorem fireExpire_deferred (w : W) (rid : Nat) (hT : w.k.hasE rid = true) (hl : (w.k.getR rid).expried = false) (hdf : deferExpiry w.db (w.k.getR rid) = true) :
    w.fireExpire rid = (w.modR rid (fun r => { r with expT := w.db.now + 30 })).addExpried rid := by
  unfold W.fireExpire
  simp only [hT, hl, hdf, Bool.not_true, Bool.false_eq_true, if_false, if_true]

theorem fireExpire_live_eq (w : W) (rid : Nat) (hT : w.k.hasE rid = true) (hl : (w.k.getR rid).expried = false) (hdf : deferExpiry w.db (w.k.getR rid) = false) :
    w.fireExpire rid = (answer ((endE w rid).dropE rid) (ctrE (w.k.getR rid).depth)
      { (w.k.getR rid).cmd with conn := (w.k.getR rid).conn } Engine.RESULT_EXPRIED).wake := by
  unfold W.fireExpire
  simp only [hT, hl, hdf, Bool.not_true, Bool.false_eq_true, if_false]
  rfl

theorem visitExpire_dead (w : W) (slot : Bool) (rid : Nat) (h : w.k.hasE rid = false ∨ (w.k.getR rid).expried = true) :
    w.visitExpire slot rid = some (w.fireExpire rid) := by
  unfold W.visitExpire
  cases hT : w.k.hasE rid with
  | false => rw [fireExpire_broken w rid hT]; simp only [Bool.not_false, if_true]
  | true =>
    have hl : (w.k.getR rid).expried = true := h.resolve_left (by rw [hT]; simp)
    rw [fireExpire_ended w rid hT hl]
    simp only [hl, Bool.not_true, Bool.false_eq_true, if_false, if_true]

theorem visitE_live_cases (w : W) (slot : Bool) (rid : Nat) (hT : w.k.hasE rid = true) (hl : (w.k.getR rid).expried = false) :
    w.visitExpire slot rid = if slot && (w.k.getR rid).expT > w.db.now then some ((w.modR rid bumpE).addExpried rid) else none := by
  unfold W.visitExpire
  simp only [hT, hl, Bool.not_true, Bool.false_eq_true, if_false]
  rfl

end Slock.SimTick
