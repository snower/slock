import Slock.Proofs.Engine2Basic
import Slock.Proofs.Engine2Closed
/-! Stage-2 engine: what an operation is made of. Every helper of `Model/Engine2.lean`, every LOCK / UNLOCK branch and the wake
pass (the sweeper's visits and firings: `Engine2Step`, `Sweep.chain`) are chains of a dozen primitive steps on the working state (`Prim`): one lock record is
edited (`REdit` lists the edits), freed or created; the queue fields, `locked`, `waited` of the key record change; the value cell is
written; a reply, a counter, a journal record; a wheel entry is armed; the key record is reclaimed. A relation on working states that
contains the primitive steps contains every operation (`Chain.ind`): an invariant says what it has to say about each primitive,
once. The constructors carry what the code has tested before the step. -/
namespace Slock.Engine2
open Slock.Engine (has F_FROM_AOF)

/-- The edits the engine makes to one lock record (arming a wheel entry apart: `Prim.addTimeOut`, `Prim.schedExpried`). The flag:
`true` only for the edits that are mere book-keeping of the value frame and the journal (`data`, `aofData`, `isAof`). -/
inductive REdit : Bool → (Rec → Rec) → Prop
  | data {b : Bool} : REdit b fun r => { r with data := none }
  | aofData {b : Bool} (x : Bool) : REdit b fun r => { r with aofData := x }
  | isAof {b : Bool} (x : Bool) : REdit b fun r => { r with isAof := x }
  | tomb : REdit false fun r => { r with timeouted := true }
  | expire : REdit false fun r => { r with expried := true }
  | depth (g : Nat → Nat) : REdit false fun r => { r with depth := g r.depth }
  | count (g : Nat → Nat) : REdit false fun r => { r with refCount := g r.refCount }
  | conn (n : Nat) : REdit false fun r => { r with conn := n }
  | clearT : REdit false fun r => { r with tSched := none }
  | clearE : REdit false fun r => { r with eSched := none }
  | backoffT : REdit false fun r => { r with tChecked := r.tChecked + 1 }
  | backoffE : REdit false fun r => { r with eChecked := r.eChecked + 1 }
  | expT (n : Nat) : REdit false fun r => { r with expT := n }
  | collect : REdit false fun r => { r with tSched := r.tSched.map fun s => { s with long := false } }
  | upd (db : DB) (sole : Bool) (c : Cmd) : REdit false (updF db sole c)
  | hold (db : DB) (k : Key) : REdit false (addLockF db k)

theorem REdit.rid {b : Bool} {f : Rec → Rec} (hf : REdit b f) (r : Rec) : (f r).rid = r.rid := by
  cases hf
  case upd => unfold updF; simp only []; split <;> split <;> rfl
  all_goals rfl

/-- the key record up to its queue fields and `waited` -/
structure Key.Shape (k' k : Key) : Prop where
  recs : k'.recs = k.recs
  key : k'.key = k.key
  cell : k'.cell = k.cell
  locked : k'.locked = k.locked

/-- One primitive step of an operation whose command came with the value frame `data`. Two flags say which steps a chain is made of:
`b = true` — book-keeping only: no reference count, queue, wheel entry, `waited` or record changes (value frame, journal, `locked`,
counters and replies do); `q = true` — quiet only: no reply, the value cell (its journalling bit apart) and `locked` as they were, the
key record not reclaimed. A step that is not book-keeping has `b = false`, one that is not quiet `q = false`. -/
inductive Prim (data : Option Bytes) : Bool → Bool → W → W → Prop
  | edit {b q : Bool} (w : W) (rid : Nat) (f : Rec → Rec) (hf : REdit b f) : Prim data b q w (w.modR rid f)
  | free {q : Bool} (w : W) (rid : Nat) : Prim data false q w (w.modK (·.free rid))
  | shape {q : Bool} (w : W) (k' : Key) (h : k'.Shape w.k) : Prim data false q w { w with k := k' }
  | locked {b : Bool} (w : W) (n : Nat) : Prim data b false w { w with k := { w.k with locked := n } }
  /-- the value operation: only with a frame, the command's own or the one a queued request kept -/
  | cell {b : Bool} (w : W) (c' : Option Slock.Value.Cell) (h : data.isSome = true ∨ ∃ x, (w.k.getR x).data.isSome = true) :
      Prim data b false w { w with k := { w.k with cell := c' } }
  | cellAof {b q : Bool} (w : W) (c : Slock.Value.Cell) (h : w.k.cell = some c) :
      Prim data b q w { w with k := { w.k with cell := some { c with isAof := true } } }
  | newLock {q : Bool} (w : W) (c : Cmd) : Prim data false q w (w.newLock c data).1
  | reply {b : Bool} (w : W) (c : Cmd) (x y : Nat) (d : Option Bytes) : Prim data b false w (w.reply c x y d)
  | out {b : Bool} (w : W) (o : List Reply) (h : w.out = []) : Prim data b false w { w with out := o }
  | ctr {b q : Bool} (w : W) (f : Counters → Counters) : Prim data b q w (w.ctr f)
  /-- the error flag: the sweeper found no entry where it held one, or the value operation failed -/
  | panic {b q : Bool} (w : W) : Prim data b q w w.wheelBroken
  | journal {b q : Bool} (w : W) (jr : JournalRec) (h : w.db.leader = true) :
      Prim data b q w { w with db := { w.db with aofOut := w.db.aofOut ++ [jr] } }
  | addTimeOut {q : Bool} (w : W) (rid : Nat) : Prim data false q w (w.addTimeOut rid)
  | schedExpried {q : Bool} (w : W) (rid : Nat) : Prim data false q w (w.schedExpried rid)
  | reclaim (w : W) (hg : w.gone = false) (h0 : w.k.refCount = 0) : Prim data false false w w.removeIfZero

/-- `w` is `w0` after primitive steps; `Chain data false false` is every chain -/
inductive Chain (data : Option Bytes) (b q : Bool) (w0 : W) : W → Prop
  | refl : Chain data b q w0 w0
  | tail {w w' : W} : Chain data b q w0 w → Prim data b q w w' → Chain data b q w0 w'

variable {data : Option Bytes} {b q : Bool} {w0 w : W}

theorem Chain.ind {J : W → Prop} (hp : ∀ w w', Prim data b q w w' → J w → J w') {w' : W} (c : Chain data b q w w') (h : J w) : J w' := by
  induction c with
  | refl => exact h
  | tail _ p ih => exact hp _ _ p ih

theorem Chain.trans {w' : W} (c1 : Chain data b q w0 w) (c2 : Chain data b q w w') : Chain data b q w0 w' :=
  c2.ind (J := Chain data b q w0) (fun _ _ p h => h.tail p) c1

theorem Chain.nil (data : Option Bytes) (w : W) : Chain data false false w w := .refl

theorem frameOf_isSome {c : Cmd} {d : Option Bytes} (h : (frameOf c d).isSome = true) : d.isSome = true := by
  unfold frameOf at h; split at h
  · exact h
  · exact absurd h (by simp)

namespace Chain

theorem modR (h : Chain data b q w0 w) (rid : Nat) {f : Rec → Rec} (hf : REdit b f) : Chain data b q w0 (w.modR rid f) := h.tail (.edit w rid f hf)
theorem ctr (h : Chain data b q w0 w) (f : Counters → Counters) : Chain data b q w0 (w.ctr f) := h.tail (.ctr w f)
theorem bumpErr (h : Chain data b q w0 w) : Chain data b q w0 w.bumpErr := h.ctr _
theorem wheelBroken (h : Chain data b q w0 w) : Chain data b q w0 w.wheelBroken := h.tail (.panic w)
theorem when (h : Chain data b q w0 w) (c : Bool) (f : W → W) (hf : ∀ {w'}, Chain data b q w0 w' → Chain data b q w0 (f w')) :
    Chain data b q w0 (w.when c f) := by
  cases c
  · exact h
  · exact hf h

section loud
variable (h : Chain data b false w0 w)
include h
theorem reply (c : Cmd) (x y : Nat) (d : Option Bytes) : Chain data b false w0 (w.reply c x y d) := h.tail (.reply w c x y d)
theorem setOut (o : List Reply) (ho : w.out = [] := by rfl) : Chain data b false w0 { w with out := o } := h.tail (.out w o ho)
theorem setLocked (f : Nat → Nat) : Chain data b false w0 (w.modK fun k => { k with locked := f k.locked }) := h.tail (.locked w _)
end loud

section notBook
variable (h : Chain data false q w0 w)
include h

theorem setK (k' : Key) (hk : k'.Shape w.k) : Chain data false q w0 { w with k := k' } := h.tail (.shape w k' hk)
theorem ref (rid : Nat) : Chain data false q w0 (w.ref rid) := h.modR rid (.count (· + 1))
theorem unrefOnly (rid : Nat) : Chain data false q w0 (w.modK (·.unrefOnly rid)) := h.modR rid (.count decU8)
theorem addTimeOut (rid : Nat) : Chain data false q w0 (w.addTimeOut rid) := h.tail (.addTimeOut w rid)
theorem schedExpried (rid : Nat) : Chain data false q w0 (w.schedExpried rid) := h.tail (.schedExpried w rid)
theorem newLock (c : Cmd) : Chain data false q w0 (w.newLock c data).1 := h.tail (.newLock w c)
theorem collectT (rid : Nat) : Chain data false q w0 (w.collectT rid) := h.modR rid .collect

omit h in
/-- `KClosed` at "a chain reaches the state with this key record": the queue helpers need no walk of their own -/
theorem closed (w : W) : KClosed fun k => Chain data false q w0 { w with k := k } where
  unref k x c := by
    have c1 := c.unrefOnly x
    unfold Key.unref
    simp only []
    split
    · exact c1.tail (.free _ x)
    · exact c1
  locks k l p c' c := c.setK _ ⟨rfl, rfl, rfl, rfl⟩
  wait k l p c' b c := c.setK _ ⟨rfl, rfl, rfl, rfl⟩

theorem getWaitLock : Chain data false q w0 (w.modK (·.getWaitLock.1)) := (closed w).getWaitLock h
theorem clearWaited : Chain data false q w0 (w.modK Engine2.clearWaited) := h.setK _ ⟨rfl, rfl, rfl, rfl⟩
theorem settleWait : Chain data false q w0 (w.modK (·.settleWait)) :=
  (closed w).settleWait (fun _ _ c => c.setK _ ⟨rfl, rfl, rfl, rfl⟩) h
theorem addWaitLock (rid : Nat) : Chain data false q w0 (w.modK (·.addWaitLock rid)) :=
  (closed w).addWaitLock (fun _ _ c => c.setK _ ⟨rfl, rfl, rfl, rfl⟩) (fun _ x c => c.modR x (.count (· + 1))) h rid
theorem removeLock (rid : Nat) : Chain data false q w0 (w.modK (·.removeLock rid)) :=
  have h1 := h.modR rid (.depth fun _ => 0)
  (closed w).removeLock (fun _ _ c => c.setK _ ⟨rfl, rfl, rfl, rfl⟩) rid h1 (h1.unrefOnly rid)
theorem addLock (rid : Nat) : Chain data false q w0 (w.addLock rid) :=
  (closed w).addLock (fun _ _ c => c.setK _ ⟨rfl, rfl, rfl, rfl⟩) rid _ (h.modR rid (.hold w.db w.k))

theorem removeLongT (rid : Nat) : Chain data false q w0 (w.removeLongT rid) := (h.modR rid .clearT).unrefOnly rid
theorem removeLongE (rid : Nat) : Chain data false q w0 (w.removeLongE rid) := (h.modR rid .clearE).unrefOnly rid
theorem dropLongT (rid : Nat) : Chain data false q w0 (w.dropLongT rid) := h.when _ _ (·.removeLongT rid)
theorem dropLongE (rid : Nat) : Chain data false q w0 (w.dropLongE rid) := h.when _ _ (·.removeLongE rid)
end notBook

section book
variable (h : Chain data b q w0 w)
include h

theorem aofLockData (x : Bool) (rid : Nat) : Chain data b q w0 { w with k := (Engine2.aofLockData w.k x rid).1 } := by
  unfold Engine2.aofLockData
  split
  · exact h.modR rid (.aofData false)
  · split
    · rename_i c hc
      split
      · exact h.tail (.cellAof w c hc)
      · exact h
    · exact h

theorem pushLockAof (rid flag : Nat) : Chain data b q w0 (w.pushLockAof rid flag) := by
  unfold W.pushLockAof
  split
  · exact h
  · rename_i hl
    simp only []
    split
    · exact h.modR rid (.isAof true)
    · exact ((h.tail (.journal w _ (by simpa using hl))).aofLockData true rid).modR rid (.isAof true)

theorem pushLockAofN (n rid : Nat) : Chain data b q w0 (W.pushLockAofN n w rid) := by
  induction n generalizing w with
  | zero => exact h
  | succ n ih => exact ih (h.pushLockAof rid 0)

theorem pushUnLockAof (rid : Nat) (lc : Cmd) (fa ia : Bool) (flag : Nat) : Chain data b q w0 (w.pushUnLockAof rid lc fa ia flag) := by
  unfold W.pushUnLockAof
  split
  · exact h
  · rename_i hl
    split
    · exact h.modR rid (.isAof ia)
    · exact ((h.tail (.journal w _ (by simpa using hl))).aofLockData false rid).modR rid (.isAof ia)

theorem journalLock (rid flag : Nat) : Chain data b q w0 (w.journalLock rid flag) := h.when _ _ (·.pushLockAof rid flag)
theorem journalUnlock (rid : Nat) (fa ia : Bool) (flag : Nat) : Chain data b q w0 (w.journalUnlock rid fa ia flag) :=
  h.when _ _ (·.pushUnLockAof rid _ fa ia flag)
end book

section bookLoud
variable (h : Chain data b false w0 w)
include h

theorem procData (ct : Slock.Value.CmdType) (c : Cmd) (fr : Option Bytes) (rid : Nat)
    (ho : fr.isSome = true → data.isSome = true ∨ ∃ x, (w.k.getR x).data.isSome = true) : Chain data b false w0 (w.procData ct c fr rid) := by
  unfold W.procData
  split
  · exact h
  · simp only []
    split
    · exact h.tail (.panic w)
    · rename_i c' _
      have h1 := h.tail (.cell w c' (ho rfl))
      split
      · exact h1.modR rid (.aofData true)
      · exact h1

theorem procData_kept (ct : Slock.Value.CmdType) (x rid : Nat) :
    Chain data b false w0 (w.procData ct (w.k.getR x).cmd (frameOf (w.k.getR x).cmd (w.k.getR x).data) rid) :=
  h.procData _ _ _ _ fun hs => Or.inr ⟨x, frameOf_isSome hs⟩

theorem grantNoHold (rid : Nat) : Chain data b false w0 (w.grantNoHold rid) :=
  (((h.procData_kept .lock rid rid).when _ _ (·.pushLockAof rid 0)).modR rid .data)
end bookLoud

section notBook2
variable (h : Chain data false q w0 w)
include h
theorem addExpried (rid : Nat) : Chain data false q w0 (w.addExpried rid) := (h.schedExpried rid).when _ _ (·.pushLockAofN _ rid)

theorem updateLocked (rid : Nat) (c : Cmd) : Chain data false q w0 (w.updateLocked rid c) :=
  ((h.modR rid (.upd _ _ c)).when _ _ fun h' => ((h'.removeLongE rid).addExpried rid).ref rid).modR rid (.conn c.conn)
end notBook2

variable (h : Chain data false false w0 w)
include h

theorem removeIfZero : Chain data false false w0 w.removeIfZero := by
  by_cases hc : (!w.gone && w.k.refCount == 0) = true
  · simp only [Bool.and_eq_true, Bool.not_eq_true', beq_iff_eq] at hc
    exact h.tail (.reclaim w hc.1 hc.2)
  · unfold W.removeIfZero; rw [if_neg hc]; exact h

theorem freeCheck (rid : Nat) : Chain data false false w0 (w.freeCheck rid) := (h.tail (.free w rid)).removeIfZero
theorem unrefCheck (rid : Nat) : Chain data false false w0 (w.unrefCheck rid) := (h.unrefOnly rid).when _ _ (·.freeCheck rid)
theorem dropT (rid : Nat) : Chain data false false w0 (w.dropT rid) := (h.modR rid .clearT).unrefCheck rid
theorem dropE (rid : Nat) : Chain data false false w0 (w.dropE rid) := (h.modR rid .clearE).unrefCheck rid

theorem grant (rid : Nat) : Chain data false false w0 (w.grant rid) :=
  ((((((h.addLock rid).setLocked (· + 1)).procData_kept .lock rid rid).modR rid .data).addExpried rid).ref rid).ctr _ |>.reply _ _ _ _

theorem wakeOne (rid : Nat) : Chain data false false w0 (w.wakeOne rid) := by
  unfold W.wakeOne
  simp only []
  have h2 := ((h.modR rid .tomb).dropLongT rid).ctr fun c => { c with waitCount := c.waitCount - 1 }
  split
  · exact h2.grant rid
  · exact ((h2.grantNoHold rid).ctr _).reply _ _ _ _

theorem wakePass (fuel : Nat) : Chain data false false w0 (W.wakePass fuel w) := by
  induction fuel generalizing w with
  | zero => exact h
  | succ n ih =>
    unfold W.wakePass
    simp only []
    split
    · exact h.getWaitLock.clearWaited.removeIfZero
    · split
      · exact h.getWaitLock
      · exact ih (h.getWaitLock.wakeOne _)

theorem wake : Chain data false false w0 w.wake := h.when _ _ (·.wakePass _)

end Chain

/-- where a LOCK starts: the pre-checks look at the key record as it is, the other branches at the record `GetOrNewLockManager` returns -/
def lockBase (db : DB) (c : Cmd) : LockBranch → W
  | .p0a | .p0b => db.openKey c.key
  | _ => db.enter c.key

/-- for ANY branch `b`, classified or not, and with no guard; `applyLock_node` says more and needs the classifier's facts and the reference counts -/
theorem applyLock_chain (db : DB) (c : Cmd) (data : Option Bytes) (b : LockBranch) : Chain data false false (lockBase db c b) (applyLock db c data b) := by
  have ho : Chain data false false (db.openKey c.key) (db.openKey c.key) := .refl
  have he : Chain data false false (db.enter c.key) (db.enter c.key) := .refl
  cases b with
  | p0a => exact ho.reply _ _ _ _
  | p0b => exact ho.setOut _
  | stateError => exact he.removeIfZero.reply _ _ _ _
  | «show» _ | updateEqual _ | relockNoHold _ | relockRefused _ | unlockedWaitRefused => exact he.reply _ _ _ _
  | updateEqualData h => exact (he.procData _ _ _ _ fun hs => Or.inl (frameOf_isSome hs)).reply _ _ _ _
  | update h =>
    exact ((((he.procData _ _ _ _ fun hs => Or.inl (frameOf_isSome hs)).updateLocked h _).when _ _ (·.journalLock h AOF_UPDATED)).reply _ _ _ _).wake
  | relock h =>
    exact (((((((he.modR h (.depth (· + 1))).setLocked (· + 1)).procData _ _ _ _ fun hs => Or.inl (frameOf_isSome hs)).updateLocked h c).journalLock h
      AOF_UPDATED).ctr _).reply _ _ _ _).wake
  | grant => exact ((he.newLock c).grant _).when _ _ (·.wake)
  | grantNoHold => exact (((((he.newLock c).grantNoHold _).freeCheck _).ctr _).reply _ _ _ _).when _ _ (·.wake)
  | queue => exact ((((he.newLock c).addWaitLock _).addTimeOut _).ref _).ctr fun x => { x with waitCount := x.waitCount + 1 }
  | timeout => exact ((he.newLock c).freeCheck _).reply _ _ _ _

theorem applyUnlock_chain (db : DB) (c : Cmd) (data : Option Bytes) (b : UnlockBranch) : Chain data false false (db.openKey c.key) (applyUnlock db c data b) := by
  have ho : Chain data false false (db.openKey c.key) (db.openKey c.key) := .refl
  cases b with
  | noManager => exact ho.bumpErr.setOut _
  | stateError | notLocked | unown | cancelNone => exact ho.bumpErr.reply _ _ _ _
  | cancel x => exact ((((((((ho.modR x .tomb).dropLongT x).settleWait).ctr _).removeIfZero).ctr _).reply _ _ _ _).reply _ _ _ _).wake
  | dec h c' =>
    exact ((((((ho.modR h (.depth (· - 1))).setLocked (· - 1)).procData _ _ _ _ fun hs => Or.inl (frameOf_isSome hs)).journalUnlock h _ true AOF_UPDATED).ctr
      _).reply _ _ _ _).wake
  | release h c' =>
    exact (((((((((ho.modR h .expire).setLocked (· - _)).procData _ _ _ _ fun hs => Or.inl (frameOf_isSome hs)).dropLongE h).journalUnlock h _ false 0).removeLock
      h).when _ _ (·.freeCheck h)).ctr _).reply _ _ _ _).wake

/-- the sweeper's critical sections: the database a section starts from, the key it opens, the working state it stores back -/
inductive Sweep : DB → Nat → W → Prop
  | visitT (db : DB) (slot : Bool) (e : Ent) (w' : W) (h : (db.openKey e.key).visitTimeout slot e.rid = some w') : Sweep db e.key w'
  | collectT (db : DB) (e : Ent) (h : (db.openKey e.key).visitTimeout false e.rid = none) : Sweep db e.key ((db.openKey e.key).collectT e.rid)
  | visitE (db : DB) (slot : Bool) (e : Ent) (w' : W) (h : (db.openKey e.key).visitExpire slot e.rid = some w') : Sweep db e.key w'
  | fireT (db : DB) (e : Ent) : Sweep db e.key ((db.openKey e.key).fireTimeout e.rid)
  | fireE (db : DB) (e : Ent) : Sweep db e.key ((db.openKey e.key).fireExpire e.rid)

inductive Sect (data : Option Bytes) : DB → Nat → W → Prop
  | lock (db : DB) (c : Cmd) : Sect data db c.key (applyLock db c data (classifyLock db c data))
  | unlock (db : DB) (c : Cmd) : Sect data db c.key (applyUnlock db c data (classifyUnlock db c))
  | sweep {db : DB} {key : Nat} {w' : W} (s : Sweep db key w') : Sect data db key w'

/-- what a sweep makes of the database: sections of the sweeper, one after the other -/
inductive Swept (db : DB) : DB → Prop
  | refl : Swept db db
  | sweep {d : DB} {key : Nat} {w' : W} : Swept db d → Sweep d key w' → Swept db w'.commit

theorem Swept.ind {J : DB → Prop} (hs : ∀ d key w', Sweep d key w' → J d → J w'.commit) {db db' : DB} (m : Swept db db') (h : J db) : J db' := by
  induction m with
  | refl => exact h
  | sweep _ s ih => exact hs _ _ _ s ih

theorem timeoutStep_swept {db : DB} (slot : Bool) (acc : DB × List Ent) (e : Ent) (m : Swept db acc.1) : Swept db (timeoutStep slot acc e).1 := by
  unfold timeoutStep
  split
  · rename_i w hw; exact m.sweep (.visitT _ slot e w hw)
  · rename_i hn
    cases slot
    · exact m.sweep (.collectT _ e hn)
    · exact m

theorem expireStep_swept {db : DB} (slot : Bool) (acc : DB × List Ent) (e : Ent) (m : Swept db acc.1) : Swept db (expireStep slot acc e).1 := by
  unfold expireStep
  split
  · rename_i w hw; exact m.sweep (.visitE _ slot e w hw)
  · exact m

theorem sweepTimeout_swept (db : DB) (c : Nat) : Swept db (sweepTimeout db c).1 :=
  sweep_pending (J := fun d _ => Swept db d) (fun slot a e _ => timeoutStep_swept slot a e) (fun a e _ m => m.sweep (.fireT a.1 e)) _ _ db .refl

theorem sweepExpire_swept (db : DB) (c : Nat) : Swept db (sweepExpire db c).1 :=
  sweep_pending (J := fun d _ => Swept db d) (fun slot a e _ => expireStep_swept slot a e) (fun a e _ m => m.sweep (.fireE a.1 e)) _ _ db .refl

theorem opTick_sweep {J : DB → Prop} (hs : ∀ d key w', Sweep d key w' → J d → J w'.commit)
    (hc : ∀ d n t e, J d → J { d with now := n, tCheck := t, eCheck := e }) (db : DB) (h : J db) : J (opTick db).1 := by
  have h1 := (sweepTimeout_swept _ (db.now + 1)).ind hs (hc db (db.now + 1) (db.now + 1 + 1) db.eCheck h)
  unfold opTick
  simp only []
  -- the first sweep's result as a variable: how it is computed is of no concern here
  generalize (sweepTimeout { db with now := db.now + 1, tCheck := db.now + 1 + 1 } (db.now + 1)) = r1 at h1 ⊢
  exact (sweepExpire_swept _ (db.now + 1)).ind hs (hc r1.1 r1.1.now r1.1.tCheck (db.now + 1 + 1) h1)

def Op.frame : Op → Option Bytes
  | .lock _ d | .unlock _ d => d
  | _ => none

theorem step_sect {J : DB → Prop} {o : Op} (hs : ∀ d key w', Sect o.frame d key w' → J d → J w'.commit)
    (hc : ∀ d n t e, J d → J { d with now := n, tCheck := t, eCheck := e }) (hl : ∀ d b, J d → J { d with leader := b })
    {db : DB} (h : J db) : J (step db o).1 := by
  cases o with
  | lock c d => exact hs _ _ _ (.lock db c) h
  | unlock c d => exact hs _ _ _ (.unlock db c) h
  | tick => exact opTick_sweep (fun d key w' s => hs d key w' (.sweep s)) hc db h
  | setLeader b => exact hl db b h

end Slock.Engine2
