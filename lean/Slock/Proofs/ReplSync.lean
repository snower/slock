import Slock.Proofs.ReplPop
/-!
The handshake model, one follower: what one `SendProcess` iteration (`streamStep`) does to a follower whose applied log is
a prefix `1 … m` of the leader's log and whose channel's cursor is positioned (`StreamOk`); and the sender's batch buffer, which
keeps the record order (with the code's flush-before-direct-write rule).
-/
namespace Slock.Repl

/-- leader log and buffer history agree: record number k has id k and was pushed k-th (seq k-1) -/
def HistOk (hist : List (Nat × Nat × Nat)) : Prop := ∀ i r, hist[i]? = some r → r.1 = i + 1

/-- `l` is `1, 2, …, l.length`: the ids of the first records of the leader's log -/
def Prefix1 (l : List Nat) : Prop := l = List.range' 1 l.length

theorem prefix1_nil : Prefix1 [] := rfl

theorem prefix1_snoc {l : List Nat} (h : Prefix1 l) : Prefix1 (l ++ [l.length + 1]) := by
  unfold Prefix1 at h ⊢
  rw [List.length_append, List.length_singleton, List.range'_concat]
  simp only [Nat.one_mul]
  rw [← h, Nat.add_comm 1]

theorem prefix1_get {l : List Nat} (h : Prefix1 l) {i x} (hx : l[i]? = some x) : x = i + 1 := by
  unfold Prefix1 at h
  rw [h] at hx
  obtain ⟨hi, rfl⟩ := List.getElem?_eq_some_iff.mp hx
  simp [Nat.add_comm]

theorem Took.bufId {q hist c w} (t : Took q hist c w) (hh : HistOk hist) : c.bufId = c.seq + 1 := hh _ _ t.record

theorem search_resume {A q hist id c} (h : Inv A q hist) (hh : HistOk hist) (hq : q.seq < seqNone)
    (hr : (search q id c).1 = .ok) :
    Took q hist (search q id c).2 true ∧ (search q id c).2.seq ≠ seqNone ∧ (search q id c).2.seq + 1 = id := by
  obtain ⟨t, e, _⟩ := search_ok h hr
  exact ⟨t, t.pos hq, (t.bufId hh).symm.trans e⟩

/-- A follower in the `stream` phase is consistent with its channel's cursor: the cursor has a position, its item is the
last applied record (`writed`) or the next one to apply (`¬writed`). -/
structure StreamOk (q : Q) (f : Fol) : Prop where
  pos : f.cur.seq ≠ seqNone
  cur : CurOk q f.cur
  has : CurHas q f.cur
  pre : Prefix1 f.log
  at_ : (f.cur.writed = true ∧ f.cur.seq + 1 = f.log.length) ∨
        (f.cur.writed = false ∧ f.cur.seq = f.log.length ∧ f.cur.bufId = f.cur.seq + 1)

theorem StreamOk.len_le {q : Q} {f : Fol} (hs : StreamOk q f) : f.log.length ≤ q.seq := by
  have := (hs.cur hs.pos).1
  rcases hs.at_ with ⟨_, _⟩ | ⟨_, _, _⟩ <;> omega

structure StreamKept (A : Nat) (q : Q) (hist : List (Nat × Nat × Nat)) (f : Fol) (r : Q × Fol × SObs) : Prop where
  ok : StreamOk r.1 r.2.1
  inv : Inv A r.1 hist
  same : QSame q r.1
  pc : r.1.pollCount = q.pollCount
  conn : r.2.1.conn = f.conn
  log : r.2.1.log = f.log ∧ r.2.1.curId = f.curId ∨
    r.2.1.log = f.log ++ [f.log.length + 1] ∧ r.2.1.curId = f.log.length + 1

/-- it applies exactly record m+1, or nothing; on "out of buf" the channel closes with the follower untouched (it then
reconnects with its id). -/
theorem streamStep_spec {A q hist} {f : Fol} (h : Inv A q hist) (hA : A < M32) (hh : HistOk hist) (hq : q.seq < seqNone)
    (hs : StreamOk q f) :
    streamStep q f = (removePoll q f.cur, { f with conn := .off }, .outOfBuf) ∨ StreamKept A q hist f (streamStep q f) := by
  have same : ∀ o : SObs, StreamKept A q hist f (q, f, o) := fun _ => ⟨hs, h, QSame.refl q, rfl, rfl, Or.inl ⟨rfl, rfl⟩⟩
  -- the leaves of `streamStep`: the item in hand is not written yet: 1 no item to acknowledge (cannot happen), 2 it is written
  -- and acknowledged; else `Pop`: 3 the next item, 4 nothing to send, 5 an error, on which the channel closes
  fun_cases streamStep q f
  case case1 | case4 => exact Or.inr (same _)
  case case5 => exact Or.inl rfl
  case case2 hw q' c' b ha =>
    obtain ⟨hseq, hbuf⟩ : f.cur.seq = f.log.length ∧ f.cur.bufId = f.cur.seq + 1 := by
      rcases hs.at_ with ⟨w, _⟩ | ⟨_, x⟩
      · rw [hw] at w; cases w
      · exact x
    have hb : f.cur.bufId = f.log.length + 1 := hseq ▸ hbuf
    have hqs := ack_qsame ha
    obtain ⟨_, _, _, a4, rfl⟩ := ack_spec ha
    refine Or.inr ⟨⟨hs.pos, hqs.curOk hs.cur, hqs.curHas hs.has, ?_, Or.inl ⟨rfl, ?_⟩⟩, ack_inv h ha, hqs, a4, rfl,
      Or.inr ⟨by rw [hb], hb⟩⟩
    · show Prefix1 (f.log ++ [f.cur.bufId])
      rw [hb]; exact prefix1_snoc hs.pre
    · show f.cur.seq + 1 = (f.log ++ [f.cur.bufId]).length
      rw [List.length_append, List.length_singleton, hseq]
  case case3 hw _ hr =>
    obtain ⟨t, g⟩ := pop_ok h hA hs.cur hr
    have hlen : f.cur.seq + 1 = f.log.length := by
      rcases hs.at_ with ⟨_, x⟩ | ⟨w, _⟩
      · exact x
      · exact absurd w hw
    have hsq : (pop q f.cur).2.seq = f.log.length := by
      rcases g with g | g
      · exact absurd g hs.pos
      · omega
    exact Or.inr ⟨⟨t.pos hq, t.cur, t.has, hs.pre,
      Or.inr ⟨t.writed, hsq, t.bufId hh⟩⟩, h, QSame.refl q, rfl, rfl, Or.inl ⟨rfl, rfl⟩⟩

theorem streamStep_idle {A q hist} {f : Fol} (h : Inv A q hist) (hi : (streamStep q f).2.2 = .idle) :
    f.cur.writed = true ∧ (q.seq = 0 ∨ f.cur.seq + 1 = q.seq) := by
  revert hi
  fun_cases streamStep q f <;> intro hi
  case case4 hw _ hr => exact ⟨by simpa using hw, pop_eof h hr⟩
  all_goals cases hi

/-- CONVERGE, the step: when the channel finds nothing more to send, the follower has applied as many records as the
leader has published. -/
theorem StreamOk.idle_len {A q hist} {f : Fol} (hs : StreamOk q f) (h : Inv A q hist)
    (hi : (streamStep q f).2.2 = .idle) : f.log.length = q.seq := by
  obtain ⟨hw, g⟩ := streamStep_idle h hi
  have := (hs.cur hs.pos).1
  rcases hs.at_ with ⟨_, x⟩ | ⟨w, _⟩
  · omega
  · rw [hw] at w; cases w

def Batch.all (b : Batch) : List Nat := b.wire ++ b.wbuf

theorem flush_all (b : Batch) : b.flush.all = b.all := by simp [Batch.flush, Batch.all]

theorem fin_all (b1 : Batch) :
    (if b1.windex > 4032 then b1.flush else b1).all = b1.all ∧ (if b1.windex > 4032 then b1.flush else b1).windex ≤ 4032 := by
  by_cases h : b1.windex > 4032
  · rw [if_pos h]; exact ⟨flush_all b1, Nat.zero_le _⟩
  · rw [if_neg h]; exact ⟨rfl, by omega⟩

theorem sendRec_code (b : Batch) (id d : Nat) :
    (sendRec codeRule b id d).all = b.all ++ [id] ∧ (sendRec codeRule b id d).windex ≤ 4032 := by
  unfold sendRec
  refine ⟨?_, (fin_all _).2⟩
  rw [(fin_all _).1]
  by_cases hd : d > 0
  · rw [if_pos hd]
    by_cases hr : codeRule b.windex d = true
    · rw [if_pos hr]
      by_cases hbig : 64 + d > 4096
      · rw [if_pos hbig]; simp [Batch.flush, Batch.all]
      · rw [if_neg hbig]; simp [Batch.flush, Batch.all]
    · rw [if_neg hr]
      have hr' : ¬ (b.windex + 64 + d > 4096) := by simpa [codeRule] using hr
      have hbig : ¬ (64 + d > 4096) := by omega
      rw [if_neg hbig]; simp [Batch.all]
  · rw [if_neg hd]; simp [Batch.all]

theorem sendAll_code (b : Batch) (rs : List (Nat × Nat)) (hw : b.windex ≤ 4032) :
    (sendAll codeRule b rs).all = b.all ++ rs.map (·.1) ∧ (sendAll codeRule b rs).windex ≤ 4032 := by
  induction rs generalizing b with
  | nil => simp [sendAll, hw]
  | cons r rs ih =>
    obtain ⟨id, d⟩ := r
    obtain ⟨h1, h2⟩ := sendRec_code b id d
    obtain ⟨i1, i2⟩ := ih (sendRec codeRule b id d) h2
    refine ⟨?_, i2⟩
    simp only [sendAll, List.map_cons]
    rw [i1, h1]; simp

end Slock.Repl
