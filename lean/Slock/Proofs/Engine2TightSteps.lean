import Slock.Proofs.Engine2Wk
import Slock.Proofs.Engine2Keep
/-! Stage-2 engine: the stretches of several steps across which the books are open, each ending in `Wk` or `TightF` again — what
`Engine2Node` cites where it walks the composites. -/
namespace Slock.Engine2
open Slock.Engine (has)

theorem getR_ref_addTimeOut (w : W) (rid : Nat) (hh : w.k.hasRec rid) :
    ((w.addTimeOut rid).ref rid).k.getR rid =
      { Rec.armT (Slock.Engine.wheelAdd w.db.tCheck w.db.seq (w.k.getR rid).timeoutT (w.k.getR rid).tChecked) (w.k.getR rid) with
        refCount := (w.k.getR rid).refCount + 1 } := by
  show ((w.k.modRec rid (Rec.armT _)).modRec rid _).getR rid = _
  rw [getR_modRec_same _ _ _ ((hasRec_modRec _ _ _ _ (by intro _; rfl)).mpr hh), getR_modRec_same _ _ _ hh]
  rfl

theorem queue_pre {full : Prop} {w : W} (ke : Wk full w none) (c : Cmd) (data : Option Bytes) :
    Wk full ((((w.newLock c data).1.modK (·.addWaitLock w.db.nextRid)).addTimeOut w.db.nextRid).ref w.db.nextRid) none ∧
    ((((w.newLock c data).1.modK (·.addWaitLock w.db.nextRid)).addTimeOut w.db.nextRid).ref w.db.nextRid).k.hasRec w.db.nextRid := by
  obtain ⟨ln, hn, _, hq, _, hg⟩ := ke.lv.newLock zero_nonneg c data
  have kn := ke.newLock c data
  have hcnt : ((w.newLock c data).1.k.wait.map (·.rid)).count w.db.nextRid = 0 := by unfold Key.qRefs at hq; omega
  have l1 : Lv ((w.newLock c data).1.modK (·.addWaitLock w.db.nextRid)) zero :=
    ln.modK _ (addWaitLock_rc zero_nonneg _ ln.rc hn hcnt) (RecsLe.addWaitLock _ _)
  obtain ⟨k1, g1⟩ := addWaitLock_self (w.newLock c data).1.k w.db.nextRid hn hcnt
  rw [hg] at g1
  have l2 := l1.addTimeOut w.db.nextRid k1 1 (by rw [modK_k, g1]; rfl) (by rw [modK_k, g1]; rfl)
  have hh2 := (hasRec_of_ids (ids_addTimeOut ((w.newLock c data).1.modK (·.addWaitLock w.db.nextRid)) w.db.nextRid) w.db.nextRid).mpr k1
  have l3 := (l2.ref _ hh2).congr (ex' := zero) (fun y => by simp [zero]; omega)
  have hh3 : ((((w.newLock c data).1.modK (·.addWaitLock w.db.nextRid)).addTimeOut w.db.nextRid).ref w.db.nextRid).k.hasRec w.db.nextRid := by
    unfold W.ref; rw [hasRec_modR _ _ _ _]; exact hh2
  refine ⟨⟨l3, fun f => ?_, fun f => ?_⟩, hh3⟩
  · have n1 : Nz ((w.newLock c data).1.modK (·.addWaitLock w.db.nextRid)) (some w.db.nextRid) := by
      have := nz_addWaitLock (kn.nz f).nd w.db.nextRid (kn.nz f).nz
      exact ⟨this.1, this.2⟩
    have n3 := (n1.of_up (up_addTimeOut _ w.db.nextRid)).of_up (up_ref _ w.db.nextRid)
    -- the new record: counted (queue entry + wheel entry), not a hold
    have g3 := getR_ref_addTimeOut ((w.newLock c data).1.modK (·.addWaitLock w.db.nextRid)) w.db.nextRid k1
    refine n3.clear w.db.nextRid (fun _ => ?_)
    have hrc := l3.rc.refCount_of hh3
    rw [g3] at hrc ⊢
    rw [modK_k, g1]
    refine ⟨Nat.le_add_left 1 _, fun hp => absurd hp (by simp [newRec, Rec.armT]), fun _ => rfl, fun _ _ => rfl⟩
  · exact (kn.cur f).of_dk (DK.trans (dk_ref _ _) (DK.trans (dk_addTimeOut _ _) (dk_modK _ _ (DepthKeep.addWaitLock _ _)))) l3

theorem hasRec_of_refCount (k : Key) (x : Nat) (h : (k.getR x).refCount ≠ 0) : k.hasRec x := by
  apply Classical.byContradiction
  intro hn
  rw [getR_of_not_hasRec k x hn] at h
  exact h rfl

/-- `RemoveLock(rid)` leaves `rid`'s record (if it is still there) at depth 0: after `depth := 0` no step touches a depth -/
theorem removeLock_depth (k : Key) (rid : Nat) (hh : (k.removeLock rid).hasRec rid) : ((k.removeLock rid).getR rid).depth = 0 := by
  have p : PKeep (·.depth) (k.removeLock rid) (k.modRec rid (fun r => { r with depth := 0 })) :=
    (PKeep.closed ins_depth _).removeLock (fun k _ h => PKeep.trans (b := k) (PKeep.of_eq rfl) h) rid (PKeep.refl _) (PKeep.unrefOnly ins_depth _ rid)
  rw [p.val rid hh, getR_modRec_same _ _ _ ((hasRec_modRec _ _ _ _ (by intro _; rfl)).mp (p.sub rid hh))]

theorem dropLongE_of_not_long (w : W) (rid : Nat) (h : (w.k.getR rid).eLong = false) : w.dropLongE rid = w := by
  unfold W.dropLongE W.when; simp [h]

theorem ids_modR (w : W) (rid : Nat) (f : Rec → Rec) (hf : ∀ r, (f r).rid = r.rid) : (w.modR rid f).k.ids = w.k.ids := ids_modRec _ rid f hf

theorem recs_ne_modRec {k : Key} (h : k.recs ≠ []) (rid : Nat) (f : Rec → Rec) : (k.modRec rid f).recs ≠ [] :=
  fun e => h (List.map_eq_nil_iff.mp e)

theorem settled_unrefCheck {w : W} {ex : Nat → Int} (l : Lv w ex) (hne : w.k.recs ≠ []) (rid : Nat)
    (hpos : 0 < (w.k.qRefs rid : Int) + ex rid) : SettledG (w.unrefCheck rid) := by
  have r := l.rc.unref rid hpos
  unfold Key.unref at r
  unfold W.unrefCheck
  simp only [] at r ⊢
  unfold W.when
  split
  · rename_i hz
    rw [if_pos (show (((w.k.unrefOnly rid).getR rid).refCount == 0) = true from hz)] at r
    exact settled_removeIfZero (fun _ => r)
  · exact fun _ => recs_ne_modRec hne rid _

theorem unrefCheck_pos (w : W) (rid : Nat) (hx : (w.unrefCheck rid).k.hasRec rid) : 1 ≤ ((w.unrefCheck rid).k.getR rid).refCount := by
  unfold W.unrefCheck at hx ⊢
  simp only [] at hx ⊢
  unfold W.when at hx ⊢
  split
  · rename_i hz
    simp only [hz, if_true] at hx
    exfalso
    have hx2 : ((w.modK (·.unrefOnly rid)).k.free rid).hasRec rid := by
      unfold W.freeCheck W.removeIfZero at hx
      split at hx
      · exact hx
      · exact hx
    have := hasRec_free_sub _ rid rid hx2
    exact this.2 this.1 rfl
  · rename_i hz
    have : ((w.modK (·.unrefOnly rid)).k.getR rid).refCount ≠ 0 := by simpa using hz
    omega

theorem recFine_of {w : W} (g : Good w) (rid : Nat) (hh : w.k.hasRec rid) : RecFine (w.k.getR rid) := g.nz.nz _ (getR_mem hh) (by simp)

theorem recs_ne_of_ids {k k' : Key} (h : k'.ids = k.ids) (hne : k.recs ≠ []) : k'.recs ≠ [] := by
  intro e
  apply hne
  have hl : k'.ids.length = k.ids.length := by rw [h]
  unfold Key.ids at hl
  simp only [List.length_map] at hl
  rw [e] at hl
  exact List.eq_nil_of_length_eq_zero hl.symm

namespace TightF
variable {full : Prop} {w : W}

theorem wheelBroken (k : Wk full w none) (hne : full → w.k.recs ≠ []) : TightF full w.wheelBroken :=
  of_wk (k.up k.lv.wheelBroken (RecsUp.of_eq rfl) (DK.of_k rfl)) (fun f _ => hne f)

/-- a wheel entry is dropped: off the wheel, `refCount--`, free at 0, reclaim check -/
theorem unwheel {clr : Rec → Rec} {on : Rec → Bool} {x : Option Nat} (u : Unwheel clr on) (hd : ∀ r, (clr r).depth = r.depth) (k : Wk full w x)
    (hne : full → w.k.recs ≠ []) (rid : Nat) (hs : w.k.hasRec rid ∧ on (w.k.getR rid) = true)
    (n : full → Nz ((w.modR rid clr).unrefCheck rid) none) : TightF full ((w.modR rid clr).unrefCheck rid) := by
  have lg := (LvG.of_lv k.lv).unwheelUnrefCheck u rid (fun _ => hs)
  exact ⟨fun hg => ⟨lg hg, n, fun f => (k.cur f).of_dk ((dk_unrefCheck _ _).trans (dk_modR w rid clr u.rid hd)) (lg hg)⟩,
    fun f => settled_unrefCheck (k.lv.unwheel u rid hs.1 hs.2) (recs_ne_modRec (hne f) rid _) rid (by simp only [zero, delta, if_true]; omega)⟩

theorem dropT (k : Wk full w none) (hne : full → w.k.recs ≠ []) (rid : Nat) (hs : w.k.hasRec rid ∧ (w.k.getR rid).tSched.isSome = true) :
    TightF full (w.dropT rid) :=
  unwheel unwheelT (fun _ => rfl) k hne rid hs
    (fun f => ((k.nz f).of_up (w' := w.modR rid (fun r => { r with tSched := none })) (RecsUp.modRec _ rid _ (fun _ => rfl)
      (fun _ h => ⟨h.pos, h.hold, h.ended, h.fin⟩))).unrefCheck rid)

theorem dropE {rid : Nat} (k : Wk full w (some rid)) (hne : full → w.k.recs ≠ []) (hs : w.k.hasRec rid ∧ (w.k.getR rid).eSched.isSome = true)
    (hd : full → (w.k.getR rid).depth = 0) : TightF full (w.dropE rid) := by
  unfold W.dropE
  refine unwheel unwheelE (fun _ => rfl) k hne rid hs
    (fun f => (((k.nz f).modR_ex rid (fun r => { r with eSched := none }) (by intro _; rfl)).unrefCheck rid).clear rid (fun hx => ?_))
  have hdep : (((w.modR rid (fun r => { r with eSched := none })).unrefCheck rid).k.getR rid).depth = 0 := by
    rw [((dk_unrefCheck _ _).trans (dk_modR w rid _)).depth rid hx]; exact hd f
  have hes : (((w.modR rid (fun r => { r with eSched := none })).unrefCheck rid).k.getR rid).eSched = none := by
    rw [(pk_unrefCheck ins_eSched _ _).val rid hx]
    show ((w.k.modRec rid _).getR rid).eSched = none
    rw [getR_modRec_same _ _ _ hs.1]
  exact ⟨unrefCheck_pos _ rid hx, fun hp => by omega, fun _ => hdep, fun _ he => by rw [hes] at he; simp at he⟩

end TightF

/-- a hold's expiry entry is pushed again (deferral, or a slot entry that is not due yet) -/
theorem Wk.rearmE {full : Prop} {w : W} (k : Wk full w none) (rid : Nat) (f : Rec → Rec)
    (hs : w.k.hasRec rid ∧ (w.k.getR rid).eSched.isSome = true) (hex : (w.k.getR rid).expried = false) (p : Plain f := by exact {})
    (h5 : ∀ r, (f r).depth = r.depth := by intro _; rfl) (h6 : ∀ r, (f r).expried = r.expried := by intro _; rfl) :
    Wk full ((w.modR rid f).addExpried rid) none := by
  have k1 := k.modR rid f p h5 h6
  have hh1 : (w.modR rid f).k.hasRec rid := (hasRec_modR _ rid rid f p.rid).mpr hs.1
  have he1 : ((w.modR rid f).k.getR rid).eSched.isSome = true := by
    rw [modR_k, getR_modRec_proj (·.eSched.isSome) w.k rid rid f p.eSched p.rid]; exact hs.2
  have l2 := (k1.lv.addExpried rid hh1 0 (by rw [he1]; rfl) (k1.lv.timeouted_of_eSched rid hh1 he1)).congr (ex' := zero) (fun y => by simp [zero])
  refine ⟨l2, fun h => (k1.nz h).addExpried_hold rid (fun _ => ?_), fun h => (k1.cur h).of_dk (dk_addExpried _ rid) l2⟩
  rw [modR_k, getR_modRec_proj (·.depth) w.k rid rid f h5 p.rid]
  exact Nat.pos_of_ne_zero (fun hz => by
    have := (recFine_of ⟨k.lv, k.nz h⟩ rid hs.1).fin hz hs.2
    rw [hex] at this; exact absurd this (by simp))

theorem hasRec_rearmE (w : W) (rid : Nat) (f : Rec → Rec) (hf : ∀ r, (f r).rid = r.rid) (hh : w.k.hasRec rid) :
    ((w.modR rid f).addExpried rid).k.hasRec rid :=
  (hasRec_of_ids ((ids_addExpried _ rid).trans (ids_modRec _ rid f hf)) rid).mpr hh

theorem visitTimeout_tf {full : Prop} {w : W} (k : Wk full w none) (hne : full → w.k.recs ≠ []) (slot : Bool) (rid : Nat) (w' : W)
    (h : w.visitTimeout slot rid = some w') : TightF full w' := by
  unfold W.visitTimeout at h
  simp only [] at h
  split at h
  · injection h with h; rw [← h]; exact TightF.wheelBroken k hne
  rename_i hg
  have hs := hasT_spec w.k rid (by simpa using hg)
  split at h
  · injection h with h; rw [← h]; exact TightF.dropT k hne rid hs
  · rename_i hto
    split at h
    · injection h with h
      subst h
      have hto' : (w.k.getR rid).timeouted = false := by simpa using hto
      have he : (w.k.getR rid).eSched.isSome = false := k.lv.side.ok _ (getR_mem hs.1) hto'
      have k1 := k.modR rid (fun r => { r with tChecked := r.tChecked + 1 })
      have hh1 : (w.modR rid (fun r => { r with tChecked := r.tChecked + 1 })).k.hasRec rid := (hasRec_modR _ rid rid _).mpr hs.1
      have g1 : (w.modR rid (fun r => { r with tChecked := r.tChecked + 1 })).k.getR rid = { (w.k.getR rid) with tChecked := (w.k.getR rid).tChecked + 1 } :=
        getR_modRec_same _ _ _ hs.1
      have l2 := (k1.lv.addTimeOut rid hh1 0 (by rw [g1]; show (if (w.k.getR rid).tSched.isSome = true then (0 : Int) else 1) = 0; rw [hs.2]; rfl)
        (by rw [g1]; exact he)).congr (ex' := zero) (fun y => by simp [zero])
      exact TightF.of_rec (k1.up l2 (up_addTimeOut _ rid) (dk_addTimeOut _ rid)) ((hasRec_of_ids (ids_addTimeOut _ rid) rid).mpr hh1)
    · simp at h

theorem visitExpire_tf {full : Prop} {w : W} (k : Wk full w none) (hne : full → w.k.recs ≠ []) (slot : Bool) (rid : Nat) (w' : W)
    (h : w.visitExpire slot rid = some w') : TightF full w' := by
  unfold W.visitExpire at h
  simp only [] at h
  split at h
  · injection h with h; rw [← h]; exact TightF.wheelBroken k hne
  rename_i hg
  have hs := hasE_spec w.k rid (by simpa using hg)
  split at h
  · rename_i hex
    injection h with h; rw [← h]
    exact TightF.dropE (k.exempt rid) hne hs (fun f => (recFine_of ⟨k.lv, k.nz f⟩ rid hs.1).ended hex)
  · rename_i hex
    split at h
    · injection h with h
      subst h
      exact TightF.of_rec (k.rearmE rid _ hs (by simpa using hex)) (hasRec_rearmE w rid _ (by intro _; rfl) hs.1)
    · simp at h

theorem collectT_wk {full : Prop} {w : W} (k : Wk full w none) (rid : Nat) : Wk full (w.collectT rid) none :=
  k.modR rid _ { tSched := fun r => by cases r.tSched <;> rfl }

/-- the timeout of a live queued request, up to the counter / notice / wake pass -/
theorem timeout_fire_pre {full : Prop} {w : W} (k : Wk full w none) (rid : Nat) (hs : w.k.hasRec rid ∧ (w.k.getR rid).tSched.isSome = true) :
    TightF full ((((w.modR rid (fun r => { r with timeouted := true })).modK (·.settleWait)).ctr (fun y => { y with waitCount := y.waitCount - 1 })).dropT rid) := by
  have k1 := k.tombstone rid
  have hh1 : (w.modR rid (fun r => { r with timeouted := true })).k.hasRec rid := (hasRec_modR _ rid rid _).mpr hs.1
  have ht1 : ((w.modR rid (fun r => { r with timeouted := true })).k.getR rid).tSched.isSome = true := by
    rw [modR_k, getR_modRec_same _ _ _ hs.1]; exact hs.2
  obtain ⟨m1, m2⟩ := settleWait_keep zero_nonneg k1.lv.rc rid hh1 (wheel_of_t ht1)
  exact TightF.dropT (k1.settleWait.ctr _) (fun _ => recs_ne_of_hasRec m1) rid ⟨m1, by
    show ((w.modR rid (fun r => { r with timeouted := true })).k.settleWait.getR rid).tSched.isSome = true
    rw [m2.tSched]; exact ht1⟩

/-- the end of a hold by the expiry sweep, up to the counters / notice / wake pass -/
theorem expire_release_pre {full : Prop} {w : W} (k : Wk full w none) (rid : Nat) (hs : w.k.hasRec rid ∧ (w.k.getR rid).eSched.isSome = true) :
    TightF full (((((w.modR rid (fun r => { r with expried := true })).modK (fun k => { k with locked := k.locked - (w.k.getR rid).depth })).when (w.k.getR rid).isAof
      (·.pushUnLockAof rid (w.k.getR rid).cmd false false AOF_EXPRIED)).modK (·.removeLock rid)).dropE rid) := by
  have k1 := (k.exempt rid).modR_ex (fun r => { r with expried := true })
  have k2 := k1.locked (· - (w.k.getR rid).depth)
  have k3 := k2.when (w.k.getR rid).isAof (·.pushUnLockAof rid (w.k.getR rid).cmd false false AOF_EXPRIED) (k2.pushUnLockAof _ _ _ _ _)
  -- the record and its expiry entry are still there after journalling and `RemoveLock`
  have p2 : PK (·.eSched) ((w.modR rid (fun r => { r with expried := true })).modK (fun k => { k with locked := k.locked - (w.k.getR rid).depth })) w :=
    PKeep.trans (b := (w.modR rid (fun r => { r with expried := true })).k) (PKeep.of_eq rfl)
      (pk_modR w rid (fun r => { r with expried := true }))
  have p3 := (pk_when _ (w.k.getR rid).isAof (·.pushUnLockAof rid (w.k.getR rid).cmd false false AOF_EXPRIED) ((book_pushUnLockAof _ _ _ _ _ _).pk ins_eSched)).trans p2
  have hh3 : (((w.modR rid (fun r => { r with expried := true })).modK (fun k => { k with locked := k.locked - (w.k.getR rid).depth })).when
      (w.k.getR rid).isAof (·.pushUnLockAof rid (w.k.getR rid).cmd false false AOF_EXPRIED)).k.hasRec rid := by
    rw [hasRec_of_ids (ids_when _ _ _ (fun w' => (book_pushUnLockAof w' _ _ _ _ _).ids))]
    exact (hasRec_modR _ rid rid _).mpr hs.1
  have he3 := (congrArg Option.isSome (p3.val rid hh3)).trans hs.2
  obtain ⟨m1, m2, _⟩ := removeLock_keep zero_nonneg k3.lv.rc rid rid hh3 (wheel_of_e he3)
  exact TightF.dropE k3.removeLock (fun _ => recs_ne_of_hasRec m1) ⟨m1, (congrArg Option.isSome m2).trans he3⟩ (fun _ => removeLock_depth _ rid m1)

end Slock.Engine2
