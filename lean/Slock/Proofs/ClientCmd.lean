import Slock.Model.Client
/-!
The commands the client primitives send, built from the REGENERATED tuples (`Slock.Gen.Client`, read from client/*.go by the
extractor) through M-CLIENT (`Slock.Client.cmdOf`), and their shapes. Every shape lemma is `rfl` over the generated
definitions: if client/*.go changes a tuple, the lemma (a proof obligation of C19) no longer checks.
-/
namespace Slock.Client
open Slock.Engine Slock.Gen.Client

/-- a primitive instance whose constructor stored the user's `n` through the constructor's normalisation -/
def withCtor (c : Ctor) (n : Nat) (e : Env) : Env :=
  { e with field := fun s => if s = c.field then c.xform.apply n else e.field s }

def lockCmd (e : Env) (req conn : Nat) : Cmd := cmdOf lock_lock (obj newLock e) req conn
def unlockCmd (e : Env) (req conn : Nat) : Cmd := cmdOf lock_unlock (obj newLock e) req conn
def rlockCmd (e : Env) (req conn : Nat) : Cmd := cmdOf lock_lock (obj newRLock e) req conn
def runlockCmd (e : Env) (req conn : Nat) : Cmd := cmdOf lock_unlock (obj newRLock e) req conn
def rwReadCmd (e : Env) (req conn : Nat) : Cmd := cmdOf lock_lock (obj rwlock_rLock e) req conn
def rwWriteCmd (e : Env) (req conn : Nat) : Cmd := cmdOf lock_lock (obj rwlock_lock e) req conn
def semAcquireCmd (n : Nat) (e : Env) (req conn : Nat) : Cmd :=
  cmdOf lock_lock (obj semaphore_acquire (withCtor newSemaphore_count n e)) req conn
def semReleaseCmd (n : Nat) (e : Env) (req conn : Nat) : Cmd :=
  cmdOf lock_unlockHead (obj semaphore_release (withCtor newSemaphore_count n e)) req conn
def flowAcquireCmd (n : Nat) (e : Env) (req conn : Nat) : Cmd :=
  cmdOf lock_lock (obj maxconcurrentflow_acquire (withCtor newMaxConcurrentFlow_count n e)) req conn
def prioLockCmd (e : Env) (req conn : Nat) : Cmd := cmdOf lock_lock (obj prioritylock_lock e) req conn
-- Event: the commands of the default-set mode (the `…_set` tuples)
def evClearCmd (e : Env) (req conn : Nat) : Cmd := cmdOf lock_lockUpdate (obj event_clear_set e) req conn
def evSetCmd (e : Env) (req conn : Nat) : Cmd := cmdOf lock_unlock (obj event_set_set e) req conn
def evWaitCmd (e : Env) (req conn : Nat) : Cmd := cmdOf lock_lock (obj event_wait_set e) req conn
def evIsSetCmd (e : Env) (req conn : Nat) : Cmd := cmdOf lock_lock (obj event_isSet_set e) req conn

theorem lockCmd_shape (e : Env) (r n : Nat) :
    (lockCmd e r n).count = 0 ∧ (lockCmd e r n).rcount = 0 ∧ (lockCmd e r n).flag = 0 ∧
      (lockCmd e r n).key = e.param "lockKey" ∧ (lockCmd e r n).lockId = e.fresh := ⟨rfl, rfl, rfl, rfl, rfl⟩

theorem unlockCmd_shape (e : Env) (r n : Nat) :
    (unlockCmd e r n).flag = 0 ∧ (unlockCmd e r n).key = e.param "lockKey" ∧ (unlockCmd e r n).lockId = e.fresh ∧
      (unlockCmd e r n).rcount = 0 := ⟨rfl, rfl, rfl, rfl⟩

theorem rlockCmd_shape (e : Env) (r n : Nat) :
    (rlockCmd e r n).count = 0 ∧ (rlockCmd e r n).rcount = 0xff ∧ (rlockCmd e r n).flag = 0 ∧
      (rlockCmd e r n).key = e.param "lockKey" ∧ (rlockCmd e r n).lockId = e.fresh ∧
      (rlockCmd e r n).expried = e.param "expried" % 65536 ∧ (rlockCmd e r n).timeout = e.param "timeout" % 65536 ∧
      (rlockCmd e r n).tflag = (e.param "timeout" >>> 16) % 65536 := ⟨rfl, rfl, rfl, rfl, rfl, rfl, rfl, rfl⟩

theorem runlockCmd_shape (e : Env) (r n : Nat) :
    (runlockCmd e r n).rcount = 0xff ∧ (runlockCmd e r n).flag = 0 ∧ (runlockCmd e r n).key = e.param "lockKey" ∧
      (runlockCmd e r n).lockId = e.fresh ∧ (runlockCmd e r n).tflag = (e.param "timeout" >>> 16) % 65536 :=
  ⟨rfl, rfl, rfl, rfl, rfl⟩

theorem rwReadCmd_shape (e : Env) (r n : Nat) :
    (rwReadCmd e r n).count = 0xffff ∧ (rwReadCmd e r n).rcount = 0 ∧ (rwReadCmd e r n).flag = 0 ∧
      (rwReadCmd e r n).key = e.field "lockKey" := ⟨rfl, rfl, rfl, rfl⟩

theorem rwWriteCmd_shape (e : Env) (r n : Nat) :
    (rwWriteCmd e r n).count = 0 ∧ (rwWriteCmd e r n).rcount = 0 ∧ (rwWriteCmd e r n).flag = 0 ∧
      (rwWriteCmd e r n).key = e.field "lockKey" := ⟨rfl, rfl, rfl, rfl⟩

/-- `Semaphore(n)` sends Count n − 1 (0 for n = 0): the constructor's `decIfPos`, then `Acquire` passes the field through -/
theorem semAcquireCmd_shape (k : Nat) (e : Env) (r n : Nat) :
    (semAcquireCmd k e r n).count = (if k > 0 then k - 1 else 0) ∧ (semAcquireCmd k e r n).rcount = 0 ∧
      (semAcquireCmd k e r n).flag = 0 ∧ (semAcquireCmd k e r n).key = e.field "semaphoreKey" := ⟨rfl, rfl, rfl, rfl⟩

/-- `Release` is an unlock-first of the zero LockId: it releases the key's OLDEST holder -/
theorem semReleaseCmd_shape (k : Nat) (e : Env) (r n : Nat) :
    (semReleaseCmd k e r n).flag = UF_FIRST ∧ (semReleaseCmd k e r n).lockId = 0 ∧
      (semReleaseCmd k e r n).key = e.field "semaphoreKey" := ⟨rfl, rfl, rfl⟩

theorem flowAcquireCmd_shape (k : Nat) (e : Env) (r n : Nat) :
    (flowAcquireCmd k e r n).count = (if k > 0 then k - 1 else 0) ∧ (flowAcquireCmd k e r n).flag = 0 ∧
      (flowAcquireCmd k e r n).key = e.field "flowKey" ∧ (flowAcquireCmd k e r n).rcount = e.field "priority" :=
  ⟨rfl, rfl, rfl, rfl⟩

theorem prioLockCmd_shape (e : Env) (r n : Nat) :
    (prioLockCmd e r n).tflag = ((e.field "timeout" ||| 1048576) >>> 16) % 65536 ∧
      (prioLockCmd e r n).rcount = e.field "priority" ∧ (prioLockCmd e r n).count = e.field "count" ∧
      (prioLockCmd e r n).flag = 0 ∧ (prioLockCmd e r n).key = e.field "lockKey" := ⟨rfl, rfl, rfl, rfl, rfl⟩

theorem evClearCmd_shape (e : Env) (r n : Nat) :
    (evClearCmd e r n).flag = F_UPDATE ∧ (evClearCmd e r n).count = 0 ∧ (evClearCmd e r n).rcount = 0 ∧
      (evClearCmd e r n).key = e.field "eventKey" ∧ (evClearCmd e r n).lockId = e.field "eventKey" ∧
      (evClearCmd e r n).expried = e.field "expried" % 65536 := ⟨rfl, rfl, rfl, rfl, rfl, rfl⟩

theorem evSetCmd_shape (e : Env) (r n : Nat) :
    (evSetCmd e r n).flag = 0 ∧ (evSetCmd e r n).key = e.field "eventKey" ∧ (evSetCmd e r n).lockId = e.field "eventKey" ∧
      (evSetCmd e r n).rcount = 0 := ⟨rfl, rfl, rfl, rfl⟩

theorem evWaitCmd_shape (e : Env) (r n : Nat) :
    (evWaitCmd e r n).flag = 0 ∧ (evWaitCmd e r n).count = 0 ∧ (evWaitCmd e r n).rcount = 0 ∧ (evWaitCmd e r n).expried = 0 ∧
      (evWaitCmd e r n).key = e.field "eventKey" ∧ (evWaitCmd e r n).lockId = e.fresh ∧
      (evWaitCmd e r n).timeout = e.param "timeout" % 65536 := ⟨rfl, rfl, rfl, rfl, rfl, rfl, rfl⟩

theorem evIsSetCmd_shape (e : Env) (r n : Nat) :
    (evIsSetCmd e r n).flag = 0 ∧ (evIsSetCmd e r n).count = 0 ∧ (evIsSetCmd e r n).rcount = 0 ∧ (evIsSetCmd e r n).expried = 0 ∧
      (evIsSetCmd e r n).timeout = 0 := ⟨rfl, rfl, rfl, rfl, rfl⟩

/-- whatever the user's timeout word, PriorityLock's or-ed `TIMEOUT_FLAG_RCOUNT_IS_PRIORITY << 16` sets bit 0x10 of the flag field -/
theorem has_prio_bit (w : Nat) : has (((w ||| 1048576) >>> 16) % 65536) TF_PRIORITY = true := by
  unfold has TF_PRIORITY
  have h : ((((w ||| 1048576) >>> 16) % 2 ^ 16) &&& 2 ^ 4).testBit 4 = true := by
    rw [Nat.testBit_and, Nat.testBit_mod_two_pow, Nat.testBit_shiftRight, Nat.testBit_or]
    have : Nat.testBit 1048576 (16 + 4) = true := by decide
    rw [this]
    simp
    decide
  have : ((((w ||| 1048576) >>> 16) % 65536) &&& 16) ≠ 0 := by
    intro h0
    have e1 : (65536 : Nat) = 2 ^ 16 := by decide
    have e2 : (16 : Nat) = 2 ^ 4 := by decide
    rw [e1, e2] at h0
    rw [h0] at h; simp at h
  simpa using this

theorem prioLockCmd_priority (e : Env) (r n : Nat) : cmdPriority (prioLockCmd e r n) = e.field "priority" := by
  unfold cmdPriority
  rw [(prioLockCmd_shape e r n).1, has_prio_bit, (prioLockCmd_shape e r n).2.1]
  rfl

end Slock.Client
