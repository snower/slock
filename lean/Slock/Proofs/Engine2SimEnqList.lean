import Slock.Model.Engine2
import Slock.Proofs.Engine
/-! Simulation stage 2 → stage 1: list facts about the priority insertion (`insertPrio`, `rePush`'s re-sort) against stage 1's
`insertWaiter` on the sub-list of live requests. -/
namespace Slock.Sim
open Slock Slock.Engine2
open Slock.Engine (has)

def Srt (l : List WEnt) : Prop := (l.map (·.prio)).Pairwise (· ≥ ·)

theorem insertPrio_prio : OrdInsert (fun e a : WEnt => e.prio > a.prio) insertPrio := .ofPrio (fun _ => rfl) (fun _ _ _ => rfl)

theorem insertPrio_perm (ws : List WEnt) (e : WEnt) : (insertPrio ws e).Perm (e :: ws) := insertPrio_prio.perm ws e

theorem foldl_insertPrio_perm (l acc : List WEnt) : (l.foldl insertPrio acc).Perm (acc ++ l) := by
  induction l generalizing acc with
  | nil => simp
  | cons a as ih =>
    simp only [List.foldl_cons]
    exact (ih _).trans (((insertPrio_perm acc a).append_right as).trans List.perm_middle.symm)

theorem insertPrio_mem' (ws : List WEnt) (e x : WEnt) : x ∈ insertPrio ws e ↔ x = e ∨ x ∈ ws :=
  (insertPrio_perm ws e).mem_iff.trans List.mem_cons

theorem insertPrio_mem (ws : List WEnt) (e : WEnt) (x : Nat) :
    x ∈ (insertPrio ws e).map (·.rid) ↔ x = e.rid ∨ x ∈ ws.map (·.rid) :=
  ((insertPrio_perm ws e).map _).mem_iff.trans List.mem_cons

theorem insertPrio_nodup (ws : List WEnt) (e : WEnt) (hn : (ws.map (·.rid)).Nodup) (hr : e.rid ∉ ws.map (·.rid)) :
    ((insertPrio ws e).map (·.rid)).Nodup :=
  ((insertPrio_perm ws e).map _).nodup_iff.mpr (List.nodup_cons.mpr ⟨hr, hn⟩)

theorem mem_foldl_insertPrio (l acc : List WEnt) (x : WEnt) : x ∈ l.foldl insertPrio acc ↔ x ∈ acc ∨ x ∈ l :=
  (foldl_insertPrio_perm l acc).mem_iff.trans List.mem_append

theorem insertPrio_head (ws : List WEnt) (e x : WEnt) (rest : List WEnt) (h : insertPrio ws e = x :: rest) : x = e ∨ ∃ t, ws = x :: t := by
  cases ws with
  | nil => unfold insertPrio at h; injection h with a _; exact Or.inl a.symm
  | cons y t =>
    unfold insertPrio at h
    split at h
    · injection h with a _; exact Or.inl a.symm
    · injection h with a _; exact Or.inr ⟨t, by rw [a]⟩

theorem foldl_insertPrio_head (l : List WEnt) (y : WEnt) (t : List WEnt) (h : ∀ z ∈ l, z.prio ≤ y.prio) :
    ∃ t', l.foldl insertPrio (y :: t) = y :: t' := by
  induction l generalizing t with
  | nil => exact ⟨t, rfl⟩
  | cons a as ih =>
    simp only [List.foldl_cons]
    have : insertPrio (y :: t) a = y :: insertPrio t a := by
      conv => lhs; unfold insertPrio
      rw [if_neg (Nat.not_lt.mpr (h a (by simp)))]
    rw [this]
    exact ih (insertPrio t a) (fun z hz => h z (List.mem_cons_of_mem _ hz))

theorem Srt.ord {l : List WEnt} (h : Srt l) : l.Pairwise (fun a b => ¬ b.prio > a.prio) := (List.pairwise_map.mp h).imp Nat.not_lt.mpr

theorem insertPrio_srt (ws : List WEnt) (e : WEnt) (h : Srt ws) : Srt (insertPrio ws e) :=
  List.pairwise_map.mpr ((insertPrio_prio.sorted ws e h.ord).imp Nat.le_of_not_lt)

theorem foldl_insertPrio_srt (l acc : List WEnt) (h : Srt acc) : Srt (l.foldl insertPrio acc) := by
  induction l generalizing acc with
  | nil => exact h
  | cons a as ih => simp only [List.foldl_cons]; exact ih _ (insertPrio_srt acc a h)

/-- stable: among the entries picked by `P`, all of one priority `q`, the order is kept -/
theorem filter_insertPrio (P : WEnt → Bool) (q : Nat) (ws : List WEnt) (e : WEnt) (hs : Srt ws) (hq : ∀ x ∈ ws, P x = true → x.prio = q)
    (he : P e = true → e.prio = q) : (insertPrio ws e).filter P = ws.filter P ++ (if P e then [e] else []) := by
  cases hp : P e with
  | false => rw [insertPrio_prio.filter_skip P ws e hp]; simp
  | true => rw [insertPrio_prio.filter_stable P ws e hs.ord hp fun x hx hpx => by rw [he hp, hq x hx hpx]; exact Nat.lt_irrefl q]; rfl

theorem foldl_insertPrio_filter (P : WEnt → Bool) (q : Nat) (l acc : List WEnt) (hs : Srt acc) (ha : ∀ x ∈ acc, P x = true → x.prio = q)
    (hl : ∀ x ∈ l, P x = true → x.prio = q) : (l.foldl insertPrio acc).filter P = acc.filter P ++ l.filter P := by
  induction l generalizing acc with
  | nil => simp
  | cons a as ih =>
    simp only [List.foldl_cons]
    rw [ih (insertPrio acc a) (insertPrio_srt acc a hs) ?_ (fun x hx => hl x (List.mem_cons_of_mem _ hx)),
      filter_insertPrio P q acc a hs ha (hl a (by simp))]
    · cases hp : P a <;> simp [List.filter, hp]
    · intro x hx hpx
      rcases (insertPrio_mem' acc a x).mp hx with h1 | h1
      · rw [h1] at hpx ⊢; exact hl a (by simp) hpx
      · exact ha x h1 hpx

theorem insertWaiter_append (ws : List Engine.Waiter) (w : Engine.Waiter) (h : ∀ x ∈ ws, ¬ Engine.cmdPriority w.cmd > Engine.cmdPriority x.cmd) :
    Engine.insertWaiter ws w = ws ++ [w] := by
  have := Engine.insertWaiter_prio.eq_of_split ws [] w h (fun _ hy => nomatch hy)
  rwa [List.append_nil] at this

/-- priority insertion into the raw queue, seen on the live requests, is stage 1's `insertWaiter` -/
theorem filter_insertPrio_waiter (P : WEnt → Bool) (f : WEnt → Engine.Waiter) (ws : List WEnt) (e : WEnt) (hs : Srt ws)
    (hc : ∀ x ∈ ws, P x = true → x.prio = Engine.cmdPriority (f x).cmd) (hpe : P e = true) (hce : e.prio = Engine.cmdPriority (f e).cmd) :
    ((insertPrio ws e).filter P).map f = Engine.insertWaiter ((ws.filter P).map f) (f e) := by
  rw [insertPrio_prio.filter_ins P ws e hs.ord hpe]
  exact insertPrio_prio.map Engine.insertWaiter_prio f _ e fun y hy => by
    rw [← hc y (List.mem_filter.mp hy).1 (List.mem_filter.mp hy).2, ← hce]

end Slock.Sim
