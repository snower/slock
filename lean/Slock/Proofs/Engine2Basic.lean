import Slock.Model.Engine2
import Slock.Proofs.Lists
/-! Stage-2 engine: how an operation opens and stores one key record (lookup after store, the other key records), and one
induction principle each for folds, the two sweeps, the tick and runs, which every invariant instantiates. -/
namespace Slock.Engine2

theorem hasKey_eq_false_iff (db : DB) (n : Nat) : db.hasKey n = false ↔ ∀ k ∈ db.keys, k.key ≠ n := by
  unfold DB.hasKey DB.findKey
  cases h : db.keys.find? (·.key == n) with
  | none =>
    simp only [Option.isSome_none, true_iff]
    intro k hk e
    have := List.find?_eq_none.mp h k hk
    simp [e] at this
  | some k0 =>
    simp only [Option.isSome_some, Bool.true_eq_false, false_iff]
    intro hall
    have hm := List.mem_of_find?_eq_some h
    have hp := List.find?_some h
    exact hall k0 hm (by simpa using hp)

theorem getKey_key (db : DB) (n : Nat) : (db.getKey n).key = n := find_getD_key Key.key _ n _ rfl

theorem getKey_of_not_hasKey (db : DB) (n : Nat) (h : db.hasKey n = false) : db.getKey n = newKey n := by
  unfold DB.hasKey at h
  unfold DB.getKey
  cases hf : db.findKey n with
  | none => rfl
  | some k => simp [hf] at h

theorem hasKey_of_waited {db : DB} (n : Nat) (h : (db.getKey n).waited = true) : db.hasKey n = true := by
  cases hh : db.hasKey n with
  | true => rfl
  | false => rw [getKey_of_not_hasKey db n hh] at h; simp [newKey] at h

theorem getKey_mem (db : DB) (n : Nat) (h : db.hasKey n = true) : db.getKey n ∈ db.keys := by
  unfold DB.hasKey at h
  unfold DB.getKey
  cases hf : db.findKey n with
  | none => simp [hf] at h
  | some k => exact List.mem_of_find?_eq_some hf

/-- what holds of every key record and of a new one holds of whatever `getKey` returns -/
theorem all_getKey {P : Key → Prop} {db : DB} (h : ∀ k ∈ db.keys, P k) (n : Nat) (h0 : P (newKey n)) : P (db.getKey n) := by
  cases hh : db.hasKey n with
  | true => exact h _ (getKey_mem db n hh)
  | false => rw [getKey_of_not_hasKey db n hh]; exact h0

/-- `GetOrNewLockManager` does not change what any key looks like; it only makes the record exist -/
theorem getKey_create (db : DB) (n m : Nat) : (db.create n).getKey m = db.getKey m := by
  unfold DB.create
  cases h : db.hasKey n with
  | true => simp
  | false =>
    simp only [Bool.false_eq_true, if_false]
    have hall := (hasKey_eq_false_iff db n).mp h
    by_cases e : m = n
    · subst e
      rw [getKey_of_not_hasKey db m h]
      unfold DB.getKey DB.findKey
      simp only []
      rw [find_append_new Key.key db.keys m hall (newKey m) rfl]; rfl
    · unfold DB.getKey DB.findKey
      simp only []
      rw [find_append_other Key.key db.keys n m (newKey n) rfl e]

/-- … so what holds of every key record and of a new one holds after it -/
theorem all_create {P : Key → Prop} {db : DB} (h : ∀ k ∈ db.keys, P k) (n : Nat) (h0 : P (newKey n)) : ∀ k ∈ (db.create n).keys, P k := by
  unfold DB.create
  split
  · exact h
  · intro k hk
    rcases List.mem_append.mp hk with h1 | h1
    · exact h k h1
    · rw [List.mem_singleton.mp h1]; exact h0

theorem hasKey_create (db : DB) (n : Nat) : (db.create n).hasKey n = true := by
  unfold DB.create
  cases h : db.hasKey n with
  | true => simp [h]
  | false =>
    simp only [Bool.false_eq_true, if_false]
    have hall := (hasKey_eq_false_iff db n).mp h
    unfold DB.hasKey DB.findKey
    simp only []
    rw [find_append_new Key.key db.keys n hall (newKey n) rfl]; rfl

theorem openKey_create (db : DB) (n : Nat) :
    ((db.create n).openKey n).k = db.getKey n ∧ ((db.create n).openKey n).gone = false ∧
    ((db.create n).openKey n).db = db.create n ∧ ((db.create n).openKey n).out = [] := by
  unfold DB.openKey
  simp [getKey_create, hasKey_create]

theorem create_fields (db : DB) (n : Nat) :
    (db.create n).leader = db.leader ∧ (db.create n).aofOut = db.aofOut ∧ (db.create n).now = db.now ∧
    (db.create n).ctr = db.ctr ∧ (db.create n).panicked = db.panicked ∧ (db.create n).seq = db.seq ∧
    (db.create n).tCheck = db.tCheck ∧ (db.create n).eCheck = db.eCheck ∧ (db.create n).aofTime = db.aofTime := by
  unfold DB.create; split <;> simp

theorem length_filter_ne {α} (key : α → Nat) {l : List α} {n : Nat} (hn : (l.map key).Nodup) (hm : ∃ a ∈ l, key a = n) :
    (l.filter (key · != n)).length + 1 = l.length := by
  induction l with
  | nil => obtain ⟨r, hr, _⟩ := hm; simp at hr
  | cons a as ih =>
    simp only [List.map_cons, List.nodup_cons] at hn
    by_cases e : key a = n
    · have h1 : (key a != n) = false := by simp [e]
      have hall : as.filter (key · != n) = as := by
        apply List.filter_eq_self.mpr
        intro y hy
        have : key y ≠ n := fun e' => hn.1 (by rw [e, ← e']; exact List.mem_map.mpr ⟨y, hy, rfl⟩)
        simpa using this
      simp [List.filter, h1, hall]
    · have h1 : (key a != n) = true := by simpa using e
      obtain ⟨r, hr, er⟩ := hm
      have hr' : r ∈ as := by
        rcases List.mem_cons.mp hr with e' | h'
        · exact absurd (e' ▸ er) e
        · exact h'
      simp only [List.filter, h1, List.length_cons]
      have := ih hn.2 ⟨r, hr', er⟩
      omega

theorem getKey_setKey_same (db : DB) (k : Key) : (db.setKey k).getKey k.key = k := by
  unfold DB.setKey
  cases h : db.hasKey k.key with
  | true =>
    simp only [if_true]
    unfold DB.getKey DB.findKey
    simp only []
    rw [find_map_if Key.key _ _ (fun _ => k) (fun _ _ => rfl)]
    unfold DB.hasKey DB.findKey at h
    cases hf : db.keys.find? (·.key == k.key) with
    | none => simp [hf] at h
    | some _ => rfl
  | false =>
    simp only [Bool.false_eq_true, if_false]
    unfold DB.getKey DB.findKey
    simp only []
    rw [find_append_new Key.key db.keys k.key ((hasKey_eq_false_iff db k.key).mp h) k rfl]; rfl

theorem getKey_setKey_other (db : DB) (k : Key) (m : Nat) (hne : m ≠ k.key) : (db.setKey k).getKey m = db.getKey m := by
  unfold DB.setKey
  cases h : db.hasKey k.key with
  | true =>
    simp only [if_true]
    unfold DB.getKey DB.findKey
    simp only []
    rw [find_map_if_other Key.key _ _ _ (fun _ => k) (fun _ _ => rfl) hne]
  | false =>
    simp only [Bool.false_eq_true, if_false]
    unfold DB.getKey DB.findKey
    simp only []
    rw [find_append_other Key.key db.keys k.key m k rfl hne]

theorem setKey_fields (db : DB) (k : Key) :
    (db.setKey k).leader = db.leader ∧ (db.setKey k).aofOut = db.aofOut ∧ (db.setKey k).now = db.now ∧
    (db.setKey k).ctr = db.ctr ∧ (db.setKey k).panicked = db.panicked ∧ (db.setKey k).keyCount = db.keyCount ∧
    (db.setKey k).seq = db.seq ∧ (db.setKey k).tCheck = db.tCheck ∧ (db.setKey k).eCheck = db.eCheck ∧
    (db.setKey k).aofTime = db.aofTime ∧ (db.setKey k).nextRid = db.nextRid := by
  unfold DB.setKey; split <;> simp

theorem dropKey_fields (db : DB) (n : Nat) :
    (db.dropKey n).leader = db.leader ∧ (db.dropKey n).aofOut = db.aofOut ∧ (db.dropKey n).now = db.now ∧
    (db.dropKey n).ctr = db.ctr ∧ (db.dropKey n).panicked = db.panicked ∧ (db.dropKey n).seq = db.seq ∧
    (db.dropKey n).tCheck = db.tCheck ∧ (db.dropKey n).eCheck = db.eCheck ∧ (db.dropKey n).aofTime = db.aofTime ∧
    (db.dropKey n).nextRid = db.nextRid := by
  unfold DB.dropKey; simp

theorem hasKey_dropKey (db : DB) (n : Nat) : (db.dropKey n).hasKey n = false := by
  rw [hasKey_eq_false_iff]
  intro k hk
  unfold DB.dropKey at hk
  simp only [] at hk
  have := (List.mem_filter.mp hk).2
  simpa using this

theorem getKey_dropKey_same (db : DB) (n : Nat) : (db.dropKey n).getKey n = newKey n :=
  getKey_of_not_hasKey _ _ (hasKey_dropKey db n)

theorem getKey_dropKey_other (db : DB) (n m : Nat) (hne : m ≠ n) : (db.dropKey n).getKey m = db.getKey m := by
  unfold DB.dropKey DB.getKey DB.findKey
  simp only []
  rw [find_filter_other Key.key _ _ _ hne]

theorem mem_commit {w : W} {k : Key} (h : k ∈ w.commit.keys) :
    (w.gone = false ∧ k = w.k) ∨ (k ∈ w.db.keys ∧ (w.gone = false → k.key ≠ w.k.key)) := by
  unfold W.commit at h
  cases hg : w.gone with
  | true => rw [hg, if_pos rfl] at h; exact Or.inr ⟨h, fun e => absurd e (by simp)⟩
  | false =>
    rw [hg, if_neg (by simp)] at h
    unfold DB.setKey at h
    split at h
    · obtain ⟨x, hx, e⟩ := List.mem_map.mp h
      split at e
      · exact Or.inl ⟨rfl, e.symm⟩
      · rename_i hne; subst e; exact Or.inr ⟨hx, fun _ => by simpa using hne⟩
    · rename_i hh
      rcases List.mem_append.mp h with h1 | h1
      · exact Or.inr ⟨h1, fun _ => (hasKey_eq_false_iff _ _).mp (by simpa using hh) k h1⟩
      · exact Or.inl ⟨rfl, by simpa using h1⟩

/-- the shape of `sweepTimeout` / `sweepExpire`: two visiting passes (slot entries, long-table entries) that deal with an entry or
pass it on to the collected list, then the firing pass over the collected entries; `J d X`: at database `d`, with the entries `X`
still to be dealt with -/
theorem sweep_pending {J : DB → List Ent → Prop} {visit : Bool → DB × List Ent → Ent → DB × List Ent} {fire : DB × List Reply → Ent → DB × List Reply}
    (hv : ∀ slot a e X, J a.1 (e :: X ++ a.2) → J (visit slot a e).1 (X ++ (visit slot a e).2))
    (hf : ∀ a e X, J a.1 (e :: X) → J (fire a e).1 X) (es1 es2 : List Ent) (db : DB) (h : J db (es1 ++ es2)) :
    J ((es2.foldl (visit false) (es1.foldl (visit true) (db, []))).2.foldl fire
      ((es2.foldl (visit false) (es1.foldl (visit true) (db, []))).1, [])).1 [] := by
  have h1 := foldl_pending (J := fun (a : DB × List Ent) X => J a.1 (X ++ a.2)) (hv true) es1 es2 (db, []) (by simpa using h)
  have h2 := foldl_pending (J := fun (a : DB × List Ent) X => J a.1 (X ++ a.2)) (hv false) es2 [] _ (by simpa using h1)
  exact foldl_pending (J := fun (a : DB × List Reply) X => J a.1 X) hf _ [] (_, []) (by simpa using h2)

theorem run_inv {I : DB → Prop} (ops : List Op) (hs : ∀ db, ∀ o ∈ ops, I db → I (step db o).1) (db : DB) (h : I db) :
    I (run db ops) := by
  induction ops generalizing db with
  | nil => exact h
  | cons o os ih => exact ih (fun d x hx => hs d x (List.mem_cons_of_mem _ hx)) _ (hs db o (List.mem_cons_self ..) h)

theorem commit_getKey (w : W) (hg : w.gone = false) : w.commit.getKey w.k.key = w.k := by
  unfold W.commit; simp only [hg, Bool.false_eq_true, if_false]; exact getKey_setKey_same _ _

theorem commit_getKey_other (w : W) (n : Nat) (hne : n ≠ w.k.key) : w.commit.getKey n = w.db.getKey n := by
  unfold W.commit
  split
  · rfl
  · exact getKey_setKey_other _ _ _ hne

theorem commit_of_gone (w : W) (hg : w.gone = true) : w.commit = w.db := by unfold W.commit; simp [hg]

end Slock.Engine2
