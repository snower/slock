import Slock.Proofs.TextNum
/-! M-TEXT: the parser automaton on `BuildRequest` output, then (response side) on `BuildResponse` output (C14 text part). -/
namespace Slock.Text

theorem runBytes_append (s : PState) (l : Loc) (acc : Replies) (xs ys : Bytes) :
    runBytes s l acc (xs ++ ys) =
      match runBytes s l acc xs with
      | .ok acc' s' l' => runBytes s' l' acc' ys
      | r => r := by
  induction xs generalizing s l acc with
  | nil => simp [runBytes]
  | cons x xs ih =>
    simp only [List.cons_append, runBytes]
    cases step s l x <;> simp [ih]

theorem lfBad_cr : lfBad (some 13) = false := by decide

variable {g : Nat} {cl ac : Int} {as : List Bytes} {rs : Bool} {ty : Nat} {p : Option UInt8} {l : Loc} {acc : Replies}
  {tail : Bytes}

theorem digitsRun (st : Stage) (hst : st = .s1 ∨ st = .s3) (ds : Bytes) (hd : ∀ b ∈ ds, isDigit b) (pre : Bytes)
    (hlen : pre.length + ds.length ≤ 128) :
    runBytes ⟨st, pre, g, cl, as, ac, rs, ty⟩ l acc (ds ++ 13 :: tail) =
      runBytes ⟨st, pre ++ ds, g, cl, as, ac, rs, ty⟩ ⟨some 13, .entry⟩ acc tail := by
  induction ds generalizing pre l with
  | nil => rcases hst with rfl | rfl <;> simp [runBytes, step, numStep]
  | cons d ds ih =>
    have hdd := isDigit_ne d (hd d (by simp))
    simp only [List.length_cons] at hlen
    have hlt : ¬ (pre.length ≥ MAX_CARG_LEN) := by unfold MAX_CARG_LEN; omega
    have h1 : runBytes ⟨st, pre, g, cl, as, ac, rs, ty⟩ l acc (d :: (ds ++ 13 :: tail)) =
        runBytes ⟨st, pre ++ [d], g, cl, as, ac, rs, ty⟩ ⟨some d, .entry⟩ acc (ds ++ 13 :: tail) := by
      rcases hst with rfl | rfl <;> simp only [runBytes, step, numStep, hdd.1, hdd.2.1, if_false, hlt]
    rw [List.cons_append, h1, ih (fun b hb => hd b (by simp [hb])) (pre ++ [d]) (by simp; omega), List.append_assoc]
    rfl

theorem numLine_s1 (ds : Bytes) (hd : ∀ b ∈ ds, isDigit b) (pre : Bytes) (hlen : pre.length + ds.length ≤ 128)
    (v : Int) (hv : atoi (pre ++ ds) = some v) :
    runBytes ⟨.s1, pre, g, cl, as, ac, rs, ty⟩ l acc (ds ++ 13 :: 10 :: tail) =
      runBytes ⟨.s2, [], g, cl, as, v, rs, ty⟩ ⟨some 10, .entry⟩ acc tail := by
  rw [digitsRun .s1 (.inl rfl) ds hd pre hlen]
  simp [runBytes, step, numStep, lfBad_cr, hv]

theorem numLine_s3 (ds : Bytes) (hd : ∀ b ∈ ds, isDigit b) (pre : Bytes) (hlen : pre.length + ds.length ≤ 128)
    (v : Int) (hv : atoi (pre ++ ds) = some v) :
    runBytes ⟨.s3, pre, g, cl, as, ac, rs, ty⟩ l acc (ds ++ 13 :: 10 :: tail) =
      runBytes ⟨.s4, [], 0, v, as, ac, rs, ty⟩ ⟨some 10, .entry⟩ acc tail := by
  rw [digitsRun .s3 (.inr rfl) ds hd pre hlen]
  simp [runBytes, step, numStep, lfBad_cr, hv]

theorem appendLast_snoc (as : List Bytes) (x : Bytes) (b : UInt8) :
    appendLast (as ++ [x]) b = some (as ++ [x ++ [b]]) := by
  induction as with
  | nil => simp [appendLast]
  | cons a as ih =>
    cases h : as ++ [x] with
    | nil => simp at h
    | cons y ys =>
      simp only [List.cons_append, h, appendLast]
      rw [← h, ih]
      simp

/-- the rest of an argument's bytes inside the block copy (binary-safe: any bytes) -/
theorem dataRun (xs : Bytes) (hx : xs ≠ []) (x : Bytes) (hg : g ≠ 0) :
    runBytes ⟨.s4, [], g, cl, as ++ [x], ac, rs, ty⟩ ⟨p, .data xs.length⟩ acc (xs ++ tail) =
      runBytes ⟨.s4, [], cl.toNat, cl, as ++ [x ++ xs], ac, rs, ty⟩ ⟨some (xs.getLast hx), .scan⟩ acc tail := by
  induction xs generalizing x g p with
  | nil => exact absurd rfl hx
  | cons b bs ih =>
    cases bs with
    | nil =>
      simp [runBytes, step, step4, dataByte, hg, appendLast_snoc]
    | cons c cs =>
      rw [show (b :: c :: cs) ++ tail = b :: ((c :: cs) ++ tail) by simp, runBytes]
      have h3 : ¬ ((b :: c :: cs).length ≤ 1) := by simp
      simp only [step, step4, dataByte, hg, if_false, appendLast_snoc, h3]
      have e : (b :: c :: cs).length - 1 = (c :: cs).length := by simp
      rw [e, ih (by simp) (x ++ [b]) (g := g + 1) (by omega)]
      simp

theorem argRun (xs : Bytes) (hx : xs ≠ []) :
    runBytes ⟨.s4, [], 0, xs.length, as, ac, rs, ty⟩ ⟨p, .entry⟩ acc (xs ++ tail) =
      runBytes ⟨.s4, [], xs.length, xs.length, as ++ [xs], ac, rs, ty⟩ ⟨some (xs.getLast hx), .scan⟩ acc tail := by
  match xs, hx with
  | [b], _ => simp [runBytes, step, step4, dataByte]
  | b :: c :: cs, _ =>
    have hpos : ((b :: c :: cs).length : Int) - ((0 : Nat) : Int) > 0 := by simp only [List.length_cons]; omega
    have h1 : ¬ (((b :: c :: cs).length : Int) - ((0 : Nat) : Int)).toNat ≤ 1 := by simp only [List.length_cons]; omega
    have h2 : (((b :: c :: cs).length : Int) - ((0 : Nat) : Int)).toNat - 1 = (c :: cs).length := by
      simp only [List.length_cons]; omega
    rw [List.cons_append, runBytes]
    simp only [step, step4, hpos, if_true, dataByte, h1, if_false, h2]
    rw [dataRun (c :: cs) (by simp) [b] (g := 1) (by omega), Int.toNat_natCast]
    rfl

/-- the CR LF after an argument of declared length `cl` (after the block copy, or at once when `cl = 0`): an empty
argument is appended now; then the next `$` line follows or the command is handed over -/
theorem closeRun {args : List Bytes} {ph : Phase} (hph : ph = .scan ∨ ph = .entry ∧ cl - (g : Int) ≤ 0) :
    runBytes ⟨.s4, [], g, cl, args, ac, rs, ty⟩ ⟨p, ph⟩ acc (13 :: 10 :: tail) =
      if (((if cl = 0 then args ++ [[]] else args).length : Nat) : Int) < ac then
        runBytes ⟨.s2, [], 0, 0, if cl = 0 then args ++ [[]] else args, ac, rs, ty⟩ ⟨some 10, .entry⟩ acc tail
      else runBytes ⟨.s0, [], 0, 0, [], 0, rs, ty⟩ ⟨some 10, .entry⟩
        (acc ++ [(ty, if cl = 0 then args ++ [[]] else args)]) tail := by
  have hcr : step4 ⟨.s4, [], g, cl, args, ac, rs, ty⟩ ⟨p, ph⟩ 13 =
      .cont ⟨.s4, [], g, cl, args, ac, rs, ty⟩ ⟨some 13, .scan⟩ := by
    rcases hph with rfl | ⟨rfl, hle⟩
    · rfl
    · simp only [step4, if_neg (Int.not_lt.mpr hle)]; rfl
  rw [runBytes]
  simp only [step]
  rw [hcr]
  simp only [runBytes, step, step4, scanByte, lfBad_cr, if_true, Bool.false_eq_true, if_false]
  by_cases hc : (((if cl = 0 then args ++ [[]] else args).length : Nat) : Int) < ac
  · rw [if_pos hc, if_pos hc]
  · rw [if_neg hc, if_neg hc]

theorem bulkRun (a : Bytes) (ha : a.length < 9223372036854775808) :
    runBytes ⟨.s2, [], 0, 0, as, ac, rs, ty⟩ l acc (bulk a ++ tail) =
      if ((as ++ [a]).length : Int) < ac then runBytes ⟨.s2, [], 0, 0, as ++ [a], ac, rs, ty⟩ ⟨some 10, .entry⟩ acc tail
      else runBytes ⟨.s0, [], 0, 0, [], 0, rs, ty⟩ ⟨some 10, .entry⟩ (acc ++ [(ty, as ++ [a])]) tail := by
  unfold bulk crlf
  simp only [List.cons_append, List.append_assoc, List.nil_append]
  rw [runBytes]
  simp only [step, if_true]
  have hv := atoi_natToDec a.length ha
  have hl := natToDec_length a.length ha
  rw [numLine_s3 (natToDec a.length) (natToDec_all_digit _) [] (by simp; omega) (a.length : Int) (by simpa using hv)]
  cases a with
  | nil => rw [List.nil_append, closeRun (.inr ⟨rfl, by simp⟩)]; simp
  | cons b bs =>
    have hne : ¬ (((b :: bs).length : Nat) : Int) = 0 := by simp only [List.length_cons]; omega
    rw [argRun (b :: bs) (by simp), closeRun (.inl rfl), if_neg hne]

theorem bulksRun (rest : List Bytes) (hr : rest ≠ []) (hlen : ∀ a ∈ rest, a.length < 9223372036854775808)
    (done : List Bytes) :
    runBytes ⟨.s2, [], 0, 0, done, ((done.length + rest.length : Nat) : Int), rs, ty⟩ l acc (bulks rest ++ tail) =
      runBytes ⟨.s0, [], 0, 0, [], 0, rs, ty⟩ ⟨some 10, .entry⟩ (acc ++ [(ty, done ++ rest)]) tail := by
  induction rest generalizing done l with
  | nil => exact absurd rfl hr
  | cons a rest ih =>
    simp only [bulks, List.append_assoc]
    rw [bulkRun a (hlen a (by simp))]
    cases rest with
    | nil =>
      have : ¬ (((done ++ [a]).length : Int) < ((done.length + [a].length : Nat) : Int)) := by simp
      simp [bulks]
    | cons b rest =>
      have : (((done ++ [a]).length : Int) < ((done.length + (a :: b :: rest).length : Nat) : Int)) := by
        simp; omega
      simp only [this, if_true]
      have e : done.length + (a :: b :: rest).length = (done ++ [a]).length + (b :: rest).length := by simp; omega
      rw [e, ih (by simp) (fun x hx => hlen x (by simp [hx])) (done ++ [a])]
      simp

theorem buildRun (args : List Bytes) (hne : args ≠ []) (hcount : args.length < 9223372036854775808)
    (hlen : ∀ a ∈ args, a.length < 9223372036854775808) :
    runBytes {} l acc (buildRequest args ++ tail) = runBytes {} ⟨some 10, .entry⟩ (acc ++ [(0, args)]) tail := by
  unfold buildRequest crlf
  simp only [List.cons_append, List.append_assoc, List.nil_append]
  rw [runBytes]
  simp only [step, if_true, Bool.false_eq_true, if_false]
  have hv := atoi_natToDec args.length hcount
  have hl := natToDec_length args.length hcount
  rw [numLine_s1 (natToDec args.length) (natToDec_all_digit _) [] (by simp; omega) (args.length : Int) (by simpa using hv)]
  have := bulksRun args hne hlen [] (rs := false) (ty := 0) (l := ⟨some 10, .entry⟩) (acc := acc) (tail := tail)
  simpa using this

/-! Response side: `ParseResponse` on `BuildResponse` output (stages 5 and 6; stages 1–4 are the request side's). -/

theorem stripCR_snoc_cr (m : Bytes) : stripCR (m ++ [13]) = stripCR m := by
  unfold stripCR
  simp

theorem stripCR_id (m : Bytes) (h : ∀ b ∈ m, b ≠ 13) : stripCR m = m := by
  unfold stripCR
  have hm : m = m.reverse.reverse := by simp
  cases hr : m.reverse with
  | nil => rw [hm, hr]; simp
  | cons x xs =>
    have hx : x ≠ 13 := h x (by
      have : x ∈ m.reverse := by rw [hr]; simp
      simpa using this)
    rw [List.dropWhile]
    simp only [hx, decide_false]
    rw [← hr]; simp

variable {n : Bytes}

theorem modifyAt_last (pre : List Bytes) (t : Bytes) (f : Bytes → Bytes) :
    modifyAt (pre ++ [t]) pre.length f = some (pre ++ [f t]) := by
  simp [modifyAt]

/-- the text of a `+` reply (`ty = 1`, `args[0]`) or the message of a `-` reply (`ty = 2`, `args[1]`) followed by CR LF:
appended to the last argument, CRs stripped at the LF, reply emitted -/
theorem textRun (pre : List Bytes) (ty : Nat) (hk : (if ty = 2 then 1 else 0) = pre.length) (xs : Bytes)
    (hx : ∀ b ∈ xs, b ≠ 10) (t : Bytes) :
    runBytes ⟨.s5, n, g, cl, pre ++ [t], ac, true, ty⟩ l acc (xs ++ 13 :: 10 :: tail) =
      runBytes ⟨.s0, n, g, cl, [], 0, true, ty⟩ ⟨some 10, .entry⟩ (acc ++ [(ty, pre ++ [stripCR (t ++ xs)])]) tail := by
  induction xs generalizing t l with
  | nil =>
    simp [runBytes, step, step5, hk, modifyAt_last, lfBad_cr, stripCR_snoc_cr]
  | cons x xs ih =>
    have h10 : x ≠ 10 := hx x (by simp)
    rw [List.cons_append, runBytes]
    simp only [step, step5, h10, if_false, if_true, hk, modifyAt_last]
    rw [ih (fun b hb => hx b (by simp [hb])) (t ++ [x])]
    simp

/-- the type word of a `-` reply up to the blank -/
theorem typeRunBlank (xs : Bytes) (hx : ∀ b ∈ xs, b ≠ 10 ∧ b ≠ 32) (t m : Bytes) :
    runBytes ⟨.s6, n, g, cl, [t, m], ac, true, 2⟩ l acc (xs ++ 32 :: tail) =
      runBytes ⟨.s5, n, g, cl, [stripCR (t ++ xs), m], ac, true, 2⟩ ⟨some 32, .entry⟩ acc tail := by
  induction xs generalizing t l with
  | nil =>
    simp [runBytes, step, step6, modifyAt]
  | cons x xs ih =>
    have h := hx x (by simp)
    simp only [List.cons_append]
    rw [runBytes]
    simp only [step, step6, h.1, h.2, if_false, if_true, modifyAt]
    simp only [List.getElem?_cons_zero, List.set_cons_zero]
    rw [ih (fun b hb => hx b (by simp [hb])) (t ++ [x])]
    simp

/-- … or directly up to CR LF (`-ERR\r\n`) -/
theorem typeRunEnd (xs : Bytes) (hx : ∀ b ∈ xs, b ≠ 10 ∧ b ≠ 32) (t m : Bytes) :
    runBytes ⟨.s6, n, g, cl, [t, m], ac, true, 2⟩ l acc (xs ++ 13 :: 10 :: tail) =
      runBytes ⟨.s0, n, g, cl, [], 0, true, 2⟩ ⟨some 10, .entry⟩ (acc ++ [(2, [stripCR (t ++ xs), m])]) tail := by
  induction xs generalizing t l with
  | nil =>
    simp [runBytes, step, step6, modifyAt, lfBad_cr, stripCR_snoc_cr]
  | cons x xs ih =>
    have h := hx x (by simp)
    simp only [List.cons_append]
    rw [runBytes]
    simp only [step, step6, h.1, h.2, if_false, if_true, modifyAt]
    simp only [List.getElem?_cons_zero, List.set_cons_zero]
    rw [ih (fun b hb => hx b (by simp [hb])) (t ++ [x])]
    simp

end Slock.Text
