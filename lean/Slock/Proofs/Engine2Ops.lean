import Slock.Proofs.Engine2Fr
/-! Stage-2 engine: a whole LOCK / UNLOCK is a frame step from the state it starts in; its first reply carries the value the key had
before (`FirstReply`): nothing that runs before that reply touches `out`, and the value it sends was read before the cell was written;
what the store leaves of the database. -/
namespace Slock.Engine2
open Slock.Value (Cell getLockData)
open Slock.Engine (has mkReply)

theorem enter_k (db : DB) (n : Nat) : (db.enter n).k = db.getKey n := (openKey_create db n).1
theorem enter_gone (db : DB) (n : Nat) : (db.enter n).gone = false := (openKey_create db n).2.1
theorem enter_db (db : DB) (n : Nat) : (db.enter n).db = db.create n := (openKey_create db n).2.2.1
theorem enter_out (db : DB) (n : Nat) : (db.enter n).out = [] := (openKey_create db n).2.2.2
theorem enter_lockData (db : DB) (n : Nat) : (db.enter n).lockData = getLockData (db.getKey n).cell := by
  unfold W.lockData; rw [enter_k]
theorem openKey_lockData (db : DB) (n : Nat) : (db.openKey n).lockData = getLockData (db.getKey n).cell := rfl

/-- what the first reply of an operation carries: the value of the key before the operation — or nothing, if the key record
was reclaimed by this very operation before the reply was assembled -/
def FirstReply (pre : Option Bytes) (w : W) : Prop :=
  w.out = [] ∨ ∃ r more, w.out = r :: more ∧ (r.data = pre ∨ (w.Reclaimed ∧ r.data = none))

theorem FirstReply.of_fr {pre : Option Bytes} {w w' : W} (h : FirstReply pre w) (hne : w.out ≠ []) (f : Fr w w') : FirstReply pre w' := by
  rcases h with h | ⟨r, more, e, hd⟩
  · exact absurd h hne
  · obtain ⟨m2, e2⟩ := f.out
    refine Or.inr ⟨r, more ++ m2, by rw [e2, e]; rfl, ?_⟩
    rcases hd with hd | ⟨hg, hd⟩
    · exact Or.inl hd
    · exact Or.inr ⟨f.recl hg, hd⟩

theorem FirstReply.reply {pre : Option Bytes} (w : W) (c : Cmd) (a b : Nat) (d : Option Bytes) (ho : w.out = [])
    (hd : d = pre ∨ (w.Reclaimed ∧ d = none)) : FirstReply pre (w.reply c a b d) :=
  Or.inr ⟨{ r := mkReply c a w.k.locked b, data := d }, [], by simp [ho], hd⟩

theorem grant_out (w : W) (rid : Nat) : ∃ r, (w.grant rid).out = w.out ++ [r] ∧ r.data = w.lockData := by
  unfold W.grant
  simp only []
  rw [reply_out, ctr_out, (FQ.ref _ _).qt.out, (FQ.addExpried _ _).qt.out, modR_out, procData_out, modK_out, (FQ.addLock _ _).qt.out]
  refine ⟨_, rfl, ?_⟩
  unfold W.lockData
  simp [incLocked, W.addLock]

theorem grantNoHold_qt_out (w : W) (rid : Nat) : (w.grantNoHold rid).out = w.out := by
  unfold W.grantNoHold
  simp only []
  rw [modR_out]
  have := (FQ.when (w.procData .lock (w.k.getR rid).cmd (frameOf (w.k.getR rid).cmd (w.k.getR rid).data) rid)
    (has (w.k.getR rid).cmd.flag F_DATA && requireAof w.k &&
      cellNotAof (w.procData .lock (w.k.getR rid).cmd (frameOf (w.k.getR rid).cmd (w.k.getR rid).data) rid).k)
    (·.pushLockAof rid 0) (FQ.pushLockAof _ _ _)).qt.out
  rw [this, procData_out]

theorem freeCheck_out (w : W) (rid : Nat) : (w.freeCheck rid).out = w.out := by unfold W.freeCheck; simp
theorem unrefCheck_out (w : W) (rid : Nat) : (w.unrefCheck rid).out = w.out := by
  unfold W.unrefCheck
  simp only []
  cases ((w.modK (·.unrefOnly rid)).k.getR rid).refCount == 0
  · rfl
  · simp [W.when, freeCheck_out]

theorem removeIfZero_lockData (w : W) :
    w.removeIfZero.lockData = w.lockData ∨ (w.removeIfZero.Reclaimed ∧ w.removeIfZero.lockData = none) := by
  rcases removeIfZero_cases w with h | ⟨hg, hc, h0, _⟩
  · left; rw [h]
  · right; exact ⟨removeIfZero_reclaimed w hg h0, by simp [W.lockData, hc, getLockData]⟩

theorem freeCheck_lockData (w : W) (rid : Nat) :
    (w.freeCheck rid).lockData = w.lockData ∨ ((w.freeCheck rid).Reclaimed ∧ (w.freeCheck rid).lockData = none) := by
  unfold W.freeCheck
  rcases removeIfZero_lockData (w.modK (·.free rid)) with h | h
  · left; rw [h]; simp [W.lockData]
  · right; exact h

theorem when_out (w : W) (b : Bool) (f : W → W) (h : ∀ w, (f w).out = w.out) : (w.when b f).out = w.out := by
  cases b
  · rfl
  · exact h w

theorem applyLock_firstReply (db : DB) (c : Cmd) (data : Option Bytes) (b : LockBranch) (hb : b ≠ .p0b) :
    FirstReply (getLockData (db.getKey c.key).cell) (applyLock db c data b) := by
  cases b with
  | p0b => exact absurd rfl hb
  | p0a =>
    simp only [applyLock]
    exact FirstReply.reply _ _ _ _ _ rfl (Or.inl rfl)
  | stateError =>
    simp only [applyLock]
    refine FirstReply.reply _ _ _ _ _ (by simp [enter_out]) ?_
    rcases removeIfZero_lockData (db.enter c.key) with h | ⟨hg, hn⟩
    · left; rw [h, enter_lockData]
    · right; exact ⟨hg, hn⟩
  | «show» _ | updateEqual _ | relockNoHold _ | relockRefused _ | unlockedWaitRefused =>
    simp only [applyLock]
    exact FirstReply.reply _ _ _ _ _ (enter_out _ _) (Or.inl (enter_lockData _ _))
  | updateEqualData h =>
    simp only [applyLock]
    exact FirstReply.reply _ _ _ _ _ (by simp [enter_out]) (Or.inl (enter_lockData _ _))
  | update h =>
    simp only [applyLock]
    refine (FirstReply.reply _ _ _ _ _ ?_ (Or.inl (enter_lockData _ _))).of_fr (by simp) (Fr.wake _)
    rw [when_out _ _ _ (fun w => (FQ.journalLock w _ _).qt.out), (FQ.updateLocked _ _ _).qt.out, procData_out, enter_out]
  | relock h =>
    simp only [applyLock]
    refine (FirstReply.reply _ _ _ _ _ ?_ (Or.inl (enter_lockData _ _))).of_fr (by simp) (Fr.wake _)
    rw [ctr_out, (FQ.journalLock _ _ _).qt.out, (FQ.updateLocked _ _ _).qt.out, procData_out, modK_out, modR_out, enter_out]
  | grant =>
    simp only [applyLock]
    obtain ⟨r, ho, hd⟩ := grant_out ((db.enter c.key).newLock c data).1 ((db.enter c.key).newLock c data).2
    have hbase : FirstReply (getLockData (db.getKey c.key).cell)
        (((db.enter c.key).newLock c data).1.grant ((db.enter c.key).newLock c data).2) := by
      refine Or.inr ⟨r, [], ?_, Or.inl ?_⟩
      · rw [ho, (FQ.newLock _ _ _).qt.out, enter_out]; rfl
      · rw [hd, (FQ.newLock _ _ _).qt.lockData, enter_lockData]
    cases (db.enter c.key).k.waited
    · exact hbase
    · refine hbase.of_fr ?_ (Fr.wake _)
      rw [ho]; simp
  | grantNoHold =>
    simp only [applyLock]
    have hbase : FirstReply (getLockData (db.getKey c.key).cell)
        (((((db.enter c.key).newLock c data).1.grantNoHold ((db.enter c.key).newLock c data).2).freeCheck
          ((db.enter c.key).newLock c data).2).ctr (fun x => { x with lockCount := x.lockCount + 1 }) |>.reply c
            Slock.Engine.RESULT_SUCCED 0 (db.enter c.key).lockData) := by
      refine FirstReply.reply _ _ _ _ _ ?_ (Or.inl (enter_lockData _ _))
      rw [ctr_out, freeCheck_out, grantNoHold_qt_out, (FQ.newLock _ _ _).qt.out, enter_out]
    cases (db.enter c.key).k.waited
    · exact hbase
    · exact hbase.of_fr (by simp) (Fr.wake _)
  | queue =>
    simp only [applyLock]
    left
    rw [ctr_out, (FQ.ref _ _).qt.out, (FQ.addTimeOut _ _).qt.out, modK_out, (FQ.newLock _ _ _).qt.out, enter_out]
  | timeout =>
    simp only [applyLock]
    refine FirstReply.reply _ _ _ _ _ (by rw [freeCheck_out, (FQ.newLock _ _ _).qt.out, enter_out]) ?_
    rcases freeCheck_lockData ((db.enter c.key).newLock c data).1 ((db.enter c.key).newLock c data).2 with h | ⟨hg, hn⟩
    · left; rw [h, (FQ.newLock _ _ _).qt.lockData, enter_lockData]
    · right; exact ⟨hg, hn⟩

theorem applyUnlock_firstReply (db : DB) (c : Cmd) (data : Option Bytes) (b : UnlockBranch)
    (hb : b = .noManager → db.hasKey c.key = false) :
    FirstReply (getLockData (db.getKey c.key).cell) (applyUnlock db c data b) := by
  cases b with
  | noManager =>
    simp only [applyUnlock]
    refine Or.inr ⟨_, [], rfl, Or.inl ?_⟩
    rw [getKey_of_not_hasKey db c.key (hb rfl)]; rfl
  | stateError | notLocked | unown | cancelNone =>
    simp only [applyUnlock]
    exact FirstReply.reply _ _ _ _ _ rfl (Or.inl rfl)
  | cancel x =>
    simp only [applyUnlock]
    have ho : ((((((db.openKey c.key).modR x (fun r => { r with timeouted := true })).dropLongT x).modK (·.settleWait)).ctr
        (fun y => { y with waitCount := y.waitCount - 1 })).removeIfZero).out = [] := by
      rw [removeIfZero_out, ctr_out, (settleWait_fq _).qt.out, (FQ.dropLongT _ _).qt.out, modR_out]; rfl
    have hq : Qt (db.openKey c.key) (((((db.openKey c.key).modR x (fun r => { r with timeouted := true })).dropLongT x).modK (·.settleWait)).ctr
        (fun y => { y with waitCount := y.waitCount - 1 })) :=
      ((FQ.modR _ _ _).trans ((FQ.dropLongT _ _).trans ((settleWait_fq _).trans (FQ.ctr _ _)))).qt
    refine ((FirstReply.reply _ _ _ _ _ (by rw [ctr_out]; exact ho) ?_).of_fr (by simp) (Fr.reply _ _ _ _ _)).of_fr (by simp) (Fr.wake _)
    rw [ctr_lockData]
    rcases removeIfZero_lockData (((((db.openKey c.key).modR x (fun r => { r with timeouted := true })).dropLongT x).modK (·.settleWait)).ctr
        (fun y => { y with waitCount := y.waitCount - 1 })) with h | ⟨hg, hn⟩
    · left; rw [h, hq.lockData]; rfl
    · right; exact ⟨(FQ.ctr _ _).fr.recl hg, hn⟩
  | dec h c' =>
    simp only [applyUnlock]
    refine (FirstReply.reply _ _ _ _ _ ?_ (Or.inl ?_)).of_fr (by simp) (Fr.wake _)
    · rw [ctr_out, (FQ.journalUnlock _ _ _ _ _).qt.out, procData_out]; rfl
    · rfl
  | release h c' =>
    simp only [applyUnlock]
    refine (FirstReply.reply _ _ _ _ _ ?_ (Or.inl rfl)).of_fr (by simp) (Fr.wake _)
    rw [ctr_out, when_out _ _ _ (fun w => freeCheck_out w _), modK_out, (FQ.journalUnlock _ _ _ _ _).qt.out, (FQ.dropLongE _ _).qt.out, procData_out]
    rfl

theorem applyLock_fr (db : DB) (c : Cmd) (data : Option Bytes) (b : LockBranch) : Fr (lockBase db c b) (applyLock db c data b) :=
  (applyLock_chain db c data b).fr

theorem applyUnlock_fr (db : DB) (c : Cmd) (data : Option Bytes) (b : UnlockBranch) : Fr (db.openKey c.key) (applyUnlock db c data b) :=
  (applyUnlock_chain db c data b).fr

theorem commit_fields (w : W) : w.commit.leader = w.db.leader ∧ w.commit.aofOut = w.db.aofOut ∧ w.commit.now = w.db.now ∧
    w.commit.ctr = w.db.ctr ∧ w.commit.tCheck = w.db.tCheck ∧ w.commit.eCheck = w.db.eCheck := by
  unfold W.commit
  split
  · simp
  · obtain ⟨a, b, c, d, _, _, _, e, f, _⟩ := setKey_fields w.db w.k
    exact ⟨a, b, c, d, e, f⟩

theorem commit_hasKey_of_reclaimed (w : W) (h : w.Reclaimed) : w.commit.hasKey w.k.key = false := by
  unfold W.commit; rw [h.1]; exact h.2

theorem FirstReply.head {pre : Option Bytes} {w : W} (h : FirstReply pre w) {r : Reply} {rest : List Reply} (e : w.out = r :: rest) :
    r.data = pre ∨ (r.data = none ∧ w.commit.hasKey w.k.key = false) := by
  rcases h with h | ⟨r', more, e', hd⟩
  · rw [h] at e; cases e
  · rw [e'] at e; cases e
    exact hd.imp id fun hr => ⟨hr.2, commit_hasKey_of_reclaimed _ hr.1⟩

theorem lockBase_db (db : DB) (c : Cmd) (b : LockBranch) :
    (lockBase db c b).db.leader = db.leader ∧ (lockBase db c b).db.aofOut = db.aofOut ∧ (lockBase db c b).db.now = db.now ∧
    (lockBase db c b).k = db.getKey c.key ∧ (lockBase db c b).out = [] := by
  have h1 := create_fields db c.key
  cases b <;> simp [lockBase, enter_db, enter_k, enter_out, DB.openKey, h1]

end Slock.Engine2
