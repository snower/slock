import Slock.Proofs.ClientQueue
/-! Stage 1: the live queued requests of a key carry pairwise distinct (RequestId, connection) pairs, in every state reached by
operations whose queued LOCKs are `FreshK` (the pair is not queued under that key). The timeout sweep finds a request again by
that pair: "not late" (C05) and the simulation of the sweeps rest on this. -/
namespace Slock.Engine

/-- what `removeWaiter`, `updateWaiter` and the firing step identify a queued request by -/
def rcW (w : Waiter) : Nat × Nat := (w.cmd.req, w.conn)

def WU (db : DB) : Prop := ∀ k ∈ db.keys, (k.waiters.map rcW).Nodup

theorem WU.init (n : Nat) : WU (DB.init n) := by intro k hk; simp [DB.init] at hk

theorem getKey_wu {db : DB} (h : WU db) (n : Nat) : ((db.getKey n).waiters.map rcW).Nodup :=
  KeysAll.getKey (P := fun k => (k.waiters.map rcW).Nodup) h (fun _ => List.nodup_nil) n

theorem WU.of_keys_eq {db db' : DB} (h : WU db) (e : db'.keys = db.keys) : WU db' := KeysAll.of_keys_eq h e

theorem store_wu {db d : DB} {k : Key} (wk : Bool) (out : List Reply) (h : WU db) (ek : d.keys = db.keys) (ec : clock d = clock db)
    (es : db.seq ≤ d.seq) (hk : (k.waiters.map rcW).Nodup) : WU (store wk d k out).1 :=
  keysAll_store (P := fun _ q => (q.waiters.map rcW).Nodup) wk out (fun _ _ h => h)
    (fun _ q _ _ _ _ hq hw => by
      have hr : ∀ rest w, q.waiters = w :: rest → (rest.map rcW).Nodup := fun rest w e =>
        (List.nodup_cons.mp (show (rcW w :: rest.map rcW).Nodup by rw [← List.map_cons, ← e]; exact hq)).2
      obtain ⟨w, rest, e, _, ⟨_, _, rfl, _⟩ | ⟨_, _, rfl, _⟩⟩ := wakeIter_some hw <;> exact hr rest w e)
    (fun _ _ h => h) ek ec es h hk

theorem _root_.Slock.SimTick.rc_match (v w : Waiter) : (v.cmd.req == w.cmd.req && v.conn == w.conn) = true ↔ rcW v = rcW w := by
  simp only [Bool.and_eq_true, beq_iff_eq, rcW, Prod.mk.injEq]

/-- re-arming replaces requests by a copy with their own id -/
theorem rearm_map_rc (ws : List Waiter) (w w' : Waiter) (e : rcW w' = rcW w) :
    (ws.map fun x => if x.cmd.req == w.cmd.req && x.conn == w.conn then w' else x).map rcW = ws.map rcW := by
  rw [List.map_map]
  refine List.map_congr_left fun x _ => ?_
  simp only [Function.comp]
  split
  · rename_i hp; exact e.trans ((SimTick.rc_match x w).mp hp).symm
  · rfl

theorem insertWaiter_wu (ws : List Waiter) (w : Waiter) (h : (ws.map rcW).Nodup) (hn : rcW w ∉ ws.map rcW) : ((insertWaiter ws w).map rcW).Nodup :=
  ((insertWaiter_perm ws w).map rcW).nodup_iff.mpr (List.nodup_cons.mpr ⟨hn, h⟩)

/-- with distinct ids in the queue, nothing that stays bears the id of the request that left -/
theorem removeWaiter_rc {ws : List Waiter} {w : Waiter} (hn : (ws.map rcW).Nodup) (hm : w ∈ ws) :
    ∀ x ∈ removeWaiter ws w, rcW x ≠ rcW w := by
  obtain ⟨l1, y, l2, e, hr, hc, er⟩ := removeWaiter_split hm
  intro x hx ex
  rw [er] at hx
  have h1 : ((y :: (l1 ++ l2)).map rcW).Nodup := ((List.perm_middle (a := y) (l₁ := l1) (l₂ := l2)).map rcW).nodup_iff.mp (e ▸ hn)
  refine (List.nodup_cons.mp h1).1 (List.mem_map.mpr ⟨x, hx, ex.trans ?_⟩)
  unfold rcW; rw [hr, hc]

/-- the LOCK command's id is not borne by a request queued under ITS key -/
def FreshK (db : DB) (c : Cmd) : Prop := ∀ w ∈ (db.getKey c.key).waiters, ¬ (w.cmd.req = c.req ∧ w.conn = c.conn)

theorem Fresh.freshK {db : DB} {c : Cmd} (h : Fresh db c) : FreshK db c := fun w hw => h w (waitAt_getKey hw).allW

variable {db0 db d : DB} {s : Src} {n : Nat} {wk : Bool} {k : Key} {out : List Reply}

theorem WU.edit (e : Edit db0 db s n wk d k out) (hf : ∀ c, s = .lock c → FreshK db c) (h : WU db) : WU (store wk d k out).1 := by
  have hk := getKey_wu h n
  refine store_wu wk out h e.frame.1 e.frame.2.1 e.frame.2.2.1 ?_
  cases e with
  | queue c =>
    refine insertWaiter_wu _ _ hk fun hm => ?_
    obtain ⟨x, hx, e⟩ := List.mem_map.mp hm
    exact hf c rfl x hx (by simpa [rcW, newWaiter] using e)
  | cancel | timeout => exact (List.Sublist.map _ (removeWaiter_sublist _ _)).nodup hk
  | rearmW w => exact (rearm_map_rc _ w (rearmed db w) rfl).symm ▸ hk
  | _ => exact hk

theorem opLock_wu (db : DB) (c : Cmd) (hf : FreshK db c) (h : WU db) : WU (opLock db c).1 :=
  opLock_edit db c (Q := fun p => WU p.1) (fun _ _ _ => h) fun _ _ _ _ e => h.edit e fun _ hc => by cases hc; exact hf

theorem opUnlock_wu (db : DB) (c : Cmd) (h : WU db) : WU (opUnlock db c).1 :=
  opUnlock_edit db c (Q := fun p => WU p.1) (fun _ _ _ => h.of_keys_eq rfl) fun _ _ _ e => h.edit e fun _ hc => nomatch hc

theorem opTick_wu (db : DB) (h : WU db) : WU (opTick db).1 :=
  opTick_edit (P := fun d _ => WU d) (Q := fun d _ => WU d) db (h.of_keys_eq rfl) (fun _ _ _ _ _ _ _ e h => h.edit e fun _ => nofun)
    (fun _ _ h => h.of_keys_eq rfl) (fun _ _ _ _ _ _ _ e h => h.edit e fun _ => nofun)

theorem fireTimeout_wu (db : DB) (key : Nat) (w : Waiter) (h : WU db) : WU (fireTimeout db key w).1 :=
  store_wu true _ h rfl rfl (Nat.le_refl _) ((List.Sublist.map _ (removeWaiter_sublist _ _)).nodup (getKey_wu h key))

end Slock.Engine
