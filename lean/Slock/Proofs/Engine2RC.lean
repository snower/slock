import Slock.Proofs.Engine2Recs
/-! Stage-2 engine: the reference-count invariant, key-record level.

`RCx k ex`: every un-freed lock record's `refCount` equals the number of structures that reference it — `currentLock`, entries of
the holder queue and of the wait queue (tombstoned ones included), its timeout-wheel entry, its expiry-wheel entry — plus a
per-record surplus `ex` (references an operation in progress holds "in hand" or has not yet accounted for; `ex = 0` between
operations); the manager's `refCount` is the number of un-freed records; every referenced record exists; record ids are distinct. -/
namespace Slock.Engine2

def Rec.wheelRefs (r : Rec) : Nat := (if r.tSched.isSome then 1 else 0) + (if r.eSched.isSome then 1 else 0)

def Key.qRefs (k : Key) (x : Nat) : Nat :=
  (if k.current = some x then 1 else 0) + k.locks.count x + (k.wait.map (·.rid)).count x

def delta (x : Nat) : Nat → Int := fun y => if y = x then 1 else 0

structure RCx (k : Key) (ex : Nat → Int) : Prop where
  nodup : (k.recs.map (·.rid)).Nodup
  rc : ∀ r ∈ k.recs, (r.refCount : Int) = k.qRefs r.rid + r.wheelRefs + ex r.rid
  mgr : k.refCount = k.recs.length
  dang : ∀ x, 0 < (k.qRefs x : Int) + ex x → k.hasRec x

theorem RCx.ofNewKey (n : Nat) : RCx (Slock.Engine2.newKey n) (fun _ => 0) :=
  ⟨by simp [Slock.Engine2.newKey], by simp [Slock.Engine2.newKey], by simp [Slock.Engine2.newKey],
   by intro x h; simp [Slock.Engine2.newKey, Key.qRefs] at h⟩

theorem RCx.congr {k : Key} {ex ex' : Nat → Int} (h : RCx k ex) (e : ∀ x, ex' x = ex x) : RCx k ex' :=
  ⟨h.nodup, fun r hr => by rw [e]; exact h.rc r hr, h.mgr, fun x hx => h.dang x (by rw [← e]; exact hx)⟩

/-- queues edited, records untouched: the books balance if the surplus moves the other way -/
theorem RCx.transfer {k k' : Key} {ex ex' : Nat → Int} (h : RCx k ex) (hr : k'.recs = k.recs) (hm : k'.refCount = k.refCount)
    (hq : ∀ x, (k'.qRefs x : Int) + ex' x = k.qRefs x + ex x) : RCx k' ex' := by
  refine ⟨by rw [hr]; exact h.nodup, ?_, by rw [hm, hr]; exact h.mgr, ?_⟩
  · intro r hrm
    rw [hr] at hrm
    have := h.rc r hrm
    have hq' := hq r.rid
    omega
  · intro x hx
    have : k'.hasRec x ↔ k.hasRec x := by unfold Key.hasRec; rw [hr]
    rw [this]; apply h.dang; rw [← hq x]; exact hx

theorem getR_mem {k : Key} {x : Nat} (h : k.hasRec x) : k.getR x ∈ k.recs := by
  obtain ⟨r, hr⟩ := hasRec_find k x h
  unfold Key.getR; rw [hr]; exact List.mem_of_find?_eq_some hr

theorem mem_eq_getR {k : Key} (hn : (k.recs.map (·.rid)).Nodup) {r : Rec} (hr : r ∈ k.recs) : k.getR r.rid = r := by
  unfold Key.getR
  rw [find_of_mem_nodup Rec.rid k.recs hn hr]; rfl

theorem RCx.refCount_of {k : Key} {ex : Nat → Int} (h : RCx k ex) {x : Nat} (hx : k.hasRec x) :
    ((k.getR x).refCount : Int) = k.qRefs x + (k.getR x).wheelRefs + ex x := by
  have := h.rc _ (getR_mem hx)
  rw [getR_rid] at this; exact this

theorem map_rid_modRec (k : Key) (rid : Nat) (f : Rec → Rec) (hf : ∀ r, (f r).rid = r.rid := by intro _; rfl) :
    (k.modRec rid f).recs.map (·.rid) = k.recs.map (·.rid) := by
  unfold Key.modRec
  simp only [List.map_map]
  apply List.map_congr_left
  intro r _
  simp only [Function.comp]
  split
  · exact hf r
  · rfl

@[simp] theorem qRefs_modRec (k : Key) (rid : Nat) (f : Rec → Rec) (x : Nat) : (k.modRec rid f).qRefs x = k.qRefs x := rfl

/-- the general record edit: if the edited record's own balance is right afterwards, everything is -/
theorem RCx.modRec {k : Key} {ex ex' : Nat → Int} (h : RCx k ex) (rid : Nat) (f : Rec → Rec) (hf : ∀ r, (f r).rid = r.rid)
    (hx : ∀ y, y ≠ rid → ex' y = ex y)
    (hb : k.hasRec rid → ((f (k.getR rid)).refCount : Int) + (k.getR rid).wheelRefs + ex rid =
      (k.getR rid).refCount + (f (k.getR rid)).wheelRefs + ex' rid)
    (hd : ¬ k.hasRec rid → ex' rid = ex rid) : RCx (k.modRec rid f) ex' := by
  refine ⟨by rw [map_rid_modRec _ _ _ hf]; exact h.nodup, ?_, ?_, ?_⟩
  · intro r hr
    obtain ⟨r0, hr0, ⟨er, rfl⟩ | ⟨hne, rfl⟩⟩ := mem_modRec hr
    · have hg : k.getR rid = r0 := by rw [← er]; exact mem_eq_getR h.nodup hr0
      have h0 := h.rc r0 hr0
      have hb' := hb ⟨r0, hr0, er⟩
      rw [hg] at hb'
      rw [hf, er, qRefs_modRec]
      rw [er] at h0
      omega
    · rw [hx _ hne, qRefs_modRec]
      exact h.rc r hr0
  · show k.refCount = (k.recs.map _).length
    rw [List.length_map]; exact h.mgr
  · intro x hxp
    rw [hasRec_modRec _ _ _ _ hf]
    by_cases e : x = rid
    · subst e
      by_cases hh : k.hasRec x
      · exact hh
      · rw [hd hh, qRefs_modRec] at hxp; exact h.dang x hxp
    · rw [hx x e, qRefs_modRec] at hxp; exact h.dang x hxp

theorem RCx.modRec_plain {k : Key} {ex : Nat → Int} (h : RCx k ex) (rid : Nat) (f : Rec → Rec) (hf : ∀ r, (f r).rid = r.rid)
    (h1 : ∀ r, (f r).refCount = r.refCount) (h2 : ∀ r, (f r).wheelRefs = r.wheelRefs) : RCx (k.modRec rid f) ex :=
  h.modRec rid f hf (fun _ _ => rfl) (fun _ => by rw [h1, h2]) (fun _ => rfl)

theorem RCx.incr {k : Key} {ex : Nat → Int} (h : RCx k ex) (rid : Nat) (hh : k.hasRec rid) :
    RCx (k.modRec rid (fun r => { r with refCount := r.refCount + 1 })) (fun y => ex y + delta rid y) :=
  h.modRec rid _ (fun _ => rfl) (fun y hy => by simp [delta, hy]) (fun _ => by simp [delta, Rec.wheelRefs]; omega) (fun hn => absurd hh hn)

theorem RCx.unrefOnly {k : Key} {ex : Nat → Int} (h : RCx k ex) (rid : Nat) (hh : k.hasRec rid)
    (hpos : 0 < (k.qRefs rid : Int) + (k.getR rid).wheelRefs + ex rid) :
    RCx (k.unrefOnly rid) (fun y => ex y - delta rid y) := by
  have hrc := h.refCount_of hh
  unfold Key.unrefOnly
  refine h.modRec rid _ (fun _ => rfl) (fun y hy => by simp [delta, hy]) (fun _ => ?_) (fun hn => absurd hh hn)
  have : (k.getR rid).refCount ≠ 0 := by omega
  simp only [decU8, this, if_false, delta, if_true, Rec.wheelRefs]
  omega

theorem hasRec_free (k : Key) (rid x : Nat) (hx : x ≠ rid) : (k.free rid).hasRec x ↔ k.hasRec x := by
  unfold Key.free Key.hasRec
  split
  · simp only [List.mem_filter]
    constructor
    · rintro ⟨r, ⟨hr, _⟩, e⟩; exact ⟨r, hr, e⟩
    · rintro ⟨r, hr, e⟩; exact ⟨r, ⟨hr, by simpa [e] using hx⟩, e⟩
  · rfl

/-- `FreeLock` of a record nothing refers to any more -/
theorem RCx.free {k : Key} {ex : Nat → Int} (h : RCx k ex) (rid : Nat) (hz : (k.qRefs rid : Int) + ex rid ≤ 0) :
    RCx (k.free rid) ex := by
  by_cases hh : k.hasRec rid
  · have ha : k.recs.any (·.rid == rid) = true := (any_iff_hasRec k rid).mpr hh
    have hfree : k.free rid = { k with recs := k.recs.filter (·.rid != rid), refCount := decU32 k.refCount } := by
      unfold Key.free; simp [ha]
    refine ⟨?_, ?_, ?_, ?_⟩
    · rw [hfree]
      have : (k.recs.filter (·.rid != rid)).map (·.rid) = (k.recs.map (·.rid)).filter (· != rid) := by
        rw [List.filter_map]; rfl
      rw [this]; exact List.Nodup.sublist List.filter_sublist h.nodup
    · intro r hr
      rw [hfree] at hr ⊢
      exact h.rc r (List.mem_filter.mp hr).1
    · rw [hfree]
      have hl := length_filter_ne Rec.rid h.nodup hh
      have hm := h.mgr
      simp only [decU32]
      have : k.refCount ≠ 0 := by omega
      simp only [this, if_false]; omega
    · intro x hx
      have hq : (k.free rid).qRefs x = k.qRefs x := by rw [hfree]; rfl
      rw [hq] at hx
      have hne : x ≠ rid := by intro e; subst e; omega
      rw [hasRec_free _ _ _ hne]; exact h.dang x hx
  · have : k.free rid = k := by
      unfold Key.free
      have : k.recs.any (·.rid == rid) = false := by
        cases hb : k.recs.any (·.rid == rid) with
        | false => rfl
        | true => exact absurd ((any_iff_hasRec k rid).mp hb) hh
      simp [this]
    rw [this]; exact h

/-- `refCount--; if refCount == 0 { FreeLock }` on a record that is owed one -/
theorem RCx.unref {k : Key} {ex : Nat → Int} (h : RCx k ex) (rid : Nat) (hpos : 0 < (k.qRefs rid : Int) + ex rid) :
    RCx (k.unref rid) (fun y => ex y - delta rid y) := by
  have hh := h.dang rid hpos
  have h1 := h.unrefOnly rid hh (by omega)
  unfold Key.unref
  simp only []
  split
  · rename_i hz
    apply h1.free
    have hh1 : (k.unrefOnly rid).hasRec rid := by unfold Key.unrefOnly; rw [hasRec_modRec _ _ _ _]; exact hh
    have := h1.refCount_of hh1
    have hz' : ((k.unrefOnly rid).getR rid).refCount = 0 := by simpa using hz
    rw [hz'] at this
    simp only [delta, if_true] at this ⊢
    omega
  · exact h1

end Slock.Engine2
