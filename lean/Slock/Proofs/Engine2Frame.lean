import Slock.Proofs.Engine2Closed
/-! Stage-2 engine: frame facts — which parts of the working state (`W`: database, key record, replies) each helper
leaves untouched. The value cell is touched ONLY by `W.procData` (the value operation), by the journalling helpers
(they set the cell's `isAof` bit, nothing else) and by `W.removeIfZero` (a reclaimed key record loses its cell). -/
namespace Slock.Engine2
open Slock.Value (Cell getLockData)

/-- the value part of a cell: everything but the journalling bit -/
def vstrip (c : Option Cell) : Option (Bytes × Bytes × Nat) := c.map (fun x => (x.data, x.extra, x.ctype))

theorem getLockData_congr {a b : Option Cell} (h : vstrip a = vstrip b) : getLockData a = getLockData b := by
  cases a with
  | none => cases b with
    | none => rfl
    | some y => simp [vstrip] at h
  | some x => cases b with
    | none => simp [vstrip] at h
    | some y =>
      simp only [vstrip, Option.map_some, Option.some.injEq, Prod.mk.injEq] at h
      simp [getLockData, Cell.hasData, h.1, h.2.2]

theorem vstrip_setAof (c : Cell) (b : Bool) : vstrip (some { c with isAof := b }) = vstrip (some c) := rfl

@[simp] theorem modRec_cell (k : Key) (rid : Nat) (f : Rec → Rec) : (k.modRec rid f).cell = k.cell := rfl
@[simp] theorem modRec_key (k : Key) (rid : Nat) (f : Rec → Rec) : (k.modRec rid f).key = k.key := rfl
@[simp] theorem modRec_locked (k : Key) (rid : Nat) (f : Rec → Rec) : (k.modRec rid f).locked = k.locked := rfl
@[simp] theorem modRec_waited (k : Key) (rid : Nat) (f : Rec → Rec) : (k.modRec rid f).waited = k.waited := rfl
@[simp] theorem setRec_locked (k : Key) (r : Rec) : (k.setRec r).locked = k.locked := rfl
@[simp] theorem setRec_waited (k : Key) (r : Rec) : (k.setRec r).waited = k.waited := rfl
@[simp] theorem setRec_cell (k : Key) (r : Rec) : (k.setRec r).cell = k.cell := rfl
@[simp] theorem setRec_key (k : Key) (r : Rec) : (k.setRec r).key = k.key := rfl
@[simp] theorem free_cell (k : Key) (rid : Nat) : (k.free rid).cell = k.cell := by unfold Key.free; split <;> rfl
@[simp] theorem free_key (k : Key) (rid : Nat) : (k.free rid).key = k.key := by unfold Key.free; split <;> rfl
@[simp] theorem free_locked (k : Key) (rid : Nat) : (k.free rid).locked = k.locked := by unfold Key.free; split <;> rfl
@[simp] theorem free_waited (k : Key) (rid : Nat) : (k.free rid).waited = k.waited := by unfold Key.free; split <;> rfl
@[simp] theorem unrefOnly_cell (k : Key) (rid : Nat) : (k.unrefOnly rid).cell = k.cell := rfl
@[simp] theorem unrefOnly_key (k : Key) (rid : Nat) : (k.unrefOnly rid).key = k.key := rfl
@[simp] theorem unrefOnly_locked (k : Key) (rid : Nat) : (k.unrefOnly rid).locked = k.locked := rfl
@[simp] theorem unrefOnly_waited (k : Key) (rid : Nat) : (k.unrefOnly rid).waited = k.waited := rfl
@[simp] theorem unref_cell (k : Key) (rid : Nat) : (k.unref rid).cell = k.cell := by unfold Key.unref; simp only []; split <;> simp
@[simp] theorem unref_key (k : Key) (rid : Nat) : (k.unref rid).key = k.key := by unfold Key.unref; simp only []; split <;> simp
@[simp] theorem unref_locked (k : Key) (rid : Nat) : (k.unref rid).locked = k.locked := by unfold Key.unref; simp only []; split <;> simp
@[simp] theorem unref_waited (k : Key) (rid : Nat) : (k.unref rid).waited = k.waited := by unfold Key.unref; simp only []; split <;> simp

theorem closed_cell (a) : KClosed (·.cell = a) :=
  { unref := fun k x h => (unref_cell k x).trans h, locks := fun _ _ _ _ h => h, wait := fun _ _ _ _ _ h => h }
theorem closed_key (a) : KClosed (·.key = a) :=
  { unref := fun k x h => (unref_key k x).trans h, locks := fun _ _ _ _ h => h, wait := fun _ _ _ _ _ h => h }
theorem closed_locked (a) : KClosed (·.locked = a) :=
  { unref := fun k x h => (unref_locked k x).trans h, locks := fun _ _ _ _ h => h, wait := fun _ _ _ _ _ h => h }
theorem closed_waited (a) : KClosed (·.waited = a) :=
  { unref := fun k x h => (unref_waited k x).trans h, locks := fun _ _ _ _ h => h, wait := fun _ _ _ _ _ h => h }

@[simp] theorem locksPush_cell (k : Key) (rid : Nat) : (k.locksPush rid).cell = k.cell := (closed_cell _).locksPush rfl rid
@[simp] theorem removeLock_cell (k : Key) (rid : Nat) : (k.removeLock rid).cell = k.cell := (closed_cell _).removeLock (fun _ _ h => h) rid rfl rfl
@[simp] theorem locksPush_key (k : Key) (rid : Nat) : (k.locksPush rid).key = k.key := (closed_key _).locksPush rfl rid
theorem locksSkip_key (take : Bool) (l : List Nat) (k : Key) : (locksSkip take l k).1.key = k.key := (closed_key _).locksSkip take l rfl
@[simp] theorem removeLock_key (k : Key) (rid : Nat) : (k.removeLock rid).key = k.key := (closed_key _).removeLock (fun _ _ h => h) rid rfl rfl
@[simp] theorem locksPush_locked (k : Key) (rid : Nat) : (k.locksPush rid).locked = k.locked := (closed_locked _).locksPush rfl rid
@[simp] theorem removeLock_locked (k : Key) (rid : Nat) : (k.removeLock rid).locked = k.locked := (closed_locked _).removeLock (fun _ _ h => h) rid rfl rfl
theorem foldl_unref_waited (l : List Nat) (k : Key) : (l.foldl (fun k x => k.unref x) k).waited = k.waited := (closed_waited _).foldl_unref l rfl
theorem foldl_unrefW_waited (l : List WEnt) (k : Key) : (l.foldl (fun k x => k.unref x.rid) k).waited = k.waited := (closed_waited _).foldl_unrefW l rfl
@[simp] theorem locksPush_waited (k : Key) (rid : Nat) : (k.locksPush rid).waited = k.waited := (closed_waited _).locksPush rfl rid
@[simp] theorem removeLock_waited (k : Key) (rid : Nat) : (k.removeLock rid).waited = k.waited := (closed_waited _).removeLock (fun _ _ h => h) rid rfl rfl
@[simp] theorem rePush_cell (k : Key) : k.rePush.cell = k.cell := rfl
@[simp] theorem rePush_key (k : Key) : k.rePush.key = k.key := rfl
@[simp] theorem waitPush_cell (k : Key) (e : WEnt) : (k.waitPush e).cell = k.cell := (closed_cell _).waitPush rfl e
@[simp] theorem addWaitLock_cell (k : Key) (rid : Nat) : (k.addWaitLock rid).cell = k.cell :=
  (closed_cell _).addWaitLock (fun _ _ h => h) (fun _ _ h => h) rfl rid
theorem waitSkip_cell (l : List WEnt) (k : Key) : (waitSkip l k).1.cell = k.cell := (closed_cell _).waitSkip l rfl
@[simp] theorem getWaitLock_cell (k : Key) : k.getWaitLock.1.cell = k.cell := waitSkip_cell _ _
@[simp] theorem waitPush_key (k : Key) (e : WEnt) : (k.waitPush e).key = k.key := (closed_key _).waitPush rfl e
@[simp] theorem addWaitLock_key (k : Key) (rid : Nat) : (k.addWaitLock rid).key = k.key :=
  (closed_key _).addWaitLock (fun _ _ h => h) (fun _ _ h => h) rfl rid
theorem waitSkip_key (l : List WEnt) (k : Key) : (waitSkip l k).1.key = k.key := (closed_key _).waitSkip l rfl
@[simp] theorem getWaitLock_key (k : Key) : k.getWaitLock.1.key = k.key := waitSkip_key _ _
@[simp] theorem waitPush_locked (k : Key) (e : WEnt) : (k.waitPush e).locked = k.locked := (closed_locked _).waitPush rfl e
@[simp] theorem addWaitLock_locked (k : Key) (rid : Nat) : (k.addWaitLock rid).locked = k.locked :=
  (closed_locked _).addWaitLock (fun _ _ h => h) (fun _ _ h => h) rfl rid
theorem waitSkip_locked (l : List WEnt) (k : Key) : (waitSkip l k).1.locked = k.locked := (closed_locked _).waitSkip l rfl
@[simp] theorem getWaitLock_locked (k : Key) : k.getWaitLock.1.locked = k.locked := waitSkip_locked _ _

@[simp] theorem reply_out (w : W) (c : Cmd) (a b : Nat) (d : Option Bytes) :
    (w.reply c a b d).out = w.out ++ [{ r := Slock.Engine.mkReply c a w.k.locked b, data := d }] := rfl
@[simp] theorem reply_k (w : W) (c : Cmd) (a b : Nat) (d : Option Bytes) : (w.reply c a b d).k = w.k := rfl
@[simp] theorem reply_db (w : W) (c : Cmd) (a b : Nat) (d : Option Bytes) : (w.reply c a b d).db = w.db := rfl
@[simp] theorem reply_gone (w : W) (c : Cmd) (a b : Nat) (d : Option Bytes) : (w.reply c a b d).gone = w.gone := rfl

@[simp] theorem ctr_out (w : W) (f : Counters → Counters) : (w.ctr f).out = w.out := rfl
@[simp] theorem ctr_k (w : W) (f : Counters → Counters) : (w.ctr f).k = w.k := rfl
@[simp] theorem ctr_gone (w : W) (f : Counters → Counters) : (w.ctr f).gone = w.gone := rfl
@[simp] theorem ctr_leader (w : W) (f : Counters → Counters) : (w.ctr f).db.leader = w.db.leader := rfl
@[simp] theorem ctr_aofOut (w : W) (f : Counters → Counters) : (w.ctr f).db.aofOut = w.db.aofOut := rfl
@[simp] theorem ctr_now (w : W) (f : Counters → Counters) : (w.ctr f).db.now = w.db.now := rfl
@[simp] theorem ctr_lockData (w : W) (f : Counters → Counters) : (w.ctr f).lockData = w.lockData := rfl
@[simp] theorem bumpErr_out (w : W) : w.bumpErr.out = w.out := rfl
@[simp] theorem bumpErr_k (w : W) : w.bumpErr.k = w.k := rfl
@[simp] theorem bumpErr_gone (w : W) : w.bumpErr.gone = w.gone := rfl
@[simp] theorem bumpErr_lockData (w : W) : w.bumpErr.lockData = w.lockData := rfl

@[simp] theorem modK_out (w : W) (f : Key → Key) : (w.modK f).out = w.out := rfl
@[simp] theorem modK_k (w : W) (f : Key → Key) : (w.modK f).k = f w.k := rfl
@[simp] theorem modK_db (w : W) (f : Key → Key) : (w.modK f).db = w.db := rfl
@[simp] theorem modK_gone (w : W) (f : Key → Key) : (w.modK f).gone = w.gone := rfl
@[simp] theorem modR_out (w : W) (rid : Nat) (f : Rec → Rec) : (w.modR rid f).out = w.out := rfl
@[simp] theorem modR_k (w : W) (rid : Nat) (f : Rec → Rec) : (w.modR rid f).k = w.k.modRec rid f := rfl
@[simp] theorem modR_db (w : W) (rid : Nat) (f : Rec → Rec) : (w.modR rid f).db = w.db := rfl
@[simp] theorem modR_gone (w : W) (rid : Nat) (f : Rec → Rec) : (w.modR rid f).gone = w.gone := rfl
@[simp] theorem modR_lockData (w : W) (rid : Nat) (f : Rec → Rec) : (w.modR rid f).lockData = w.lockData := rfl
theorem when_true (w : W) (f : W → W) : w.when true f = f w := rfl
theorem when_false (w : W) (f : W → W) : w.when false f = w := rfl

@[simp] theorem removeIfZero_out (w : W) : w.removeIfZero.out = w.out := by unfold W.removeIfZero; split <;> rfl
@[simp] theorem removeIfZero_key (w : W) : w.removeIfZero.k.key = w.k.key := by unfold W.removeIfZero; split <;> rfl
@[simp] theorem removeIfZero_locked (w : W) : w.removeIfZero.k.locked = w.k.locked := by unfold W.removeIfZero; split <;> rfl
@[simp] theorem removeIfZero_leader (w : W) : w.removeIfZero.db.leader = w.db.leader := by
  unfold W.removeIfZero; split <;> simp [DB.dropKey]
@[simp] theorem removeIfZero_aofOut (w : W) : w.removeIfZero.db.aofOut = w.db.aofOut := by
  unfold W.removeIfZero; split <;> simp [DB.dropKey]
@[simp] theorem removeIfZero_now (w : W) : w.removeIfZero.db.now = w.db.now := by
  unfold W.removeIfZero; split <;> simp [DB.dropKey]
theorem removeIfZero_gone_mono (w : W) (h : w.gone = true) : w.removeIfZero.gone = true := by
  unfold W.removeIfZero; split <;> simp_all
theorem removeIfZero_cases (w : W) :
    w.removeIfZero = w ∨ (w.removeIfZero.gone = true ∧ w.removeIfZero.k.cell = none ∧ w.gone = false ∧ w.k.refCount = 0 ∧
      w.removeIfZero.db = w.db.dropKey w.k.key) := by
  unfold W.removeIfZero
  split
  · right; simp_all
  · left; rfl
theorem removeIfZero_of_nonzero (w : W) (h : w.k.refCount ≠ 0) : w.removeIfZero = w := by
  unfold W.removeIfZero
  have : (w.k.refCount == 0) = false := by simpa using h
  simp [this]

@[simp] theorem procData_out (w : W) (ct : Slock.Value.CmdType) (c : Cmd) (f : Option Bytes) (rid : Nat) :
    (w.procData ct c f rid).out = w.out := by
  unfold W.procData; split
  · rfl
  · simp only []; split <;> rfl
@[simp] theorem procData_gone (w : W) (ct : Slock.Value.CmdType) (c : Cmd) (f : Option Bytes) (rid : Nat) :
    (w.procData ct c f rid).gone = w.gone := by
  unfold W.procData; split
  · rfl
  · simp only []; split <;> rfl
@[simp] theorem procData_key (w : W) (ct : Slock.Value.CmdType) (c : Cmd) (f : Option Bytes) (rid : Nat) :
    (w.procData ct c f rid).k.key = w.k.key := by
  unfold W.procData; split
  · rfl
  · simp only []; split
    · rfl
    · simp only []; split <;> rfl
@[simp] theorem procData_leader (w : W) (ct : Slock.Value.CmdType) (c : Cmd) (f : Option Bytes) (rid : Nat) :
    (w.procData ct c f rid).db.leader = w.db.leader := by
  unfold W.procData; split
  · rfl
  · simp only []; split <;> rfl
@[simp] theorem procData_aofOut (w : W) (ct : Slock.Value.CmdType) (c : Cmd) (f : Option Bytes) (rid : Nat) :
    (w.procData ct c f rid).db.aofOut = w.db.aofOut := by
  unfold W.procData; split
  · rfl
  · simp only []; split <;> rfl
@[simp] theorem procData_now (w : W) (ct : Slock.Value.CmdType) (c : Cmd) (f : Option Bytes) (rid : Nat) :
    (w.procData ct c f rid).db.now = w.db.now := by
  unfold W.procData; split
  · rfl
  · simp only []; split <;> rfl
@[simp] theorem procData_none (w : W) (ct : Slock.Value.CmdType) (c : Cmd) (rid : Nat) : w.procData ct c none rid = w := rfl
@[simp] theorem procData_locked (w : W) (ct : Slock.Value.CmdType) (c : Cmd) (f : Option Bytes) (rid : Nat) :
    (w.procData ct c f rid).k.locked = w.k.locked := by
  unfold W.procData; split
  · rfl
  · simp only []; split
    · rfl
    · simp only []; split <;> rfl

@[simp] theorem procData_waited (w : W) (ct : Slock.Value.CmdType) (c : Cmd) (f : Option Bytes) (rid : Nat) :
    (w.procData ct c f rid).k.waited = w.k.waited := by
  unfold W.procData; split
  · rfl
  · simp only []; split
    · rfl
    · simp only []; split <;> rfl

theorem procData_spec (w : W) (ct : Slock.Value.CmdType) (c : Cmd) (f : Bytes) (rid : Nat) (cell' : Option Cell)
    (h : Slock.Value.processFrame (frameCtx w.k ct c) w.k.cell f = .ok cell') :
    (w.procData ct c (some f) rid).k.cell = cell' ∧ (w.procData ct c (some f) rid).db = w.db := by
  unfold W.procData
  simp only [h]
  split <;> simp

theorem aofLockData_vstrip (k : Key) (b : Bool) (rid : Nat) : vstrip (aofLockData k b rid).1.cell = vstrip k.cell := by
  unfold aofLockData
  split
  · rfl
  · split
    · rename_i c hc
      split
      · simp [vstrip, hc]
      · rfl
    · rfl
@[simp] theorem aofLockData_key (k : Key) (b : Bool) (rid : Nat) : (aofLockData k b rid).1.key = k.key := by
  unfold aofLockData
  split
  · rfl
  · split
    · split <;> rfl
    · rfl
@[simp] theorem aofLockData_locked (k : Key) (b : Bool) (rid : Nat) : (aofLockData k b rid).1.locked = k.locked := by
  unfold aofLockData
  split
  · rfl
  · split
    · split <;> rfl
    · rfl

@[simp] theorem aofLockData_waited (k : Key) (b : Bool) (rid : Nat) : (aofLockData k b rid).1.waited = k.waited := by
  unfold aofLockData
  split
  · rfl
  · split
    · split <;> rfl
    · rfl
@[simp] theorem removeIfZero_waited (w : W) : w.removeIfZero.k.waited = w.k.waited := by unfold W.removeIfZero; split <;> rfl
theorem removeIfZero_recs (w : W) : w.removeIfZero.k.recs = w.k.recs := by unfold W.removeIfZero; split <;> rfl
theorem unrefCheck_recs (w : W) (rid : Nat) : (w.unrefCheck rid).k.recs = (w.k.unref rid).recs := by
  unfold W.unrefCheck Key.unref
  simp only [modK_k]
  cases ((w.k.unrefOnly rid).getR rid).refCount == 0
  · rfl
  · exact removeIfZero_recs _

end Slock.Engine2

namespace Slock.Sim
open Slock.Engine2

theorem removeIfZero_gone_back (w : W) (hg : w.removeIfZero.gone = false) : w.removeIfZero = w := by
  rcases removeIfZero_cases w with e | ⟨e1, _⟩
  · exact e
  · rw [e1] at hg; exact absurd hg (by simp)

end Slock.Sim
