import Slock.Proofs.AckTrack
/-! M-ACK: the structural invariant `InvA` (record identities, who may be referenced by the journal and the ack table, the counter of a
registered lock is positive) through the primitive updates and the building blocks of the operations. `InvA` holds after every building
block, so it is carried block by block here, not by following one record: of AckTrack only the names `failed`, `released`, `lowered` are used. -/
namespace Slock.Ack

structure InvA (db : DB) : Prop where
  nodup : (db.recs.map (·.hid)).Nodup
  hidLt : ∀ r ∈ db.recs, r.hid < db.nextHid
  heldNQ : ∀ r ∈ db.recs, r.depth > 0 → r.queued = false
  jrn : ∀ j ∈ db.journal, j.isLock = true → ∀ h, j.hid = some h → h < db.nextHid ∧ (db.getR h).queued = false
  tabOk : ∀ e ∈ db.tab, e.hid < db.nextHid ∧ (db.getR e.hid).queued = false ∧
            ((db.getR e.hid).pending = true → (db.getR e.hid).ack ≥ 1)

/-- the same, except that the counter of record `x` may be zero (the instant between the last decrement and `DoAckLock`) -/
structure InvX (db : DB) (x : Nat) : Prop where
  nodup : (db.recs.map (·.hid)).Nodup
  hidLt : ∀ r ∈ db.recs, r.hid < db.nextHid
  heldNQ : ∀ r ∈ db.recs, r.depth > 0 → r.queued = false
  jrn : ∀ j ∈ db.journal, j.isLock = true → ∀ h, j.hid = some h → h < db.nextHid ∧ (db.getR h).queued = false
  tabOk : ∀ e ∈ db.tab, e.hid < db.nextHid ∧ (db.getR e.hid).queued = false ∧
            (e.hid ≠ x → (db.getR e.hid).pending = true → (db.getR e.hid).ack ≥ 1)

theorem InvA.tab_lt {db : DB} (h : InvA db) {e : Ent} (he : e ∈ db.tab) : e.hid < db.nextHid := (h.tabOk e he).1
theorem InvA.tab_nq {db : DB} (h : InvA db) {e : Ent} (he : e ∈ db.tab) : (db.getR e.hid).queued = false := (h.tabOk e he).2.1
theorem InvA.tab_ack {db : DB} (h : InvA db) {hid : Nat} (hx : ∃ e ∈ db.tab, e.hid = hid) (hp : (db.getR hid).pending = true) :
    (db.getR hid).ack ≥ 1 :=
  let ⟨e, he, e1⟩ := hx; e1 ▸ (h.tabOk e he).2.2 (e1 ▸ hp)

theorem InvA.toX {db : DB} (h : InvA db) (x : Nat) : InvX db x :=
  ⟨h.nodup, h.hidLt, h.heldNQ, h.jrn, fun e he => ⟨(h.tabOk e he).1, (h.tabOk e he).2.1, fun _ => (h.tabOk e he).2.2⟩⟩

theorem InvX.toA {db : DB} {x : Nat} (h : InvX db x) (hx : (db.getR x).pending = false) : InvA db :=
  ⟨h.nodup, h.hidLt, h.heldNQ, h.jrn, fun e he => ⟨(h.tabOk e he).1, (h.tabOk e he).2.1, fun hp => by
    by_cases e1 : e.hid = x
    · rw [e1, hx] at hp; exact absurd hp (by decide)
    · exact (h.tabOk e he).2.2 e1 hp⟩⟩

theorem getR_dead_of_ge {db : DB} (h : ∀ r ∈ db.recs, r.hid < db.nextHid) {a : Nat} (ha : a ≥ db.nextHid) : db.getR a = deadRec a := by
  rw [getR_eq, findR_none_of_ge h ha]; rfl

/-- `InvA` is `InvX` with a record that does not exist excepted: what is proved for `InvX` holds for `InvA` -/
theorem InvA.viaX {db db' : DB} (h : InvA db) (hx : InvX db' db.nextHid) (hd : db'.getR db.nextHid = db.getR db.nextHid) : InvA db' :=
  hx.toA (by rw [hd, getR_dead_of_ge h.hidLt (Nat.le_refl _)]; rfl)

/-- fewer references (of a table entry only the lock it points at matters): still fine -/
theorem InvX.sub {db db' : DB} {x : Nat} (h : InvX db x) (e1 : db'.recs = db.recs) (e4 : db'.nextHid = db.nextHid)
    (e2 : ∀ e ∈ db'.tab, ∃ e0 ∈ db.tab, e.hid = e0.hid) (e3 : ∀ j ∈ db'.journal, j ∈ db.journal) : InvX db' x := by
  have hg : ∀ a, db'.getR a = db.getR a := getR_frame e1
  refine ⟨by rw [e1]; exact h.nodup, ?_, ?_, ?_, ?_⟩
  · rw [e1, e4]; exact h.hidLt
  · rw [e1]; exact h.heldNQ
  · rw [e4]; intro j hj hl a ha; rw [hg]; exact h.jrn j (e3 j hj) hl a ha
  · rw [e4]; intro e he; obtain ⟨e0, h0, e5⟩ := e2 e he; rw [hg, e5]; exact h.tabOk e0 h0

theorem InvX.frame {db db' : DB} {x : Nat} (h : InvX db x) (e1 : db'.recs = db.recs) (e2 : db'.tab = db.tab)
    (e3 : db'.journal = db.journal) (e4 : db'.nextHid = db.nextHid) : InvX db' x :=
  h.sub e1 e4 (by rw [e2]; exact fun e he => ⟨e, he, rfl⟩) (by rw [e3]; exact fun _ x => x)

def Irrel (f : Rec → Rec) : Prop := ∀ r, (f r).hid = r.hid ∧ (f r).depth = r.depth ∧ (f r).queued = r.queued ∧ (f r).ack = r.ack

theorem Irrel.pending {f : Rec → Rec} (hf : Irrel f) (r : Rec) : (f r).pending = r.pending := by
  unfold Rec.pending; rw [(hf r).2.2.2]

theorem InvX.modR {db : DB} {x : Nat} (h : InvX db x) (hid : Nat) (f : Rec → Rec)
    (hf : ∀ r, (f r).hid = r.hid)
    (hq : ∀ r ∈ db.recs, r.hid = hid → ((f r).queued = true → r.queued = true))
    (hd : ∀ r ∈ db.recs, r.hid = hid → (f r).depth > 0 → (f r).queued = false)
    (hp : hid ≠ x → (∃ e ∈ db.tab, e.hid = hid) → (f (db.getR hid)).pending = true → (f (db.getR hid)).ack ≥ 1) :
    InvX (db.modR hid f) x := by
  have hq' : ∀ a, (db.getR a).queued = false → ((db.modR hid f).getR a).queued = false := by
    intro a ha
    rw [getR_modR db hid f hf]
    by_cases e1 : a = hid
    · rw [if_pos e1]
      cases e2 : findR db.recs a with
      | none => simp; exact ha
      | some r =>
        simp only [Option.isSome_some, if_true]
        have hm := findR_some_mem e2
        rw [getR_of_find e2] at ha ⊢
        cases e3 : (f r).queued with
        | false => rfl
        | true => have := hq r hm.1 (by rw [hm.2, e1]) e3; rw [ha] at this; exact absurd this (by decide)
    · rw [if_neg e1]; exact ha
  refine ⟨?_, ?_, ?_, ?_, ?_⟩
  · rw [modR_recs, map_hid_modRecs hid f hf]; exact h.nodup
  · apply forall_modR db hid f h.hidLt
    intro r _ _ hr; rw [hf]; exact hr
  · apply forall_modR (P := fun r => r.depth > 0 → r.queued = false) db hid f h.heldNQ
    intro r hr e _; exact hd r hr e
  · intro j hj hl a ha
    have := h.jrn j hj hl a ha
    exact ⟨this.1, hq' a this.2⟩
  · intro e he
    have := h.tabOk e he
    refine ⟨this.1, hq' _ this.2.1, ?_⟩
    intro hne hpend
    rw [getR_modR db hid f hf] at hpend ⊢
    by_cases e1 : e.hid = hid
    · rw [if_pos e1] at hpend ⊢
      cases e2 : findR db.recs e.hid with
      | none =>
        rw [e2] at hpend; simp only [Option.isSome_none, Bool.false_eq_true, if_false] at hpend ⊢
        exact this.2.2 hne hpend
      | some r =>
        rw [e2] at hpend; simp only [Option.isSome_some, if_true] at hpend ⊢
        rw [e1] at hpend ⊢
        exact hp (by rw [← e1]; exact hne) ⟨e, he, e1⟩ hpend
    · rw [if_neg e1] at hpend ⊢
      exact this.2.2 hne hpend

theorem InvX.modR_irrel {db : DB} {x : Nat} (h : InvX db x) (hid : Nat) (f : Rec → Rec) (hf : Irrel f) :
    InvX (db.modR hid f) x := by
  apply h.modR hid f (fun r => (hf r).1)
  · intro r _ _ hq; rw [(hf r).2.2.1] at hq; exact hq
  · intro r hr _ hd; rw [(hf r).2.1] at hd; rw [(hf r).2.2.1]; exact h.heldNQ r hr hd
  · intro hne ⟨e, he, e1⟩ hp
    rw [hf.pending] at hp; rw [(hf _).2.2.2]
    have := (h.tabOk e he).2.2 (by rw [e1]; exact hne)
    rw [e1] at this; exact this hp

theorem InvX.modR_irrel' {db : DB} {x : Nat} (h : InvX db x) (hid : Nat) (f : Rec → Rec) (hf : Irrel f) : InvX (db.modR hid f) x :=
  h.modR_irrel hid f hf

theorem InvX.toEnd {db : DB} {x : Nat} (h : InvX db x) (hid : Nat) : InvX (db.toEnd hid) x := by
  refine ⟨nodup_toEnd h.nodup hid, ?_, ?_, ?_, ?_⟩
  · intro r hr; exact h.hidLt r (mem_toEnd.mp hr)
  · intro r hr; exact h.heldNQ r (mem_toEnd.mp hr)
  · intro j hj hl a ha; rw [getR_toEnd]; exact h.jrn j hj hl a ha
  · intro e he; rw [getR_toEnd]; exact h.tabOk e he

theorem InvA.getR_of_mem {db : DB} (h : InvA db) {r : Rec} (hr : r ∈ db.recs) : db.getR r.hid = r :=
  getR_of_find (findR_of_mem h.nodup hr)

theorem InvA.modR {db : DB} (h : InvA db) (hid : Nat) (f : Rec → Rec)
    (hf : ∀ r, (f r).hid = r.hid)
    (hq : ∀ r ∈ db.recs, r.hid = hid → ((f r).queued = true → r.queued = true))
    (hd : ∀ r ∈ db.recs, r.hid = hid → (f r).depth > 0 → (f r).queued = false)
    (hp : (∃ e ∈ db.tab, e.hid = hid) → (f (db.getR hid)).pending = true → (f (db.getR hid)).ack ≥ 1) :
    InvA (db.modR hid f) := by
  apply h.viaX ((h.toX db.nextHid).modR hid f hf hq hd (fun _ => hp))
  rw [getR_modR db hid f hf, findR_none_of_ge h.hidLt (Nat.le_refl _)]
  simp

theorem InvA.sub {db db' : DB} (h : InvA db) (e1 : db'.recs = db.recs) (e4 : db'.nextHid = db.nextHid)
    (e2 : ∀ e ∈ db'.tab, ∃ e0 ∈ db.tab, e.hid = e0.hid) (e3 : ∀ j ∈ db'.journal, j ∈ db.journal) : InvA db' :=
  h.viaX ((h.toX _).sub e1 e4 e2 e3) (getR_frame e1 _)

theorem InvA.frame {db db' : DB} (h : InvA db) (e1 : db'.recs = db.recs) (e2 : db'.tab = db.tab)
    (e3 : db'.journal = db.journal) (e4 : db'.nextHid = db.nextHid) : InvA db' :=
  h.sub e1 e4 (by rw [e2]; exact fun e he => ⟨e, he, rfl⟩) (by rw [e3]; exact fun _ x => x)

theorem InvA.env {db db' : DB} (h : InvA db) (e1 : db'.recs = db.recs) (e2 : db'.env = db.env) : InvA db' :=
  h.frame e1 (tab_of_env e2) (journal_of_env e2) (nextHid_of_env e2)

theorem InvA.modKey {db : DB} (h : InvA db) (k : Nat) (f : Key → Key) : InvA (db.modKey k f) := h.env (by simp) (by simp)
theorem InvA.ctrMod {db : DB} (h : InvA db) (f : Counters → Counters) : InvA (db.ctrMod f) := h.env rfl rfl

theorem InvA.toEnd {db : DB} (h : InvA db) (hid : Nat) : InvA (db.toEnd hid) :=
  h.viaX ((h.toX _).toEnd hid) (getR_toEnd ..)

theorem InvA.modR_irrel {db : DB} (h : InvA db) (hid : Nat) (f : Rec → Rec) (hf : Irrel f) : InvA (db.modR hid f) :=
  h.viaX ((h.toX _).modR_irrel hid f hf) (by
    rw [getR_modR db hid f (fun r => (hf r).1), findR_none_of_ge h.hidLt (Nat.le_refl _)]; simp)

theorem irrel_timeouted (b : Bool) : Irrel (fun r => { r with timeouted := b }) := fun _ => ⟨rfl, rfl, rfl, rfl⟩
theorem irrel_expried (b : Bool) : Irrel (fun r => { r with expried := b }) := fun _ => ⟨rfl, rfl, rfl, rfl⟩

theorem InvA.irrel' {db db' : DB} (h : InvA db) (hid : Nat) (f : Rec → Rec) (e1 : db'.recs = modRecs hid f db.recs) (hf : Irrel f)
    (e2 : db'.env = db.env) : InvA db' := (h.modR_irrel hid f hf).env e1 e2

theorem InvA.addExpried {db : DB} (h : InvA db) (hid : Nat) : InvA (db.addExpried hid) := by
  unfold DB.addExpried
  exact h.irrel' hid _ rfl (fun _ => ⟨rfl, rfl, rfl, rfl⟩) rfl

theorem InvA.addTimeOut {db : DB} (h : InvA db) (hid : Nat) : InvA (db.addTimeOut hid) := by
  unfold DB.addTimeOut
  exact h.irrel' hid _ rfl (fun _ => ⟨rfl, rfl, rfl, rfl⟩) rfl

theorem InvA.valueOp {db : DB} (h : InvA db) (hid : Nat) (b : Bool) : InvA (db.valueOp hid b) := by
  unfold DB.valueOp
  simp only []
  split
  · exact h
  · split
    · exact (h.modKey _ _).modR_irrel hid _ (fun _ => ⟨rfl, rfl, rfl, rfl⟩)
    · exact h.modKey _ _

theorem InvA.removeLock {db : DB} (h : InvA db) (hid : Nat) : InvA (db.removeLock hid) := by
  unfold DB.removeLock
  apply InvA.modR h hid
  · intro _; rfl
  · intro r _ _ hq; exact hq
  · intro r _ _ hd; simp at hd
  · intro _ hp; simp [Rec.pending] at hp

/-- `AddLock` on a record no table entry points at (a fresh record, or a queued one) -/
theorem InvA.addLock {db : DB} (h : InvA db) (hid : Nat) (hn : ∀ e ∈ db.tab, e.hid ≠ hid) : InvA (db.addLock hid) := by
  unfold DB.addLock
  apply InvA.modKey
  apply InvA.toEnd
  apply InvA.modR h hid
  · intro _; rfl
  · intro r _ _ hq; simp [Rec.addLockF] at hq
  · intro r _ _ _; rfl
  · intro ⟨e, he, e1⟩; exact absurd e1 (hn e he)

theorem InvA.pushJ {db : DB} (h : InvA db) (r : Rec) (isLock : Bool)
    (hr : isLock = true → r.cmd.ack = true → r.hid < db.nextHid ∧ (db.getR r.hid).queued = false) : InvA (db.pushJ r isLock).1 := by
  unfold DB.pushJ
  split
  · exact h
  · split
    · exact h
    · simp only []
      refine ⟨h.nodup, h.hidLt, h.heldNQ, ?_, h.tabOk⟩
      intro j hj hl a ha
      rcases List.mem_append.mp hj with hj | hj
      · exact h.jrn j hj hl a ha
      · simp at hj
        subst hj
        simp at hl ha
        obtain ⟨e, ha⟩ := ha
        subst ha
        exact hr hl e

theorem InvA.pushLock {db : DB} (h : InvA db) {hid : Nat} {r : Rec} (hf : findR db.recs hid = some r) (hq : r.queued = false) :
    InvA (db.pushLock hid).1 := by
  unfold DB.pushLock
  simp only []
  have h1 : InvA (db.pushJ (db.getR hid) true).1 := h.pushJ _ true (fun _ _ => by
    rw [getR_hid, getR_of_find hf, ← (findR_some_mem hf).2]; exact ⟨h.hidLt r (findR_some_mem hf).1, hq⟩)
  split
  · exact h1.modR_irrel hid _ (fun _ => ⟨rfl, rfl, rfl, rfl⟩)
  · exact h1

theorem InvA.journalUnlock {db : DB} (h : InvA db) (hid : Nat) (keep : Bool) : InvA (db.journalUnlock hid keep) := by
  unfold DB.journalUnlock
  split
  · simp only []
    have h1 : InvA (db.pushJ (db.getR hid) false).1 := h.pushJ _ false (fun hl => by simp at hl)
    split
    · exact h1.modR_irrel hid _ (fun _ => ⟨rfl, rfl, rfl, rfl⟩)
    · exact h1
  · exact h

theorem InvA.rollback {db : DB} (h : InvA db) (hid : Nat) : InvA (db.rollback hid) := by
  unfold DB.rollback
  simp only []
  apply InvA.ctrMod
  apply InvA.removeLock
  apply InvA.journalUnlock
  split
  · exact ((h.modKey _ _).modKey _ _).modR_irrel hid _ (fun _ => ⟨rfl, rfl, rfl, rfl⟩)
  · exact h.modKey _ _

theorem InvA.failed {db : DB} (h : InvA db) (hid : Nat) : InvA (failed db hid) :=
  (h.modR_irrel hid _ (irrel_timeouted true)).rollback hid

theorem InvA.released {db : DB} (h : InvA db) (hid k n : Nat) (f : Counters → Counters) : InvA (released db hid k n f) :=
  ((((h.modR_irrel hid _ (irrel_expried true)).modKey _ _).journalUnlock hid false).removeLock hid).ctrMod f

theorem InvA.newRec {db : DB} (h : InvA db) (c : Cmd) : InvA (db.newRec c).1 := by
  obtain ⟨r0, e0, e1, e2, _⟩ := newRec_recs db c
  have en : (db.newRec c).1.nextHid = db.nextHid + 1 := rfl
  refine ⟨?_, ?_, ?_, ?_, ?_⟩
  · rw [e0, List.map_append, List.nodup_append]
    refine ⟨h.nodup, by simp, ?_⟩
    intro a ha b hb
    simp only [List.mem_map] at ha
    obtain ⟨x, hx, rfl⟩ := ha
    simp at hb; subst hb
    have := h.hidLt x hx; omega
  · intro r hr
    rw [e0] at hr
    rcases List.mem_append.mp hr with hr | hr
    · have := h.hidLt r hr; rw [en]; omega
    · simp at hr; subst hr; rw [en, e1]; omega
  · intro r hr hd
    rw [e0] at hr
    rcases List.mem_append.mp hr with hr | hr
    · exact h.heldNQ r hr hd
    · simp at hr; subst hr; omega
  · intro j hj hl a ha
    have := h.jrn j hj hl a ha
    rw [newRec_getR db c a (by omega), en]
    exact ⟨by omega, this.2⟩
  · intro e he
    have := h.tabOk e he
    rw [newRec_getR db c e.hid (by omega), en]
    exact ⟨by omega, this.2⟩

theorem InvA.newRec_unref {db : DB} (h : InvA db) (c : Cmd) : ∀ e ∈ (db.newRec c).1.tab, e.hid ≠ (db.newRec c).2 := by
  intro e he
  have := h.tab_lt he
  rw [newRec_snd]; omega

theorem InvA.unref_of_queued {db : DB} (h : InvA db) {w : Nat} (hq : (db.getR w).queued = true) : ∀ e ∈ db.tab, e.hid ≠ w := by
  intro e he e1
  have := h.tab_nq he
  rw [e1, hq] at this; exact absurd this (by decide)

theorem InvA.grant {db : DB} (h : InvA db) (hid : Nat) (hn : ∀ e ∈ db.tab, e.hid ≠ hid) : InvA (db.grant hid).1 := by
  unfold DB.grant
  simp only []
  exact ((((h.modR_irrel hid _ (irrel_timeouted true)).addLock hid hn).valueOp hid false).addExpried hid).ctrMod _

theorem InvA.ackHold {db : DB} (h : InvA db) (hid : Nat) (hn : ∀ e ∈ db.tab, e.hid ≠ hid) : InvA (db.ackHold hid) := by
  unfold DB.ackHold
  exact ((h.addLock hid hn).valueOp hid true).ctrMod _

theorem InvA.modR_holder {db : DB} (h : InvA db) (hid : Nat) (f : Rec → Rec)
    (hf : ∀ r, (f r).hid = r.hid ∧ (f r).queued = r.queued ∧ (f r).ack = r.ack)
    (hd : ∀ r, (f r).depth > 0 → r.depth > 0) : InvA (db.modR hid f) := by
  apply InvA.modR h hid f (fun r => (hf r).1)
  · intro r _ _ hq; rw [(hf r).2.1] at hq; exact hq
  · intro r hr _ hd'; rw [(hf r).2.1]; exact h.heldNQ r hr (hd r hd')
  · intro hx hp
    rw [(hf _).2.2]
    exact h.tab_ack hx (by unfold Rec.pending at hp ⊢; rw [← (hf _).2.2]; exact hp)

theorem InvA.lowered {db : DB} (h : InvA db) (hid k : Nat) (f : Counters → Counters) : InvA (lowered db hid k f) :=
  (((h.modR_holder hid (fun r => { r with depth := r.depth - 1 }) (fun _ => ⟨rfl, rfl, rfl⟩) (by intro r hd; simp at hd; omega)).modKey k _).journalUnlock
    hid true).ctrMod f

theorem InvA.updateHold {db : DB} (h : InvA db) (hid : Nat) (c : Cmd) : InvA (db.updateHold hid c) := by
  have h1 := h.modR_irrel hid (Rec.updateF db.now c) (fun _ => ⟨rfl, rfl, rfl, rfl⟩)
  unfold DB.updateHold
  simp only []
  split
  · exact h1.addExpried hid
  · exact h1

theorem getR_modR_field {α : Type} (g : Rec → α) (db : DB) (hid : Nat) (f : Rec → Rec) (hf : ∀ r, (f r).hid = r.hid)
    (hg : ∀ r, g (f r) = g r) (a : Nat) : g ((db.modR hid f).getR a) = g (db.getR a) := by
  rw [getR_modR db hid f hf]
  split
  · split
    · exact hg _
    · rfl
  · rfl

theorem queued_updateHold (db : DB) (hid : Nat) (c : Cmd) (a : Nat) : ((db.updateHold hid c).getR a).queued = (db.getR a).queued := by
  have h1 := getR_modR_field (·.queued) db hid (Rec.updateF db.now c) (fun _ => rfl) (fun _ => rfl) a
  unfold DB.updateHold
  simp only []
  split
  · unfold DB.addExpried
    rw [← h1]
    exact getR_modR_field (·.queued) _ hid _ (by intro _; rfl) (by intro _; rfl) a
  · exact h1

theorem noAck_ack (r : Rec) : r.noAckFlag.cmd.ack = false := by show has 0 TF_ACK = false; decide

theorem InvA.relockHold {db : DB} (h : InvA db) (c : Cmd) (x : Nat) (hx : (db.getR x).queued = false) :
    InvA (db.relockHold c x) := by
  have h1 : InvA ((db.modR x (fun r => { r with depth := r.depth + 1 })).modKey c.key (fun k => { k with locked := k.locked + 1 })) := by
    apply InvA.modKey
    apply InvA.modR h x
    · intro _; rfl
    · intro r _ _ hq; exact hq
    · intro r hr e1 _
      have := h.getR_of_mem hr
      rw [e1] at this; rw [this] at hx; exact hx
    · exact h.tab_ack
  have fin : ∀ d : DB, InvA d →
      InvA (if ((d.updateHold x c).getR x).isAof = true then ((d.updateHold x c).pushJ ((d.updateHold x c).getR x).noAckFlag true).1 else d.updateHold x c) := by
    intro d hd
    split
    · exact (hd.updateHold x c).pushJ _ true (fun _ hh => by rw [noAck_ack] at hh; exact absurd hh (by decide))
    · exact hd.updateHold x c
  unfold DB.relockHold
  simp only []
  apply InvA.ctrMod
  split
  · exact fin _ (h1.modKey _ _)
  · exact fin _ h1

theorem InvA.dropWaiter {db : DB} (h : InvA db) (hid : Nat) : InvA (db.dropWaiter hid) := by
  have h0 : InvA (db.modR hid (fun r => { r with timeouted := true })) := h.modR_irrel hid _ (irrel_timeouted true)
  unfold DB.dropWaiter
  simp only []
  apply InvA.ctrMod
  have h1 : InvA ((db.modR hid (fun r => { r with timeouted := true })).modR hid (fun r => { r with queued := false })) := by
    apply InvA.modR h0 hid
    · intro _; rfl
    · intro r _ _ hq; simp at hq
    · intro r _ _ _; rfl
    · exact h0.tab_ack
  split
  · exact h1.modKey _ _
  · exact h1

end Slock.Ack
