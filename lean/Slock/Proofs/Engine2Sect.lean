import Slock.Proofs.Engine2Step
/-! Stage-2 engine: the critical sections (`Sweep`, `Sect`) as chains of primitive steps, hence
frame steps; off-leader a section, a sweep, a tick pushes nothing to the journal; a sweep leaves the clock alone. -/
namespace Slock.Engine2
open Slock.Engine (has mkReply)

variable {data : Option Bytes}

/-- `doTimeOut`: what a visit does to an entry that is not a live request's; else the request ends where it sits, then the wake pass -/
theorem Chain.fireTimeout {w0 w : W} (h : Chain data false false w0 w) (rid : Nat) : Chain data false false w0 (w.fireTimeout rid) := by
  by_cases hd : w.k.hasT rid = false ∨ (w.k.getR rid).timeouted = true
  · exact h.trans (visitTimeout_step (SimTick.visitTimeout_dead w true rid hd)).prims
  · simp only [not_or, Bool.not_eq_false, Bool.not_eq_true] at hd
    rw [SimTick.fireTimeout_live_eq w rid hd.1 hd.2]
    exact (((((h.modR rid .tomb).settleWait.ctr SimTick.ctrW).dropT rid).ctr _).reply _ _ _ _).wake

/-- `doExpried`: likewise; of a live hold, a follower defers a replicated one, the leader ends it as a release does -/
theorem Chain.fireExpire {w0 w : W} (h : Chain data false false w0 w) (rid : Nat) : Chain data false false w0 (w.fireExpire rid) := by
  by_cases hd : w.k.hasE rid = false ∨ (w.k.getR rid).expried = true
  · exact h.trans (visitExpire_step (SimTick.visitExpire_dead w true rid hd)).prims
  simp only [not_or, Bool.not_eq_false, Bool.not_eq_true] at hd
  cases hdf : deferExpiry w.db (w.k.getR rid) with
  | true => rw [SimTick.fireExpire_deferred w rid hd.1 hd.2 hdf]; exact (h.modR rid (.expT _)).addExpried rid
  | false =>
    rw [SimTick.fireExpire_live_eq w rid hd.1 hd.2 hdf]
    exact (((((((h.modR rid .expire).setLocked (· - _)).when _ _ (·.pushUnLockAof rid _ false false AOF_EXPRIED)).removeLock rid).dropE rid).ctr _).reply _ _ _ _).wake

theorem Sweep.chain {db : DB} {key : Nat} {w' : W} : Sweep db key w' → Chain data false false (db.openKey key) w'
  | .visitT _ _ _ _ h => (visitTimeout_step h).prims
  | .collectT _ e _ => (Chain.nil data _).collectT e.rid
  | .visitE _ _ _ _ h => (visitExpire_step h).prims
  | .fireT _ e => Chain.refl.fireTimeout e.rid
  | .fireE _ e => Chain.refl.fireExpire e.rid

/-- a section opens a key record of the database (LOCK past its pre-checks: after `GetOrNewLockManager`) and is a chain from there -/
theorem Sect.chain {db : DB} {key : Nat} {w' : W} (s : Sect data db key w') :
    ∃ db0, (db0 = db ∨ db0 = db.create key) ∧ Chain data false false (db0.openKey key) w' := by
  cases s with
  | lock c =>
    have h := applyLock_chain db c data (classifyLock db c data)
    generalize classifyLock db c data = b at h ⊢
    cases b with
    | p0a | p0b => exact ⟨db, Or.inl rfl, h⟩
    | _ => exact ⟨_, Or.inr rfl, h⟩
  | unlock c => exact ⟨db, Or.inl rfl, applyUnlock_chain db c data _⟩
  | sweep s => exact ⟨db, Or.inl rfl, s.chain⟩

theorem Fr.wheelBroken (w : W) : Fr w w.wheelBroken := (Chain.nil none w).wheelBroken.fr
theorem Fr.dropT (w : W) (rid : Nat) : Fr w (w.dropT rid) := ((Chain.nil none w).dropT rid).fr
theorem Fr.dropE (w : W) (rid : Nat) : Fr w (w.dropE rid) := ((Chain.nil none w).dropE rid).fr
theorem W.fireTimeout_fr (w : W) (rid : Nat) : Fr w (w.fireTimeout rid) := ((Chain.nil none w).fireTimeout rid).fr
theorem W.collectT_fr (w : W) (rid : Nat) : Fr w (w.collectT rid) := ((Chain.nil none w).collectT rid).fr
theorem W.fireExpire_fr (w : W) (rid : Nat) : Fr w (w.fireExpire rid) := ((Chain.nil none w).fireExpire rid).fr
theorem W.visitTimeout_fr (w : W) (slot : Bool) (rid : Nat) (w' : W) (h : w.visitTimeout slot rid = some w') : Fr w w' :=
  (visitTimeout_step (data := none) h).fr
theorem W.visitExpire_fr (w : W) (slot : Bool) (rid : Nat) (w' : W) (h : w.visitExpire slot rid = some w') : Fr w w' :=
  (visitExpire_step (data := none) h).fr

/-- role and (off-leader) journal as a property of the database -/
def SameJournal (db db' : DB) : Prop := db'.leader = db.leader ∧ (db.leader = false → db'.aofOut = db.aofOut)

theorem SameJournal.refl (db : DB) : SameJournal db db := ⟨rfl, fun _ => rfl⟩
theorem SameJournal.trans {a b c : DB} (h1 : SameJournal a b) (h2 : SameJournal b c) : SameJournal a c :=
  ⟨h2.1.trans h1.1, fun h => (h2.2 (h1.1.trans h)).trans (h1.2 h)⟩

theorem SameJournal.of_fr (db : DB) (key : Nat) (w' : W) (f : Fr (db.openKey key) w') : SameJournal db w'.commit := by
  obtain ⟨c1, c2, _⟩ := commit_fields w'
  exact ⟨c1.trans f.leader, fun h => c2.trans (f.aof h)⟩

theorem SameJournal.sect {data : Option Bytes} {db : DB} {key : Nat} {w' : W} (s : Sect data db key w') : SameJournal db w'.commit := by
  obtain ⟨db0, h0, c⟩ := s.chain
  have f := SameJournal.of_fr db0 key _ c.fr
  rcases h0 with rfl | rfl
  · exact f
  · obtain ⟨c1, c2, _⟩ := create_fields db key
    exact ⟨f.1.trans c1, fun h => (f.2 (c1.trans h)).trans c2⟩

theorem Swept.journal {db db' : DB} (m : Swept db db') : SameJournal db db' :=
  m.ind (J := SameJournal db) (fun _ _ _ s h => h.trans (SameJournal.sect (data := none) (.sweep s))) (SameJournal.refl db)

theorem Swept.now {db db' : DB} (m : Swept db db') : db'.now = db.now :=
  m.ind (J := fun d => d.now = db.now) (fun _ _ w' s h => ((commit_fields w').2.2.1.trans (s.chain (data := none)).fr.now).trans h) rfl

theorem opTick_now (db : DB) : (opTick db).1.now = db.now + 1 := by
  have h1 := (sweepTimeout_swept { db with now := db.now + 1, tCheck := db.now + 1 + 1 } (db.now + 1)).now
  unfold opTick
  simp only []
  generalize sweepTimeout { db with now := db.now + 1, tCheck := db.now + 1 + 1 } (db.now + 1) = r1 at h1 ⊢
  exact (sweepExpire_swept _ _).now.trans h1

theorem opLock_journal (db : DB) (c : Cmd) (data : Option Bytes) : SameJournal db (opLock db c data).1 := SameJournal.sect (.lock db c)
theorem opUnlock_journal (db : DB) (c : Cmd) (data : Option Bytes) : SameJournal db (opUnlock db c data).1 := SameJournal.sect (.unlock db c)
theorem sweepTimeout_journal (db : DB) (c : Nat) : SameJournal db (sweepTimeout db c).1 := (sweepTimeout_swept db c).journal
theorem expireStep_journal (slot : Bool) (acc : DB × List Ent) (e : Ent) : SameJournal acc.1 (expireStep slot acc e).1 :=
  (expireStep_swept slot acc e .refl).journal
theorem fireExpireStep_journal (acc : DB × List Reply) (e : Ent) : SameJournal acc.1 (fireExpireStep acc e).1 :=
  SameJournal.sect (data := none) (.sweep (.fireE acc.1 e))
theorem opTick_journal (db : DB) : SameJournal db (opTick db).1 :=
  opTick_sweep (J := SameJournal db) (fun _ _ _ s h => h.trans (SameJournal.sect (data := none) (.sweep s))) (fun _ _ _ _ h => h) db (SameJournal.refl db)

theorem step_journal (db : DB) (o : Op) (h : db.leader = false) : (step db o).1.aofOut = db.aofOut := by
  cases o with
  | lock c d => exact (opLock_journal db c d).2 h
  | unlock c d => exact (opUnlock_journal db c d).2 h
  | tick => exact (opTick_journal db).2 h
  | setLeader b => rfl

end Slock.Engine2
