import Slock.Proofs.Engine2RC
import Slock.Proofs.Engine2SimEnqList
/-! Stage-2 engine: the reference-count invariant through the holder queue and the wait queue (lazy popping, compaction,
priority re-filing). Every queue helper is walked here by hand, although `Engine2Closed` walks them once for any property kept by
`unref`: `RCx` is NOT such a property — `RCx.unref` holds only for a record that is OWED a reference (`0 < qRefs x + ex x`), and the
surplus `ex` changes with every pop. So each lemma says who owes whom. -/
namespace Slock.Engine2

theorem qRefs_unref (k : Key) (rid x : Nat) : (k.unref rid).qRefs x = k.qRefs x := by
  obtain ⟨a, b, c, _⟩ := unref_queues k rid
  unfold Key.qRefs; rw [a, b, c]

theorem count_filter_split (p : Nat → Bool) (l : List Nat) (x : Nat) :
    (l.filter p).count x + (l.filter (fun y => !p y)).count x = l.count x := by
  induction l with
  | nil => rfl
  | cons a as ih =>
    cases hp : p a <;> simp [List.filter, hp, List.count_cons] <;> omega

theorem count_map_filter_split (p : WEnt → Bool) (l : List WEnt) (x : Nat) :
    ((l.filter p).map (·.rid)).count x + ((l.filter (fun y => !p y)).map (·.rid)).count x = (l.map (·.rid)).count x := by
  induction l with
  | nil => rfl
  | cons a as ih =>
    cases hp : p a <;> simp [List.filter, hp, List.count_cons] <;> omega

/-! an entry more or less in a queue, as a term of the count equation: `delta` stays an atom for `omega` -/
theorem count_single (rid x : Nat) : (([rid].count x : Nat) : Int) = delta rid x := by
  unfold delta; by_cases e : x = rid
  · simp [e]
  · have : ¬ rid = x := fun h => e h.symm
    simp [e, this]
theorem count_cons_delta (a : Nat) (l : List Nat) (x : Nat) : (((a :: l).count x : Nat) : Int) = l.count x + delta a x := by
  rw [List.count_cons]; unfold delta; by_cases e : x = a
  · simp [e]
  · have : ¬ a = x := fun h => e h.symm
    simp [e, this]
theorem ite_delta (a x : Nat) : (((if a = x then 1 else 0 : Nat)) : Int) = delta a x := by
  unfold delta; by_cases e : x = a
  · simp [e]
  · have : ¬ a = x := fun h => e h.symm
    simp [e, this]

def countIn (l : List Nat) : Nat → Int := fun y => (l.count y : Int)

theorem foldl_unref_rc {ex : Nat → Int} (d : List Nat) (hex : ∀ y ∈ d, 0 ≤ ex y) (k : Key) (h : RCx k (fun y => ex y + countIn d y)) :
    RCx (d.foldl (fun k x => k.unref x) k) ex := by
  induction d generalizing k with
  | nil => exact h.congr (fun x => by simp [countIn])
  | cons a as ih =>
    simp only [List.foldl_cons]
    apply ih (fun y hy => hex y (List.mem_cons_of_mem _ hy))
    have hpos : 0 < (k.qRefs a : Int) + (ex a + countIn (a :: as) a) := by
      have := hex a (by simp)
      simp only [countIn, List.count_cons_self]; omega
    refine (h.unref a hpos).congr ?_
    intro x
    simp only [countIn, count_cons_delta]; omega

theorem foldl_unrefW_rc {ex : Nat → Int} (d : List WEnt) (hex : ∀ y ∈ d, 0 ≤ ex y.rid) (k : Key)
    (h : RCx k (fun y => ex y + countIn (d.map (·.rid)) y)) :
    RCx (d.foldl (fun k x => k.unref x.rid) k) ex := by
  have : d.foldl (fun k x => k.unref x.rid) k = (d.map (·.rid)).foldl (fun k x => k.unref x) k := by
    rw [List.foldl_map]
  rw [this]
  refine foldl_unref_rc _ ?_ k h
  intro y hy
  obtain ⟨e, he, rfl⟩ := List.mem_map.mp hy
  exact hex e he

theorem foldl_unref_queues (d : List Nat) (k : Key) :
    (d.foldl (fun k x => k.unref x) k).locks = k.locks ∧ (d.foldl (fun k x => k.unref x) k).wait = k.wait ∧
    (d.foldl (fun k x => k.unref x) k).current = k.current :=
  ⟨foldl_unref_inv (wclosed_locks _).unref d rfl, (hclosed_wait _).foldl_unref d rfl, (hclosed_current _).foldl_unref d rfl⟩

/-- `locks.Push(x)`: one owed reference (the caller has already counted it) becomes a queue entry -/
theorem locksPush_rc {k : Key} {ex : Nat → Int} (hex : ∀ y, 0 ≤ ex y) (rid : Nat) (h : RCx k (fun y => ex y + delta rid y)) :
    RCx (k.locksPush rid) ex := by
  unfold Key.locksPush
  simp only []
  split
  · refine h.transfer rfl rfl (fun x => ?_)
    simp only [Key.qRefs, List.count_append, Int.natCast_add, count_single]; omega
  · split
    · rename_i he
      have he' : k.locks = [] := by simpa using he
      refine h.transfer rfl rfl (fun x => ?_)
      simp only [Key.qRefs, he', List.count_nil, Int.natCast_add, count_single]; omega
    · apply foldl_unref_rc _ (fun y _ => hex y)
      have key : ∀ k1 : Key, k1.recs = k.recs → k1.refCount = k.refCount → k1.current = k.current → k1.wait = k.wait →
          k1.locks = k.locks.filter (fun x => k.liveHolder x) ++ [rid] →
          RCx k1 (fun y => ex y + countIn (k.locks.filter (fun x => !k.liveHolder x)) y) := by
        intro k1 h1 h2 h3 h4 h5
        refine h.transfer h1 h2 (fun x => ?_)
        have hs := count_filter_split (fun x => k.liveHolder x) k.locks x
        simp only [Key.qRefs, h3, h4, h5, List.count_append, Int.natCast_add, count_single, countIn]; omega
      split
      · exact key _ rfl rfl rfl rfl rfl
      · exact key _ rfl rfl rfl rfl rfl

/-- the head of the holder queue is popped: its reference is owed until the `unref` -/
theorem RCx.popLocks {k : Key} {ex : Nat → Int} (h : RCx k ex) {x : Nat} {rest : List Nat} (hl : k.locks = x :: rest) (n : Nat) :
    RCx { k with locks := rest, locksPopped := n } (fun y => ex y + delta x y) := by
  refine h.transfer rfl rfl (fun y => ?_)
  simp only [Key.qRefs, hl, Int.natCast_add, count_cons_delta]; omega

theorem RCx.popWait {k : Key} {ex : Nat → Int} (h : RCx k ex) {e : WEnt} {rest : List WEnt} (hl : k.wait = e :: rest) (n : Nat) :
    RCx { k with wait := rest, waitPopped := n } (fun y => ex y + delta e.rid y) := by
  refine h.transfer rfl rfl (fun y => ?_)
  simp only [Key.qRefs, hl, List.map_cons, Int.natCast_add, count_cons_delta]; omega

/-- lazy popping of the holder queue; a live entry that is taken out is owed to the caller -/
theorem locksSkip_rc {ex : Nat → Int} (hex : ∀ y, 0 ≤ ex y) (take : Bool) (l : List Nat) (k : Key) (h : RCx k ex) (hl : k.locks = l) :
    RCx (locksSkip take l k).1
      (fun y => ex y + (match (locksSkip take l k).2 with | some x => if take then delta x y else 0 | none => 0)) ∧
    (locksSkip take l k).1.current = k.current ∧ (locksSkip take l k).1.wait = k.wait := by
  induction l generalizing k with
  | nil => exact ⟨h.congr (fun _ => by simp [locksSkip]), rfl, rfl⟩
  | cons x rest ih =>
    unfold locksSkip
    split
    · cases take with
      | true =>
        simp only [if_true]
        exact ⟨h.popLocks hl _, trivial, trivial⟩
      | false =>
        simp only [Bool.false_eq_true, if_false]
        exact ⟨h.congr (fun _ => by simp), trivial, trivial⟩
    · have h1 := h.popLocks hl (k.locksPopped + 1)
      have h2 : RCx ({ k with locks := rest, locksPopped := k.locksPopped + 1 }.unref x) ex := by
        refine (h1.unref x ?_).congr (fun y => by simp)
        have := hex x; simp only [delta, if_true]; omega
      obtain ⟨q1, q2, q3, _⟩ := unref_queues { k with locks := rest, locksPopped := k.locksPopped + 1 } x
      obtain ⟨r1, r2, r3⟩ := ih _ h2 q1
      exact ⟨r1, r2.trans q3, r3.trans q2⟩

/-- the current holder `rid` gives up its place: `depth := 0`, `refCount--`, `current := none` -/
theorem RCx.unsetCurrent {k : Key} {ex : Nat → Int} (hex : ∀ y, 0 ≤ ex y) (h : RCx k ex) (rid : Nat) (hc : k.current = some rid) :
    RCx { (k.modRec rid fun r => { r with depth := 0 }).unrefOnly rid with current := none } ex := by
  have h1 : RCx (k.modRec rid fun r => { r with depth := 0 }) ex := h.modRec_plain rid _ (fun _ => rfl) (fun _ => rfl) (fun _ => rfl)
  have hq : 0 < ((k.modRec rid fun r => { r with depth := 0 }).qRefs rid : Int) + ex rid := by
    have := hex rid; rw [qRefs_modRec]; simp only [Key.qRefs, hc, if_true]; omega
  refine (h1.unrefOnly rid (h1.dang rid hq) (by omega)).transfer rfl rfl (fun y => ?_)
  simp only [Key.qRefs, Key.unrefOnly, Key.modRec, hc, Int.natCast_add, Option.some.injEq, ite_delta]; simp; omega

theorem removeLock_rc {k : Key} {ex : Nat → Int} (hex : ∀ y, 0 ≤ ex y) (h : RCx k ex) (rid : Nat) : RCx (k.removeLock rid) ex := by
  unfold Key.removeLock
  simp only []
  have h1 : RCx (k.modRec rid fun r => { r with depth := 0 }) ex := h.modRec_plain rid _ (fun _ => rfl) (fun _ => rfl) (fun _ => rfl)
  split
  · rename_i hc
    have h3 := h.unsetCurrent hex rid (by simpa [Key.modRec] using hc)
    obtain ⟨s1, s2, s3⟩ := locksSkip_rc hex true _ _ h3 rfl
    refine s1.transfer rfl rfl (fun y => ?_)
    have hcur : (locksSkip true ({ (k.modRec rid fun r => { r with depth := 0 }).unrefOnly rid with current := none } : Key).locks
      { (k.modRec rid fun r => { r with depth := 0 }).unrefOnly rid with current := none }).1.current = none := s2
    simp only [Key.qRefs, hcur]
    cases (locksSkip true ({ (k.modRec rid fun r => { r with depth := 0 }).unrefOnly rid with current := none } : Key).locks
      { (k.modRec rid fun r => { r with depth := 0 }).unrefOnly rid with current := none }).2 with
    | none => simp
    | some x => simp only [if_true, Int.natCast_add, Option.some.injEq, ite_delta]; simp; omega
  · exact ((locksSkip_rc hex false _ _ h1 rfl).1).congr (fun y => by cases (locksSkip false _ _).2 <;> simp)

theorem count_insertPrio (ws : List WEnt) (e : WEnt) (x : Nat) :
    ((insertPrio ws e).map (·.rid)).count x = (ws.map (·.rid)).count x + (if e.rid = x then 1 else 0) := by
  rw [((Sim.insertPrio_perm ws e).map (·.rid)).count_eq, List.map_cons, List.count_cons]
  simp only [beq_iff_eq]

theorem count_foldl_insertPrio (l acc : List WEnt) (x : Nat) :
    ((l.foldl insertPrio acc).map (·.rid)).count x = (acc.map (·.rid)).count x + (l.map (·.rid)).count x := by
  rw [((Sim.foldl_insertPrio_perm l acc).map (·.rid)).count_eq, List.map_append, List.count_append]

theorem count_wait_rePush (k : Key) (x : Nat) : (k.rePush.wait.map (·.rid)).count x = (k.wait.map (·.rid)).count x := by
  unfold Key.rePush
  simp only []
  rw [count_foldl_insertPrio]
  have : (k.wait.map (fun e => ({ e with prio := Slock.Engine.cmdPriority (k.getR e.rid).cmd } : WEnt))).map (·.rid) = k.wait.map (·.rid) := by
    rw [List.map_map]; rfl
  rw [this]; simp

theorem qRefs_rePush (k : Key) (x : Nat) : k.rePush.qRefs x = k.qRefs x := by
  unfold Key.qRefs; rw [count_wait_rePush]; rfl

theorem addWaitLock_eq (k : Key) (rid : Nat) : ∃ k1, (k1 = k ∨ k1 = k.rePush) ∧ k.addWaitLock rid =
    { (k1.waitPush ⟨rid, Slock.Engine.cmdPriority (k.getR rid).cmd⟩).modRec rid (fun r => { r with refCount := r.refCount + 1 }) with waited := true } :=
  ⟨_, by cases Sim.rePushes k rid <;> simp, Sim.addWaitLock_eq k rid⟩

theorem rePush_rc {k : Key} {ex : Nat → Int} (h : RCx k ex) : RCx k.rePush ex :=
  h.transfer rfl rfl (fun x => by rw [qRefs_rePush])

theorem count_append_single (l : List WEnt) (e : WEnt) (x : Nat) :
    ((l ++ [e]).map (·.rid)).count x = (l.map (·.rid)).count x + (if e.rid = x then 1 else 0) := by
  by_cases h : e.rid = x <;> simp [List.count_append, h]

/-- `waitLocks.Push(e)`: a queue entry more, not yet counted in the record -/
theorem waitPush_rc {k : Key} {ex : Nat → Int} (hex : ∀ y, 0 ≤ ex y) (e : WEnt) (h : RCx k ex)
    (hnew : (k.wait.map (·.rid)).count e.rid = 0) :
    RCx (k.waitPush e) (fun y => ex y - delta e.rid y) := by
  unfold Key.waitPush
  have step : ∀ (k1 : Key) (sur : Nat → Int), k1.recs = k.recs → k1.refCount = k.refCount → k1.current = k.current → k1.locks = k.locks →
      (∀ x, ((k1.wait.map (·.rid)).count x : Int) + sur x = (k.wait.map (·.rid)).count x + delta e.rid x) →
      RCx k1 (fun y => ex y - delta e.rid y + sur y) := by
    intro k1 sur h1 h2 h3 h4 h5
    refine h.transfer h1 h2 (fun x => ?_)
    have := h5 x
    simp only [Key.qRefs, h3, h4, Int.natCast_add]; omega
  have step0 : ∀ (k1 : Key), k1.recs = k.recs → k1.refCount = k.refCount → k1.current = k.current → k1.locks = k.locks →
      (∀ x, (k1.wait.map (·.rid)).count x = (k.wait.map (·.rid)).count x + (if e.rid = x then 1 else 0)) →
      RCx k1 (fun y => ex y - delta e.rid y) := by
    intro k1 h1 h2 h3 h4 h5
    refine (step k1 (fun _ => 0) h1 h2 h3 h4 (fun x => by rw [h5 x]; simp only [Int.natCast_add, ite_delta]; omega)).congr (fun y => by simp)
  split
  · exact step0 _ rfl rfl rfl rfl (fun x => count_insertPrio _ _ _)
  · simp only []
    split
    · exact step0 _ rfl rfl rfl rfl (fun x => count_append_single _ _ _)
    · split
      · rename_i he
        have he' : k.wait = [] := by simpa using he
        exact step0 _ rfl rfl rfl rfl (fun x => by rw [he']; exact count_append_single [] e x)
      · have hsplit := fun x => count_map_filter_split (fun y : WEnt => !k.deadWaiter y.rid) k.wait x
        have key : ∀ k1 : Key, k1.recs = k.recs → k1.refCount = k.refCount → k1.current = k.current → k1.locks = k.locks →
            k1.wait = k.wait.filter (fun x => !k.deadWaiter x.rid) ++ [e] →
            RCx k1 (fun y => (ex y - delta e.rid y) + countIn ((k.wait.filter (fun x => k.deadWaiter x.rid)).map (·.rid)) y) := by
          intro k1 h1 h2 h3 h4 h5
          refine step k1 _ h1 h2 h3 h4 (fun x => ?_)
          have hs := hsplit x
          simp only [Bool.not_not] at hs
          rw [h5, count_append_single]
          simp only [countIn, Int.natCast_add, ite_delta]; omega
        apply foldl_unrefW_rc
        · intro y hy
          have hm : y ∈ k.wait := (List.mem_filter.mp hy).1
          have hne : y.rid ≠ e.rid := by
            intro e'
            have : 0 < (k.wait.map (·.rid)).count e.rid := List.count_pos_iff.mpr (List.mem_map.mpr ⟨y, hm, e'⟩)
            omega
          have := hex y.rid
          simp only [delta, hne, if_false]; omega
        · split
          · exact key _ rfl rfl rfl rfl rfl
          · exact key _ rfl rfl rfl rfl rfl

theorem waitSkip_rc {ex : Nat → Int} (hex : ∀ y, 0 ≤ ex y) (l : List WEnt) (k : Key) (h : RCx k ex) (hl : k.wait = l) :
    RCx (waitSkip l k).1 ex ∧ (waitSkip l k).1.current = k.current ∧ (waitSkip l k).1.locks = k.locks := by
  induction l generalizing k with
  | nil => exact ⟨h, rfl, rfl⟩
  | cons e rest ih =>
    unfold waitSkip
    split
    · have h1 := h.popWait hl (if k.waitPrio then k.waitPopped else k.waitPopped + 1)
      have h2 : RCx ({ k with wait := rest, waitPopped := if k.waitPrio then k.waitPopped else k.waitPopped + 1 }.unref e.rid) ex := by
        refine (h1.unref e.rid ?_).congr (fun y => by simp)
        have := hex e.rid; simp only [delta, if_true]; omega
      obtain ⟨q1, q2, q3, _⟩ := unref_queues { k with wait := rest, waitPopped := if k.waitPrio then k.waitPopped else k.waitPopped + 1 } e.rid
      obtain ⟨r1, r2, r3⟩ := ih _ h2 q2
      exact ⟨r1, r2.trans q3, r3.trans q1⟩
    · exact ⟨h, rfl, rfl⟩

theorem getWaitLock_rc {k : Key} {ex : Nat → Int} (hex : ∀ y, 0 ≤ ex y) (h : RCx k ex) : RCx k.getWaitLock.1 ex :=
  (waitSkip_rc hex _ _ h rfl).1

theorem settleWait_rc {k : Key} {ex : Nat → Int} (hex : ∀ y, 0 ≤ ex y) (h : RCx k ex) : RCx k.settleWait ex := by
  unfold Key.settleWait
  split
  · exact (getWaitLock_rc hex h).transfer rfl rfl (fun _ => rfl)
  · exact getWaitLock_rc hex h

theorem hasRec_unref_other (k : Key) (rid x : Nat) (hx : x ≠ rid) : (k.unref rid).hasRec x ↔ k.hasRec x := by
  unfold Key.unref
  simp only []
  split
  · rw [hasRec_free _ _ _ hx]; unfold Key.unrefOnly; exact hasRec_modRec _ _ _ _
  · unfold Key.unrefOnly; exact hasRec_modRec _ _ _ _

theorem hasRec_foldl_unref (d : List Nat) (k : Key) (x : Nat) (hx : x ∉ d) : (d.foldl (fun k y => k.unref y) k).hasRec x ↔ k.hasRec x := by
  induction d generalizing k with
  | nil => exact Iff.rfl
  | cons a as ih =>
    simp only [List.foldl_cons]
    rw [ih _ (fun h => hx (List.mem_cons_of_mem _ h))]
    exact hasRec_unref_other _ _ _ (fun e => hx (by simp [e]))

theorem keep_foldl_unref (d : List Nat) (k : Key) (y : Nat) (hy : y ∉ d) :
    (d.foldl (fun k x => k.unref x) k).getR y = k.getR y ∧ ((d.foldl (fun k x => k.unref x) k).hasRec y ↔ k.hasRec y) := by
  refine ⟨?_, hasRec_foldl_unref d k y hy⟩
  induction d generalizing k with
  | nil => rfl
  | cons a as ih =>
    simp only [List.foldl_cons]
    rw [ih _ (fun h => hy (List.mem_cons_of_mem _ h))]
    exact getR_unref_other _ _ _ (fun e => hy (by simp [e]))

theorem waitPush_other (k : Key) (e : WEnt) (x : Nat) (hx : (k.wait.map (·.rid)).count x = 0) :
    (k.waitPush e).getR x = k.getR x ∧ ((k.waitPush e).hasRec x ↔ k.hasRec x) := by
  unfold Key.waitPush
  split
  · exact ⟨rfl, Iff.rfl⟩
  · simp only []
    split
    · exact ⟨rfl, Iff.rfl⟩
    · split
      · exact ⟨rfl, Iff.rfl⟩
      · have hnd : x ∉ (k.wait.filter (fun y => k.deadWaiter y.rid)).map (·.rid) := by
          intro hm
          obtain ⟨y, hy, e'⟩ := List.mem_map.mp hm
          have : 0 < (k.wait.map (·.rid)).count x := List.count_pos_iff.mpr (List.mem_map.mpr ⟨y, (List.mem_filter.mp hy).1, e'⟩)
          omega
        have hf : ∀ k1 : Key, (List.foldl (fun k y => k.unref y.rid) k1 (k.wait.filter (fun y => k.deadWaiter y.rid))).getR x = k1.getR x ∧
            ((List.foldl (fun k y => k.unref y.rid) k1 (k.wait.filter (fun y => k.deadWaiter y.rid))).hasRec x ↔ k1.hasRec x) := by
          intro k1
          have : (k.wait.filter (fun y => k.deadWaiter y.rid)).foldl (fun k y => k.unref y.rid) k1 =
              ((k.wait.filter (fun y => k.deadWaiter y.rid)).map (·.rid)).foldl (fun k y => k.unref y) k1 := by rw [List.foldl_map]
          rw [this]; exact keep_foldl_unref _ _ _ hnd
        split <;> exact hf _

/-- `AddWaitLock`: queued and counted -/
theorem addWaitLock_rc {k : Key} {ex : Nat → Int} (hex : ∀ y, 0 ≤ ex y) (rid : Nat) (h : RCx k ex) (hh : k.hasRec rid)
    (hnew : (k.wait.map (·.rid)).count rid = 0) : RCx (k.addWaitLock rid) ex := by
  obtain ⟨k1, hk, e⟩ := addWaitLock_eq k rid
  have hk1 : RCx k1 ex ∧ k1.hasRec rid ∧ (k1.wait.map (·.rid)).count rid = 0 := by
    rcases hk with rfl | rfl
    · exact ⟨h, hh, hnew⟩
    · exact ⟨rePush_rc h, hh, (count_wait_rePush k rid).trans hnew⟩
  rw [e]
  have hp := waitPush_rc hex ⟨rid, Slock.Engine.cmdPriority (k.getR rid).cmd⟩ hk1.1 hk1.2.2
  exact ((hp.incr rid ((waitPush_other _ _ _ hk1.2.2).2.mpr hk1.2.1)).congr (fun y => by simp [delta])).transfer rfl rfl (fun _ => rfl)

theorem addWaitLock_self (k : Key) (rid : Nat) (hh : k.hasRec rid) (hn : (k.wait.map (·.rid)).count rid = 0) :
    (k.addWaitLock rid).hasRec rid ∧ (k.addWaitLock rid).getR rid = { k.getR rid with refCount := (k.getR rid).refCount + 1 } := by
  obtain ⟨k1, hk, e⟩ := addWaitLock_eq k rid
  have hk1 : k1.hasRec rid ∧ (k1.wait.map (·.rid)).count rid = 0 ∧ k1.getR rid = k.getR rid := by
    rcases hk with rfl | rfl
    · exact ⟨hh, hn, rfl⟩
    · exact ⟨hh, (count_wait_rePush k rid).trans hn, rfl⟩
  rw [e]
  obtain ⟨hg, hp⟩ := waitPush_other k1 ⟨rid, Slock.Engine.cmdPriority (k.getR rid).cmd⟩ rid hk1.2.1
  exact ⟨(hasRec_modRec _ _ _ _).mpr (hp.mpr hk1.1),
    by show ((k1.waitPush _).modRec rid _).getR rid = _; rw [getR_modRec_same _ _ _ (hp.mpr hk1.1), hg, hk1.2.2]⟩

theorem proj_addWaitLock {α : Type} (π : Rec → α) (hπ : ∀ r n, π { r with refCount := n } = π r) (k : Key) (rid : Nat) (hh : k.hasRec rid)
    (hn : (k.wait.map (·.rid)).count rid = 0) : π ((k.addWaitLock rid).getR rid) = π (k.getR rid) := by
  rw [(addWaitLock_self k rid hh hn).2]; exact hπ _ _

/-- `AddLock`: the record (already counted by the edit `f`: `refCount + 1`) becomes `currentLock` or a queue entry -/
theorem addLock_rc {k : Key} {ex : Nat → Int} (hex : ∀ y, 0 ≤ ex y) (rid : Nat) (f : Rec → Rec)
    (h : RCx (k.modRec rid f) (fun y => ex y + delta rid y)) : RCx (k.addLock rid f) ex := by
  unfold Key.addLock
  split
  · rename_i hc
    refine h.transfer rfl rfl (fun x => ?_)
    have hc' : (k.modRec rid f).current = none := hc
    simp only [Key.qRefs, hc', Int.natCast_add, Option.some.injEq, ite_delta]; simp; omega
  · exact locksPush_rc hex rid h

end Slock.Engine2
