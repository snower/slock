import Slock.Proofs.ElectRun
/-!
Every member, candidates included. One step that is not a restart of member `i` changes `i` by an acceptor move
(`AccRel`: one of the handlers, a `Save`, or nothing) followed by a proposer-side move (`CandW`: the bookkeeping of `DoRequests`
and the endings of `DoVote` / `DoProposal` / `DoCommit`). The proposer-side moves are:
nothing; the guarded raise of `proposalId` (only when unlatched, only upwards — the promise the proposal handler itself
would make); the release of a latch the member set ITSELF after its own failed commit round; the win.

Each of them keeps `GoodFrom`: both numbers never decrease while the member is not restarted, a latched member never
acknowledges a commit, and it acknowledged at most one commit more than it released latches of its own.
-/
namespace Slock.Elect

def CandW (c : Nat) (m m' : Member) : Prop :=
  m'.commits = m.commits ∧
  ( -- no acceptor field changes: bookkeeping, or a round starts / ends: idle, vote, or into the proposal round with a voted host
    (m'.pid = m.pid ∧ m'.cid = m.cid ∧ m'.latch = m.latch ∧ m'.clears = m.clears ∧
      ((m'.phase = m.phase ∧ m'.voteHost = m.voteHost) ∨ m'.phase = .idle ∨ m'.phase = .vote ∨
        (m'.phase = .prop ∧ m'.voteHost.isSome)))
    -- successful end of DoProposal: proposalId unchanged, or raised while not latched
  ∨ (m.phase = .prop ∧ m'.phase = .commit ∧ m'.voteHost = m.voteHost ∧ m'.cid = m.cid ∧ m'.latch = m.latch ∧ m'.clears = m.clears ∧
      (m'.pid = m.pid ∨ (m.latch = none ∧ m.pid < m'.pid)))
    -- failed end of DoCommit that releases the member's OWN latch
  ∨ (m.phase = .commit ∧ m'.phase = .idle ∧ m.fromHost = some c ∧ m'.latch = none ∧
      m'.clears = (if m.latch.isSome then m.clears + 1 else m.clears) ∧ m'.pid = m.pid ∧ m'.cid = m.cid)
    -- successful end of DoCommit
  ∨ (m.phase = .commit ∧ m'.phase = .won ∧ m'.latch = m.voteHost ∧ m'.cid = m.pid ∧ m'.pid = m.pid ∧ m'.clears = m.clears))

theorem CandW.refl (c : Nat) (m : Member) : CandW c m m := ⟨rfl, .inl ⟨rfl, rfl, rfl, rfl, .inl ⟨rfl, rfl⟩⟩⟩

theorem candW_idle (c : Nat) (m : Member) : CandW c m { m with phase := .idle } :=
  ⟨rfl, .inl ⟨rfl, rfl, rfl, rfl, .inr (.inl rfl)⟩⟩

/-- the number `DoProposal` leaves in `proposalId` on success -/
theorem raise_pid (m : Member) : (if m.pid < m.round && m.latch.isNone then m.round else m.pid) = m.pid ∨
    (m.latch = none ∧ m.pid < (if m.pid < m.round && m.latch.isNone then m.round else m.pid)) := by
  split
  · next h =>
    simp only [Bool.and_eq_true, decide_eq_true_eq, Option.isNone_iff_eq_none] at h
    exact .inr ⟨h.2, h.1⟩
  · exact .inl rfl

theorem candW_checkComplete (n c : Nat) (m : Member) : CandW c m (checkComplete n c m).1 := by
  unfold checkComplete
  split
  · exact CandW.refl c m
  · cases hp : m.phase with
    | idle | won => exact CandW.refl c m
    | vote =>
      dsimp only
      unfold finishVote
      split
      · exact candW_idle c m
      · split
        · exact candW_idle c m
        · exact ⟨rfl, .inl ⟨rfl, rfl, rfl, rfl, .inr (.inr (.inr ⟨rfl, rfl⟩))⟩⟩
    | prop =>
      dsimp only
      unfold finishProposal
      split
      · exact candW_idle c m
      · split
        · exact candW_idle c m
        · exact ⟨rfl, .inr (.inl ⟨hp, rfl, rfl, rfl, rfl, rfl, raise_pid m⟩)⟩
    | commit =>
      dsimp only
      unfold finishCommit
      split
      · split
        · exact ⟨rfl, .inr (.inr (.inl ⟨hp, rfl, ‹_›, rfl, rfl, rfl, rfl⟩))⟩
        · exact candW_idle c m
      · exact ⟨rfl, .inr (.inr (.inr ⟨hp, rfl, rfl, rfl, rfl, rfl⟩))⟩

/-- the fields of a member that `CandW` reads -/
def core (m : Member) := (m.pid, m.cid, m.latch, m.clears, m.phase, m.voteHost, m.fromHost, m.commits)

/-- bookkeeping (`finished`, `accepts`, the responses, the table) followed by the end-of-phase check -/
theorem candW_checkComplete_of {n c : Nat} {m m1 : Member} (h : core m1 = core m) : CandW c m (checkComplete n c m1).1 := by
  have hw := candW_checkComplete n c m1
  simp only [core, Prod.mk.injEq] at h
  obtain ⟨h1, h2, h3, h4, h5, h6, h7, h8⟩ := h
  unfold CandW at *
  rwa [h1, h2, h3, h4, h5, h6, h7, h8] at hw

theorem Rec.candW {n c : Nat} {a x : Member} (h : Rec n c a x) : CandW c a x := by
  cases h with
  | none => exact CandW.refl c a
  | error => exact candW_checkComplete_of rfl
  | vote t r b =>
    unfold recordVote
    split
    · exact CandW.refl c a
    · cases b <;> exact candW_checkComplete_of rfl
  | prop r b =>
    unfold recordProposal
    split
    · exact CandW.refl c a
    · split
      · exact candW_checkComplete_of rfl
      · exact candW_checkComplete_of rfl
      · dsimp only; split <;> exact candW_checkComplete_of rfl
      · exact candW_checkComplete_of rfl
  | commit r =>
    unfold recordCommit
    split
    · exact CandW.refl c a
    · split <;> exact candW_checkComplete_of rfl

theorem Move.decomp {n j : Nat} {e : Event} {m x : Member} (h : Move n e j m x) (hr : e ≠ .restart j) :
    ∃ a, AccRel m a ∧ CandW j a x := by
  cases h with
  | start => exact ⟨_, AccRel.refl _, rfl, .inl ⟨rfl, rfl, rfl, rfl, .inr (.inr (.inl rfl))⟩⟩
  | restart he => exact absurd he hr
  | handle ha hx => exact ⟨_, ha.accRel, hx.candW⟩

theorem step_decomp (s : State) (e : Event) (i : Nat) (hr : e ≠ .restart i) :
    ∃ a, AccRel (getM s.members i) a ∧ CandW i a (getM (step s e).1.members i) :=
  (step_member s e i).decomp hr

/-- `commitId ≤ proposalId`; a latched member has them equal (so it cannot acknowledge a commit, which needs
`commitId < proposalId`); a member in its proposal or commit round has a voted host; the acknowledged commits are at most
one per release of the member's own latch, plus one while it is latched -/
def Good (m : Member) : Prop :=
  m.cid ≤ m.pid ∧ (m.latch ≠ none → m.pid = m.cid) ∧
  ((m.phase = .prop ∨ m.phase = .commit) → m.voteHost.isSome = true) ∧
  m.commits.length ≤ m.clears + (if m.latch.isSome then 1 else 0)

/-- `Good` with the releases counted from `c0` on (`Good` itself counts them from 0) -/
def GoodFrom (c0 : Nat) (m : Member) : Prop :=
  m.cid ≤ m.pid ∧ (m.latch ≠ none → m.pid = m.cid) ∧
  ((m.phase = .prop ∨ m.phase = .commit) → m.voteHost.isSome = true) ∧
  m.commits.length + c0 ≤ m.clears + (if m.latch.isSome then 1 else 0)

theorem AccRel.good {c0 : Nat} {m m' : Member} (h : AccRel m m') (hg : GoodFrom c0 m) : GoodFrom c0 m' := by
  obtain ⟨g1, g2, g3, g4⟩ := hg
  obtain ⟨hp, hc, hv, h⟩ := h
  rcases h with ⟨h1, h2, h3, h4⟩ | ⟨h1, h2, h3, h4, h5, h6⟩ | ⟨x, h1, h2, h3, h4, h5⟩
  · exact ⟨by omega, by rw [h3, h1, h2]; exact g2, by rw [hp, hv]; exact g3, by rw [h4, hc, h3]; exact g4⟩
  · refine ⟨by omega, fun hl => absurd h5 hl, by rw [hp, hv]; exact g3, ?_⟩
    rw [h6, hc, h5]; rw [h1] at g4; exact g4
  · -- a latched member has `commitId = proposalId` and cannot have acknowledged
    have hln : m.latch = none := Decidable.byContradiction fun hl => by have := g2 hl; omega
    refine ⟨by omega, fun _ => by omega, by rw [hp, hv]; exact g3, ?_⟩
    rw [h5, hc, h4]
    rw [hln] at g4
    simp at g4 ⊢
    omega

theorem CandW.good {c c0 : Nat} {m m' : Member} (h : CandW c m m') (hg : GoodFrom c0 m) :
    GoodFrom c0 m' ∧ m.pid ≤ m'.pid ∧ m.cid ≤ m'.cid := by
  obtain ⟨g1, g2, g3, g4⟩ := hg
  obtain ⟨hcm, h⟩ := h
  rcases h with ⟨h1, h2, h3, h4, h5⟩ | ⟨p1, p2, h6, h2, h3, h4, h1⟩ | ⟨p1, p2, hf, h3, h4, h1, h2⟩ | ⟨p1, p2, h3, h2, h1, h4⟩
  · refine ⟨⟨by omega, by rw [h3, h1, h2]; exact g2, ?_, by rw [hcm, h4, h3]; exact g4⟩, by omega, by omega⟩
    intro hph
    rcases h5 with ⟨h5, h6⟩ | h5 | h5 | ⟨_, h5⟩
    · rw [h6]; exact g3 (h5 ▸ hph)
    · rw [h5] at hph; simp at hph
    · rw [h5] at hph; simp at hph
    · exact h5
  · have hv : m'.voteHost.isSome = true := by rw [h6]; exact g3 (Or.inl p1)
    rcases h1 with h1 | ⟨hl, h1⟩
    · exact ⟨⟨by omega, by rw [h3, h1, h2]; exact g2, fun _ => hv, by rw [hcm, h4, h3]; exact g4⟩, by omega, by omega⟩
    · exact ⟨⟨by omega, fun hl' => by rw [h3] at hl'; exact absurd hl hl', fun _ => hv, by rw [hcm, h4, h3]; exact g4⟩, by omega, by omega⟩
  · refine ⟨⟨by omega, fun hl => absurd h3 hl, ?_, ?_⟩, by omega, by omega⟩
    · intro hph; rw [p2] at hph; simp at hph
    · rw [hcm, h4, h3]
      cases hl : m.latch with
      | none => rw [hl] at g4; simpa using g4
      | some y => rw [hl] at g4; simp at g4 ⊢; omega
  · have hv : m.voteHost.isSome = true := g3 (Or.inr p1)
    refine ⟨⟨by omega, fun _ => by omega, ?_, ?_⟩, by omega, by omega⟩
    · intro hph; rw [p2] at hph; simp at hph
    · have hb : m.commits.length + c0 ≤ m.clears + 1 := by split at g4 <;> omega
      rw [hcm, h4, h3, hv]
      simpa using hb

theorem run_good {c0 : Nat} (es : List Event) : ∀ (s : State) (i : Nat), (∀ e ∈ es, e ≠ .restart i) →
    GoodFrom c0 (getM s.members i) →
    GoodFrom c0 (getM (run s es).members i) ∧
    (getM s.members i).pid ≤ (getM (run s es).members i).pid ∧
    (getM s.members i).cid ≤ (getM (run s es).members i).cid := by
  induction es with
  | nil => intro s i _ h; exact ⟨h, Nat.le_refl _, Nat.le_refl _⟩
  | cons e es ih =>
    intro s i hnr hg
    obtain ⟨a, h1, h2⟩ := step_decomp s e i (hnr e (by simp))
    obtain ⟨g1, p1, c1⟩ := h2.good (h1.good hg)
    obtain ⟨g2, p2, c2⟩ := ih (step s e).1 i (fun x hx => hnr x (by simp [hx])) g1
    have := h1.mono
    simp only [run]
    exact ⟨g2, by omega, by omega⟩

theorem two_le_length_of_ne {α : Type} {l : List α} {a b : α} (ha : a ∈ l) (hb : b ∈ l) (hne : a ≠ b) : 2 ≤ l.length := by
  cases l with
  | nil => simp at ha
  | cons x l =>
    cases l with
    | nil =>
      simp at ha hb
      exact absurd (ha.trans hb.symm) hne
    | cons y l => simp

end Slock.Elect
