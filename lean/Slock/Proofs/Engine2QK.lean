import Slock.Proofs.Engine2PK
/-! Stage-2 engine: the queue shape of a key record — `CurNone` (while `currentLock` is nil the holder queue is empty), `WLive` (a
non-empty wait queue contains a live request), together `QI` — and what touches it: most steps leave the queues and `timeouted`
alone (`QK`); `removeLock` and `getWaitLock` pop up to a live entry; the wake pass tombstones the head it grants and leaves the queue
alone, so the next pop takes it off, which is why its fuel lasts (`FuelOK`). None of this needs an invariant of the reachable states. -/
namespace Slock.Engine2
open Slock.Engine (has)

def CurNone (k : Key) : Prop := k.current = none → k.locks = []

def WLive (k : Key) : Prop := k.wait ≠ [] → ∃ e ∈ k.wait, (k.getR e.rid).timeouted = false

structure QI (k : Key) : Prop where
  cn : CurNone k
  wl : WLive k

theorem QI.newKey (n : Nat) : QI (newKey n) := ⟨fun _ => rfl, fun h => absurd rfl h⟩

/-- a step that leaves the three queues alone, adds no record and keeps `timeouted` of the surviving ones -/
structure QK (w' w : W) : Prop where
  q : w'.k.queues = w.k.queues
  t : PKeep (·.timeouted) w'.k w.k

theorem QK.refl (w : W) : QK w w := ⟨rfl, PKeep.refl _⟩

theorem QK.trans {a b c : W} (h1 : QK a b) (h2 : QK b c) : QK a c := ⟨h1.q.trans h2.q, h1.t.trans h2.t⟩

theorem QK.of_k {w w' : W} (h : w'.k = w.k) : QK w' w := ⟨by rw [h], by rw [h]; exact PKeep.refl _⟩

theorem CurNone.of_cl {k k' : Key} (h : CurNone k) (h1 : k'.current = k.current) (h2 : k'.locks = k.locks) : CurNone k' := by
  intro hc; rw [h2]; exact h (by rw [← h1]; exact hc)

theorem CurNone.of_q {k k' : Key} (h : CurNone k) (q : k'.queues = k.queues) : CurNone k' :=
  h.of_cl (queues_eq q).1 (queues_eq q).2.1

theorem WLive.of_keep {k k' : Key} (h : WLive k) (hw : k'.wait = k.wait) (t : PKeep (·.timeouted) k' k) (hd : ∀ e ∈ k'.wait, k'.hasRec e.rid) : WLive k' := by
  intro hne
  rw [hw] at hne
  obtain ⟨e, he, hl⟩ := h hne
  refine ⟨e, by rw [hw]; exact he, ?_⟩
  have := t.val e.rid (hd e (by rw [hw]; exact he))
  exact this.trans hl

theorem Chain.qk {data : Option Bytes} {q : Bool} {w0 w : W} (h : Chain data true q w0 w) : QK w w0 := ⟨h.queues, h.pk ins_timeouted⟩

theorem qk_pushUnLockAof (w : W) (rid : Nat) (lc : Cmd) (fa ia : Bool) (flag : Nat) : QK (w.pushUnLockAof rid lc fa ia flag) w :=
  (book_pushUnLockAof w rid lc fa ia flag).qk

theorem qk_when (w : W) (b : Bool) (f : W → W) (h : QK (f w) w) : QK (w.when b f) w := by
  cases b
  · exact QK.refl _
  · exact h

theorem qk_modR (w : W) (rid : Nat) (f : Rec → Rec) (hf : ∀ r, (f r).rid = r.rid) (hd : ∀ r, (f r).timeouted = r.timeouted) : QK (w.modR rid f) w :=
  ⟨rfl, pk_modR w rid f hf hd⟩

theorem qk_ref (w : W) (rid : Nat) : QK (w.ref rid) w := qk_modR w rid _ (fun _ => rfl) (fun _ => rfl)

theorem qk_schedExpried (w : W) (rid : Nat) : QK (w.schedExpried rid) w := ⟨rfl, pk_schedExpried w rid (fun _ _ => rfl)⟩

theorem qk_addExpried (w : W) (rid : Nat) : QK (w.addExpried rid) w := (book_addExpried w rid).qk.trans (qk_schedExpried _ _)

theorem qk_removeLongT (w : W) (rid : Nat) : QK (w.removeLongT rid) w := ⟨rfl, pk_removeLongT ins_timeouted w rid (fun _ _ => rfl)⟩

theorem qk_removeLongE (w : W) (rid : Nat) : QK (w.removeLongE rid) w := ⟨rfl, pk_removeLongE ins_timeouted w rid (fun _ _ => rfl)⟩

theorem qk_dropLongT (w : W) (rid : Nat) : QK (w.dropLongT rid) w := qk_when _ _ _ (qk_removeLongT _ _)

theorem qk_dropLongE (w : W) (rid : Nat) : QK (w.dropLongE rid) w := qk_when _ _ _ (qk_removeLongE _ _)

theorem qk_modK (w : W) (f : Key → Key) (h1 : (f w.k).recs = w.k.recs) (h2 : (f w.k).queues = w.k.queues) : QK (w.modK f) w :=
  ⟨h2, PKeep.of_eq h1⟩

theorem qk_free (w : W) (rid : Nat) : QK (w.modK (·.free rid)) w := by
  obtain ⟨a, b, c, _⟩ := free_queues w.k rid
  exact ⟨queues_mk c a b, PKeep.free _ _⟩

theorem qk_unrefOnly (w : W) (rid : Nat) : QK (w.modK (·.unrefOnly rid)) w := ⟨rfl, PKeep.unrefOnly ins_timeouted _ _⟩

theorem qk_updateLocked (w : W) (rid : Nat) (c : Cmd) : QK (w.updateLocked rid c) w := by
  unfold W.updateLocked
  simp only []
  have hf := updF_fields w.db (!(w.k.getR rid).isAof && w.k.current == some rid && w.k.locks.isEmpty) c
  refine QK.trans (qk_modR _ rid (fun r => { r with conn := c.conn }) (by intro _; rfl) (by intro _; rfl)) ?_
  refine QK.trans (qk_when _ _ _ ?_) (qk_modR w rid _ (fun r => (hf r).rid) (fun r => (hf r).timeouted))
  exact (qk_ref _ _).trans ((qk_addExpried _ _).trans (qk_removeLongE _ _))

theorem getR_addRec (k : Key) (r : Rec) (c : Nat) (h : k.hasRec c) : (k.addRec r).getR c = k.getR c := by
  obtain ⟨x, hx⟩ := hasRec_find k c h
  unfold Key.getR Key.addRec
  simp only []
  rw [List.find?_append, hx]; rfl

theorem foldl_unrefW_queues (d : List WEnt) (k : Key) :
    (d.foldl (fun k x => k.unref x.rid) k).queues = k.queues :=
  queues_mk ((wclosed_current _).foldl_unrefW d rfl) ((wclosed_locks _).foldl_unrefW d rfl) (foldl_unrefW_inv (hclosed_wait _).unref d rfl)

theorem locksPush_wait (k : Key) (rid : Nat) : (k.locksPush rid).wait = k.wait ∧ (k.locksPush rid).current = k.current :=
  ⟨(hclosed_wait _).locksPush rfl rid, (hclosed_current _).locksPush rfl rid⟩

/-- `locks.Push(rid)`: the entry goes to the back; a compaction drops released entries only -/
theorem locksPush_locks (k : Key) (rid : Nat) : (k.locksPush rid).locks = k.locks ++ [rid] ∨
    (k.locksPush rid).locks = k.locks.filter (fun x => k.liveHolder x) ++ [rid] := by
  unfold Key.locksPush
  simp only []
  split
  · exact Or.inl rfl
  · split
    · rename_i he
      rw [List.isEmpty_iff.mp he]; exact Or.inl rfl
    · rw [foldl_unref_inv (P := (·.locks = _)) (wclosed_locks _).unref _ rfl]
      split <;> exact Or.inr rfl

/-- `AddLock(rid)` on the holder side: `rid` becomes `currentLock` of a key record that has none, or goes to the back of the queue, after a
compaction that drops released entries only, or none -/
theorem addLock_holders (k : Key) (rid : Nat) (f : Rec → Rec) :
    (k.current = none ∧ (k.addLock rid f).current.toList ++ (k.addLock rid f).locks = rid :: k.locks) ∨
    ∃ l, (l = k.locks ∨ l = k.locks.filter (fun x => (k.modRec rid f).liveHolder x)) ∧
      (k.addLock rid f).current.toList ++ (k.addLock rid f).locks = k.current.toList ++ l ++ [rid] := by
  unfold Key.addLock
  cases hc : k.current with
  | none => exact Or.inl ⟨rfl, rfl⟩
  | some c =>
    simp only []
    have hcm : (k.modRec rid f).current = some c := hc
    rw [(locksPush_wait _ rid).2, hcm]
    show _ ∨ ∃ l, _ ∧ [c] ++ ((k.modRec rid f).locksPush rid).locks = [c] ++ l ++ [rid]
    rcases locksPush_locks (k.modRec rid f) rid with e | e <;> rw [e, ← List.append_assoc]
    · exact Or.inr ⟨_, Or.inl rfl, rfl⟩
    · exact Or.inr ⟨_, Or.inr rfl, rfl⟩

theorem addLock_wait (k : Key) (rid : Nat) (f : Rec → Rec) : (k.addLock rid f).wait = k.wait :=
  (hclosed_wait _).addLock (fun _ _ h => h) rid f rfl

theorem addLock_current (k : Key) (rid : Nat) (f : Rec → Rec) : (k.addLock rid f).current ≠ none := by
  unfold Key.addLock
  split
  · simp
  · rename_i c hc
    rw [(locksPush_wait _ rid).2]
    show k.current ≠ none
    rw [hc]; simp

theorem qk_grant_tail (w : W) (rid : Nat) : QK (w.grant rid) (w.addLock rid) := by
  have d1 : QK ((w.addLock rid).modK incLocked) (w.addLock rid) := qk_modK _ incLocked rfl rfl
  have d2 := (book_procData ((w.addLock rid).modK incLocked) .lock (((w.addLock rid).modK incLocked).k.getR rid).cmd
    (frameOf (((w.addLock rid).modK incLocked).k.getR rid).cmd (((w.addLock rid).modK incLocked).k.getR rid).data) rid).qk.trans d1
  have d3 := (qk_modR _ rid (fun r => { r with data := none }) (by intro _; rfl) (by intro _; rfl)).trans d2
  have d4 := (qk_addExpried _ rid).trans d3
  have d5 := (qk_ref _ rid).trans d4
  -- `d5` is about the state before the counters and the reply, which leave the key record alone: same fields
  exact ⟨d5.q, d5.t⟩

theorem locksSkip_queues (take : Bool) (l : List Nat) (k : Key) :
    (locksSkip take l k).1.wait = k.wait ∧ (locksSkip take l k).1.current = k.current :=
  ⟨(hclosed_wait _).locksSkip take l rfl, (hclosed_current _).locksSkip take l rfl⟩

theorem locksSkip_none (take : Bool) (l : List Nat) (k : Key) (hl : k.locks = l) (h : (locksSkip take l k).2 = none) :
    (locksSkip take l k).1.locks = [] := by
  obtain ⟨e1, e2, _⟩ := locksSkip_eq take l k hl
  rw [e1] at h
  rw [List.head?_eq_none_iff.mp h] at e2
  exact (List.append_eq_nil_iff.mp e2).2

theorem removeLock_wait (k : Key) (rid : Nat) : (k.removeLock rid).wait = k.wait :=
  (hclosed_wait _).removeLock (fun _ _ h => h) rid rfl rfl

theorem CurNone.removeLock {k : Key} (h : CurNone k) (rid : Nat) : CurNone (k.removeLock rid) := by
  unfold Key.removeLock
  simp only []
  split
  · intro hc
    exact locksSkip_none true _ _ rfl hc
  · intro hc
    have hcur : (locksSkip false (k.modRec rid fun r => { r with depth := 0 }).locks (k.modRec rid fun r => { r with depth := 0 })).1.current = k.current :=
      (locksSkip_queues false _ _).2
    rw [hcur] at hc
    have hl : (k.modRec rid fun r => { r with depth := 0 }).locks = [] := h hc
    rw [hl]
    exact hl

theorem waitSkip_cl (l : List WEnt) (k : Key) : (waitSkip l k).1.current = k.current ∧ (waitSkip l k).1.locks = k.locks :=
  ⟨(wclosed_current _).waitSkip l rfl, (wclosed_locks _).waitSkip l rfl⟩

theorem waitSkip_none (l : List WEnt) (k : Key) (hl : k.wait = l) (h : (waitSkip l k).2 = none) : (waitSkip l k).1.wait = [] := by
  obtain ⟨e1, e2, _⟩ := waitSkip_eq l k hl
  rw [e2] at h
  rw [e1]
  exact List.head?_eq_none_iff.mp (Option.map_eq_none_iff.mp h)

theorem wl_getWaitLock (k : Key) : WLive k.getWaitLock.1 := by
  intro hne
  cases h : k.getWaitLock.2 with
  | none => exact absurd (waitSkip_none _ _ rfl h) hne
  | some rid =>
    obtain ⟨e, rest, hw, he, hd⟩ := getWaitLock_some k rid h
    refine ⟨e, by rw [hw]; simp, ?_⟩
    rw [he]; simpa [Key.deadWaiter] using hd

/-- the fuel the wake pass still has covers the queue: one iteration per entry plus the closing one, or one less when the head is a
tombstone (the next iteration pops it without waking anything) -/
def FuelOK (fuel : Nat) (k : Key) : Prop :=
  k.wait.length + 1 ≤ fuel ∨ (k.wait.length ≤ fuel ∧ ∃ e rest, k.wait = e :: rest ∧ (k.getR e.rid).timeouted = true)

theorem waitSkip_len (l : List WEnt) (k : Key) (hl : k.wait = l) :
    (waitSkip l k).1.wait.length ≤ l.length ∧
    (∀ e rest, l = e :: rest → k.deadWaiter e.rid = true → (waitSkip l k).1.wait.length < l.length) := by
  rw [(waitSkip_eq l k hl).1]
  refine ⟨(List.dropWhile_sublist _).length_le, fun e rest he hd => ?_⟩
  rw [he, List.dropWhile_cons_of_pos (by exact hd)]
  exact Nat.lt_succ_of_le (List.dropWhile_sublist _).length_le

theorem grant_wait_t (w : W) (rid : Nat) : (w.grant rid).k.wait = w.k.wait ∧ PKeep (·.timeouted) (w.grant rid).k w.k ∧ (w.grant rid).k.current ≠ none := by
  have d := qk_grant_tail w rid
  obtain ⟨q1, _, q3⟩ := queues_eq d.q
  have hf := addLockF_fields w.db w.k
  refine ⟨q3.trans (addLock_wait _ _ _), d.t.trans (PKeep.addLock ins_timeouted w.k rid _ (fun r => (hf r).rid) (fun r => (hf r).timeouted)), ?_⟩
  rw [q1]; exact addLock_current _ _ _

theorem wakeOne_spec (w : W) (rid : Nat) :
    (w.wakeOne rid).k.wait = w.k.wait ∧ ((w.wakeOne rid).k.hasRec rid → ((w.wakeOne rid).k.getR rid).timeouted = true) ∧
    (CurNone w.k → CurNone (w.wakeOne rid).k) := by
  have d0 : QK (((w.modR rid (fun r => { r with timeouted := true })).dropLongT rid).ctr (fun c => { c with waitCount := c.waitCount - 1 }))
      (w.modR rid (fun r => { r with timeouted := true })) := by
    have := qk_dropLongT (w.modR rid (fun r => { r with timeouted := true })) rid
    exact ⟨this.q, this.t⟩
  have key : ∀ w2 : W, w2.k.wait = (w.modR rid (fun r => { r with timeouted := true })).k.wait →
      PKeep (·.timeouted) w2.k (w.modR rid (fun r => { r with timeouted := true })).k →
      w2.k.wait = w.k.wait ∧ (w2.k.hasRec rid → (w2.k.getR rid).timeouted = true) := by
    intro w2 hw ht
    refine ⟨hw, fun hh => ?_⟩
    have h1 := ht.sub rid hh
    have h0 : w.k.hasRec rid := (hasRec_modR _ rid rid _).mp h1
    have := ht.val rid hh
    rw [this]
    show ((w.k.modRec rid _).getR rid).timeouted = true
    rw [getR_modRec_same _ _ _ h0]
  unfold W.wakeOne
  simp only []
  split
  · obtain ⟨a, b, c⟩ := grant_wait_t (((w.modR rid (fun r => { r with timeouted := true })).dropLongT rid).ctr (fun c => { c with waitCount := c.waitCount - 1 })) rid
    obtain ⟨k1, k2⟩ := key _ (a.trans (queues_eq d0.q).2.2) (b.trans d0.t)
    exact ⟨k1, k2, fun _ hc => absurd hc c⟩
  · have d1 := (book_grantNoHold (((w.modR rid (fun r => { r with timeouted := true })).dropLongT rid).ctr (fun c => { c with waitCount := c.waitCount - 1 })) rid).qk.trans d0
    obtain ⟨k1, k2⟩ := key ((((w.modR rid (fun r => { r with timeouted := true })).dropLongT rid).ctr (fun c => { c with waitCount := c.waitCount - 1 })).grantNoHold rid)
      (queues_eq d1.q).2.2 d1.t
    exact ⟨k1, k2, fun hc => hc.of_q d1.q⟩

/-- the granted request is a tombstone afterwards — or its record is gone, and the default record is one -/
theorem wakeOne_dead (w : W) (rid : Nat) : (w.wakeOne rid).k.deadWaiter rid = true := by
  unfold Key.deadWaiter
  by_cases hh : (w.wakeOne rid).k.hasRec rid
  · exact (wakeOne_spec w rid).2.1 hh
  · rw [getR_of_not_hasRec _ _ hh]; rfl

end Slock.Engine2
