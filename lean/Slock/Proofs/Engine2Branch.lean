import Slock.Proofs.Engine2Basic
import Slock.Proofs.LockTree
/-! The branch tables of the record-level `classifyLock` and `classifyUnlock` read backwards: what the chosen branch
says about the state and the command.  `classifyLock` is the stage-1 decision tree (`Engine.lockTree`) over records. -/
namespace Slock.Engine2
open Slock.Engine (has F_UPDATE F_SHOW F_FROM_AOF TF_PRIORITY TF_WAIT_UNLOCK lockTree afterHeld lockTree_cases unlockTree unlockTree_cases)

/-- the record a LOCK with the request's terms meets: the current lock (show flag), else the live hold with its LockId -/
def HeldBy (k : Key) (c : Cmd) (h : Nat) : Prop :=
  (has c.flag F_SHOW = true ∧ k.current = some h) ∨ findHolder k c.lockId = some h

theorem findHolder_mem {k : Key} {id h : Nat} (hf : findHolder k id = some h) : h ∈ k.current.toList ++ k.locks :=
  List.mem_of_find?_eq_some hf

theorem findHolder_live (k : Key) (lockId h : Nat) (hf : findHolder k lockId = some h) : k.liveHolder h = true := by
  have := List.find?_some hf
  simp only [Bool.and_eq_true] at this
  exact this.1

theorem HeldBy.mem {k : Key} {c : Cmd} {h : Nat} (u : HeldBy k c h) : h ∈ k.current.toList ++ k.locks :=
  u.elim (fun u => by simp [u.2]) findHolder_mem

theorem findHolder_depth {k : Key} {id h : Nat} (hf : findHolder k id = some h) : 0 < (k.getR h).depth := by
  simpa [Key.liveHolder] using findHolder_live _ _ _ hf

theorem HeldBy.depth {k : Key} {c : Cmd} {h : Nat} (u : HeldBy k c h)
    (hc : ∀ x, k.current = some x → 0 < (k.getR x).depth) : 0 < (k.getR h).depth :=
  u.elim (fun u => hc h u.2) findHolder_depth

def LockFacts (db : DB) (c : Cmd) (data : Option Bytes) : LockBranch → Prop :=
  let k := db.getKey c.key
  fun
  | .p0a | .p0b | .timeout => c.timeout = 0
  | .stateError => db.leader = false
  | .show cur => k.current = some cur ∧ has c.flag F_UPDATE = false
  | .updateEqual h | .update h => has c.flag F_UPDATE = true ∧ HeldBy k c h
  | .updateEqualData h =>
    has c.flag F_UPDATE = true ∧ HeldBy k c h ∧
      ∃ c', dataSettled (({ db := db, k := k } : W).procData .lock c' (frameOf c' data) h).k h = true
  | .relockNoHold h =>
    findHolder k c.lockId = some h ∧ has c.flag F_UPDATE = false ∧ (k.getR h).depth < 0xff ∧ (k.getR h).depth ≤ c.rcount ∧
      has c.tflag TF_PRIORITY = false ∧ c.expried = 0
  | .relock h =>
    findHolder k c.lockId = some h ∧ has c.flag F_UPDATE = false ∧ (k.getR h).depth < 0xff ∧ (k.getR h).depth ≤ c.rcount ∧
      has c.tflag TF_PRIORITY = false ∧ c.expried ≠ 0
  | .relockRefused h => findHolder k c.lockId = some h ∧ has c.flag F_UPDATE = false
  | .unlockedWaitRefused => k.locked = 0 ∧ k.waited = true ∧ c.count = 0
  | .grant => doLock k c = true ∧ c.expried > 0
  | .grantNoHold => doLock k c = true ∧ c.expried = 0
  | .queue => c.timeout > 0

/-- the leaf of an update of hold `h` by `c'`: the value frame is processed first, and a data-flagged update takes the
equal-terms shortcut only when that left a journalled value -/
def updBranch (db : DB) (c : Cmd) (data : Option Bytes) (h : Nat) (c' : Cmd) : LockBranch :=
  if has c'.flag F_DATA then
    let w := ({ db := db, k := db.getKey c.key } : W).procData .lock c' (frameOf c' data) h
    if dataSettled w.k h && checkLockedEqual db.now ((db.getKey c.key).getR h) c' then .updateEqualData h else .update h
  else if checkLockedEqual db.now ((db.getKey c.key).getR h) c' then .updateEqual h else .update h

theorem classifyLock_tree (db : DB) (c : Cmd) (data : Option Bytes) :
    classifyLock db c data = lockTree c (db.getKey c.key).locked (db.getKey c.key).waited db.leader (db.getKey c.key).current
      (findHolder (db.getKey c.key) c.lockId) (fun h => ((db.getKey c.key).getR h).depth)
      (checkWaitPriority (db.getKey c.key) c) (doLock (db.getKey c.key) c)
      .p0a .p0b .stateError .show
      (fun h viaShow => updBranch db c data h (if viaShow then { c with lockId := ((db.getKey c.key).getR h).cmd.lockId } else c))
      .relockNoHold .relock .relockRefused .unlockedWaitRefused .grant .grantNoHold .queue .timeout := by
  unfold classifyLock lockTree afterHeld updBranch
  simp only []
  cases (if has c.flag F_SHOW = true then (db.getKey c.key).current else none) <;>
    cases findHolder (db.getKey c.key) c.lockId <;> rfl

theorem updBranch_facts (db : DB) (c : Cmd) (data : Option Bytes) (h : Nat) (c' : Cmd)
    (hu : has c.flag F_UPDATE = true) (hh : HeldBy (db.getKey c.key) c h) :
    LockFacts db c data (updBranch db c data h c') := by
  unfold updBranch
  split
  · dsimp only
    split
    · rename_i hd
      rw [Bool.and_eq_true] at hd
      exact ⟨hu, hh, c', hd.1⟩
    · exact ⟨hu, hh⟩
  · split <;> exact ⟨hu, hh⟩

theorem classifyLock_facts (db : DB) (c : Cmd) (data : Option Bytes) : LockFacts db c data (classifyLock db c data) := by
  rw [classifyLock_tree]
  exact lockTree_cases (LockFacts db c data) _ _ _ _ _ _ _ _ _ _ _ _ _ _ _ _ _ _ _ _ _ _
    id id id (fun _ hh _ hu => ⟨hh, hu⟩)
    (fun _ hs hh _ hu => updBranch_facts _ _ _ _ _ hu (Or.inl ⟨hs, hh⟩))
    (fun _ hf _ hu => updBranch_facts _ _ _ _ _ hu (Or.inr hf))
    (fun _ hf _ hu hd hr hp he => ⟨hf, hu, hd, hr, hp, he⟩) (fun _ hf _ hu hd hr hp he => ⟨hf, hu, hd, hr, hp, he⟩)
    (fun _ hf _ hu => ⟨hf, hu⟩) (fun hl hw hc => ⟨hl, hw, hc⟩) (fun hd he => ⟨hd, he⟩) (fun hd he => ⟨hd, he⟩)
    (fun ht _ => ht) id

theorem LockFacts.of {db : DB} {c : Cmd} {data : Option Bytes} {b : LockBranch} (hb : classifyLock db c data = b) :
    LockFacts db c data b := hb ▸ classifyLock_facts db c data

def LockBranch.holderOf : LockBranch → Option Nat
  | .show h | .updateEqual h | .updateEqualData h | .update h | .relockNoHold h | .relock h | .relockRefused h => some h
  | _ => none

theorem classifyLock_holder (db : DB) (c : Cmd) (data : Option Bytes) (h : Nat)
    (hb : (classifyLock db c data).holderOf = some h) :
    h ∈ (db.getKey c.key).current.toList ++ (db.getKey c.key).locks := by
  have hf := classifyLock_facts db c data
  cases hc : classifyLock db c data <;> rw [hc] at hb hf <;>
    simp only [LockBranch.holderOf, Option.some.injEq, reduceCtorEq] at hb <;> subst hb
  case «show» => simp [hf.1]
  case updateEqual | update => exact hf.2.mem
  case updateEqualData => exact hf.2.1.mem
  all_goals exact findHolder_mem hf.1

theorem classifyLock_relock (db : DB) (c : Cmd) (data : Option Bytes) (h : Nat) (hb : classifyLock db c data = .relock h) :
    0 < ((db.getKey c.key).getR h).depth := findHolder_depth (LockFacts.of hb).1

theorem classifyLock_update_depth (db : DB) (c : Cmd) (data : Option Bytes) (h : Nat) (hb : classifyLock db c data = .update h)
    (hc : ∀ x, (db.getKey c.key).current = some x → 0 < ((db.getKey c.key).getR x).depth) :
    0 < ((db.getKey c.key).getR h).depth := (LockFacts.of hb).2.depth hc

theorem classifyLock_uwr (db : DB) (c : Cmd) (data : Option Bytes) (hb : classifyLock db c data = .unlockedWaitRefused) :
    (db.getKey c.key).waited = true := (LockFacts.of hb).2.1

/-- the hold an UNLOCK acts on and the command it is answered under -/
def UnlockOf (k : Key) (c : Cmd) (h : Nat) (c' : Cmd) : Prop :=
  (findHolder k c.lockId = some h ∧ c' = c) ∨ (k.current = some h ∧ c' = showCmd c (k.getR h))

theorem UnlockOf.mem {k : Key} {c c' : Cmd} {h : Nat} (u : UnlockOf k c h c') : h ∈ k.current.toList ++ k.locks :=
  u.elim (fun u => findHolder_mem u.1) (fun u => by simp [u.1])

theorem UnlockOf.depth {k : Key} {c c' : Cmd} {h : Nat} (u : UnlockOf k c h c')
    (hc : ∀ x, k.current = some x → 0 < (k.getR x).depth) : 0 < (k.getR h).depth :=
  u.elim (fun u => findHolder_depth u.1) (fun u => hc h u.1)

def UnlockFacts (db : DB) (c : Cmd) : UnlockBranch → Prop :=
  let k := db.getKey c.key
  fun
  | .noManager => db.hasKey c.key = false
  | .stateError => db.leader = false
  | .notLocked => k.locked = 0
  | .unown => k.locked ≠ 0 ∧ findHolder k c.lockId = none
  | .cancelNone => findCancel k c.lockId = none
  | .cancel w => findCancel k c.lockId = some w
  | .dec h c' => UnlockOf k c h c' ∧ 1 < (k.getR h).depth ∧ 0 < c'.rcount ∧ has c'.tflag TF_PRIORITY = false
  | .release h c' => UnlockOf k c h c'

theorem classifyUnlock_tree (db : DB) (c : Cmd) :
    classifyUnlock db c = if !db.hasKey c.key then .noManager else
      unlockTree c (!db.leader && !has c.flag F_FROM_AOF) (db.getKey c.key).locked (findHolder (db.getKey c.key) c.lockId)
        (db.getKey c.key).current (findCancel (db.getKey c.key) c.lockId) (fun h => ((db.getKey c.key).getR h).depth)
        (fun h => showCmd c ((db.getKey c.key).getR h)) .stateError .notLocked .unown .cancelNone .cancel .dec .release := by
  unfold classifyUnlock unlockTree Engine.cancelLeaf
  simp only []
  cases findHolder (db.getKey c.key) c.lockId <;> cases (db.getKey c.key).current <;> cases findCancel (db.getKey c.key) c.lockId <;> rfl

theorem classifyUnlock_facts (db : DB) (c : Cmd) : UnlockFacts db c (classifyUnlock db c) := by
  rw [classifyUnlock_tree]
  split
  · rename_i h; exact (by simpa using h : db.hasKey c.key = false)
  refine unlockTree_cases (UnlockFacts db c) _ _ _ _ _ _ _ _ _ _ _ _ _ _ _ ?_ ?_ ?_ ?_ ?_ ?_ ?_
  · intro h; simp only [Bool.and_eq_true, Bool.not_eq_true'] at h; exact h.1
  · exact id
  · exact fun a b => ⟨a, b⟩
  · exact id
  · exact fun _ => id
  · exact fun _ _ o a b d => ⟨o, a, b, d⟩
  · exact fun _ _ => id

theorem UnlockFacts.of {db : DB} {c : Cmd} {b : UnlockBranch} (hb : classifyUnlock db c = b) : UnlockFacts db c b :=
  hb ▸ classifyUnlock_facts db c

def UnlockBranch.holderOf : UnlockBranch → Option Nat
  | .dec h _ | .release h _ => some h
  | _ => none

theorem classifyUnlock_holder (db : DB) (c : Cmd) (h : Nat) (hb : (classifyUnlock db c).holderOf = some h) :
    h ∈ (db.getKey c.key).current.toList ++ (db.getKey c.key).locks := by
  have hf := classifyUnlock_facts db c
  cases hc : classifyUnlock db c <;> rw [hc] at hb hf <;>
    simp only [UnlockBranch.holderOf, Option.some.injEq, reduceCtorEq] at hb <;> subst hb
  · exact hf.1.mem
  · exact hf.mem

theorem classifyUnlock_cancel (db : DB) (c : Cmd) (x : Nat) (hb : classifyUnlock db c = .cancel x) :
    x ∈ (db.getKey c.key).wait.map (·.rid) ∧ (db.getKey c.key).deadWaiter x = false := by
  have := List.mem_filter.mp (List.mem_of_getLast? (UnlockFacts.of hb))
  simp only [Bool.and_eq_true, Bool.not_eq_true'] at this
  exact ⟨this.1, this.2.1⟩

theorem classifyUnlock_dec_depth (db : DB) (c c' : Cmd) (h : Nat) (hb : classifyUnlock db c = .dec h c') :
    1 < ((db.getKey c.key).getR h).depth := (UnlockFacts.of hb).2.1

theorem classifyUnlock_release_depth (db : DB) (c c' : Cmd) (h : Nat) (hb : classifyUnlock db c = .release h c')
    (hc : ∀ x, (db.getKey c.key).current = some x → 0 < ((db.getKey c.key).getR x).depth) :
    0 < ((db.getKey c.key).getR h).depth := (UnlockFacts.of hb).depth hc

theorem classifyUnlock_noManager (db : DB) (c : Cmd) (h : classifyUnlock db c = .noManager) : db.hasKey c.key = false :=
  UnlockFacts.of h

theorem classifyUnlock_notLocked (db : DB) (c : Cmd) (h : classifyUnlock db c = .notLocked) : (db.getKey c.key).locked = 0 :=
  UnlockFacts.of h

end Slock.Engine2
