import Slock.Proofs.Engine2SimGrant
/-! Simulation stage 2 → stage 1: one iteration of the wake pass (`wakeUpWaitLock` = stage 1's `wakeIter`). -/
namespace Slock.Sim
open Slock Slock.Engine2
open Slock.Engine (has)

/-- the head of the wake-up: tombstone the request, take it off the long table, `WaitCount--` -/
def wakePre (w : W) (rid : Nat) : W :=
  ((w.modR rid (fun r => { r with timeouted := true })).dropLongT rid).ctr (fun c => { c with waitCount := c.waitCount - 1 })

theorem wakeOne_eq (w : W) (rid : Nat) :
    w.wakeOne rid = if ((wakePre w rid).k.getR rid).cmd.expried > 0 then (wakePre w rid).grant rid
      else (((wakePre w rid).grantNoHold rid).ctr (fun c => { c with lockCount := c.lockCount + 1 })).reply
        { ((wakePre w rid).k.getR rid).cmd with conn := ((wakePre w rid).k.getR rid).conn } Engine.RESULT_SUCCED 0 (wakePre w rid).lockData := rfl

theorem wakePre_edit (w : W) (rid : Nat) :
    Edit rid (fun r => ({ r with timeouted := true } : Rec).dropT) id 0 w ((w.modR rid (fun r => { r with timeouted := true })).dropLongT rid) :=
  ((Edit.refl w).modR (fun r => { r with timeouted := true }) (fun _ => rfl) (fun _ => rfl)).dropLongT

theorem wakePre_dead (w : W) (rid : Nat) (hh : w.k.hasRec rid) :
    ((w.modR rid (fun r => { r with timeouted := true })).dropLongT rid).k.deadWaiter rid = true := by
  unfold Key.deadWaiter; rw [(wakePre_edit w rid).getR hh (·.timeouted) (fun _ => rfl)]; unfold Rec.dropT; split <;> rfl

theorem wakePre_sx (w : W) (rid : Nat) : SX (· = rid) w (wakePre w rid) := (wakePre_edit w rid).sx.ctr _

theorem wakeNoHold_sx (w : W) (rid : Nat) : SX (· = rid) w ((wakePre w rid).grantNoHold rid) :=
  (wakePre_sx w rid).trans ((Edit.refl (h := rid) _).grantNoHold rid).sx

theorem wakePre_seq (w : W) (rid : Nat) : (wakePre w rid).db.seq = w.db.seq := by
  unfold wakePre; exact (wakePre_edit w rid).sc.seq

theorem wakePre_locked (w : W) (rid : Nat) : (wakePre w rid).k.locked = w.k.locked := by
  unfold wakePre; rw [ctr_k]; exact (wakePre_edit w rid).locked

theorem wakePre_out (w : W) (rid : Nat) : (wakePre w rid).out = w.out := by
  unfold wakePre; rw [ctr_out]; exact (wakePre_edit w rid).out

theorem wakePre_conn (w : W) (rid : Nat) (hh : w.k.hasRec rid) : ((wakePre w rid).k.getR rid).conn = (w.k.getR rid).conn := by
  unfold wakePre; rw [ctr_k]
  exact ((wakePre_edit w rid).getR hh (·.conn) (fun _ => rfl)).trans (by unfold Rec.dropT; split <;> rfl)

theorem wakePre_abs (w : W) (l : Lv w zero) (rid : Nat) (e : WEnt) (rest : List WEnt) (hw : w.k.wait = e :: rest) (he : e.rid = rid)
    (hd : w.k.deadWaiter rid = false) (hnd : (w.k.wait.map (·.rid)).Nodup) (hnot : rid ∉ w.k.current.toList ++ w.k.locks) :
    (Key.abs w.k).waiters = waiterOf w.k rid :: (((rest.map (·.rid)).filter (fun x => !w.k.deadWaiter x)).map (waiterOf w.k)) ∧
    Key.abs (wakePre w rid).k =
      { Key.abs w.k with waiters := ((rest.map (·.rid)).filter (fun x => !w.k.deadWaiter x)).map (waiterOf w.k) } := by
  have ed := wakePre_edit w rid
  have sx := ed.sx
  have hlk := ed.locked
  have hh : w.k.hasRec rid := hasRec_of_queues l rfl rid (List.mem_append_right _ (by rw [hw, ← he]; simp))
  have hdead2 := wakePre_dead w rid hh
  unfold wakePre
  rw [ctr_k]
  generalize (w.modR rid (fun r => { r with timeouted := true })).dropLongT rid = w1 at ed sx hlk hdead2 ⊢
  obtain ⟨q1, q2, q3⟩ := queues_eq sx.q
  have hrec : ∀ y ∈ w.k.current.toList ++ w.k.locks ++ w.k.wait.map (·.rid), w1.k.hasRec y :=
    fun y hy => (ed.hasRec y).mpr (hasRec_of_queues l rfl y hy)
  have hw1 : (Key.abs w.k).waiters = waiterOf w.k rid :: (((rest.map (·.rid)).filter (fun x => !w.k.deadWaiter x)).map (waiterOf w.k)) := by
    rw [abs_waiters, hw]
    simp only [List.map_cons, List.filter, he, hd, Bool.not_false]
  refine ⟨hw1, abs_eq sx.key hlk ?_ ?_ sx.waited⟩
  · exact abs_holders_congr q1 q2 sx.p (fun y hy e' => hnot (e' ▸ hy)) (fun y hy => hrec y (List.mem_append_left _ hy))
  · -- the waiters: the head is a tombstone now, the rest is as it was
    rw [abs_waiters, q3, hw]
    simp only [List.map_cons, List.filter, he, hdead2, Bool.not_true]
    apply filter_map_congr_on
    intro y hy
    have hne : y ≠ rid := by
      intro e'
      rw [hw] at hnd
      simp only [List.map_cons, List.nodup_cons, he] at hnd
      exact hnd.1 (e' ▸ hy)
    obtain ⟨ht, hv⟩ := sx.p.waiter hne (hrec y (List.mem_append_right _ (by rw [hw]; simp [hy])))
    exact ⟨by rw [ht], fun _ => hv⟩

theorem grantNoHold_locked (w : W) (rid : Nat) : (w.grantNoHold rid).k.locked = w.k.locked := ((Edit.refl (h := rid) w).grantNoHold rid).locked

theorem scal_wakePre {a : Engine.DB} {w : W} (hs : Scal a w.db) (rid : Nat) : Scal { a with ctr := ctrW a.ctr } (wakePre w rid).db :=
  ((wakePre_edit w rid).sc.scal hs).withCtr ctrW

/-- stage 1's `wakeIter` on a queue whose head is admissible -/
theorem wakeIter_cons (a : Engine.DB) {k : Engine.Key} {x : Engine.Waiter} {rest : List Engine.Waiter} (hw : k.waiters = x :: rest)
    (hd : Engine.doLock k x.cmd = true) :
    Engine.wakeIter a k = some (
      if x.cmd.expried > 0 then
        (dbG { a with ctr := ctrW a.ctr }, keyG { k with waiters := rest } (Engine.grantedHold { a with ctr := ctrW a.ctr } { x.cmd with conn := x.conn }),
          Engine.mkReply { x.cmd with conn := x.conn } Engine.RESULT_SUCCED (k.locked + 1) 1)
      else ({ a with ctr := ctrL (ctrW a.ctr) }, { k with waiters := rest },
          Engine.mkReply { x.cmd with conn := x.conn } Engine.RESULT_SUCCED k.locked 0)) := by
  unfold Engine.wakeIter
  rw [hw]
  simp only [hd, Bool.not_true, Bool.false_eq_true, if_false]
  split <;> rfl

theorem wakeOne_sim (w : W) (l : Lv w zero) (cn : CurNone w.k) (rid : Nat) (e : WEnt) (rest : List WEnt) (hw : w.k.wait = e :: rest) (he : e.rid = rid)
    (hd : w.k.deadWaiter rid = false) (hnd : (w.k.wait.map (·.rid)).Nodup) (hnot : rid ∉ w.k.current.toList ++ w.k.locks)
    (hconn : (w.k.getR rid).conn = (w.k.getR rid).cmd.conn)
    (a : Engine.DB) (hs : Scal a w.db)
    (hdl : Engine.doLock (Key.abs w.k) (w.k.getR rid).cmd = true) :
    ∃ a' k' r', Engine.wakeIter a (Key.abs w.k) = some (a', k', r') ∧ Scal a' (w.wakeOne rid).db ∧ Key.abs (w.wakeOne rid).k = k' ∧
      (w.wakeOne rid).out.map (·.r) = w.out.map (·.r) ++ [r'] := by
  have hh : w.k.hasRec rid := hasRec_of_queues l rfl rid (List.mem_append_right _ (by rw [hw, ← he]; simp))
  obtain ⟨hw1, habs⟩ := wakePre_abs w l rid e rest hw he hd hnd hnot
  obtain ⟨l2, g2, hcmd⟩ := wake_prep l rid hh hd (fun c => { c with waitCount := c.waitCount - 1 })
  have sx := wakePre_sx w rid
  obtain ⟨q1, q2, q3⟩ := queues_eq sx.q
  have hs2 := scal_wakePre hs rid
  have hconn2 := wakePre_conn w rid hh
  have ho := wakePre_out w rid
  have hlk := wakePre_locked w rid
  have hcc : ({ (waiterOf w.k rid).cmd with conn := (waiterOf w.k rid).conn } : Engine.Cmd) = (w.k.getR rid).cmd := cmd_conn_self _ _ hconn
  rw [wakeIter_cons a hw1 hdl, wakeOne_eq, hcc]
  -- from here on the state after the head of the wake-up is a variable
  change Lv (wakePre w rid) zero at l2
  change Grantable (wakePre w rid).k rid at g2
  change ((wakePre w rid).k.getR rid).cmd = _ at hcmd
  generalize wakePre w rid = w1 at *
  rw [hcmd]
  by_cases hx : (w.k.getR rid).cmd.expried > 0
  · rw [if_pos hx, if_pos (show (waiterOf w.k rid).cmd.expried > 0 from hx)]
    obtain ⟨s1, s2, s3⟩ := grant_sim l2 (cn.of_cl q1 q2) hs2 rid g2 (by rw [q1, q2]; exact hnot) (by rw [hconn2, hcmd]; exact hconn)
    exact ⟨_, _, _, rfl, s1, by rw [s2, habs, hcmd], by rw [s3, hcmd, hlk, ho]; rfl⟩
  · rw [if_neg hx, if_neg (show ¬ (waiterOf w.k rid).cmd.expried > 0 from hx)]
    have eg := (Edit.refl (h := rid) w1).grantNoHold rid
    have sx0 := eg.sx0.ctr (fun c => { c with lockCount := c.lockCount + 1 })
    have l3 : Lv ((w1.grantNoHold rid).ctr (fun c => { c with lockCount := c.lockCount + 1 })) zero := (l2.grantNoHold rid).ctr _
    refine ⟨_, _, _, rfl, ((eg.sc.scal hs2).withCtr ctrL), ?_, ?_⟩
    · show Key.abs ((w1.grantNoHold rid).ctr (fun c => { c with lockCount := c.lockCount + 1 })).k = _
      rw [← habs]
      exact abs_eq_x sx0.key (grantNoHold_locked _ rid) sx0.waited sx0.q sx0.p (fun _ _ h => h) (hasRec_of_queues l3 sx0.q)
    · unfold W.reply
      simp only [List.map_append, List.map_cons, List.map_nil]
      rw [ctr_out, grantNoHold_qt_out, ho, ctr_k, grantNoHold_locked, hlk, hconn2, cmd_conn_self _ _ hconn]
      rfl

end Slock.Sim
