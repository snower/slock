import Slock.Model.Layout
/-! What the round-trip theorems of `Slock.C14` use of a table: `consistent` read per field, NUL padding against `strings.Trim`;
and the two table conditions in a form the kernel evaluates quickly on the generated tables (`coversFrom`, `consistentFast`),
each with its soundness. -/
namespace Slock.Layout

theorem getD_map_lt {α β} (l : List α) (g : α → β) (i : Nat) (d : β) (d' : α) (h : i < l.length) :
    (l.map g).getD i d = g (l.getD i d') := by
  simp [List.getD, h]

theorem getD_ge {α} (l : List α) (i : Nat) (d : α) (h : l.length ≤ i) : l.getD i d = d := by
  simp [List.getD, List.getElem?_eq_none h]

theorem encodeAux_length (v : Val) (old : Bytes) (o : Nat) (ss : List Src) :
    (encodeAux v old o ss).length = ss.length := by
  induction ss generalizing o with
  | nil => rfl
  | cons s ss ih => simp [encodeAux, ih]

theorem encodeAux_getD (v : Val) (old : Bytes) (o : Nat) (ss : List Src) (k : Nat) (hk : k < ss.length) :
    (encodeAux v old o ss).getD k 0 = byteOf v old (o + k) (ss.getD k .undef) := by
  induction ss generalizing o k with
  | nil => simp at hk
  | cons s ss ih =>
    cases k with
    | zero => simp [encodeAux]
    | succ k =>
      simp only [encodeAux, List.getD_cons_succ]
      rw [ih (o + 1) k (by simpa using hk)]
      congr 1; omega

theorem encode_length (L : Layout) (v : Val) (old : Bytes) : (encode L v old).length = L.enc.length :=
  encodeAux_length v old 0 L.enc

theorem encode_getD (L : Layout) (v : Val) (old : Bytes) (o : Nat) (ho : o < L.enc.length) :
    (encode L v old).getD o 0 = byteOf v old o (encAt L o) := by
  unfold encode encAt
  rw [encodeAux_getD v old 0 L.enc o ho]; simp

theorem map_range_getD (l : Bytes) (n : Nat) (h : l.length = n) :
    (List.range n).map (fun i => l.getD i 0) = l := by
  subst h
  apply List.ext_getElem
  · simp
  · intro i h1 h2
    simp at h1 h2 ⊢
    simp [h2]

theorem map_eq_map_range (offs : List Nat) (g : Nat → Byte) :
    offs.map g = (List.range offs.length).map (fun i => g (offs.getD i 64)) := by
  apply List.ext_getElem
  · simp
  · intro i h1 h2
    simp at h1 h2 ⊢
    simp [h1]

theorem dropZeros_of_head_ne (x : Byte) (xs : Bytes) (h : x ≠ 0) : dropZeros (x :: xs) = x :: xs := by
  simp [dropZeros, h]

/-- what `strings.Trim` can represent -/
def noEdgeNul (s : Bytes) : Prop := s.head? ≠ some 0 ∧ s.getLast? ≠ some 0

theorem dropZeros_id (s : Bytes) (h : s.head? ≠ some 0) : dropZeros s = s := by
  cases s with
  | nil => rfl
  | cons x xs => exact dropZeros_of_head_ne x xs (by intro hx; apply h; simp [hx])

theorem dropZeros_zeros_append (n : Nat) (s : Bytes) :
    dropZeros (List.replicate n (0 : Byte) ++ s) = dropZeros s := by
  induction n with
  | zero => simp
  | succ n ih => simp [List.replicate_succ, dropZeros, ih]

theorem dropZeros_replicate_zero (n : Nat) : dropZeros (List.replicate n (0 : Byte)) = [] := by
  simpa [dropZeros] using dropZeros_zeros_append n []

theorem pad_eq (s : Bytes) (n : Nat) (h : s.length ≤ n) :
    pad s n = s ++ List.replicate (n - s.length) 0 := by
  unfold pad
  apply List.ext_getElem
  · simp; omega
  · intro i h1 h2
    simp at h1
    simp only [List.getElem_map, List.getElem_range]
    by_cases hi : i < s.length
    · simp [List.getD, hi, List.getElem_append_left hi]
    · have : s.length ≤ i := by omega
      simp [List.getD, hi, List.getElem_append_right this]

theorem trim0_pad (s : Bytes) (n : Nat) (h : s.length ≤ n) (hs : noEdgeNul s) :
    trim0 (pad s n) = s := by
  rw [pad_eq s n h]
  unfold trim0
  cases s with
  | nil =>
    simp [dropZeros_replicate_zero, dropZeros]
  | cons x xs =>
    have hx : x ≠ 0 := by intro hx; apply hs.1; simp [hx]
    rw [List.cons_append, dropZeros_of_head_ne _ _ hx, ← List.cons_append]
    rw [List.reverse_append, List.reverse_replicate, dropZeros_zeros_append]
    rw [dropZeros_id]
    · simp
    · have := hs.2
      rw [List.head?_reverse]; exact this

theorem consistent_enc_length {L : Layout} (h : consistent L = true) : L.enc.length = 64 := by
  unfold consistent at h
  simp only [Bool.and_eq_true, beq_iff_eq] at h
  exact h.1.1

theorem consistent_fieldOK {L : Layout} (h : consistent L = true) {f : Nat} (hf : f < L.fields.length) :
    fieldOK L f = true := by
  unfold consistent at h
  simp only [Bool.and_eq_true, List.all_eq_true, List.mem_range] at h
  exact h.2 f hf

theorem encAt_lt {L : Layout} {o : Nat} {s : Src} (h : encAt L o = s) (hs : s ≠ .undef) : o < L.enc.length := by
  by_cases ho : o < L.enc.length
  · exact ho
  · exfalso; apply hs; rw [← h]; unfold encAt
    simp [List.getD, List.getElem?_eq_none (by omega : L.enc.length ≤ o)]

theorem intFieldOK_spec {L : Layout} {f : Nat} (h : intFieldOK L f = true) :
    (L.dec.getD f []).length = (L.fields.getD f default).width ∧
    ∀ i, i < (L.fields.getD f default).width → encAt L ((L.dec.getD f []).getD i 64) = .field f i := by
  unfold intFieldOK at h
  simp only [Bool.and_eq_true, beq_iff_eq, List.all_eq_true, List.mem_range] at h
  exact h

theorem decodeInt_encode {L : Layout} (v : Val) (old : Bytes) {f : Nat}
    (h : intFieldOK L f = true) (hw : (v.getD f []).length = (L.fields.getD f default).width) :
    decodeInt (encode L v old) (L.dec.getD f []) = v.getD f [] := by
  obtain ⟨hlen, henc⟩ := intFieldOK_spec h
  unfold decodeInt
  rw [map_eq_map_range, hlen]
  have : (List.range (L.fields.getD f default).width).map
        (fun i => (encode L v old).getD ((L.dec.getD f []).getD i 64) 0)
      = (List.range (L.fields.getD f default).width).map (fun i => (v.getD f []).getD i 0) := by
    apply List.map_congr_left
    intro i hi
    have hi' := List.mem_range.mp hi
    have he := henc i hi'
    rw [encode_getD L v old _ (encAt_lt he (by simp)), he]
    rfl
  rw [this]
  exact map_range_getD _ _ hw

theorem region_encode_str {L : Layout} (v : Val) (old : Bytes) (f start n : Nat)
    (hall : ∀ i, i < n → encAt L (start + i) = .str f i) :
    region (encode L v old) start n = pad (v.getD f []) n := by
  unfold region pad
  apply List.map_congr_left
  intro i hi
  have hi' := List.mem_range.mp hi
  have he := hall i hi'
  rw [encode_getD L v old _ (encAt_lt he (by simp)), he]
  rfl

/-- `covers` in one pass: `ss` is the part of `L.enc` that starts at offset `o`.  (`covers` itself looks every offset
up from the head of the table, which is far slower to evaluate on the generated tables.) -/
def coversFrom (L : Layout) : Nat → List Src → Bool
  | _, [] => true
  | o, .field f i :: ss =>
    ((L.dec.getD f []).getD i 64 == o && (L.dec.getD f []).length == (L.fields.getD f default).width) &&
      coversFrom L (o + 1) ss
  | o, _ :: ss => coversFrom L (o + 1) ss

theorem coversFrom_getD {L : Layout} : ∀ {ss : List Src} {o : Nat}, coversFrom L o ss = true → ∀ k,
    (match ss.getD k .undef with
      | .field f i =>
        (L.dec.getD f []).getD i 64 == o + k && (L.dec.getD f []).length == (L.fields.getD f default).width
      | _ => true) = true
  | [], _, _, _ => rfl
  | s :: ss, o, h, 0 => by
    cases s <;> first | rfl | exact (Bool.and_eq_true _ _ ▸ h).1
  | s :: ss, o, h, k + 1 => by
    have h' : coversFrom L (o + 1) ss = true := by
      cases s <;> first | exact h | exact (Bool.and_eq_true _ _ ▸ h).2
    have := coversFrom_getD h' k
    rwa [Nat.add_right_comm, Nat.add_assoc] at this

theorem covers_of_coversFrom {L : Layout} (h : coversFrom L 0 L.enc = true) : covers L = true :=
  List.all_eq_true.mpr fun o _ => by
    have := coversFrom_getD h o
    rwa [Nat.zero_add] at this

/-- `enc[os[k]] = src (i + k)` for every `k`, in one walk of `enc` as long as the offsets ascend by one: `rest` is
`enc.drop p`, where the last comparison left off; any other offset is looked up from the head of the table. -/
def runOK (enc : List Src) (src : Nat → Src) : Nat → List Src → Nat → List Nat → Bool
  | _, _, _, [] => true
  | p, rest, i, o :: os =>
    match (if o == p then rest else enc.drop o) with
    | s :: tl => s == src i && runOK enc src (o + 1) tl (i + 1) os
    | [] => false

theorem runOK_getD {enc : List Src} {src : Nat → Src} : ∀ {os : List Nat} {p : Nat} {rest : List Src} {i : Nat},
    rest = enc.drop p → runOK enc src p rest i os = true → ∀ k, k < os.length → enc.getD (os.getD k 64) .undef = src (i + k)
  | [], _, _, _, _, _, _, hk => nomatch hk
  | o :: os, p, rest, i, hr, h, k, hk => by
    have hr' : (if o == p then rest else enc.drop o) = enc.drop o := by
      split
      · next hop => rw [hr, eq_of_beq hop]
      · rfl
    rw [runOK, hr'] at h
    cases hd : enc.drop o with
    | nil => rw [hd] at h; cases h
    | cons s tl =>
      rw [hd, Bool.and_eq_true, beq_iff_eq] at h
      cases k with
      | zero =>
        have := congrArg (·[0]?) hd
        simp only [List.getElem?_drop, Nat.add_zero, List.getElem?_cons_zero] at this
        rw [List.getD_cons_zero, List.getD, this, Nat.add_zero]; exact h.1
      | succ k =>
        have ht : tl = enc.drop (o + 1) := by rw [← List.tail_drop, hd]; rfl
        have := runOK_getD ht h.2 k (Nat.lt_of_succ_lt_succ hk)
        rwa [Nat.add_right_comm, Nat.add_assoc] at this

def fieldFast (L : Layout) (f : Nat) (fd : Field) (offs : List Nat) : Bool :=
  match fd.kind with
  | .int | .bytes => offs.length == fd.width && runOK L.enc (.field f) 0 L.enc 0 offs
  | .str =>
    match L.strDecs.find? (fun sd => sd.field == f) with
    | none => false
    | some sd =>
      let n := sd.stop - sd.start
      sd.start + n ≤ 64 && fd.width == n && runOK L.enc (.str f) 0 L.enc 0 (List.range' sd.start n)
  | .lpstr => lpstrFieldOK L f

theorem fieldOK_of_fast {L : Layout} {f : Nat} (h : fieldFast L f (L.fields.getD f default) (L.dec.getD f []) = true) :
    fieldOK L f = true := by
  unfold fieldFast at h
  unfold fieldOK
  have hint : ((L.dec.getD f []).length == (L.fields.getD f default).width &&
      runOK L.enc (.field f) 0 L.enc 0 (L.dec.getD f [])) = true → intFieldOK L f = true := by
    intro h
    rw [Bool.and_eq_true, beq_iff_eq] at h
    unfold intFieldOK
    simp only [Bool.and_eq_true, beq_iff_eq, List.all_eq_true, List.mem_range]
    refine ⟨h.1, fun i hi => ?_⟩
    have := runOK_getD rfl h.2 i (h.1 ▸ hi)
    rwa [Nat.zero_add] at this
  cases hk : (L.fields.getD f default).kind <;> rw [hk] at h <;> dsimp only at h ⊢
  · exact hint h
  · exact hint h
  · unfold strFieldOK
    cases hf : L.strDecs.find? (fun sd => sd.field == f) with
    | none => rw [hf] at h; cases h
    | some sd =>
      rw [hf] at h
      simp only [Bool.and_eq_true, beq_iff_eq, List.all_eq_true, List.mem_range] at h ⊢
      refine ⟨h.1, fun i hi => ?_⟩
      have := runOK_getD rfl h.2 i (by rw [List.length_range']; exact hi)
      have e : (List.range' sd.start (sd.stop - sd.start)).getD i 64 = sd.start + i := by
        rw [List.getD, List.getElem?_range' hi, Nat.one_mul]; rfl
      rwa [Nat.zero_add, e] at this
  · exact h

def consistentFast (L : Layout) : Bool :=
  L.enc.length == 64 && L.dec.length == L.fields.length &&
    (List.range L.fields.length).all (fun f => fieldFast L f (L.fields.getD f default) (L.dec.getD f []))

theorem consistent_of_fast {L : Layout} (h : consistentFast L = true) : consistent L = true := by
  unfold consistentFast at h
  unfold consistent
  rw [Bool.and_eq_true] at h ⊢
  exact ⟨h.1, List.all_eq_true.mpr fun g hg => fieldOK_of_fast (List.all_eq_true.mp h.2 g hg)⟩

end Slock.Layout
