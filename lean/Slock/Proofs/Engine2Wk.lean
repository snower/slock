import Slock.Proofs.Engine2Tight
import Slock.Proofs.Engine2PK
/-! Stage-2 engine: the facts an operation carries from helper to helper, as one bundle. `Wk full w x`: the reference counts of the
key record worked on are exact (`Lv`), and — if `full` — no record but `x` sits at count 0 (`Nz`) and `currentLock` is a hold
(`CurLive`). The first part is what `DBI` provides and needs nothing else; the rest is what `DBT` (`DBI` + `KeyTight` of every key
record, `Engine2TightRun`) adds. Every composite of the model is walked once, for both at a time: `full := False` gives the `DBI`
results, `full := True` the `DBT` results. -/
namespace Slock.Engine2
open Slock.Engine (has)

structure Wk (full : Prop) (w : W) (x : Option Nat) : Prop where
  lv : Lv w zero
  nz : full → Nz w x
  cur : full → CurLive w.k

namespace Wk
variable {full : Prop} {w w' : W} {x : Option Nat}

theorem of_lv (l : Lv w zero) : Wk False w x := ⟨l, False.elim, False.elim⟩
theorem of_good (g : Good w) (c : CurLive w.k) : Wk full w none := ⟨g.lv, fun _ => g.nz, fun _ => c⟩
theorem good (k : Wk True w none) : Good w := ⟨k.lv, k.nz trivial⟩

theorem enter {db : DB} (hdb : DBI db) (ht : full → ∀ k ∈ db.keys, KeyTight k) (n : Nat) : Wk full (db.enter n) none :=
  ⟨Lv.enter hdb n, fun f => (Good.enter hdb (ht f) n).nz, fun f => cur_enter (ht f) n⟩
theorem openKey {db : DB} (hdb : DBI db) (ht : full → ∀ k ∈ db.keys, KeyTight k) (n : Nat) : Wk full (db.openKey n) none :=
  ⟨Lv.openKey hdb n, fun f => (Good.openKey hdb (ht f) n).nz, fun f => cur_openKey (ht f) n⟩

/-- a step that edits records without lowering a count, keeps `currentLock` and every depth -/
theorem up (k : Wk full w x) (l : Lv w' zero) (u : RecsUp w'.k w.k) (d : DK w' w) : Wk full w' x :=
  ⟨l, fun f => (k.nz f).of_up u, fun f => (k.cur f).of_dk d l⟩

theorem book {data : Option Bytes} {q : Bool} (k : Wk full w x) (h : Chain data true q w w') : Wk full w' x := k.up (h.lv k.lv) h.up h.dk

theorem ctr (k : Wk full w x) (f : Counters → Counters) : Wk full (w.ctr f) x := k.book (book_ctr w f)
theorem reply (k : Wk full w x) (c : Cmd) (a b : Nat) (d : Option Bytes) : Wk full (w.reply c a b d) x := k.book (book_reply w c a b d)
theorem procData (k : Wk full w x) (ct : Slock.Value.CmdType) (c : Cmd) (f : Option Bytes) (rid : Nat) : Wk full (w.procData ct c f rid) x :=
  k.book (book_procData w ct c f rid)
theorem journalUnlock (k : Wk full w x) (rid : Nat) (fa ia : Bool) (flag : Nat) : Wk full (w.journalUnlock rid fa ia flag) x :=
  k.book (book_journalUnlock w rid fa ia flag)
theorem pushUnLockAof (k : Wk full w x) (rid : Nat) (lc : Cmd) (fa ia : Bool) (flag : Nat) : Wk full (w.pushUnLockAof rid lc fa ia flag) x :=
  k.book (book_pushUnLockAof w rid lc fa ia flag)
theorem grantNoHold (k : Wk full w x) (rid : Nat) : Wk full (w.grantNoHold rid) x := k.book (book_grantNoHold w rid)

theorem when (k : Wk full w x) (b : Bool) (f : W → W) (h : Wk full (f w) x) : Wk full (w.when b f) x := by
  cases b
  · exact k
  · exact h

theorem modR (k : Wk full w x) (rid : Nat) (f : Rec → Rec) (p : Plain f := by exact {}) (h5 : ∀ r, (f r).depth = r.depth := by intro _; rfl)
    (h6 : ∀ r, (f r).expried = r.expried := by intro _; rfl) : Wk full (w.modR rid f) x :=
  k.up (k.lv.modR_plain rid f p)
    (RecsUp.modRec _ rid f p.rid (fun r h => ⟨p.refCount r ▸ h.pos, by rw [h5, p.eSched]; exact h.hold, by rw [h6, h5]; exact h.ended,
      by rw [h5, p.eSched, h6]; exact h.fin⟩) h5)
    (dk_modR w rid f p.rid h5)

theorem tombstone (k : Wk full w x) (rid : Nat) : Wk full (w.modR rid (fun r => { r with timeouted := true })) x :=
  k.up (k.lv.tombstone rid) (RecsUp.modRec _ rid _ (fun _ => rfl) (fun _ h => ⟨h.pos, h.hold, h.ended, h.fin⟩))
    (dk_modR w rid _)

theorem modK (k : Wk full w x) (f : Key → Key) (hr : (f w.k).recs = w.k.recs) (hm : (f w.k).refCount = w.k.refCount)
    (hq : (f w.k).queues = w.k.queues) : Wk full (w.modK f) x :=
  ⟨k.lv.modK f (k.lv.rc.transfer hr hm (fun y => by rw [qRefs_of_queues hq])) (RecsLe.of_eq hr), fun h => ⟨(k.nz h).nd.of_recs hr, (k.nz h).nz.of_recs hr⟩,
    fun h c hc => by
      have e : ((w.modK f).k.getR c) = w.k.getR c := by show (f w.k).getR c = _; unfold Key.getR; rw [hr]
      rw [e]; exact k.cur h c (by have := (queues_eq hq).1; exact this ▸ hc)⟩

theorem locked (k : Wk full w x) (g : Nat → Nat) : Wk full (w.modK fun k => { k with locked := g k.locked }) x := k.modK _ rfl rfl rfl

/-- a depth change of a hold that leaves it a hold -/
theorem modDepth (k : Wk full w x) (rid : Nat) (f : Rec → Rec) (hh : w.k.hasRec rid)
    (hc : full → RecFine (w.k.getR rid) → RecFine (f (w.k.getR rid))) (hp : full → 0 < (f (w.k.getR rid)).depth) (p : Plain f := by exact {}) :
    Wk full (w.modR rid f) x :=
  ⟨k.lv.modR_plain rid f p, fun h => (k.nz h).modR_at rid f p.rid (fun _ => hc h), fun h c hc => by
    by_cases e : c = rid
    · subst e; rw [modR_k, getR_modRec_same _ _ _ hh p.rid]; exact hp h
    · rw [modR_k, getR_modRec_other _ _ _ _ e p.rid]; exact k.cur h c hc⟩

/-- `GetOrNewLock`: the new record is the exempt one -/
theorem newLock (k : Wk full w none) (c : Cmd) (d : Option Bytes) : Wk full (w.newLock c d).1 (some w.db.nextRid) :=
  have l := (k.lv.newLock zero_nonneg c d).1
  ⟨l, fun h => ⟨⟨l.rc.nodup⟩, nz_addRec (k.nz h).nz _⟩, fun h => (k.cur h).addRec _ (hasRec_current k.lv)⟩

theorem exempt (k : Wk full w none) (rid : Nat) : Wk full w (some rid) := ⟨k.lv, fun h => (k.nz h).weaken _, k.cur⟩

/-- the exemption ends for a record that is gone or in order -/
theorem clear {rid : Nat} (k : Wk full w (some rid)) (hy : full → w.k.hasRec rid → RecFine (w.k.getR rid)) : Wk full w none :=
  ⟨k.lv, fun h => (k.nz h).clear rid (hy h), k.cur⟩

theorem modR_ex {rid : Nat} (k : Wk full w (some rid)) (f : Rec → Rec) (p : Plain f := by exact {})
    (h5 : ∀ r, (f r).depth = r.depth := by intro _; rfl) : Wk full (w.modR rid f) (some rid) :=
  have l := k.lv.modR_plain rid f p
  ⟨l, fun h => (k.nz h).modR_ex rid f p.rid, fun h => (k.cur h).of_dk (dk_modR w rid f p.rid h5) l⟩

theorem removeLongE_ex {rid : Nat} (k : Wk full w (some rid)) (hh : w.k.hasRec rid) (hs : (w.k.getR rid).eSched.isSome = true) :
    Wk full (w.removeLongE rid) (some rid) :=
  have l := k.lv.removeLongE rid hh hs
  ⟨l, fun h => (k.nz h).removeLongE_ex rid, fun h => (k.cur h).of_dk (dk_removeLongE w rid) l⟩

theorem dropLongE_ex {rid : Nat} (k : Wk full w (some rid)) (hh : w.k.hasRec rid) : Wk full (w.dropLongE rid) (some rid) := by
  unfold W.dropLongE W.when
  split
  · rename_i hl; exact k.removeLongE_ex hh (eLong_isSome _ hl)
  · exact k

/-- long-table removal of a queued request: its queue entry keeps the count ≥ 1 -/
theorem dropLongT (k : Wk full w x) (rid : Nat) (hh : w.k.hasRec rid) (hq : full → 0 < w.k.qRefs rid) : Wk full (w.dropLongT rid) x := by
  have l := k.lv.dropLongT rid hh
  refine ⟨l, fun h => ?_, fun h => (k.cur h).of_dk (dk_dropLongT w rid) l⟩
  unfold W.dropLongT W.when
  split
  · rename_i hl
    exact (k.nz h).removeLongT k.lv rid (hq h) (tLong_isSome _ hl)
  · exact k.nz h

theorem removeLock {rid : Nat} (k : Wk full w (some rid)) : Wk full (w.modK (·.removeLock rid)) (some rid) :=
  have l1 : RecsLe (w.k.modRec rid fun r => { r with depth := 0 }) w.k := RecsLe.modRec _ _ _ (fun _ => ⟨rfl, rfl, rfl⟩)
  have l := k.lv.modK (·.removeLock rid) (removeLock_rc zero_nonneg k.lv.rc rid)
    ((RecsLe.closed w.k).removeLock (fun _ _ h => (RecsLe.of_eq rfl).trans h) rid l1 ((RecsLe.unrefOnly _ _).trans l1))
  ⟨l, fun h =>
    have n1 : (w.k.modRec rid fun r => { r with depth := 0 }).NoDup ∧ NZx (w.k.modRec rid fun r => { r with depth := 0 }) (some rid) :=
      ⟨(k.nz h).nd.modRec rid _ (by intro _; rfl), NZx.modRec_ex rid (k.nz h).nz _ (by intro _; rfl)⟩
    have := (nz_closed (some rid)).removeLock (fun _ _ h => ⟨h.1.of_recs rfl, h.2.of_recs rfl⟩) rid n1
      ⟨n1.1.modRec rid _ (by intro _; rfl), NZx.modRec_ex rid n1.2 _ (by intro _; rfl)⟩
    ⟨this.1, this.2⟩, fun h => CurLive.removeLock (k.cur h) rid (hasRec_current l)⟩

theorem getWaitLock (k : Wk full w x) : Wk full (w.modK (·.getWaitLock.1)) x :=
  have l := k.lv.modK _ (getWaitLock_rc zero_nonneg k.lv.rc) (RecsLe.getWaitLock _)
  ⟨l, fun h => have := nz_getWaitLock (k.nz h).nd (k.nz h).nz; ⟨this.1, this.2⟩,
    fun h => (k.cur h).of_dk (dk_modK w _ (DepthKeep.getWaitLock _)) l⟩

theorem settleWait (k : Wk full w x) : Wk full (w.modK (·.settleWait)) x :=
  have l := k.lv.modK _ (settleWait_rc zero_nonneg k.lv.rc) ((RecsLe.closed _).settleWait (fun _ _ h => (RecsLe.of_eq rfl).trans h) (RecsLe.refl _))
  ⟨l, fun h => have := (nz_closed x).settleWait (fun _ _ h => ⟨h.1.of_recs rfl, h.2.of_recs rfl⟩) ⟨(k.nz h).nd, (k.nz h).nz⟩; ⟨this.1, this.2⟩,
    fun h => (k.cur h).of_dk (dk_modK w _ (DepthKeep.settleWait _)) l⟩

/-- a hold without expiry entry — exempt till here — gets one, counted: it is in order again -/
theorem armE {rid : Nat} (k : Wk full w (some rid)) (hh : w.k.hasRec rid) (he : (w.k.getR rid).eSched = none)
    (ht : (w.k.getR rid).timeouted = true) (hd : full → 0 < (w.k.getR rid).depth) :
    Wk full ((w.addExpried rid).ref rid) none ∧ ((w.addExpried rid).ref rid).k.hasRec rid := by
  have hh1 := (hasRec_of_ids (ids_addExpried _ rid) rid).mpr hh
  have l : Lv ((w.addExpried rid).ref rid) zero :=
    ((k.lv.addExpried rid hh 1 (by simp [he]) ht).ref rid hh1).congr (fun y => by simp only [zero]; omega)
  refine ⟨⟨l, fun f => ?_, fun f => (k.cur f).of_dk ((dk_ref _ _).trans (dk_addExpried _ _)) l⟩, (hasRec_modR _ rid rid _).mpr hh1⟩
  obtain ⟨e1, x1, d1⟩ := getR_addExpried _ rid hh
  refine (((k.nz f).addExpried_ex rid).modR_ex rid (fun r => { r with refCount := r.refCount + 1 }) (fun _ => rfl)).clear rid (fun _ => ?_)
  show RecFine (((w.addExpried rid).k.modRec rid (fun r => { r with refCount := r.refCount + 1 })).getR rid)
  rw [getR_modRec_same _ rid (fun r => { r with refCount := r.refCount + 1 }) hh1]
  exact ⟨Nat.le_add_left 1 _, fun _ => e1, fun hx => by simp only [] at hx; rw [x1] at hx; exact absurd hx (by simp),
    fun hz => by simp only [] at hz; rw [d1] at hz; have := hd f; omega⟩

/-- `UpdateLockedLock` of a hold. The long-table move takes its expiry entry out and arms it again. -/
theorem updateLocked (k : Wk full w none) (rid : Nat) (c : Cmd) (hh : w.k.hasRec rid) (hd : full → 0 < (w.k.getR rid).depth) :
    Wk full (w.updateLocked rid c) none ∧ (w.updateLocked rid c).k.hasRec rid := by
  unfold W.updateLocked
  simp only []
  generalize (!(w.k.getR rid).isAof && w.k.current == some rid && w.k.locks.isEmpty) = sole
  have hf := updF_fields w.db sole c
  have k1 : Wk full (w.modR rid (updF w.db sole c)) none :=
    k.modR rid _ ⟨fun r => (hf r).rid, fun r => (hf r).refCount, fun r => by rw [(hf r).tSched], fun r => (hf r).eSched, fun r => (hf r).timeouted⟩
      (fun r => (hf r).depth) (fun r => (hf r).expried)
  have hh1 : (w.modR rid (updF w.db sole c)).k.hasRec rid := (hasRec_modR _ rid rid _ (fun r => (hf r).rid)).mpr hh
  have fin : ∀ {w' : W}, Wk full w' none ∧ w'.k.hasRec rid →
      Wk full (w'.modR rid (fun r => { r with conn := c.conn })) none ∧ (w'.modR rid (fun r => { r with conn := c.conn })).k.hasRec rid :=
    fun h => ⟨h.1.modR rid _,
      (hasRec_modR _ rid rid _).mpr h.2⟩
  apply fin
  unfold W.when
  split
  · rename_i hc
    have hs : ((w.modR rid (updF w.db sole c)).k.getR rid).eSched.isSome = true := by
      rw [modR_k, getR_modRec_same _ _ _ hh (fun r => (hf r).rid), (hf _).eSched]
      exact eLong_isSome _ (by cases hl : (w.k.getR rid).eLong with | true => rfl | false => rw [hl] at hc; simp at hc)
    obtain ⟨hh2, e2, t2⟩ := getR_removeLongE _ rid hh1
    refine ((k1.exempt rid).removeLongE_ex hh1 hs).armE hh2 e2 (by rw [t2]; exact k1.lv.timeouted_of_eSched rid hh1 hs) (fun f => ?_)
    rw [(dk_removeLongE _ rid).depth rid hh2, modR_k, getR_modRec_proj (·.depth) w.k rid rid _ (fun r => (hf r).depth) (fun r => (hf r).rid)]
    exact hd f
  · exact ⟨k1, hh1⟩

theorem addLock {rid : Nat} (k : Wk full w (some rid)) (hh : w.k.hasRec rid) : Wk full (w.addLock rid) (some rid) :=
  have hf := addLockF_fields w.db w.k
  have l := k.lv.addLock rid hh
  ⟨l, fun h => have := nz_addLock_ex (k.nz h).nd rid (addLockF w.db w.k) (fun r => (hf r).rid) (k.nz h).nz; ⟨this.1, this.2⟩,
    fun h => CurLive.addLock (k.cur h) rid (addLockF w.db w.k) (fun r => (hf r).rid) (fun r => (hf r).depth) hh (hasRec_current l)⟩

theorem grantTail {rid : Nat} (k : Wk full w (some rid)) (g : Grantable w.k rid) (hd : 0 < (w.k.getR rid).depth) (c cc : Cmd) (f d : Option Bytes)
    (cf : Counters → Counters) (a b : Nat) :
    Wk full ((((((w.procData .lock c f rid).modR rid (fun r => { r with data := none })).addExpried rid).ref rid).ctr cf).reply cc a b d) none ∧
    ((((((w.procData .lock c f rid).modR rid (fun r => { r with data := none })).addExpried rid).ref rid).ctr cf).reply cc a b d).k.hasRec rid := by
  obtain ⟨p1, p2, _, p4, _, _, p7, _⟩ := keep_procData w .lock c f rid rid
  have hh3 := p1.mpr g.has
  have g4 : ((w.procData .lock c f rid).modR rid (fun r => { r with data := none })).k.getR rid = _ :=
    getR_modRec_same (w.procData .lock c f rid).k rid (fun r => { r with data := none }) hh3
  obtain ⟨k6, hh6⟩ := ((k.procData .lock c f rid).modR_ex (fun r => { r with data := none })).armE ((hasRec_modR _ rid rid _).mpr hh3) (by rw [g4]; exact p2.trans g.noE)
    (by rw [g4]; exact p4.trans g.tomb) (fun _ => by rw [g4]; exact p7 ▸ hd)
  exact ⟨(k6.ctr _).reply _ _ _ _, hh6⟩

/-- the grant of `rid` (Expried > 0): holder (current or queued) + expiry-wheel entry, both counted -/
theorem grant {rid : Nat} (k : Wk full w (some rid)) (g : Grantable w.k rid) : Wk full (w.grant rid) none ∧ (w.grant rid).k.hasRec rid := by
  have hf := addLockF_fields w.db w.k
  obtain ⟨g1, hh1⟩ := keep_addLock w.k rid (addLockF w.db w.k) (fun r => (hf r).rid) (fun r => (hf r).depth) g.has
  have g2 : ((w.addLock rid).modK incLocked).k.getR rid = addLockF w.db w.k (w.k.getR rid) := g1
  unfold W.grant
  simp only []
  exact ((k.addLock g.has).modK incLocked rfl rfl rfl).grantTail ⟨hh1, by rw [g2, (hf _).eSched]; exact g.noE, by rw [g2, (hf _).timeouted]; exact g.tomb⟩
    (by rw [g2, (hf _).depth]; exact Nat.one_pos) _ _ _ _ _ _ _

/-- `wakeUpWaitLock` of the live head of the wait queue -/
theorem wakeOne (k : Wk full w none) (rid : Nat) (e : WEnt) (rest : List WEnt) (hw : w.k.wait = e :: rest) (he : e.rid = rid)
    (hd : w.k.deadWaiter rid = false) : Wk full (w.wakeOne rid) none ∧ (w.wakeOne rid).k.hasRec rid := by
  have hq : 0 < w.k.qRefs rid := qRefs_pos_of_wait_mem _ _ (by rw [hw, ← he]; exact .head _)
  have hh : w.k.hasRec rid := k.lv.has hq
  obtain ⟨_, g, _⟩ := wake_prep k.lv rid hh hd (fun c => { c with waitCount := c.waitCount - 1 })
  have k3 := ((k.tombstone rid).dropLongT rid ((hasRec_modR _ rid rid _).mpr hh) (fun _ => hq)).ctr
    (fun c => { c with waitCount := c.waitCount - 1 })
  unfold W.wakeOne
  simp only []
  split
  · exact (k3.exempt rid).grant g
  · exact ⟨((k3.grantNoHold rid).ctr _).reply _ _ _ _, (hasRec_of_ids (book_grantNoHold _ rid).ids rid).mpr g.has⟩

end Wk

/-- what an operation establishes of its key record, graded by `full` as `Wk` is: unless it was reclaimed the bundle holds of it, and —
if `full` — a record that is still linked has a lock record (`SettledG`) -/
def TightF (full : Prop) (w : W) : Prop := (w.gone = false → Wk full w none) ∧ (full → SettledG w)

namespace TightF
variable {full : Prop} {w : W}

theorem of_wk (k : Wk full w none) (hs : full → SettledG w) : TightF full w := ⟨fun _ => k, hs⟩
theorem of_rec (k : Wk full w none) {y : Nat} (hh : w.k.hasRec y) : TightF full w := ⟨fun _ => k, fun _ _ => recs_ne_of_hasRec hh⟩

/-- the reclaim check: still linked means nothing happened, and then the manager's count says there is a record -/
theorem removeIfZero_guard (k : w.gone = false → Wk full w none) : TightF full w.removeIfZero :=
  ⟨fun hg => by
    rcases removeIfZero_cases w with e | ⟨hg', _⟩
    · rw [e] at hg ⊢; exact k hg
    · rw [hg'] at hg; exact absurd hg (by simp),
   fun _ => settled_removeIfZero (fun hg => (k hg).lv.rc)⟩

theorem removeIfZero (k : Wk full w none) : TightF full w.removeIfZero := removeIfZero_guard (fun _ => k)

theorem freeCheck_clear {rid : Nat} (k : Wk full w (some rid)) (hz : w.k.qRefs rid = 0) : TightF full (w.freeCheck rid) :=
  have l : Lv (w.modK (·.free rid)) zero := k.lv.modK _ (k.lv.rc.free rid (by simp only [zero]; omega)) (RecsLe.free _ _)
  removeIfZero (w := w.modK (·.free rid)) ⟨l, fun h => ⟨(k.nz h).nd.free rid, NZx.free_clear rid (k.nz h).nz⟩,
    fun h => (k.cur h).of_dk (dk_modK w _ (DepthKeep.free _ _)) l⟩

end TightF

end Slock.Engine2
