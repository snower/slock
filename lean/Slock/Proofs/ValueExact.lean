import Slock.Proofs.ValueBasic
/-! M-VALUE: what each operation returns on frames of arbitrary bytes whose property header fits (`Shape`), one equation
per branch.  Crash-freedom (`ValuePanic`) and refinement (`ValueOps`) both read the new cell off these equations. -/
namespace Slock.Value

theorem padTake_left (a b : Bytes) : padTake a.length (a ++ b) = a := by
  simp [padTake]

def incrBase : Option Cell → Nat
  | some x => if x.hasData then x.incrValue else 0
  | none => 0

variable {c : Cmd} {hdr v : Bytes} {x : Cell} {fl' : UInt8} {hdr' v' : Bytes}

/-- an 8-byte operand: the request frame is rewritten in place and becomes the cell -/
theorem opIncr_eight (cx : Ctx) (cur : Option Cell) (s : Shape c.data c.flag hdr v) (h8 : v.length = 8) :
    opIncr cx cur c = .ok (some ⟨c.data.take 4 ++ 0 :: (c.flag ||| fNUMBER) ::
      (hdr ++ le64 ((readLE (v.take 8) + incrBase cur) % 2 ^ 64)), c.extra, INCR, cx.fromAof⟩) := by
  have hl : c.data.length = 6 + hdr.length + 8 := by rw [s.length, h8]
  cases cur <;>
  · simp only [opIncr, s.cmdOff, bind, Except.bind, s.readAt, if_pos hl, s.idx5, pure, Except.pure,
      Nat.add_sub_cancel_left, s.hdr, incrBase, List.append_assoc, List.cons_append, List.nil_append]

/-- the cell keeps a property header (`LockManagerData.GetValueOffset() > 6`; a nil receiver answers 6) -/
def cellHasProps : Option Cell → Bool
  | none => false
  | some c => decide (6 < cellOff c.data)

/-- no cell, or a cell without property header: a fresh 8-byte number, the cell's flags are dropped -/
theorem opIncr_plain (cx : Ctx) {cur : Option Cell} (s : Shape c.data c.flag hdr v) (h8 : v.length ≠ 8)
    (hp : cellHasProps cur = false) :
    opIncr cx cur c =
      .ok (some ⟨[10, 0, 0, 0, 0, 1] ++ le64 ((readLE (v.take 8) + incrBase cur) % 2 ^ 64), [], INCR, cx.fromAof⟩) := by
  have hl : ¬ c.data.length = 6 + hdr.length + 8 := by rw [s.length]; omega
  cases cur with
  | none =>
    simp only [opIncr, s.cmdOff, bind, Except.bind, s.readAt, if_neg hl, Nat.le_refl, if_true, pure, Except.pure, incrBase]
  | some x =>
    have ho : cellOff x.data ≤ 6 := Nat.not_lt.mp (of_decide_eq_false hp)
    simp only [opIncr, s.cmdOff, bind, Except.bind, s.readAt, if_neg hl, if_pos ho, pure, Except.pure, incrBase]

theorem opIncr_props (cx : Ctx) (s : Shape c.data c.flag hdr v) (h8 : v.length ≠ 8) (s' : Shape x.data fl' hdr' v')
    (hh : hdr' ≠ []) :
    opIncr cx (some x) c = .ok (some ⟨le32 (6 + hdr'.length + 4) ++ 0 :: (fl' ||| fNUMBER) ::
      (hdr' ++ le64 ((readLE (v.take 8) + incrBase (some x)) % 2 ^ 64)), [], INCR, cx.fromAof⟩) := by
  have hl : ¬ c.data.length = 6 + hdr.length + 8 := by rw [s.length]; omega
  have ho : ¬ 6 + hdr'.length ≤ 6 := by
    have := List.length_pos_iff.mpr hh; omega
  simp only [opIncr, s.cmdOff, bind, Except.bind, s.readAt, if_neg hl, s'.cellOff, if_neg ho, s'.idx5, pure, Except.pure,
    Nat.add_sub_cancel_left, s'.drop6, padTake_left, incrBase, List.append_assoc, List.cons_append, List.nil_append]

/-- the cell holds a value (`GetData() != nil`) -/
def live : Option Cell → Bool
  | some x => x.hasData
  | none => false

def liveArr : Option Cell → Bool
  | some x => x.hasData && x.isArray
  | none => false

theorem opAppend_fresh (cx : Ctx) {cur : Option Cell} (s : Shape c.data c.flag hdr v) (hcur : live cur = false) :
    opAppend cx cur c = .ok (some ⟨c.data.take 4 ++ 0 :: c.flag :: (hdr ++ v), c.extra, APPEND, cx.fromAof⟩) := by
  have hl : ¬ c.data.length < 5 := by rw [s.length]; omega
  have hf : (if c.data.length < 5 then (panic .appendHdr : M (Option Cell)) else do
        if cx.requireRecover then
          let _ ← cmdOff c
        pure (some ⟨c.data.take 4 ++ [0] ++ c.data.drop 5, c.extra, APPEND, cx.fromAof⟩))
      = .ok (some ⟨c.data.take 4 ++ 0 :: c.flag :: (hdr ++ v), c.extra, APPEND, cx.fromAof⟩) := by
    rw [if_neg hl, s.drop5]
    cases cx.requireRecover <;> simp [s.cmdOff, bind, Except.bind, pure, Except.pure]
  cases cur with
  | none => simpa only [opAppend] using hf
  | some x =>
    have hd : x.hasData = false := hcur
    simpa only [opAppend, hd, Bool.not_false, if_true] using hf

theorem opAppend_data (cx : Ctx) (s : Shape c.data c.flag hdr v) (s' : Shape x.data fl' hdr' v') (hd : x.hasData = true) :
    opAppend cx (some x) c =
      .ok (some ⟨le32 (2 + hdr'.length + (v' ++ v).length) ++ 0 :: fl' :: (hdr' ++ (v' ++ v)), [], APPEND, cx.fromAof⟩) := by
  have hb : ¬ ((x.data.length < 6 || c.data.length < 6 + hdr.length) = true) := by
    have := s.off_le; have := s'.off_le; simp; omega
  have e : x.data.length - 4 + v.length = 2 + hdr'.length + (v' ++ v).length := by
    rw [s'.length, List.length_append]; omega
  simp only [opAppend, hd, Bool.not_true, Bool.false_eq_true, if_false, s.cmdOff, bind, Except.bind, if_neg hb, s'.idx5,
    pure, Except.pure, s'.drop6, s.valLen, e, s.dropHdr, List.append_assoc,
    List.cons_append, List.nil_append]

theorem opShift_same (cx : Ctx) {cur : Option Cell} (s : Shape c.data c.flag hdr v)
    (h : (live cur && decide (0 < readLE (v.take 4))) = false) : opShift cx cur c = .ok cur := by
  cases cur with
  | none => simp only [opShift, s.cmdOff, bind, Except.bind, pure, Except.pure]
  | some x =>
    have h' : (x.hasData && decide (0 < readLE (v.take 4))) = false := h
    simp only [opShift, s.cmdOff, bind, Except.bind, s.readAt, h', Bool.not_false, if_true, pure, Except.pure]

theorem drop_clamp {α} (l : List α) (n : Nat) : l.drop (if n > l.length then l.length else n) = l.drop n := by
  split
  · rw [List.drop_length, List.drop_eq_nil_of_le (Nat.le_of_lt ‹_›)]
  · rfl

theorem sub_clamp (h v n : Nat) : 6 + h + v - (if n > v then v else n) - 4 = 2 + h + (v - n) := by
  split <;> omega

/-- the count is clamped to the value length, which `drop` does by itself -/
theorem opShift_data (cx : Ctx) (s : Shape c.data c.flag hdr v) (s' : Shape x.data fl' hdr' v') (hd : x.hasData = true)
    (hn : 0 < readLE (v.take 4)) :
    opShift cx (some x) c = .ok (some ⟨le32 (2 + hdr'.length + (v'.drop (readLE (v.take 4))).length) ++ 0 :: fl' ::
      (hdr' ++ v'.drop (readLE (v.take 4))), [], SHIFT, cx.fromAof⟩) := by
  have hin : 6 + hdr'.length ≤ 6 + hdr'.length + v'.length := Nat.le_add_right _ _
  simp only [opShift, s.cmdOff, bind, Except.bind, s.readAt, hd, hn, decide_true, Bool.and_self, Bool.not_true,
    Bool.false_eq_true, if_false, s'.cellOff, s'.length, if_pos hin, s'.idx5, pure, Except.pure, Nat.add_sub_cancel_left,
    s'.hdr, s'.dropOff, drop_clamp, sub_clamp, List.length_drop, List.append_assoc, List.cons_append, List.nil_append]

theorem opPush_fresh (cx : Ctx) {cur : Option Cell} (s : Shape c.data c.flag hdr v) (hcur : liveArr cur = false) :
    opPush cx cur c = .ok (some ⟨le32 (2 + hdr.length + (le32 v.length ++ v).length) ++ 0 ::
      ((c.flag &&& 0xf8) ||| fARRAY) :: (hdr ++ (le32 v.length ++ v)), [], PUSH, cx.fromAof⟩) := by
  have hoff : ¬ 6 + hdr.length > c.data.length := Nat.not_lt.mpr s.off_le
  have e1 : c.data.length = 2 + hdr.length + (le32 v.length ++ v).length := by
    rw [s.length, List.length_append, le32_length]; omega
  have e2 := s.valLen
  have hf : (do
        let b5 ← idx .pushBounds c.data 5
        let off ← cmdOff c
        if off > c.data.length then (panic .pushBounds : M (Option Cell)) else
        pure (some ⟨le32 c.data.length ++ [0, (b5 &&& 0xf8) ||| fARRAY] ++ (c.data.drop 6).take (off - 6)
            ++ le32 (c.data.length - off) ++ c.data.drop off, [], PUSH, cx.fromAof⟩))
      = .ok (some ⟨le32 (2 + hdr.length + (le32 v.length ++ v).length) ++ 0 :: ((c.flag &&& 0xf8) ||| fARRAY) ::
          (hdr ++ (le32 v.length ++ v)), [], PUSH, cx.fromAof⟩) := by
    simp only [s.idx5, s.cmdOff, bind, Except.bind, if_neg hoff, pure, Except.pure, Nat.add_sub_cancel_left, s.hdr, e2,
      s.dropHdr, ← e1, List.append_assoc, List.cons_append, List.nil_append]
  cases cur with
  | none => simpa only [opPush] using hf
  | some x =>
    have hd : (x.hasData && x.isArray) = false := hcur
    simpa only [opPush, hd, Bool.not_false, if_true] using hf

theorem opPush_array (cx : Ctx) (s : Shape c.data c.flag hdr v) (s' : Shape x.data fl' hdr' v')
    (hd : (x.hasData && x.isArray) = true) :
    opPush cx (some x) c = .ok (some ⟨le32 (2 + hdr'.length + (v' ++ (le32 v.length ++ v)).length) ++ 0 ::
      ((fl' &&& 0xf8) ||| fARRAY) :: (hdr' ++ (v' ++ (le32 v.length ++ v))), [], PUSH, cx.fromAof⟩) := by
  have hoff : ¬ 6 + hdr.length > c.data.length := Nat.not_lt.mpr s.off_le
  have e1 : x.data.length + v.length = 2 + hdr'.length + (v' ++ (le32 v.length ++ v)).length := by
    rw [s'.length, List.length_append, List.length_append, le32_length]; omega
  have e2 := s.valLen
  simp only [opPush, hd, Bool.not_true, Bool.false_eq_true, if_false, s.cmdOff, bind, Except.bind, if_neg hoff, s'.idx5,
    pure, Except.pure, s'.drop6, e2, e1, s.dropHdr, List.append_assoc, List.cons_append, List.nil_append]

theorem opPop_same (cx : Ctx) {cur : Option Cell} (s : Shape c.data c.flag hdr v)
    (h : (liveArr cur && decide (0 < readLE (v.take 4))) = false) : opPop cx cur c = .ok cur := by
  cases cur with
  | none => simp only [opPop, s.cmdOff, bind, Except.bind, pure, Except.pure]
  | some x =>
    have h' : (x.hasData && decide (0 < readLE (v.take 4)) && x.isArray) = false := by
      rw [Bool.and_right_comm]; exact h
    simp only [opPop, s.cmdOff, bind, Except.bind, s.readAt, h', Bool.not_false, if_true, pure, Except.pure]

/-- bytes 4.. of the old header are copied (op byte included) -/
theorem opPop_array (cx : Ctx) (s : Shape c.data c.flag hdr v) (s' : Shape x.data fl' hdr' v')
    (hd : (x.hasData && x.isArray) = true) (hn : 0 < readLE (v.take 4)) :
    opPop cx (some x) c =
      .ok (some ⟨le32 (2 + hdr'.length + (encElems ((parseElems x.data.length v').drop (readLE (v.take 4)))).length) ++
        x.data.getD 4 0 :: fl' :: (hdr' ++ encElems ((parseElems x.data.length v').drop (readLE (v.take 4)))),
        [], POP, cx.fromAof⟩) := by
  have hd' : (x.hasData && decide (0 < readLE (v.take 4)) && x.isArray) = true := by
    rw [Bool.and_right_comm, hd, decide_eq_true hn]; rfl
  have hb : ¬ 6 + hdr'.length > x.data.length + x.extra.length :=
    Nat.not_lt.mpr (Nat.le_trans s'.off_le (Nat.le_add_right _ _))
  have e1 : 6 + hdr'.length - 4 = hdr'.length + 2 := by omega
  simp only [opPop, s.cmdOff, bind, Except.bind, s.readAt, hd', Bool.not_true, Bool.false_eq_true, if_false, s'.cellOff,
    s'.dropHdr, if_neg hb, pure, Except.pure, s'.drop4, e1, List.take_succ_cons, List.take_left' rfl,
    List.append_assoc, List.cons_append]
  congr 5; omega

theorem opExecute_eq (cx : Ctx) (cur : Option Cell) (s : Shape c.data c.flag hdr v) : opExecute cx cur c = .ok cur := by
  unfold opExecute
  split
  · simp only [s.cmdOff, bind, Except.bind]; rfl
  · rfl

theorem procOp_set {cx : Ctx} {cur : Option Cell} (h : c.ctype = SET) : procOp cx cur c = .ok (opSet cx cur c) := by
  unfold procOp; rw [h]; rfl
theorem procOp_unset {cx : Ctx} {cur : Option Cell} (h : c.ctype = UNSET) : procOp cx cur c = .ok (opUnset cx cur) := by
  unfold procOp; rw [h]; rfl
theorem procOp_incr {cx : Ctx} {cur : Option Cell} (h : c.ctype = INCR) : procOp cx cur c = opIncr cx cur c := by
  unfold procOp; rw [h]; rfl
theorem procOp_append {cx : Ctx} {cur : Option Cell} (h : c.ctype = APPEND) : procOp cx cur c = opAppend cx cur c := by
  unfold procOp; rw [h]; rfl
theorem procOp_shift {cx : Ctx} {cur : Option Cell} (h : c.ctype = SHIFT) : procOp cx cur c = opShift cx cur c := by
  unfold procOp; rw [h]; rfl
theorem procOp_push {cx : Ctx} {cur : Option Cell} (h : c.ctype = PUSH) : procOp cx cur c = opPush cx cur c := by
  unfold procOp; rw [h]; rfl
theorem procOp_pop {cx : Ctx} {cur : Option Cell} (h : c.ctype = POP) : procOp cx cur c = opPop cx cur c := by
  unfold procOp; rw [h]; rfl

end Slock.Value
