import Slock.Proofs.Engine2Ops
import Slock.Proofs.Engine2Branch
import Slock.Proofs.Engine2QK
import Slock.Proofs.EngineSimTickCases
/-! Stage-2 engine: an operation on one key record as a walk of steps. Here: the steps, what a walk is and how to argue along one, the
shape of the wake pass; the operations are walked where the counts are known (`Engine2Node`).

The grain of `OpStep`: the helpers that move a reference together with its count are single steps, so the reference counts are exact
between any two steps; the edits in between are steps of their own, because the invariants that read the queues and the flags differ
exactly there. A constructor carries only what the code has tested just before the step, as field values of `k.getR rid`, and of that
only what a consumer reads, so a step is provable of any database. The counts, though exact between steps, are no such guard
(see `dropT`) and so no table over `OpStep` carries them: the walk that remembers does (`Engine2Node`). -/
namespace Slock.Engine2
open Slock.Engine (has)
open Slock.SimTick (preT)

/-- `h` is named by `currentLock` or the holder queue, and is a hold provided `currentLock` is one (what `GetLockedLock`, resp. the
`UF_FIRST` / show branch of the classifier, has found) -/
def Holder (k : Key) (h : Nat) : Prop :=
  h ∈ k.current.toList ++ k.locks ∧ ((∀ x, k.current = some x → 0 < (k.getR x).depth) → 0 < (k.getR h).depth)

/-- what the walk through a LOCK branch takes from the classification -/
def LockGuard (k : Key) : LockBranch → Prop
  | .update h => Holder k h
  | .relock h => h ∈ k.current.toList ++ k.locks ∧ 0 < (k.getR h).depth
  | .show h | .updateEqual h | .updateEqualData h | .relockNoHold h | .relockRefused h => h ∈ k.current.toList ++ k.locks
  | .unlockedWaitRefused => k.waited = true
  | _ => True

theorem LockFacts.guard {db : DB} {c : Cmd} {data : Option Bytes} {b : LockBranch} (hf : LockFacts db c data b) : LockGuard (db.getKey c.key) b := by
  cases b with
  | update h => exact ⟨hf.2.mem, hf.2.depth⟩
  | relock h => exact ⟨findHolder_mem hf.1, findHolder_depth hf.1⟩
  | «show» h => show h ∈ _; simp [hf.1]
  | updateEqual h => exact hf.2.mem
  | updateEqualData h => exact hf.2.1.mem
  | relockNoHold h | relockRefused h => exact findHolder_mem hf.1
  | unlockedWaitRefused => exact hf.2.1
  | _ => trivial

theorem findCancel_live {k : Key} {id x : Nat} (h : findCancel k id = some x) : x ∈ k.wait.map (·.rid) ∧ k.deadWaiter x = false := by
  have := List.mem_filter.mp (List.mem_of_getLast? h)
  simp only [Bool.and_eq_true, Bool.not_eq_true'] at this
  exact ⟨this.1, this.2.1⟩

def UnlockGuard (k : Key) : UnlockBranch → Prop
  | .cancel x => x ∈ k.wait.map (·.rid) ∧ k.deadWaiter x = false
  | .dec h _ => 1 < (k.getR h).depth
  | .release h _ => Holder k h
  | _ => True

theorem UnlockFacts.guard {db : DB} {c : Cmd} {b : UnlockBranch} (hf : UnlockFacts db c b) : UnlockGuard (db.getKey c.key) b := by
  cases b with
  | cancel x => exact findCancel_live hf
  | dec h c' => exact hf.2.1
  | release h c' => exact ⟨hf.mem, hf.depth⟩
  | _ => trivial

/-- a record that is not there reads as the default record: neither a hold nor a live request -/
theorem hasRec_of_depth {k : Key} {x : Nat} (h : 0 < (k.getR x).depth) : k.hasRec x := by
  apply Classical.byContradiction
  intro hn
  rw [getR_of_not_hasRec k x hn] at h
  exact Nat.lt_irrefl 0 h

theorem hasRec_of_liveWaiter {k : Key} {y : Nat} (h : k.deadWaiter y = false) : k.hasRec y := by
  apply Classical.byContradiction
  intro hn
  unfold Key.deadWaiter at h
  rw [getR_of_not_hasRec k y hn] at h
  simp [deadRec] at h

theorem Holder.procData {w : W} {h : Nat} (g : Holder w.k h) (ct : Slock.Value.CmdType) (c : Cmd) (f : Option Bytes) (rid : Nat) :
    Holder (w.procData ct c f rid).k h := by
  obtain ⟨q1, q2, _⟩ := queues_eq (queues_procData w ct c f rid)
  have hd := fun y => procData_proj (·.depth) (fun _ _ => rfl) w ct c f rid y
  exact ⟨by rw [q1, q2]; exact g.1, fun hc => by rw [hd]; exact g.2 fun x hx => by rw [← hd]; exact hc x (q1 ▸ hx)⟩

theorem Holder.depthUp {w : W} {h : Nat} (hm : h ∈ w.k.current.toList ++ w.k.locks) (g : 0 < (w.k.getR h).depth) :
    Holder ((w.modR h (fun r => { r with depth := r.depth + 1 })).modK incLocked).k h :=
  ⟨hm, fun _ => by
    show 0 < ((w.k.modRec h _).getR h).depth
    rw [getR_modRec_same _ _ _ (hasRec_of_depth g)]; exact Nat.succ_pos _⟩

/-- What a step does to the raw head of the wait queue. `est`: `GetWaitLock` ends at a live head or an empty queue; `brk`: the end of a
queued request may tombstone it; `req`: the step is taken only where the head is live, and an invariant may use that (`enqueue` reads
the head's priority, at `updateLocked` it tells a holder from a queued request); `keep`: every other step. -/
inductive Eff
  | keep | est | brk | req

def Eff.ap : Eff → Bool → Bool
  | .est, _ => true
  | .brk, _ => false
  | _, s => s

/-- One step of an operation whose command came with the value frame `data`. -/
inductive OpStep (data : Option Bytes) : Eff → W → W → Prop
  | ctr (w : W) (f : Counters → Counters) : OpStep data .keep w (w.ctr f)
  | reply (w : W) (c : Cmd) (a b : Nat) (d : Option Bytes) : OpStep data .keep w (w.reply c a b d)
  | out (w : W) (o : List Reply) (g : w.out = []) : OpStep data .keep w { w with out := o }
  /-- the value operation: with the command's own frame, or with the one a queued request kept -/
  | procData (w : W) (ct : Slock.Value.CmdType) (c : Cmd) (fr : Option Bytes) (rid : Nat)
      (g : fr.isSome = true → data.isSome = true ∨ ∃ x, (w.k.getR x).data.isSome = true) : OpStep data .keep w (w.procData ct c fr rid)
  | journalLock (w : W) (rid flag : Nat) : OpStep data .keep w (w.journalLock rid flag)
  | journalUnlock (w : W) (rid : Nat) (fa ia : Bool) (flag : Nat) : OpStep data .keep w (w.journalUnlock rid fa ia flag)
  | pushUnLockAof (w : W) (rid : Nat) (lc : Cmd) (fa ia : Bool) (flag : Nat) : OpStep data .keep w (w.pushUnLockAof rid lc fa ia flag)
  | wheelBroken (w : W) : OpStep data .keep w w.wheelBroken
  /-- `locked` alone changes -/
  | locked (w : W) (f : Nat → Nat) : OpStep data .keep w (w.modK (fun k => { k with locked := f k.locked }))
  /-- a queued request is ended (cancelled, timed out) -/
  | tomb (w : W) (x : Nat) : OpStep data .brk w (w.modR x (fun r => { r with timeouted := true }))
  /-- one level of a hold given back / taken -/
  | dec (w : W) (h : Nat) (g : 1 < (w.k.getR h).depth) : OpStep data .keep w (w.modR h (fun r => { r with depth := r.depth - 1 }))
  | inc (w : W) (h : Nat) (g : 0 < (w.k.getR h).depth) : OpStep data .keep w (w.modR h (fun r => { r with depth := r.depth + 1 }))
  /-- a hold is ended (released, expired) -/
  | ended (w : W) (h : Nat) : OpStep data .keep w (w.modR h (fun r => { r with expried := true }))
  | collectT (w : W) (rid : Nat) : OpStep data .keep w (w.collectT rid)
  | updateLocked (w : W) (h : Nat) (c : Cmd) (g : Holder w.k h) (gg : w.gone = false) : OpStep data .req w (w.updateLocked h c)
  /-- a long-table entry goes at once, with its reference -/
  | dropLongT (w : W) (x : Nat) (g : (w.k.getR x).timeouted = true) : OpStep data .keep w (w.dropLongT x)
  | dropLongE (w : W) (h : Nat) : OpStep data .keep w (w.dropLongE h)
  /-- the sweeper's reference to a tombstoned record goes (that the entry is there was tested when the sweeper took it up, which may be
  some steps back: it is not a fact about this state that holds of any database) -/
  | dropT (w : W) (rid : Nat) (g : (w.k.getR rid).timeouted = true) : OpStep data .keep w (w.dropT rid)
  | dropE (w : W) (rid : Nat) : OpStep data .keep w (w.dropE rid)
  /-- the sweeper re-arms the entry it has popped (here the test — entry there, record not ended — is made in this very state; it is
  left out because no consumer reads it) -/
  | rearmT (w : W) (rid : Nat) (gl : (w.k.getR rid).timeouted = false) :
      OpStep data .keep w ((w.modR rid (fun r => { r with tChecked := r.tChecked + 1 })).addTimeOut rid)
  | rearmE (w : W) (rid : Nat) :
      OpStep data .keep w ((w.modR rid (fun r => { r with eChecked := r.eChecked + 1 })).addExpried rid)
  | deferE (w : W) (rid n : Nat) :
      OpStep data .keep w ((w.modR rid (fun r => { r with expT := n })).addExpried rid)
  | settle (w : W) : OpStep data .est w (w.modK (·.settleWait))
  | pop (w : W) : OpStep data .est w (w.modK (·.getWaitLock.1))
  | clearWaited (w : W) (g : w.k.wait = []) : OpStep data .est w (w.modK clearWaited)
  | removeLock (w : W) (h : Nat) : OpStep data .keep w (w.modK (·.removeLock h))
  /-- the live head of the wait queue is granted -/
  | wakeOne (w : W) (e : WEnt) (rest : List WEnt) (g : w.k.wait = e :: rest) (gl : w.k.deadWaiter e.rid = false) : OpStep data .brk w (w.wakeOne e.rid)
  | removeIfZero (w : W) : OpStep data .keep w w.removeIfZero
  /-- a record whose count has reached 0 is freed -/
  | freeCheck (w : W) (h : Nat) : OpStep data .keep w (w.freeCheck h)
  /-- a lock record for the request, with what becomes of it at once: a hold, nothing (Expried = 0), a queued request, nothing (timeout);
  the key record is the one `GetOrNewLockManager` has just returned -/
  | newGrant (w : W) (c : Cmd) (gg : w.gone = false) : OpStep data .keep w ((w.newLock c data).1.grant (w.newLock c data).2)
  | newNoHold (w : W) (c : Cmd) (gg : w.gone = false) : OpStep data .keep w (((w.newLock c data).1.grantNoHold (w.newLock c data).2).freeCheck (w.newLock c data).2)
  | enqueue (w : W) (c : Cmd) (gg : w.gone = false) :
      OpStep data .req w ((((w.newLock c data).1.modK (·.addWaitLock (w.newLock c data).2)).addTimeOut (w.newLock c data).2).ref (w.newLock c data).2)
  | newTimeout (w : W) (c : Cmd) (gg : w.gone = false) : OpStep data .keep w ((w.newLock c data).1.freeCheck (w.newLock c data).2)

/-- steps in a row. `B`: what is known of every state a step starts from (`Engine2Node` puts the reference counts there). The index: no `brk` since the last `est` (or since the start), which a `req` step asks for. -/
inductive Walk (data : Option Bytes) (B : W → Prop) : Bool → W → W → Prop
  | nil (w : W) : Walk data B true w w
  | snoc {s : Bool} {e : Eff} {a b c : W} : Walk data B s a b → B b → OpStep data e b c → (e = .req → s = true) → Walk data B (e.ap s) a c

variable {data : Option Bytes} {B : W → Prop} {s : Bool} {a w : W}

/-- `C` is kept by every step; `T` (a fact about the raw head of the wait queue) holds while the index is `true`: an `est` step
establishes it, a `brk` loses it, a `req` step may use it. A step reads `B` at both its ends (`hb`: at the end of the walk). -/
theorem Walk.indE {C T : W → Prop}
    (hs : ∀ e w w', B w → B w' → OpStep data e w w' → (e = .req → T w) → C w → C w' ∧ (e = .est ∨ e ≠ .brk ∧ T w → T w'))
    {b : W} (h : Walk data B s a b) (hb : B b) (ha : C a) (ht : T a) : C b ∧ (s = true → T b) := by
  induction h with
  | nil => exact ⟨ha, fun _ => ht⟩
  | @snoc s e _ _ _ _ hm p hr ih =>
    obtain ⟨c1, t1⟩ := ih hm ha ht
    obtain ⟨c2, t2⟩ := hs _ _ _ hm hb p (fun he => t1 (hr he)) c1
    refine ⟨c2, fun hs' => t2 ?_⟩
    cases e with
    | est => exact Or.inl rfl
    | brk => exact absurd hs' (by simp [Eff.ap])
    | keep => exact Or.inr ⟨by simp, t1 hs'⟩
    | req => exact Or.inr ⟨by simp, t1 hs'⟩

theorem OpStep.prims {e : Eff} {w w' : W} (p : OpStep data e w w') : Chain data false false w w' := by
  cases p with
  | ctr _ f => exact (Chain.nil data _).ctr f
  | reply _ c a b d => exact (Chain.nil data _).reply c a b d
  | out _ o g => exact (Chain.nil data _).setOut o g
  | procData _ ct c fr rid g => exact (Chain.nil data _).procData ct c fr rid g
  | journalLock _ rid flag => exact (Chain.nil data _).journalLock rid flag
  | journalUnlock _ rid fa ia flag => exact (Chain.nil data _).journalUnlock rid fa ia flag
  | pushUnLockAof _ rid lc fa ia flag => exact (Chain.nil data _).pushUnLockAof rid lc fa ia flag
  | wheelBroken => exact (Chain.nil data _).wheelBroken
  | locked _ f => exact (Chain.nil data _).setLocked f
  | tomb _ x => exact (Chain.nil data _).modR x .tomb
  | dec _ x => exact (Chain.nil data _).modR x (.depth (· - 1))
  | inc _ x => exact (Chain.nil data _).modR x (.depth (· + 1))
  | ended _ x => exact (Chain.nil data _).modR x .expire
  | collectT _ rid => exact (Chain.nil data _).collectT rid
  | updateLocked _ x c => exact (Chain.nil data _).updateLocked x c
  | dropLongT _ x => exact (Chain.nil data _).dropLongT x
  | dropLongE _ x => exact (Chain.nil data _).dropLongE x
  | dropT _ rid => exact (Chain.nil data _).dropT rid
  | dropE _ rid => exact (Chain.nil data _).dropE rid
  | rearmT _ rid => exact ((Chain.nil data _).modR rid .backoffT).addTimeOut rid
  | rearmE _ rid => exact ((Chain.nil data _).modR rid .backoffE).addExpried rid
  | deferE _ rid n => exact ((Chain.nil data _).modR rid (.expT n)).addExpried rid
  | settle => exact (Chain.nil data _).settleWait
  | pop => exact (Chain.nil data _).getWaitLock
  | clearWaited => exact (Chain.nil data _).clearWaited
  | removeLock _ x => exact (Chain.nil data _).removeLock x
  | wakeOne _ e => exact (Chain.nil data _).wakeOne e.rid
  | removeIfZero => exact (Chain.nil data _).removeIfZero
  | freeCheck _ x => exact (Chain.nil data _).freeCheck x
  | newGrant _ c => exact ((Chain.nil data _).newLock c).grant _
  | newNoHold _ c => exact (((Chain.nil data _).newLock c).grantNoHold _).freeCheck _
  | enqueue _ c => exact ((((Chain.nil data _).newLock c).addWaitLock _).addTimeOut _).ref _
  | newTimeout _ c => exact ((Chain.nil data _).newLock c).freeCheck _

theorem OpStep.fr {e : Eff} {w w' : W} (p : OpStep data e w w') : Fr w w' := p.prims.fr

theorem gone_addExpried (w : W) (rid : Nat) : (w.addExpried rid).gone = w.gone := (FQ.addExpried w rid).qt.gone

theorem gone_grant (w : W) (rid : Nat) : (w.grant rid).gone = w.gone := by
  unfold W.grant
  simp only []
  rw [reply_gone, ctr_gone, W.ref, modR_gone, gone_addExpried, modR_gone, procData_gone]
  rfl

theorem gone_grantNoHold (w : W) (rid : Nat) : (w.grantNoHold rid).gone = w.gone := (book_grantNoHold w rid).gone

theorem gone_wakeOne (w : W) (rid : Nat) : (w.wakeOne rid).gone = w.gone := by
  unfold W.wakeOne
  simp only []
  have h2 : (((w.modR rid (fun r => { r with timeouted := true })).dropLongT rid).ctr (fun c => { c with waitCount := c.waitCount - 1 })).gone = w.gone :=
    (FQ.dropLongT _ rid).qt.gone
  split
  · rw [gone_grant]; exact h2
  · rw [reply_gone, ctr_gone, gone_grantNoHold]; exact h2

/-- a reclaimed key record has an empty wait queue -/
def GW (w : W) : Prop := w.gone = true → w.k.wait = []

theorem GW.of_live {w : W} (h : w.gone = false) : GW w := fun hg => by rw [h] at hg; exact absurd hg (by simp)
theorem GW.removeIfZero {w : W} (h : GW w) : GW w.removeIfZero := by
  unfold W.removeIfZero
  split
  · intro _; rfl
  · exact h
theorem GW.of_k {w w' : W} (h : GW w) (e1 : w'.gone = w.gone) (e2 : w'.k.wait = w.k.wait) : GW w' := fun hg => by rw [e2]; exact h (e1 ▸ hg)
theorem GW.freeCheck {w : W} (h : GW w) (rid : Nat) : GW (w.freeCheck rid) := by
  unfold W.freeCheck
  exact (h.of_k (w' := w.modK (·.free rid)) rfl (free_queues w.k rid).2.1).removeIfZero
theorem GW.unrefCheck {w : W} (h : GW w) (rid : Nat) : GW (w.unrefCheck rid) := by
  unfold W.unrefCheck
  simp only []
  unfold W.when
  split
  · exact (h.of_k (w' := w.modK (·.unrefOnly rid)) rfl rfl).freeCheck rid
  · exact h.of_k rfl rfl
theorem GW.dropT {w : W} (h : GW w) (rid : Nat) : GW (w.dropT rid) := by
  unfold W.dropT
  exact (h.of_k (w' := w.modR rid (fun r => { r with tSched := none })) rfl rfl).unrefCheck rid
theorem GW.dropE {w : W} (h : GW w) (rid : Nat) : GW (w.dropE rid) := by
  unfold W.dropE
  exact (h.of_k (w' := w.modR rid (fun r => { r with eSched := none })) rfl rfl).unrefCheck rid

theorem OpStep.gw {e : Eff} {w w' : W} (p : OpStep data e w w') (g : GW w) : GW w' := by
  cases p with
  | ctr | reply | out | locked | tomb | dec | inc | ended | clearWaited | wheelBroken | collectT | rearmT => exact g.of_k rfl rfl
  | procData => exact g.of_k (procData_gone _ _ _ _ _) (queues_eq (queues_procData _ _ _ _ _)).2.2
  | journalLock => exact g.of_k (book_journalLock _ _ _).gone (queues_eq (book_journalLock _ _ _).queues).2.2
  | journalUnlock => exact g.of_k (book_journalUnlock _ _ _ _ _).gone (queues_eq (book_journalUnlock _ _ _ _ _).queues).2.2
  | pushUnLockAof => exact g.of_k (FQ.pushUnLockAof _ _ _ _ _ _).qt.gone (queues_eq (qk_pushUnLockAof _ _ _ _ _ _).q).2.2
  | dropLongT => exact g.of_k (FQ.dropLongT _ _).qt.gone (queues_eq (qk_dropLongT _ _).q).2.2
  | dropLongE => exact g.of_k (FQ.dropLongE _ _).qt.gone (queues_eq (qk_dropLongE _ _).q).2.2
  | removeLock => exact g.of_k rfl (removeLock_wait _ _)
  | removeIfZero => exact g.removeIfZero
  | freeCheck => exact g.freeCheck _
  | dropT => exact g.dropT _
  | dropE => exact g.dropE _
  -- on an empty wait queue the pop loop (`waitSkip`) returns at once
  | settle => intro hg; have := g hg; simp [W.modK, Key.settleWait, Key.getWaitLock, this, waitSkip]; exact this
  | pop => intro hg; have := g hg; simp [W.modK, Key.getWaitLock, this, waitSkip]
  | wakeOne _ e rest hw => intro hg; have := g ((gone_wakeOne _ _).symm.trans hg); rw [hw] at this; exact absurd this (by simp)
  | updateLocked _ x c _ gg => exact GW.of_live ((FQ.updateLocked _ x c).qt.gone.trans gg)
  | rearmE _ rid => exact g.of_k (FQ.addExpried _ rid).qt.gone (queues_eq ((qk_addExpried _ rid).q.trans rfl)).2.2
  | deferE _ rid => exact g.of_k (FQ.addExpried _ rid).qt.gone (queues_eq ((qk_addExpried _ rid).q.trans rfl)).2.2
  | newGrant _ c gg => exact GW.of_live ((gone_grant (w.newLock c data).1 _).trans (gg : (w.newLock c data).1.gone = false))
  | newNoHold _ c gg => exact (GW.of_live ((gone_grantNoHold (w.newLock c data).1 _).trans (gg : (w.newLock c data).1.gone = false))).freeCheck _
  | enqueue _ c gg => exact GW.of_live (w := (((w.newLock c data).1.modK (·.addWaitLock (w.newLock c data).2)).addTimeOut (w.newLock c data).2).ref (w.newLock c data).2) gg
  | newTimeout _ c gg => exact (GW.of_live (w := (w.newLock c data).1) gg).freeCheck _

/-- The wake pass, for anything carried with the index of a walk: it ends at the reclaim check (`stop`) or after a `pop` that has found
a live request which cannot be granted (`halt`), never after a `wakeOne` — a granted head is a tombstone, so the next round pops it
and the fuel (queue length + 1) lasts. `R`: what is claimed of the end, where more is known than on the way. -/
theorem wakePass_idx {I : Bool → W → Prop} {R : W → Prop}
    (pop : ∀ s w, I s w → I true (w.modK (·.getWaitLock.1)))
    (one : ∀ w e rest, I true w → w.k.wait = e :: rest → w.k.deadWaiter e.rid = false → doLock w.k (w.k.getR e.rid).cmd = true →
      I false (w.wakeOne e.rid))
    (stop : ∀ w, I true w → w.k.wait = [] → R (w.modK clearWaited).removeIfZero)
    (halt : ∀ w e rest, I true w → w.k.wait = e :: rest → w.k.deadWaiter e.rid = false → doLock w.k (w.k.getR e.rid).cmd = false → R w)
    (fuel : Nat) {s : Bool} {w : W} (h : I s w) (hf : FuelOK fuel w.k) : R (W.wakePass fuel w) := by
  induction fuel generalizing s w with
  | zero =>
    exfalso
    rcases hf with h | ⟨h1, e, rest, h2, _⟩
    · omega
    · rw [h2] at h1; simp at h1
  | succ n ih =>
    unfold W.wakePass
    simp only []
    have h1 := pop s w h
    cases hr : w.k.getWaitLock.2 with
    | none => exact stop _ h1 (waitSkip_none w.k.wait w.k rfl hr)
    | some rid =>
      simp only []
      obtain ⟨e, rest, hw, he, hd⟩ := getWaitLock_some w.k rid hr
      subst he
      have hw' : (w.modK (·.getWaitLock.1)).k.wait = e :: rest := hw
      split
      · rename_i hdl; exact halt _ e rest h1 hw' hd (by simpa using hdl)
      · rename_i hdl
        refine ih (one _ e rest h1 hw' hd (by simpa using hdl)) (Or.inr ⟨?_, e, rest, (wakeOne_spec _ e.rid).1.trans hw', wakeOne_dead _ e.rid⟩)
        rw [(wakeOne_spec _ e.rid).1]
        have hlen := waitSkip_len w.k.wait w.k rfl
        have hl1 : (w.modK (·.getWaitLock.1)).k.wait.length ≤ w.k.wait.length := hlen.1
        rcases hf with h | ⟨h1, e0, rest0, h2, h3⟩
        · omega
        · have : (w.modK (·.getWaitLock.1)).k.wait.length < w.k.wait.length :=
            hlen.2 e0 rest0 h2 (by simpa [Key.deadWaiter] using h3)
          omega

theorem wake_idx {I : Bool → W → Prop} {R : W → Prop}
    (pop : ∀ s w, I s w → I true (w.modK (·.getWaitLock.1)))
    (one : ∀ w e rest, I true w → w.k.wait = e :: rest → w.k.deadWaiter e.rid = false → doLock w.k (w.k.getR e.rid).cmd = true →
      I false (w.wakeOne e.rid))
    (stop : ∀ w, I true w → w.k.wait = [] → R (w.modK clearWaited).removeIfZero)
    (halt : ∀ w e rest, I true w → w.k.wait = e :: rest → w.k.deadWaiter e.rid = false → doLock w.k (w.k.getR e.rid).cmd = false → R w)
    {w : W} (h : I true w) (idle : R w) : R w.wake := by
  unfold W.wake W.when
  split
  · exact wakePass_idx pop one stop halt _ h (Or.inl (Nat.le_refl _))
  · exact idle

/-- a flag that the default record has, once set, stays set through steps that keep it on the records that survive -/
theorem kept_true {π : Rec → Bool} (hd : ∀ x, π (deadRec x) = true) {k' k : Key} {y : Nat} (p : PKeep π k' k) (h : π (k.getR y) = true) :
    π (k'.getR y) = true := by
  by_cases hh : k'.hasRec y
  · rw [p.val y hh]; exact h
  · rw [getR_of_not_hasRec _ _ hh]; exact hd y

theorem tombed (k : Key) (x : Nat) : ((k.modRec x (fun r => { r with timeouted := true })).getR x).timeouted = true := by
  by_cases hh : k.hasRec x
  · rw [getR_modRec_same k x (fun r => { r with timeouted := true }) hh]
  · rw [getR_of_not_hasRec _ _ (fun h => hh ((hasRec_modRec k x x (fun r => { r with timeouted := true })).mp h))]; rfl

/-- a visit that does not fire is one step: the wheel is out of order, a tombstone's reference goes, or the entry is re-armed -/
theorem visitTimeout_step {w w' : W} {slot : Bool} {rid : Nat} (hv : w.visitTimeout slot rid = some w') : OpStep data .keep w w' := by
  unfold W.visitTimeout at hv
  simp only [] at hv
  split at hv
  · cases hv; exact .wheelBroken w
  split at hv
  · rename_i ht; cases hv; exact .dropT w rid ht
  rename_i ht
  split at hv
  · cases hv; exact .rearmT w rid (by simpa using ht)
  · cases hv

theorem visitExpire_step {w w' : W} {slot : Bool} {rid : Nat} (hv : w.visitExpire slot rid = some w') : OpStep data .keep w w' := by
  unfold W.visitExpire at hv
  simp only [] at hv
  split at hv
  · cases hv; exact .wheelBroken w
  split at hv
  · cases hv; exact .dropE w rid
  split at hv
  · cases hv; exact .rearmE w rid
  · cases hv

theorem tombed_settled (w : W) (rid : Nat) : ((preT w rid).k.getR rid).timeouted = true :=
  kept_true (π := (·.timeouted)) (fun _ => rfl) (PKeep.settleWait ins_timeouted _) (tombed w.k rid)

end Slock.Engine2
