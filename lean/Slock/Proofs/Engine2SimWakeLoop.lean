import Slock.Proofs.Engine2SimWake
import Slock.Proofs.Engine2QI
/-! Simulation stage 2 → stage 1: the wake pass (`wakeUpWaitLocks` = stage 1's `wakePass`). The pass carries what it needs of the wait
queue (`WQ`) through its own iterations: a pop keeps it, and so does one wake-up, which adds at most the woken record to the holder queue. -/
namespace Slock.Sim
open Slock Slock.Engine2
open Slock.Engine (has)

/-- what the wake pass needs of the wait queue: entries are distinct records, a live request is not in the holder queue, and its
connection is the one of its command -/
structure WQ (k : Key) : Prop where
  nd : (k.wait.map (·.rid)).Nodup
  sep : ∀ e ∈ k.wait, k.deadWaiter e.rid = false → e.rid ∉ k.current.toList ++ k.locks
  cs : ∀ e ∈ k.wait, k.deadWaiter e.rid = false → (k.getR e.rid).conn = (k.getR e.rid).cmd.conn

theorem waitSkip_suffix (l : List WEnt) (k : Key) (hl : k.wait = l) : ∃ pre, l = pre ++ (waitSkip l k).1.wait :=
  ⟨_, (waitSkip_eq l k hl).1 ▸ List.takeWhile_append_dropWhile.symm⟩

theorem WQ.getWaitLock {w : W} (g : Good w) (q : WQ w.k) : WQ (w.modK (·.getWaitLock.1)).k := by
  have g1 := good_getWaitLock g
  obtain ⟨pre, hp⟩ := waitSkip_suffix w.k.wait w.k rfl
  obtain ⟨c1, c2⟩ := waitSkip_cl w.k.wait w.k
  have pk : PKeep πA w.k.getWaitLock.1 w.k := PKeep.getWaitLock ins_πA w.k
  have hmem : ∀ e ∈ w.k.getWaitLock.1.wait, e ∈ w.k.wait := fun e he => by rw [hp]; exact List.mem_append_right _ he
  have hrec : ∀ e ∈ w.k.getWaitLock.1.wait, w.k.getWaitLock.1.hasRec e.rid := wait_hasRec g1.lv
  have hdead : ∀ e ∈ w.k.getWaitLock.1.wait, w.k.getWaitLock.1.deadWaiter e.rid = w.k.deadWaiter e.rid :=
    fun e he => timeouted_of_πA (pk.val _ (hrec e he))
  refine ⟨?_, ?_, ?_⟩
  · have := q.nd
    rw [hp, List.map_append] at this
    exact (List.nodup_append.mp this).2.1
  · intro e he hd
    show e.rid ∉ w.k.getWaitLock.1.current.toList ++ w.k.getWaitLock.1.locks
    have : w.k.getWaitLock.1.current = w.k.current ∧ w.k.getWaitLock.1.locks = w.k.locks := ⟨c1, c2⟩
    rw [this.1, this.2]
    exact q.sep e (hmem e he) ((hdead e he).symm.trans hd)
  · intro e he hd
    have hv := pk.val _ (hrec e he)
    show (w.k.getWaitLock.1.getR e.rid).conn = (w.k.getWaitLock.1.getR e.rid).cmd.conn
    rw [conn_of_πA hv, cmd_of_πA hv]
    exact q.cs e (hmem e he) ((hdead e he).symm.trans hd)

theorem addLock_sub (k : Key) (rid y : Nat) (f : Rec → Rec) (hy : y ∈ (k.addLock rid f).current.toList ++ (k.addLock rid f).locks) :
    y ∈ k.current.toList ++ k.locks ∨ y = rid := by
  rcases addLock_holders k rid f with ⟨_, e⟩ | ⟨l, hl, e⟩ <;> rw [e] at hy
  · rcases List.mem_cons.mp hy with h | h
    · exact Or.inr h
    · exact Or.inl (List.mem_append_right _ h)
  · have hs : l.Sublist k.locks := by rcases hl with rfl | rfl; exact .refl _; exact List.filter_sublist
    rcases List.mem_append.mp hy with h | h
    · exact Or.inl ((List.Sublist.append (.refl _) hs).subset h)
    · exact Or.inr (List.mem_singleton.mp h)

theorem grant_sub (w : W) (rid y : Nat) (hy : y ∈ (w.grant rid).k.current.toList ++ (w.grant rid).k.locks) :
    y ∈ w.k.current.toList ++ w.k.locks ∨ y = rid := by
  rw [grant_eq] at hy
  obtain ⟨q1, q2, _⟩ := queues_eq (grantTail_sx ((w.addLock rid).modK incLocked) rid).q
  rw [q1, q2] at hy
  exact addLock_sub w.k rid y _ hy

theorem wakeOne_others (w : W) (rid : Nat) : PKeepX πA (· = rid) (w.wakeOne rid).k w.k := by
  rw [wakeOne_eq]
  split
  · exact (grant_others ins_πA (wakePre w rid) rid).trans (wakePre_sx w rid).p
  · exact (((wakeNoHold_sx w rid).ctr _).reply _ _ _ _).p

theorem wakeOne_sub (w : W) (rid y : Nat) (hy : y ∈ (w.wakeOne rid).k.current.toList ++ (w.wakeOne rid).k.locks) :
    y ∈ w.k.current.toList ++ w.k.locks ∨ y = rid := by
  obtain ⟨p1, p2, _⟩ := queues_eq (wakePre_sx w rid).q
  rw [wakeOne_eq] at hy
  split at hy
  · have := grant_sub (wakePre w rid) rid y hy
    rw [p1, p2] at this
    exact this
  · obtain ⟨q1, q2, _⟩ := queues_eq (((wakeNoHold_sx w rid).ctr (fun c => { c with lockCount := c.lockCount + 1 })).reply
      { ((wakePre w rid).k.getR rid).cmd with conn := ((wakePre w rid).k.getR rid).conn } Engine.RESULT_SUCCED 0 (wakePre w rid).lockData).q
    rw [q1, q2] at hy
    exact Or.inl hy

/-- `WQ` after a step that edits one record `rid` visibly (a tombstone in the wait queue afterwards, if it is there at all), leaves the
wait queue alone and adds at most `rid` to the holder queue -/
theorem WQ.step {k k' : Key} (q : WQ k) (rid : Nat) (hw : k'.wait = k.wait) (px : PKeepX πA (· = rid) k' k)
    (hrec : ∀ x ∈ k'.wait, k'.hasRec x.rid) (hdead : ∀ x ∈ k'.wait, x.rid = rid → k'.deadWaiter rid = true)
    (hsub : ∀ y, y ∈ k'.current.toList ++ k'.locks → y ∈ k.current.toList ++ k.locks ∨ y = rid) : WQ k' := by
  have hne : ∀ x ∈ k'.wait, k'.deadWaiter x.rid = false → x.rid ≠ rid := by
    intro x hxm hx e'
    rw [e', hdead x hxm e'] at hx
    exact absurd hx (by simp)
  refine ⟨by rw [hw]; exact q.nd, ?_, ?_⟩
  · intro x hx hdx hm
    have hne' := hne x hx hdx
    have hv := px.val x.rid hne' (hrec x hx)
    have hdx0 : k.deadWaiter x.rid = false := (timeouted_of_πA hv).symm.trans hdx
    rcases hsub x.rid hm with h | h
    · exact q.sep x (hw ▸ hx) hdx0 h
    · exact hne' h
  · intro x hx hdx
    have hne' := hne x hx hdx
    have hv := px.val x.rid hne' (hrec x hx)
    have hdx0 : k.deadWaiter x.rid = false := (timeouted_of_πA hv).symm.trans hdx
    rw [conn_of_πA hv, cmd_of_πA hv]
    exact q.cs x (hw ▸ hx) hdx0

theorem WQ.wakeOne {w : W} (g : Good w) (q : WQ w.k) (rid : Nat) (e : WEnt) (rest : List WEnt) (hw : w.k.wait = e :: rest) (he : e.rid = rid)
    (hd : w.k.deadWaiter rid = false) : WQ (w.wakeOne rid).k := by
  obtain ⟨k2, hh2⟩ := (Wk.of_lv (x := none) g.lv).wakeOne rid e rest hw he hd
  obtain ⟨s1, s2, _⟩ := wakeOne_spec w rid
  exact q.step rid s1 (wakeOne_others w rid) (wait_hasRec k2.lv) (fun _ _ _ => s2 hh2) (wakeOne_sub w rid)

theorem abs_nil_of_recs {k : Key} (h : k.recs = []) : (Key.abs k).holders = [] ∧ (Key.abs k).waiters = [] := by
  have hr : ∀ x, k.getR x = deadRec x := fun x => getR_of_not_hasRec k x (by intro ⟨r, hr, _⟩; rw [h] at hr; simp at hr)
  rw [abs_holders, abs_waiters]
  exact ⟨by simp [Key.liveHolder, hr, deadRec], by simp [Key.deadWaiter, hr, deadRec]⟩

theorem wakePass_succ (m : Nat) (a : Engine.DB) (k : Engine.Key) (out : List Engine.Reply) (hwd : k.waited = true) :
    Engine.wakePass (m + 1) a k out =
      match Engine.wakeIter a k with
      | some (db', k', r) => Engine.wakePass m db' k' (out ++ [r])
      | none => if k.waiters.isEmpty then (a, { k with waited := false }, out) else (a, k, out) := by
  conv => lhs; unfold Engine.wakePass
  rw [hwd]
  rfl

/-- **the wake pass of stage 2 is the wake pass of stage 1** (any stage-1 fuel above the number of live requests): along the record-level
pass (`wakePass_idx`) the stage-1 pass from the state reached is the stage-1 pass from the start -/
theorem sim_wakePass (f2 f1 : Nat) (w : W) (g : Good w) (cl : CurLive w.k) (hg : w.gone = false) (cn : CurNone w.k) (q : WQ w.k)
    (hf : FuelOK f2 w.k) (hwd : w.k.waited = true) (a : Engine.DB) (hs : Scal a w.db) (ki : Engine.KeyInv (Key.abs w.k))
    (hf1 : (Key.abs w.k).waiters.length < f1) (out1 : List Engine.Reply) (ho : w.out.map (·.r) = out1) :
    Scal (Engine.wakePass f1 a (Key.abs w.k) out1).1 (W.wakePass f2 w).db ∧ Loc (W.wakePass f2 w) (Engine.wakePass f1 a (Key.abs w.k) out1).2.1 ∧
      (W.wakePass f2 w).out.map (·.r) = (Engine.wakePass f1 a (Key.abs w.k) out1).2.2 := by
  subst ho
  generalize hR : Engine.wakePass f1 a (Key.abs w.k) (w.out.map (·.r)) = R0
  refine wakePass_idx (s := true)
    (I := fun _ w => w.gone = false ∧ Good w ∧ CurLive w.k ∧ CurNone w.k ∧ WQ w.k ∧ w.k.waited = true ∧
      ∃ f1 a, Scal a w.db ∧ Engine.KeyInv (Key.abs w.k) ∧ (Key.abs w.k).waiters.length < f1 ∧
        Engine.wakePass f1 a (Key.abs w.k) (w.out.map (·.r)) = R0)
    (R := fun w => Scal R0.1 w.db ∧ Loc w R0.2.1 ∧ w.out.map (·.r) = R0.2.2) ?_ ?_ ?_ ?_ f2 ⟨hg, g, cl, cn, q, hwd, f1, a, hs, ki, hf1, hR⟩ hf
  · -- the popped state: the same to stage 1
    intro _ w ⟨hg, g, cl, cn, q, hwd, f1, a, hs, ki, hf1, hR⟩
    have g1 := good_getWaitLock g
    have habs1 : Key.abs (w.modK (·.getWaitLock.1)).k = Key.abs w.k := abs_getWaitLock w.k g.lv.rc
    refine ⟨hg, g1, cl.of_dk (dk_modK w _ (DepthKeep.getWaitLock _)) g1.lv, cn.of_cl (waitSkip_cl w.k.wait w.k).1 (waitSkip_cl w.k.wait w.k).2,
      q.getWaitLock g, (congrArg Engine.Key.waited habs1).trans hwd, f1, a, hs, ?_⟩
    rw [habs1]
    exact ⟨ki, hf1, hR⟩
  · intro w e rest ⟨hg, g, cl, cn, q, hwd, f1, a, hs, ki, hf1, hR⟩ hw hd hdo
    have hmem : e ∈ w.k.wait := by rw [hw]; simp
    have hnot := q.sep e hmem hd
    obtain ⟨a', k', r', hit, hs', habs', hout'⟩ := wakeOne_sim w g.lv cn e.rid e rest hw rfl hd q.nd hnot (q.cs e hmem hd) a hs
      ((abs_doLock w.k cl cn (w.k.getR e.rid).cmd).trans hdo)
    obtain ⟨k2, _⟩ := (Wk.of_good (full := True) g cl).wakeOne e.rid e rest hw rfl hd
    have ⟨t1, t2⟩ : k'.waited = (Key.abs w.k).waited ∧ k'.waiters.length + 1 = (Key.abs w.k).waiters.length := by
      obtain ⟨_, _, e1, _, ⟨_, _, rfl, _⟩ | ⟨_, _, rfl, _⟩⟩ := Engine.wakeIter_some hit <;> exact ⟨rfl, by rw [e1]; rfl⟩
    cases f1 with
    | zero => omega
    | succ m =>
    rw [wakePass_succ m a _ _ hwd, hit] at hR
    simp only [] at hR
    refine ⟨(gone_wakeOne _ e.rid).trans hg, k2.good, k2.cur trivial, (wakeOne_spec w e.rid).2.2 cn, q.wakeOne g e.rid e rest hw rfl hd,
      (show (Key.abs (w.wakeOne e.rid).k).waited = true by rw [habs', t1]; exact hwd), m, a', hs', ?_⟩
    rw [habs', hout']
    exact ⟨Engine.wakeIter_inv ki hit, by omega, hR⟩
  · intro w ⟨hg, g, _, _, _, hwd, f1, a, hs, ki, hf1, hR⟩ hw0
    have hws : (Key.abs w.k).waiters = [] := by rw [abs_waiters, hw0]; rfl
    cases f1 with
    | zero => omega
    | succ m =>
    rw [wakePass_succ m a _ _ hwd, show Engine.wakeIter a (Key.abs w.k) = none by unfold Engine.wakeIter; rw [hws]] at hR
    simp only [hws, List.isEmpty_nil, if_true] at hR
    rw [← hR]
    refine ⟨Scal.removeIfZero (w := w.modK clearWaited) hs, ?_, by rw [removeIfZero_out]; rfl⟩
    rcases removeIfZero_cases (w.modK clearWaited) with e | ⟨e1, _, _, e4, _⟩
    · rw [e]
      exact ⟨fun _ => abs_eq rfl rfl rfl hws rfl, fun h => absurd (hg.symm.trans h) (by simp)⟩
    · refine ⟨fun h => absurd (e1.symm.trans h) (by simp), fun _ => ?_⟩
      have hrecs : w.k.recs = [] := by
        have := g.lv.rc.mgr
        rw [show w.k.refCount = 0 from e4] at this
        exact List.length_eq_zero_iff.mp this.symm
      have hh := (abs_nil_of_recs hrecs).1
      unfold Engine.Key.isEmpty
      simp only []
      rw [hh, show (Key.abs w.k).locked = 0 by rw [ki.sum, hh]; rfl]; rfl
  · intro w e rest ⟨hg, g, cl, cn, q, hwd, f1, a, hs, _, hf1, hR⟩ hw hd hdo
    have hmem : e ∈ w.k.wait := by rw [hw]; simp
    obtain ⟨hws, _⟩ := wakePre_abs w g.lv e.rid e rest hw rfl hd q.nd (q.sep e hmem hd)
    cases f1 with
    | zero => omega
    | succ m =>
    have hit : Engine.wakeIter a (Key.abs w.k) = none := by
      unfold Engine.wakeIter
      rw [hws]
      simp only []
      rw [show Engine.doLock (Key.abs w.k) (waiterOf w.k e.rid).cmd = false from (abs_doLock w.k cl cn (w.k.getR e.rid).cmd).trans hdo]
      rfl
    rw [wakePass_succ m a _ _ hwd, hit] at hR
    simp only [hws, List.isEmpty_cons, Bool.false_eq_true, if_false] at hR
    rw [← hR]
    exact ⟨hs, ⟨fun _ => rfl, fun h => absurd (hg.symm.trans h) (by simp)⟩, rfl⟩

theorem sim_wake (w : W) (g : Good w) (cl : CurLive w.k) (hg : w.gone = false) (cn : CurNone w.k) (q : WQ w.k)
    (a : Engine.DB) (hs : Scal a w.db) (ki : Engine.KeyInv (Key.abs w.k)) (out1 : List Engine.Reply) (ho : w.out.map (·.r) = out1) :
    Scal (Engine.wake a (Key.abs w.k) out1).1 w.wake.db ∧ Loc w.wake (Engine.wake a (Key.abs w.k) out1).2.1 ∧
      w.wake.out.map (·.r) = (Engine.wake a (Key.abs w.k) out1).2.2 := by
  unfold W.wake W.when Engine.wake
  cases hwd : w.k.waited with
  | true =>
    simp only [if_true]
    exact sim_wakePass _ _ w g cl hg cn q (Or.inl (Nat.le_refl _)) hwd a hs ki (Nat.lt_succ_self _) out1 ho
  | false =>
    simp only [Bool.false_eq_true, if_false]
    have hwd1 : (Key.abs w.k).waited = false := hwd
    unfold Engine.wakePass
    rw [hwd1]
    simp only [Bool.not_false, if_true]
    exact ⟨hs, ⟨fun _ => rfl, fun h => by rw [hg] at h; exact absurd h (by simp)⟩, ho⟩

end Slock.Sim
