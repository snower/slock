import Slock.Proofs.EngineSimTickSort
import Slock.Proofs.EngineCount
/-! Stage 1 (M-ENGINE): the wheel sequence numbers. `SQ db` — every wheel entry (`Waiter.sched`, `Hold.sched`) carries a sequence number
below the database's counter, and no two queued requests (no two holds) of the DATABASE share one. The sweeps process due entries in the
order of these numbers, so under `SQ` the lists `slotWaiters` / `longWaiters` / `slotHolds` / `longHolds` depend only on what is found
under each key (`Engine.DB.getKey`), not on the order of the key table. -/
namespace Slock.SimTick
open Slock Slock.Engine

def seqW (w : Waiter) : Nat := w.sched.seq
def seqH (h : Hold) : Nat := h.sched.seq

structure SQ (db : DB) : Prop where
  wlt : ∀ n w, WaitAt db n w → seqW w < db.seq
  hlt : ∀ n x, HoldAt db n x → seqH x < db.seq
  wnd : ∀ k ∈ db.keys, (k.waiters.map seqW).Nodup
  hnd : ∀ k ∈ db.keys, (k.holders.map seqH).Nodup
  wx : ∀ n n' w w', n ≠ n' → WaitAt db n w → WaitAt db n' w' → seqW w ≠ seqW w'
  hx : ∀ n n' x x', n ≠ n' → HoldAt db n x → HoldAt db n' x' → seqH x ≠ seqH x'

theorem SQ.init (now : Nat) : SQ (DB.init now) := by
  refine ⟨?_, ?_, ?_, ?_, ?_, ?_⟩
  · intro n w ⟨k, hk, _⟩; simp [DB.init] at hk
  · intro n w ⟨k, hk, _⟩; simp [DB.init] at hk
  · intro k hk; simp [DB.init] at hk
  · intro k hk; simp [DB.init] at hk
  · intro n n' w w' _ ⟨k, hk, _⟩; simp [DB.init] at hk
  · intro n n' w w' _ ⟨k, hk, _⟩; simp [DB.init] at hk

theorem SQ.of_keys_eq {db db' : DB} (h : SQ db) (e : db'.keys = db.keys) (hs : db.seq ≤ db'.seq) : SQ db' := by
  refine ⟨?_, ?_, ?_, ?_, ?_, ?_⟩
  · intro n w hw; exact Nat.lt_of_lt_of_le (h.wlt n w (hw.of_keys_eq e)) hs
  · intro n x hx; exact Nat.lt_of_lt_of_le (h.hlt n x (hx.of_keys_eq e)) hs
  · intro k hk; rw [e] at hk; exact h.wnd k hk
  · intro k hk; rw [e] at hk; exact h.hnd k hk
  · intro n n' w w' hne h1 h2; exact h.wx n n' w w' hne (h1.of_keys_eq e) (h2.of_keys_eq e)
  · intro n n' w w' hne h1 h2; exact h.hx n n' w w' hne (h1.of_keys_eq e) (h2.of_keys_eq e)

theorem pairwise_keys_ne {db : DB} (hk : KN db) : db.keys.Pairwise (fun k k' => k.key ≠ k'.key) := by
  unfold KN at hk
  exact List.pairwise_map.mp hk

theorem allWaiters_nodup {db : DB} (hk : KN db) (h : SQ db) : ((allWaiters db).map seqW).Nodup := by
  unfold allWaiters
  rw [List.Nodup, List.pairwise_map, List.pairwise_flatMap]
  refine ⟨fun k hkm => List.pairwise_map.mp (h.wnd k hkm), ?_⟩
  refine (List.Pairwise.and_mem.mp (pairwise_keys_ne hk)).imp ?_
  intro k k' ⟨hm, hm', hne⟩ w hw w' hw'
  exact h.wx k.key k'.key w w' hne ⟨k, hm, rfl, hw⟩ ⟨k', hm', rfl, hw'⟩

theorem allHolds_nodup {db : DB} (hk : KN db) (h : SQ db) : ((allHolds db).map seqH).Nodup := by
  unfold allHolds
  rw [List.Nodup, List.pairwise_map, List.pairwise_flatMap]
  refine ⟨fun k hkm => List.pairwise_map.mp (h.hnd k hkm), ?_⟩
  refine (List.Pairwise.and_mem.mp (pairwise_keys_ne hk)).imp ?_
  intro k k' ⟨hm, hm', hne⟩ w hw w' hw'
  exact h.hx k.key k'.key w w' hne ⟨k, hm, rfl, hw⟩ ⟨k', hm', rfl, hw'⟩

theorem mem_allWaiters {db : DB} (hk : KN db) (w : Waiter) : w ∈ allWaiters db ↔ ∃ n, w ∈ (db.getKey n).waiters := by
  unfold allWaiters
  rw [List.mem_flatMap]
  constructor
  · rintro ⟨k, hkm, hw⟩
    exact ⟨k.key, by rw [getKey_of_mem hk hkm]; exact hw⟩
  · rintro ⟨n, hw⟩
    obtain ⟨k, hkm, _, hw'⟩ := waitAt_getKey hw
    exact ⟨k, hkm, hw'⟩

theorem mem_allHolds {db : DB} (hk : KN db) (x : Hold) : x ∈ allHolds db ↔ ∃ n, x ∈ (db.getKey n).holders := by
  unfold allHolds
  rw [List.mem_flatMap]
  constructor
  · rintro ⟨k, hkm, hw⟩
    exact ⟨k.key, by rw [getKey_of_mem hk hkm]; exact hw⟩
  · rintro ⟨n, hw⟩
    obtain ⟨k, hkm, _, hw'⟩ := holdAt_getKey hw
    exact ⟨k, hkm, hw'⟩

theorem nodup_filter_map {α : Type} (s : α → Nat) (p : α → Bool) (l : List α) (h : (l.map s).Nodup) : ((l.filter p).map s).Nodup :=
  ((List.filter_sublist).map s).nodup h

/-- `SQ` is a property of what is found under each key: it passes to a database with distinct key ids that shows the same state under
every key and has the same sequence counter -/
theorem SQ.transfer {a b : DB} (sa : SQ a) (_ka : KN a) (kb : KN b) (hk : ∀ n, a.getKey n = b.getKey n) (hs : a.seq = b.seq) : SQ b := by
  have wa : ∀ {n w}, WaitAt b n w → WaitAt a n w := fun h => waitAt_getKey (by rw [hk]; exact h.getKey kb)
  have ha : ∀ {n x}, HoldAt b n x → HoldAt a n x := fun h => holdAt_getKey (by rw [hk]; exact h.getKey kb)
  refine ⟨?_, ?_, ?_, ?_, ?_, ?_⟩
  · intro n w hw; rw [← hs]; exact sa.wlt n w (wa hw)
  · intro n x hx; rw [← hs]; exact sa.hlt n x (ha hx)
  · intro k hkm
    have e : b.getKey k.key = k := getKey_of_mem kb hkm
    rw [← e, ← hk]
    rcases getKey_mem_or_empty a k.key with h1 | h1
    · exact sa.wnd _ h1
    · rw [h1]; simp [emptyKey]
  · intro k hkm
    have e : b.getKey k.key = k := getKey_of_mem kb hkm
    rw [← e, ← hk]
    rcases getKey_mem_or_empty a k.key with h1 | h1
    · exact sa.hnd _ h1
    · rw [h1]; simp [emptyKey]
  · intro n n' w w' hne h1 h2; exact sa.wx n n' w w' hne (wa h1) (wa h2)
  · intro n n' w w' hne h1 h2; exact sa.hx n n' w w' hne (ha h1) (ha h2)

theorem sortedW_congr {a b : DB} (ka : KN a) (kb : KN b) (sa : SQ a) (hk : ∀ n, a.getKey n = b.getKey n) (hs : a.seq = b.seq) (p : Waiter → Bool) :
    sortBySeq (·.sched.seq) ((allWaiters a).filter p) = sortBySeq (·.sched.seq) ((allWaiters b).filter p) := by
  apply sortBySeq_ext
  · exact nodup_filter_map seqW p _ (allWaiters_nodup ka sa)
  · exact nodup_filter_map seqW p _ (allWaiters_nodup kb (sa.transfer ka kb hk hs))
  · intro x
    rw [List.mem_filter, List.mem_filter, mem_allWaiters ka, mem_allWaiters kb]
    constructor
    · rintro ⟨⟨n, hn⟩, hp⟩; exact ⟨⟨n, by rw [← hk]; exact hn⟩, hp⟩
    · rintro ⟨⟨n, hn⟩, hp⟩; exact ⟨⟨n, by rw [hk]; exact hn⟩, hp⟩

theorem sortedH_congr {a b : DB} (ka : KN a) (kb : KN b) (sa : SQ a) (hk : ∀ n, a.getKey n = b.getKey n) (hs : a.seq = b.seq) (p : Hold → Bool) :
    sortBySeq (·.sched.seq) ((allHolds a).filter p) = sortBySeq (·.sched.seq) ((allHolds b).filter p) := by
  apply sortBySeq_ext
  · exact nodup_filter_map seqH p _ (allHolds_nodup ka sa)
  · exact nodup_filter_map seqH p _ (allHolds_nodup kb (sa.transfer ka kb hk hs))
  · intro x
    rw [List.mem_filter, List.mem_filter, mem_allHolds ka, mem_allHolds kb]
    constructor
    · rintro ⟨⟨n, hn⟩, hp⟩; exact ⟨⟨n, by rw [← hk]; exact hn⟩, hp⟩
    · rintro ⟨⟨n, hn⟩, hp⟩; exact ⟨⟨n, by rw [hk]; exact hn⟩, hp⟩

end Slock.SimTick
