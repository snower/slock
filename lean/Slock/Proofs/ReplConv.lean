import Slock.Proofs.ReplSync
/-!
The handshake model (`Sync`): the system invariant `SInv`, one `…_step` lemma per event kind, and the induction over
event sequences of any length.
-/
namespace Slock.Repl

theorem getF_setF (fols : List (Nat × Fol)) (n m : Nat) (f : Fol) :
    getF (setF fols n f) m = if m = n then f else getF fols m := by
  induction fols with
  | nil => simp only [setF, getF, eq_comm]
  | cons p fols ih =>
    obtain ⟨k, g⟩ := p
    by_cases hk : k = n
    · subst hk; simp only [setF, getF, if_pos, eq_comm]; split <;> rfl
    · simp only [setF, getF, if_neg hk, ih]
      by_cases h : k = m
      · subst h; simp only [if_pos, if_neg hk]
      · simp only [if_neg h]

def polledB (f : Fol) : Nat := if f.conn.polled then 1 else 0

def polledCount : List (Nat × Fol) → Nat
  | [] => 0
  | p :: r => polledB p.2 + polledCount r

theorem polledB_pos {f : Fol} (h : f.conn.polled = true) : polledB f = 1 := by unfold polledB; rw [h]; rfl

theorem polledB_neg {f : Fol} (h : f.conn.polled = false) : polledB f = 0 := by unfold polledB; rw [h]; rfl

theorem polledCount_setF (fols : List (Nat × Fol)) (n : Nat) (f' : Fol) :
    polledCount (setF fols n f') + polledB (getF fols n) = polledCount fols + polledB f' := by
  induction fols with
  | nil => exact (Nat.zero_add _).symm
  | cons p fols ih =>
    obtain ⟨k, g⟩ := p
    simp only [setF, getF]
    by_cases hk : k = n
    · simp only [hk, if_true, polledCount]; omega
    · simp only [hk, if_false, polledCount]; omega

theorem polledCount_pos (fols : List (Nat × Fol)) (n : Nat) (h : (getF fols n).conn.polled = true) : 0 < polledCount fols := by
  induction fols with
  | nil => cases h
  | cons p fols ih =>
    obtain ⟨k, g⟩ := p
    unfold getF at h
    unfold polledCount
    split at h
    · rw [polledB_pos h]; omega
    · have := ih h; omega

/-- the cursor a transfer from scratch starts with: positioned by `Head` on record h (not yet written), or — empty buffer —
without a position (then h = 1: nothing has been published yet) -/
def HeadCur (h : Nat) (c : Cursor) : Prop :=
  (c.seq ≠ seqNone ∧ c.writed = false ∧ c.bufId = c.seq + 1 ∧ h = c.bufId) ∨ (c = newCursor ∧ h = 1)

/-- phase `stream`: the cursor's item is the last applied record (written) or the next one (not yet written); or the cursor
has no position yet and nothing has been applied -/
def StreamRest (f : Fol) : Prop :=
  (f.cur.seq ≠ seqNone ∧
    ((f.cur.writed = true ∧ f.cur.seq + 1 = f.log.length) ∨
     (f.cur.writed = false ∧ f.cur.seq = f.log.length ∧ f.cur.bufId = f.cur.seq + 1))) ∨
  (f.cur = newCursor ∧ f.log = [])

/-- what holds of cursor, log and reported id in the phase the follower's channel is in -/
def ConnOk (f : Fol) : Prop :=
  match f.conn with
  | .off => True
  | .wait none => f.cur.seq ≠ seqNone ∧ f.cur.writed = true ∧ f.cur.seq + 1 = f.log.length
  | .wait (some h) => f.log = [] ∧ HeadCur h f.cur
  | .files h pos => f.log.length = pos ∧ pos + 1 ≤ h ∧ HeadCur h f.cur
  | .stream => StreamRest f

theorem connOk_stream {f : Fol} (hc : f.conn = .stream) : ConnOk f ↔ StreamRest f := by unfold ConnOk; rw [hc]

/-- One follower against a leader that has published `n` records: its applied log is `1 … m` with m ≤ n (a prefix of the
leader's log `1 … n`; during a transfer from scratch m = the number of file records received so far), its channel's cursor
is consistent with the buffer, and the phase-specific relation between cursor, log and reported id holds. -/
structure FolOk (q : Q) (n : Nat) (f : Fol) : Prop where
  cur : CurOk q f.cur
  has : CurHas q f.cur
  pre : Prefix1 f.log
  len : f.log.length ≤ n
  cid : f.curId = f.log.length
  conn : ConnOk f

structure SInv (A : Nat) (s : Sync) (hist : List (Nat × Nat × Nat)) : Prop where
  q : Inv A s.q hist
  hok : HistOk hist
  hlen : hist.length = s.log.length
  log : Prefix1 s.log
  bnd : s.log.length < seqNone
  fol : ∀ n, FolOk s.q s.log.length (getF s.fols n)
  cnt : s.q.pollCount = polledCount s.fols

theorem folOk_new (q : Q) (n : Nat) : FolOk q n Fol.new :=
  ⟨curOk_new q, curHas_new q, prefix1_nil, Nat.zero_le _, rfl, trivial⟩

theorem FolOk.qsame {q q' : Q} {n f} (h : FolOk q n f) (hs : QSame q q') : FolOk q' n f :=
  ⟨hs.curOk h.cur, hs.curHas h.has, h.pre, h.len, h.cid, h.conn⟩

theorem sinv_init (b m : Nat) : SInv 0 (Sync.init b m) [] :=
  ⟨inv_new b m, fun _ _ h => (nomatch h), rfl, prefix1_nil, (by show 0 < seqNone; decide), fun _ => folOk_new _ _, rfl⟩

theorem SInv.qseq {A s hist} (h : SInv A s hist) : s.q.seq = s.log.length := by rw [h.q.seq, h.hlen]

theorem sinv_set {A A' : Nat} {s : Sync} {hist} {q' : Q} {f' : Fol} (h : SInv A s hist) (n : Nat)
    (hq : Inv A' q' hist) (hs : QSame s.q q') (hf : FolOk q' s.log.length f')
    (hcnt : q'.pollCount + polledB (getF s.fols n) = s.q.pollCount + polledB f') :
    SInv A' { s with q := q', fols := setF s.fols n f' } hist := by
  refine ⟨hq, h.hok, h.hlen, h.log, h.bnd, fun m => ?_, ?_⟩
  · show FolOk q' s.log.length (getF (setF s.fols n f') m)
    rw [getF_setF]
    by_cases hm : m = n
    · rw [if_pos hm]; exact hf
    · rw [if_neg hm]; exact (h.fol m).qsame hs
  · show q'.pollCount = polledCount (setF s.fols n f')
    have := polledCount_setF s.fols n f'
    have := h.cnt
    omega

theorem sinv_setF {A : Nat} {s : Sync} {hist} {f' : Fol} (h : SInv A s hist) (n : Nat)
    (hf : FolOk s.q s.log.length f') (hp : f'.conn.polled = (getF s.fols n).conn.polled) :
    SInv A { s with fols := setF s.fols n f' } hist :=
  sinv_set h n h.q (QSame.refl _) hf (by unfold polledB; rw [hp])

theorem sinv_close {A : Nat} {s : Sync} {hist} {f' : Fol} (h : SInv A s hist) (hA : A < M32) (n : Nat)
    (hp : (getF s.fols n).conn.polled = true) (hf : FolOk s.q s.log.length f') (hoff : f'.conn.polled = false) :
    SInv A { s with q := removePoll s.q (getF s.fols n).cur, fols := setF s.fols n f' } hist := by
  have hpos : 0 < s.q.pollCount := by rw [h.cnt]; exact polledCount_pos s.fols n hp
  refine sinv_set h n (removePoll_inv h.q hpos hA) (removePoll_qsame _ _) (hf.qsame (removePoll_qsame _ _)) ?_
  rw [polledB_pos hp, polledB_neg hoff]
  exact removePoll_pollCount h.q hA hpos _

theorem histOk_snoc {hist : List (Nat × Nat × Nat)} (h : HistOk hist) (ord dlen : Nat) :
    HistOk (hist ++ [(hist.length + 1, ord, dlen)]) := by
  intro i r hr
  by_cases hi : i < hist.length
  · rw [List.getElem?_append_left hi] at hr; exact h i r hr
  · rw [List.getElem?_append_right (Nat.le_of_not_lt hi)] at hr
    obtain ⟨hlt, rfl⟩ := List.getElem?_eq_some_iff.mp hr
    have : i = hist.length := by simp at hlt; omega
    subst this
    simp

theorem append_step {A s hist} (h : SInv A s hist) (dlen : Nat) (hb : s.log.length + 1 < seqNone) :
    SInv A (sstep s (.append dlen)).1 (hist ++ [(s.log.length + 1, s.log.length + 1, dlen)]) := by
  show SInv A { s with q := push s.q (s.log.length + 1) (s.log.length + 1) dlen, log := s.log ++ [s.log.length + 1] } _
  refine ⟨push_inv h.q _ _ _, h.hlen ▸ histOk_snoc h.hok _ dlen, ?_, prefix1_snoc h.log, ?_, fun n => ?_, ?_⟩
  · simp only [List.length_append, List.length_singleton, h.hlen]
  · simp only [List.length_append, List.length_singleton]; exact hb
  · have hf := h.fol n
    refine ⟨push_curOk h.q hf.cur _ _ _, push_curHas _ _ _ hf.has, hf.pre, ?_, hf.cid, hf.conn⟩
    have := hf.len
    simp only [List.length_append, List.length_singleton]; omega
  · obtain ⟨_, _, _, _, _, _, _, _, _, p7, _⟩ := push_shape s.q (s.log.length + 1) (s.log.length + 1) dlen h.q.freeMarked
    exact p7.trans h.cnt

theorem head_new {A q hist} (h : Inv A q hist) (hh : HistOk hist) (hq : q.seq < seqNone) :
    CurOk q (head q newCursor).2 ∧ CurHas q (head q newCursor).2 ∧
      HeadCur (if (head q newCursor).1 = .ok then (head q newCursor).2.bufId else hist.length + 1) (head q newCursor).2 := by
  by_cases hr : (head q newCursor).1 = .ok
  · obtain ⟨t, g⟩ := head_ok h hr
    rw [if_pos hr]
    exact ⟨t.cur, t.has, Or.inl ⟨t.pos hq, t.writed, t.bufId hh, rfl⟩⟩
  · obtain ⟨e1, e2⟩ := head_fail hr
    rw [if_neg hr, e1, h.hist_nil e2]
    exact ⟨curOk_new q, curHas_new q, Or.inr ⟨rfl, rfl⟩⟩

theorem connectFull_step {A s hist} (h : SInv A s hist) (n : Nat) (hoff : (getF s.fols n).conn = .off) :
    SInv A (connectFull s n).1 hist := by
  obtain ⟨c1, c2, c3⟩ := head_new h.q h.hok (h.qseq ▸ h.bnd)
  rw [h.hlen] at c3
  exact sinv_setF h n ⟨c1, c2, prefix1_nil, Nat.zero_le _, rfl, ⟨rfl, c3⟩⟩ (by rw [hoff]; rfl)

theorem connect_step {A s hist} (h : SInv A s hist) (n : Nat) : SInv A (sstep s (.connect n)).1 hist := by
  show SInv A (connect s n).1 hist
  have hfo := h.fol n
  unfold connect
  simp only []
  by_cases hoff : (getF s.fols n).conn = .off
  · rw [if_neg (not_not_intro hoff)]
    by_cases h0 : (getF s.fols n).curId = 0
    · rw [if_pos h0]
      exact connectFull_step h n hoff
    · rw [if_neg h0]
      by_cases hs : (search s.q (getF s.fols n).curId newCursor).1 = .ok
      · -- RESUME: `Search` finds the reported id m at position m-1, so streaming continues with record m+1
        rw [if_pos hs]
        obtain ⟨t, hpos, hlen⟩ := search_resume h.q h.hok (h.qseq ▸ h.bnd) hs
        exact sinv_setF h n ⟨t.cur, t.has, hfo.pre, hfo.len, hfo.cid, ⟨hpos, t.writed, hlen.trans hfo.cid⟩⟩ (by rw [hoff]; rfl)
      · rw [if_neg hs]
        by_cases hend : (getF s.fols n).curId = s.log.length
        · -- unreachable: the newest record is always buffered, so Search finds it
          have hne : hist ≠ [] := fun e => by have := h.hlen; rw [e] at this; exact h0 (hend.trans this.symm)
          have hlo := h.q.liveOk.len
          have := List.length_pos_iff.mpr (h.q.nonempty hne)
          have hlt : s.log.length - 1 < hist.length := by rw [h.hlen]; omega
          refine absurd (search_hit h.q ⟨s.log.length - 1, hist[s.log.length - 1], ?_, List.getElem?_eq_getElem hlt, ?_⟩) hs
          · have := h.hlen; omega
          · rw [h.hok _ _ (List.getElem?_eq_getElem hlt), hend]; omega
        · rw [if_neg hend]
          exact connectFull_step h n hoff
  · rw [if_pos hoff]
    exact h

theorem start_step {A s hist} (h : SInv A s hist) (n : Nat) (hA : A + 1 < M32) :
    SInv (A + 1) (sstep s (.start n)).1 hist := by
  show SInv (A + 1) (start s n).1 hist
  have hfo := h.fol n
  have hw : ∀ f', FolOk s.q s.log.length f' → f'.conn.polled = true → (getF s.fols n).conn.polled = false →
      SInv (A + 1) { s with q := addPoll s.q (getF s.fols n).cur, fols := setF s.fols n f' } hist := by
    intro f' hf hp1 hp0
    refine sinv_set h n (addPoll_inv h.q) (addPoll_qsame _ _) (hf.qsame (addPoll_qsame _ _)) ?_
    rw [addPoll_pollCount h.q (Nat.lt_of_succ_lt hA), polledB_pos hp1, polledB_neg hp0]
  unfold start
  simp only []
  split
  · rename_i hc
    have hco := hfo.conn; unfold ConnOk at hco; rw [hc] at hco
    exact hw _ ⟨hfo.cur, hfo.has, hfo.pre, hfo.len, hfo.cid, Or.inl ⟨hco.1, Or.inl hco.2⟩⟩ rfl (by rw [hc]; rfl)
  · rename_i hh hc
    have hco := hfo.conn; unfold ConnOk at hco; rw [hc] at hco
    obtain ⟨c1, c2⟩ := hco
    have h1 : 1 ≤ hh := by rcases c2 with ⟨_, _, a, b⟩ | ⟨_, b⟩ <;> omega
    exact hw _ ⟨hfo.cur, hfo.has, hfo.pre, hfo.len, hfo.cid, ⟨by rw [c1]; rfl, h1, c2⟩⟩ rfl (by rw [hc]; rfl)
  · exact ⟨h.q.mono (Nat.le_succ _), h.hok, h.hlen, h.log, h.bnd, h.fol, h.cnt⟩

theorem deliverFiles_step {A s hist} (h : SInv A s hist) (n hh pos : Nat) (hc : (getF s.fols n).conn = .files hh pos) :
    SInv A (sstep s (.deliver n)).1 hist := by
  show SInv A (deliver s n).1 hist
  have hfo := h.fol n
  have hp : ∀ c : Conn, c.polled = true → c.polled = (getF s.fols n).conn.polled := fun c e => by rw [e, hc]; rfl
  unfold deliver
  simp only [hc]
  generalize getF s.fols n = f at hfo hc ⊢
  have hco := hfo.conn; unfold ConnOk at hco; rw [hc] at hco
  obtain ⟨hpos, hle, hcur⟩ := hco
  -- the end marker: all of `1 … hh-1` has been transferred
  have hstream : pos + 1 = hh → SInv A { s with fols := setF s.fols n { f with conn := .stream } } hist := by
    intro he
    refine sinv_setF h n ⟨hfo.cur, hfo.has, hfo.pre, hfo.len, hfo.cid, ?_⟩ (hp _ rfl)
    rcases hcur with ⟨a1, a2, a3, a4⟩ | ⟨b1, b2⟩
    · exact Or.inl ⟨a1, Or.inr ⟨a2, by show f.cur.seq = f.log.length; omega, a3⟩⟩
    · exact Or.inr ⟨b1, show f.log = [] from List.length_eq_zero_iff.mp (by omega)⟩
  split
  · rename_i id hid
    have hidv := prefix1_get h.log hid
    have hposn : pos < s.log.length := (List.getElem?_eq_some_iff.mp hid).1
    by_cases hlt : id < hh
    · rw [if_pos hlt]
      have hl : (f.log ++ [id]).length = pos + 1 := by rw [List.length_append, hpos]; rfl
      refine sinv_setF h n ⟨hfo.cur, hfo.has, ?_, (by show (f.log ++ [id]).length ≤ _; omega), hidv.trans hl.symm, ⟨hl, by omega, hcur⟩⟩ (hp _ rfl)
      show Prefix1 (f.log ++ [id])
      rw [hidv, ← hpos]; exact prefix1_snoc hfo.pre
    · rw [if_neg hlt]
      exact hstream (by omega)
  · rename_i hid
    -- no record at `pos`: only possible when nothing has been published and the cursor has no position
    have hge : s.log.length ≤ pos := List.getElem?_eq_none_iff.mp hid
    apply hstream
    rcases hcur with ⟨a1, _, a3, a4⟩ | ⟨_, b2⟩
    · have := (hfo.cur a1).1
      rw [h.qseq] at this
      omega
    · have := hfo.len; omega

/-- the guard of `deliver` in the stream phase: a cursor WITHOUT a position (transfer from scratch answered on an empty
buffer) takes its first record only while record 1 is still buffered -/
def FreshGuard (q : Q) (f : Fol) : Prop := f.cur.seq = seqNone → tailSeq q = 0

instance (q : Q) (f : Fol) : Decidable (FreshGuard q f) := by unfold FreshGuard; exact inferInstance

theorem deliver_stream {s : Sync} {n : Nat} (hc : (getF s.fols n).conn = .stream) :
    deliver s n = ({ s with q := (streamStep s.q (getF s.fols n)).1, fols := setF s.fols n (streamStep s.q (getF s.fols n)).2.1 },
      (streamStep s.q (getF s.fols n)).2.2) := by
  unfold deliver
  simp only [hc]

theorem deliverStream_step {A s hist} (h : SInv A s hist) (n : Nat) (hA : A < M32) (hc : (getF s.fols n).conn = .stream)
    (hg : FreshGuard s.q (getF s.fols n)) :
    SInv A (sstep s (.deliver n)).1 hist := by
  show SInv A (deliver s n).1 hist
  rw [deliver_stream hc]
  have hfo := h.fol n
  have hpb : (getF s.fols n).conn.polled = true := by rw [hc]; rfl
  rcases (connOk_stream hc).mp hfo.conn with ⟨hpos, hat⟩ | ⟨hnew, hlog⟩
  · rcases streamStep_spec h.q hA h.hok (h.qseq ▸ h.bnd) ⟨hpos, hfo.cur, hfo.has, hfo.pre, hat⟩ with e | k
    · rw [e]
      exact sinv_close h hA n hpb ⟨hfo.cur, hfo.has, hfo.pre, hfo.len, hfo.cid, trivial⟩ rfl
    · refine sinv_set h n k.inv k.same ⟨k.ok.cur, k.ok.has, k.ok.pre, ?_, ?_, ?_⟩ ?_
      · rw [← h.qseq, ← k.same.2.2]; exact k.ok.len_le
      · rcases k.log with ⟨e1, e2⟩ | ⟨e1, e2⟩ <;> rw [e1, e2]
        · exact hfo.cid
        · rw [List.length_append]; rfl
      · exact (connOk_stream (k.conn.trans hc)).mpr (Or.inl ⟨k.ok.pos, k.ok.at_⟩)
      · unfold polledB
        rw [k.pc, k.conn]
  · -- no position yet: `Pop` takes the oldest buffered record, which is record 1 by the guard
    have hts := hg (by rw [hnew]; rfl)
    have hfresh := pop_fresh h.q
    rw [← hnew] at hfresh
    fun_cases streamStep s.q (getF s.fols n)
    case case1 hw _ | case2 hw _ _ _ _ => rw [hnew] at hw; cases hw
    case case3 _ _ hr =>
      obtain ⟨t, _⟩ := pop_ok h.q hA hfo.cur hr
      have hsq : (pop s.q (getF s.fols n).cur).2.seq = 0 := by
        rcases hfresh with x | ⟨_, x⟩
        · rw [hr] at x; cases x
        · exact x.trans hts
      refine sinv_setF h n ⟨t.cur, t.has, hfo.pre, hfo.len, hfo.cid, (connOk_stream ?_).mpr (Or.inl ⟨t.pos (h.qseq ▸ h.bnd),
        Or.inr ⟨t.writed, by show _ = (getF s.fols n).log.length; rw [hsq, hlog]; rfl, t.bufId h.hok⟩⟩)⟩ rfl
      exact hc
    case case4 => exact sinv_setF h n hfo rfl
    case case5 _ _ hnok hneof =>
      rcases hfresh with x | ⟨x, _⟩
      · exact absurd x hneof
      · exact absurd x hnok

theorem dropChannel_step {A s hist} (h : SInv A s hist) (n : Nat) (hA : A < M32) (f' : Fol)
    (hoff : f'.conn = .off) (hcid : f'.curId = f'.log.length) (hpre : Prefix1 f'.log) (hlen : f'.log.length ≤ s.log.length)
    (hcur : f'.cur = (getF s.fols n).cur ∨ f'.cur = newCursor) :
    SInv A (dropChannel s n f') hist := by
  have hfo := h.fol n
  have hp0 : f'.conn.polled = false := by rw [hoff]; rfl
  have hf : FolOk s.q s.log.length f' := by
    refine ⟨?_, ?_, hpre, hlen, hcid, by unfold ConnOk; rw [hoff]; trivial⟩ <;> rcases hcur with e | e <;> rw [e]
    · exact hfo.cur
    · exact curOk_new _
    · exact hfo.has
    · exact curHas_new _
  unfold dropChannel
  simp only []
  cases hp : (getF s.fols n).conn.polled with
  | true => exact sinv_close h hA n hp hf hp0
  | false => exact sinv_setF h n hf (hp0.trans hp.symm)

theorem cut_step {A s hist} (h : SInv A s hist) (n : Nat) (hA : A < M32) :
    SInv A (sstep s (.cut n)).1 hist := by
  show SInv A (cut s n).1 hist
  unfold cut
  simp only []
  split
  · exact h
  · exact dropChannel_step h n hA _ rfl (h.fol n).cid (h.fol n).pre (h.fol n).len (Or.inl rfl)

theorem restartSame_step {A s hist} (h : SInv A s hist) (n : Nat) (hA : A < M32) :
    SInv A (sstep s (.restartSame n)).1 hist :=
  dropChannel_step h n hA _ rfl rfl (h.fol n).pre (h.fol n).len (Or.inl rfl)

theorem restartEmpty_step {A s hist} (h : SInv A s hist) (n : Nat) (hA : A < M32) :
    SInv A (sstep s (.restartEmpty n)).1 hist :=
  dropChannel_step h n hA Fol.new rfl rfl prefix1_nil (Nat.zero_le _) (Or.inr rfl)

/-- The side conditions of the events:
* `append`: fewer than 2^64-1 records (the cursor's "no position" value is not a real seq);
* `deliver` in the stream phase: a cursor without a position takes its first record while record 1 is still buffered
  (`C09_resync_fails_empty_buffer` shows that it is needed).
`connect` / `start` / `cut` / `restartSame` / `restartEmpty` need no guard. -/
def EvOk (s : Sync) : Ev → Prop
  | .append _ => s.log.length + 1 < seqNone
  | .deliver n => (getF s.fols n).conn = .stream → FreshGuard s.q (getF s.fols n)
  | _ => True

instance (s : Sync) (ev : Ev) : Decidable (EvOk s ev) := by
  cases ev <;> unfold EvOk <;> exact inferInstance

def SGuarded (s : Sync) : List Ev → Prop
  | [] => True
  | e :: es => EvOk s e ∧ SGuarded (sstep s e).1 es

instance sguardedDec : (s : Sync) → (es : List Ev) → Decidable (SGuarded s es)
  | _, [] => isTrue trivial
  | s, e :: es => @instDecidableAnd _ _ _ (sguardedDec (sstep s e).1 es)

def startsOf : Ev → Nat
  | .start _ => 1
  | _ => 0

def numStarts : List Ev → Nat
  | [] => 0
  | e :: es => startsOf e + numStarts es

theorem sstep_inv {A s hist} (h : SInv A s hist) (ev : Ev) (hok : EvOk s ev) (hA : A + startsOf ev < M32) :
    ∃ hist', SInv (A + startsOf ev) (sstep s ev).1 hist' := by
  cases ev with
  | append dlen => exact ⟨_, append_step h dlen hok⟩
  | connect n => exact ⟨_, connect_step h n⟩
  | start n => exact ⟨_, start_step h n hA⟩
  | deliver n =>
    refine ⟨hist, ?_⟩
    cases hc : (getF s.fols n).conn with
    | files a b => exact deliverFiles_step h n a b hc
    | stream => exact deliverStream_step h n hA hc (hok hc)
    | off => show SInv A (deliver s n).1 hist; unfold deliver; simp only [hc]; exact h
    | wait o => show SInv A (deliver s n).1 hist; unfold deliver; simp only [hc]; exact h
  | cut n => exact ⟨_, cut_step h n hA⟩
  | restartSame n => exact ⟨_, restartSame_step h n hA⟩
  | restartEmpty n => exact ⟨_, restartEmpty_step h n hA⟩

theorem srun_inv {A s hist} (evs : List Ev) (h : SInv A s hist) (hg : SGuarded s evs) (hA : A + numStarts evs < M32) :
    ∃ hist', SInv (A + numStarts evs) (srun s evs) hist' := by
  induction evs generalizing A s hist with
  | nil => exact ⟨hist, h⟩
  | cons e es ih =>
    simp only [numStarts] at hA ⊢
    obtain ⟨h1, i1⟩ := sstep_inv h e hg.1 (by omega)
    rw [← Nat.add_assoc]
    exact ih i1 hg.2 (by omega)

theorem range'_take (s a b : Nat) (h : a ≤ b) : List.range' s a = (List.range' s b).take a := by
  induction a generalizing s b with
  | zero => simp
  | succ a ih =>
    cases b with
    | zero => omega
    | succ b =>
      simp only [List.range'_succ, List.take_succ_cons]
      rw [ih (s + 1) b (by omega)]

theorem sinv_prefix {A s hist} (h : SInv A s hist) (n : Nat) :
    (getF s.fols n).log = s.log.take (getF s.fols n).log.length ∧ (getF s.fols n).log.length ≤ s.log.length := by
  have hf := h.fol n
  refine ⟨?_, hf.len⟩
  rw [(h.log : s.log = _), ← range'_take 1 _ _ hf.len]
  exact hf.pre

theorem sinv_converge {A s hist} (h : SInv A s hist) (n : Nat) (hc : (getF s.fols n).conn = .stream)
    (hi : (sstep s (.deliver n)).2 = .idle) : (getF s.fols n).log = s.log := by
  have hf := h.fol n
  have hi' : (deliver s n).2 = .idle := hi
  rw [deliver_stream hc] at hi'
  have hlen : (getF s.fols n).log.length = s.log.length := by
    rw [← h.qseq]
    rcases (connOk_stream hc).mp hf.conn with ⟨hpos, hat⟩ | ⟨hnew, hlog⟩
    · exact StreamOk.idle_len ⟨hpos, hf.cur, hf.has, hf.pre, hat⟩ h.q hi'
    · obtain ⟨_, g⟩ := streamStep_idle h.q hi'
      have := h.bnd
      have := h.qseq
      have : (getF s.fols n).cur.seq = seqNone := by rw [hnew]; rfl
      rw [hlog]
      show 0 = s.q.seq
      omega
  rw [(hf.pre : (getF s.fols n).log = _), (h.log : s.log = _), hlen]

end Slock.Repl
