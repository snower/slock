import Slock.Proofs.Engine2SimFrames
/-! Simulation stage 2 → stage 1: what a chain of helper steps does to the working state, in EDIT NORMAL FORM. Up to its reclaim check,
counters, replies and wake pass, the body of every LOCK / UNLOCK branch edits ONE lock record `h` (by some `f`), the key's `locked`
(by some `g`), spends `n` wheel sequence numbers, and apart from that changes only what no `Ins` projection reads (journal / value
fields, reference counts); no lock record appears or goes. `Edit h f g n w w'` says so; `f`, `g`, `n` compose along the chain, one lemma
per helper. `SX`, `SC`, `PK π`, `hasRec`, the edited record itself are read off the result. -/
namespace Slock.Engine2

/-- a lock record without the fields every bookkeeping step may edit: `Ins π` says that `π` factors through this -/
def Rec.vis (r : Rec) : Rec := { r with refCount := 0, isAof := false, aofData := false, data := none }

theorem ins_vis : Ins Rec.vis := ⟨fun _ _ => rfl, fun _ _ => rfl, fun _ _ => rfl, fun _ _ => rfl⟩

/-- `if lock.longWaitIndex > 0 { RemoveLong… }` as an edit of the record -/
def Rec.dropE (r : Rec) : Rec := if r.eLong then { r with eSched := none } else r
def Rec.dropT (r : Rec) : Rec := if r.tLong then { r with tSched := none } else r

theorem getR_unwheel_other (k : Key) (clr : Rec → Rec) (hf : ∀ r, (clr r).rid = r.rid) {h y : Nat} (hy : y ≠ h) :
    ((k.modRec h clr).unrefOnly h).getR y = k.getR y := by
  unfold Key.unrefOnly
  rw [getR_modRec_other _ _ _ _ hy, getR_modRec_other _ _ _ _ hy hf]

end Slock.Engine2

namespace Slock.Sim
open Slock Slock.Engine2
open Slock.Engine (has)

/-- `w'` is `w` with lock record `h` edited by `f`, `locked` by `g`, `n` wheel sequence numbers spent, and nothing else changed that an `Ins`
projection reads -/
structure Edit (h : Nat) (f : Rec → Rec) (g : Nat → Nat) (n : Nat) (w w' : W) : Prop where
  seq : w'.db.seq = w.db.seq + n
  eCheck : w'.db.eCheck = w.db.eCheck
  tCheck : w'.db.tCheck = w.db.tCheck
  now : w'.db.now = w.db.now
  ctr : w'.db.ctr = w.db.ctr
  leader : w'.db.leader = w.db.leader
  gone : w'.gone = w.gone
  out : w'.out = w.out
  key : w'.k.key = w.k.key
  waited : w'.k.waited = w.k.waited
  wp : w'.k.waitPrio = w.k.waitPrio
  q : w'.k.queues = w.k.queues
  locked : w'.k.locked = g w.k.locked
  /-- equal, not included: so a record that is there at one end of a chain is there at the other, and `hasRec` of the queue members
  after the chain comes from the reference counts BEFORE it — no invariant is needed at the states in between -/
  ids : w'.k.ids = w.k.ids
  other : ∀ y, y ≠ h → (w'.k.getR y).vis = (w.k.getR y).vis
  self : w.k.hasRec h → (w'.k.getR h).vis = (f (w.k.getR h)).vis

namespace Edit
variable {h : Nat} {f : Rec → Rec} {g : Nat → Nat} {n : Nat} {w0 w : W}

theorem refl (w : W) : Edit h id id 0 w w := ⟨rfl, rfl, rfl, rfl, rfl, rfl, rfl, rfl, rfl, rfl, rfl, rfl, rfl, rfl, fun _ _ => rfl, fun _ => rfl⟩

theorem hasRec (e : Edit h f g n w0 w) (y : Nat) : w.k.hasRec y ↔ w0.k.hasRec y := hasRec_of_ids e.ids y

theorem cast {f' : Rec → Rec} {n' : Nat} (e : Edit h f g n w0 w) (hn : n' = n)
    (hf : w0.k.hasRec h → (f' (w0.k.getR h)).vis = (f (w0.k.getR h)).vis) : Edit h f' g n' w0 w :=
  hn ▸ { e with self := fun hh => (e.self hh).trans (hf hh).symm }

/-- one more step on record `h`, spending no sequence number: `f'` is what it does to the record, up to the fields `vis` drops -/
theorem step {w' : W} (e : Edit h f g n w0 w) (f' : Rec → Rec) (sc : SC w w') (hk : w'.k.key = w.k.key) (hw : w'.k.waited = w.k.waited)
    (hp : w'.k.waitPrio = w.k.waitPrio) (hq : w'.k.queues = w.k.queues) (hl : w'.k.locked = w.k.locked) (hi : w'.k.ids = w.k.ids)
    (ho : ∀ y, y ≠ h → (w'.k.getR y).vis = (w.k.getR y).vis) (hs : w.k.hasRec h → (w'.k.getR h).vis = (f' (w.k.getR h)).vis)
    (hc : ∀ r, (f' r).vis = (f' r.vis).vis) : Edit h (fun r => f' (f r)) g n w0 w' :=
  ⟨sc.seq.trans e.seq, sc.eCheck.trans e.eCheck, sc.tCheck.trans e.tCheck, sc.now.trans e.now, sc.ctr.trans e.ctr, sc.leader.trans e.leader,
   sc.gone.trans e.gone, sc.out.trans e.out, hk.trans e.key, hw.trans e.waited, hp.trans e.wp, hq.trans e.q, hl.trans e.locked, hi.trans e.ids,
   fun y hy => (ho y hy).trans (e.other y hy), fun hh => by rw [hs ((e.hasRec h).mpr hh), hc, e.self hh, ← hc]⟩

/-- a step that `Ins` projections of no record can see (journal, value, a reference count) -/
theorem inert {w' : W} (e : Edit h f g n w0 w) (sc : SC w w') (hk : w'.k.key = w.k.key) (hw : w'.k.waited = w.k.waited)
    (hp : w'.k.waitPrio = w.k.waitPrio) (hq : w'.k.queues = w.k.queues) (hl : w'.k.locked = w.k.locked) (hi : w'.k.ids = w.k.ids)
    (hv : ∀ y, (w'.k.getR y).vis = (w.k.getR y).vis) : Edit h f g n w0 w' :=
  e.step id sc hk hw hp hq hl hi (fun y _ => hv y) (fun _ => hv h) (fun _ => rfl)

theorem when {f' : W → W} (e : Edit h f g n w0 w) (b : Bool) (hf : Edit h f g n w0 w → Edit h f g n w0 (f' w)) :
    Edit h f g n w0 (w.when b f') := by
  cases b
  · exact e
  · exact hf e

theorem book {data : Option Bytes} {q : Bool} {w' : W} (e : Edit h f g n w0 w) (c : Chain data true q w w') (sc : SC w w')
    (hl : w'.k.locked = w.k.locked) : Edit h f g n w0 w' :=
  e.inert sc c.fr.key c.waited
    (c.book (J := fun x => x.k.waitPrio = w.k.waitPrio) (fun _ _ _ _ j => j) (fun _ _ _ j => j) (fun _ _ _ _ j => j) (fun _ _ j => j) rfl)
    c.queues hl c.ids (c.proj ins_vis)

theorem procData (e : Edit h f g n w0 w) (t : Slock.Value.CmdType) (c : Cmd) (fr : Option Bytes) (rid : Nat) :
    Edit h f g n w0 (w.procData t c fr rid) :=
  e.book (book_procData w t c fr rid) (SC.procData w t c fr rid) (procData_locked w t c fr rid)

theorem pushLockAof (e : Edit h f g n w0 w) (rid flag : Nat) : Edit h f g n w0 (w.pushLockAof rid flag) :=
  e.book (book_pushLockAof w rid flag) (SC.pushLockAof w rid flag) (book_pushLockAof w rid flag).qt.locked

theorem pushLockAofN (m : Nat) (e : Edit h f g n w0 w) (rid : Nat) : Edit h f g n w0 (W.pushLockAofN m w rid) := by
  induction m generalizing w with
  | zero => exact e
  | succ m ih => unfold W.pushLockAofN; exact ih (e.pushLockAof rid 0)

theorem pushUnLockAof (e : Edit h f g n w0 w) (rid : Nat) (lc : Cmd) (fa ia : Bool) (flag : Nat) :
    Edit h f g n w0 (w.pushUnLockAof rid lc fa ia flag) :=
  e.book (book_pushUnLockAof w rid lc fa ia flag) (SC.pushUnLockAof w rid lc fa ia flag) (book_pushUnLockAof w rid lc fa ia flag).qt.locked

theorem journalLock (e : Edit h f g n w0 w) (rid flag : Nat) : Edit h f g n w0 (w.journalLock rid flag) := e.when _ (·.pushLockAof rid flag)
theorem journalUnlock (e : Edit h f g n w0 w) (rid : Nat) (fa ia : Bool) (flag : Nat) : Edit h f g n w0 (w.journalUnlock rid fa ia flag) :=
  e.when _ (·.pushUnLockAof rid _ fa ia flag)

/-- an edit of a record that no `Ins` projection can see (`lock.refCount++`, `lock.command.Data = nil`) -/
theorem modR_inert (e : Edit h f g n w0 w) (rid : Nat) (f' : Rec → Rec) (hrid : ∀ r, (f' r).rid = r.rid) (hv : ∀ r, (f' r).vis = r.vis) :
    Edit h f g n w0 (w.modR rid f') :=
  e.inert (SC.modR w rid f') rfl rfl rfl rfl rfl (ids_modR w rid f' hrid) (fun y => getR_modRec_proj Rec.vis w.k rid y f' hv hrid)

theorem grantNoHold (e : Edit h f g n w0 w) (rid : Nat) : Edit h f g n w0 (w.grantNoHold rid) := by
  unfold W.grantNoHold
  exact ((e.procData _ _ _ _).when _ (·.pushLockAof rid 0)).modR_inert rid _ (fun _ => rfl) (fun _ => rfl)

theorem ref (e : Edit h f g n w0 w) (rid : Nat) : Edit h f g n w0 (w.ref rid) := e.modR_inert rid _ (fun _ => rfl) (fun _ => rfl)

/-- the edit of record `h` itself; `hc` is `fun _ => rfl` for a field update that neither reads nor writes the fields `vis` drops -/
theorem modR (e : Edit h f g n w0 w) (f' : Rec → Rec) (hrid : ∀ r, (f' r).rid = r.rid) (hc : ∀ r, (f' r).vis = (f' r.vis).vis) :
    Edit h (fun r => f' (f r)) g n w0 (w.modR h f') :=
  e.step f' (SC.modR w h f') rfl rfl rfl rfl rfl (ids_modR w h f' hrid)
    (fun y hy => by rw [show (w.modR h f').k.getR y = w.k.getR y from getR_modRec_other _ _ _ _ hy hrid])
    (fun hh => by rw [show (w.modR h f').k.getR h = f' (w.k.getR h) from getR_modRec_same _ _ _ hh hrid]) hc

theorem modK (e : Edit h f g n w0 w) (φ : Key → Key) (g' : Nat → Nat) (h1 : (φ w.k).key = w.k.key) (h2 : (φ w.k).waited = w.k.waited)
    (h3 : (φ w.k).queues = w.k.queues) (h4 : (φ w.k).recs = w.k.recs) (h5 : (φ w.k).locked = g' w.k.locked)
    (h6 : (φ w.k).waitPrio = w.k.waitPrio) :
    Edit h f (fun m => g' (g m)) n w0 (w.modK φ) := by
  have hg : ∀ y, (w.modK φ).k.getR y = w.k.getR y := fun y => by show (φ w.k).getR y = _; unfold Key.getR; rw [h4]
  have hi : (w.modK φ).k.ids = w0.k.ids := by show (φ w.k).ids = _; unfold Key.ids; rw [h4]; exact e.ids
  exact { e with
    key := h1.trans e.key, waited := h2.trans e.waited, wp := h6.trans e.wp, q := h3.trans e.q, locked := h5.trans (congrArg g' e.locked), ids := hi
    other := fun y hy => (hg y ▸ e.other y hy :), self := fun hh => (hg h ▸ e.self hh :) }

/-- a wheel entry of record `h` goes (`clr`), and with it one reference -/
theorem unwheel (e : Edit h f g n w0 w) (clr : Rec → Rec) (hf : ∀ r, (clr r).rid = r.rid) (hc : ∀ r, (clr r).vis = (clr r.vis).vis) :
    Edit h (fun r => clr (f r)) g n w0 (w.modK (fun k => (k.modRec h clr).unrefOnly h)) := by
  refine e.step clr (SC.modK w _) rfl rfl rfl rfl rfl ?_ (fun y hy => congrArg Rec.vis (getR_unwheel_other w.k clr hf hy)) (fun hh => ?_) hc
  · show ((w.k.modRec h clr).unrefOnly h).ids = w.k.ids
    unfold Key.unrefOnly
    rw [ids_modRec _ _ _, ids_modRec _ _ _ hf]
  · show (((w.k.modRec h clr).unrefOnly h).getR h).vis = _
    rw [(getR_unwheelUnref w.k h clr hf hh).2]; rfl

/-- `if lock.long…Index > 0 { RemoveLong… }` -/
theorem dropLong (e : Edit h f g n w0 w) (long : Rec → Bool) (clr : Rec → Rec) (hf : ∀ r, (clr r).rid = r.rid)
    (hc : ∀ r, (clr r).vis = (clr r.vis).vis) (hl : ∀ r, long r = long r.vis) :
    Edit h (fun r => if long (f r) then clr (f r) else f r) g n w0
      (w.when (long (w.k.getR h)) (·.modK (fun k => (k.modRec h clr).unrefOnly h))) := by
  have hlf : w0.k.hasRec h → long (f (w0.k.getR h)) = long (w.k.getR h) := fun hh => by rw [hl, ← e.self hh, ← hl]
  cases hw : long (w.k.getR h) with
  | false => exact e.cast rfl (fun hh => by rw [hlf hh, hw]; rfl)
  | true => exact (e.unwheel clr hf hc).cast rfl (fun hh => by rw [hlf hh, hw]; rfl)

theorem removeLongE (e : Edit h f g n w0 w) : Edit h (fun r => ({ f r with eSched := none } : Rec)) g n w0 (w.removeLongE h) :=
  e.unwheel (fun r => { r with eSched := none }) (fun _ => rfl) (fun _ => rfl)

theorem dropLongE (e : Edit h f g n w0 w) : Edit h (fun r => (f r).dropE) g n w0 (w.dropLongE h) :=
  e.dropLong Rec.eLong (fun r => { r with eSched := none }) (fun _ => rfl) (fun _ => rfl) (fun _ => rfl)

theorem dropLongT (e : Edit h f g n w0 w) : Edit h (fun r => (f r).dropT) g n w0 (w.dropLongT h) :=
  e.dropLong Rec.tLong (fun r => { r with tSched := none }) (fun _ => rfl) (fun _ => rfl) (fun _ => rfl)

/-- `AddExpried` of record `h`: one sequence number, the record re-armed on the wheel as it stands in the database at that moment -/
theorem addExpried (e : Edit h f g n w0 w) :
    Edit h (fun r => Rec.armE (Engine.wheelAdd w0.db.eCheck (w0.db.seq + n) (f r).expT (f r).eChecked) (f r)) g (n + 1) w0 (w.addExpried h) := by
  have hc : ∀ r : Rec, (Rec.armE (Engine.wheelAdd w0.db.eCheck (w0.db.seq + n) r.expT r.eChecked) r).vis =
      (Rec.armE (Engine.wheelAdd w0.db.eCheck (w0.db.seq + n) r.vis.expT r.vis.eChecked) r.vis).vis := fun _ => rfl
  have e1 : Edit h (fun r => Rec.armE (Engine.wheelAdd w0.db.eCheck (w0.db.seq + n) (f r).expT (f r).eChecked) (f r)) g (n + 1) w0
      (w.schedExpried h) := by
    exact { e with
      seq := by show w.db.seq + 1 = _; rw [e.seq, Nat.add_assoc]
      ids := (ids_modRec _ _ _).trans e.ids
      other := fun y hy => by
        rw [show (w.schedExpried h).k.getR y = w.k.getR y from getR_modRec_other _ _ _ _ hy]; exact e.other y hy
      self := fun hh => by
        rw [show (w.schedExpried h).k.getR h = Rec.armE (Engine.wheelAdd w.db.eCheck w.db.seq (w.k.getR h).expT (w.k.getR h).eChecked)
          (w.k.getR h) from getR_modRec_same _ _ _ ((e.hasRec h).mpr hh), e.eCheck, e.seq, hc, e.self hh, ← hc] }
  unfold W.addExpried
  exact e1.when _ (fun e' => e'.pushLockAofN _ h)

/-- `AddTimeOut` of record `h`: one sequence number, the record armed on the timeout wheel as it stands in the database at that moment -/
theorem addTimeOut (e : Edit h f g n w0 w) :
    Edit h (fun r => Rec.armT (Engine.wheelAdd w0.db.tCheck (w0.db.seq + n) (f r).timeoutT (f r).tChecked) (f r)) g (n + 1) w0 (w.addTimeOut h) := by
  have hc : ∀ r : Rec, (Rec.armT (Engine.wheelAdd w0.db.tCheck (w0.db.seq + n) r.timeoutT r.tChecked) r).vis =
      (Rec.armT (Engine.wheelAdd w0.db.tCheck (w0.db.seq + n) r.vis.timeoutT r.vis.tChecked) r.vis).vis := fun _ => rfl
  exact { e with
    seq := by show w.db.seq + 1 = _; rw [e.seq, Nat.add_assoc]
    ids := (ids_modRec _ _ _).trans e.ids
    other := fun y hy => by
      rw [show (w.addTimeOut h).k.getR y = w.k.getR y from getR_modRec_other _ _ _ _ hy]; exact e.other y hy
    self := fun hh => by
      rw [show (w.addTimeOut h).k.getR h = Rec.armT (Engine.wheelAdd w.db.tCheck w.db.seq (w.k.getR h).timeoutT (w.k.getR h).tChecked)
        (w.k.getR h) from getR_modRec_same _ _ _ ((e.hasRec h).mpr hh), e.tCheck, e.seq, hc, e.self hh, ← hc] }

theorem sc (e : Edit h f g 0 w0 w) : SC w0 w := ⟨e.seq, e.eCheck, e.tCheck, e.now, e.ctr, e.leader, e.gone, e.out⟩

theorem sx (e : Edit h f g n w0 w) : SX (· = h) w0 w :=
  ⟨e.key, e.waited, e.q, fun y _ hy => (e.hasRec y).mp hy, fun y hy _ => (congrArg πA (e.other y hy) :)⟩

theorem sx0 (e : Edit h id g n w0 w) : SX (fun _ => False) w0 w :=
  ⟨e.key, e.waited, e.q, fun y _ hy => (e.hasRec y).mp hy, fun y _ hy => by
    by_cases ey : y = h
    · subst ey; exact (congrArg πA (e.self ((e.hasRec y).mp hy)) :)
    · exact (congrArg πA (e.other y ey) :)⟩

theorem pk {α : Type} {π : Rec → α} (e : Edit h f g n w0 w) (hπ : ∀ r, π r = π r.vis) (hf : ∀ r, π (f r) = π r) : PK π w w0 :=
  ⟨fun y hy => (e.hasRec y).mp hy, fun y hy => by
    by_cases ey : y = h
    · subst ey; rw [hπ, e.self ((e.hasRec y).mp hy), ← hπ, hf]
    · rw [hπ, e.other y ey, ← hπ]⟩

theorem getR (e : Edit h f g n w0 w) (hh : w0.k.hasRec h) {α : Type} (π : Rec → α) (hπ : ∀ r, π r = π r.vis) :
    π (w.k.getR h) = π (f (w0.k.getR h)) := by rw [hπ, e.self hh, ← hπ]

theorem scal {a : Engine.DB} (e : Edit h f g n w0 w) (s : Scal a w0.db) : Scal { a with seq := a.seq + n } w.db :=
  ⟨s.now.trans e.now.symm, s.tCheck.trans e.tCheck.symm, s.eCheck.trans e.eCheck.symm, (congrArg (· + n) s.seq).trans e.seq.symm,
   s.leader.trans e.leader.symm, s.ctr.trans e.ctr.symm⟩

end Edit

end Slock.Sim
