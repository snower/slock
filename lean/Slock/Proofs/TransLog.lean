import Slock.Proofs.TransSrc
import Slock.Proofs.TransInv
/-! M-TRANS: the ghost field `Conn.got` IS the list of lock / unlock results the connection's client was handed —
defined from the outputs of the steps alone (`delivered`). -/
namespace Slock.Trans
open Slock.Gen

variable {s : Node} {x : Conn} {c : Nat} {e : Event}

def msgsTo (c : Nat) (ms : List (Nat × ToClient)) : List Nat :=
  ms.filterMap (fun p => if p.1 = c then lockShaped p.2 else none)

/-- the RequestIds of all lock / unlock results connection `c`'s client receives over a run, in order -/
def delivered (c : Nat) : Node → List Event → List Nat
  | _, [] => []
  | s, e :: es => msgsTo c (step s e).2.client ++ delivered c (step s e).1 es

theorem msgsTo_nil (c : Nat) : msgsTo c [] = [] := rfl

theorem msgsTo_append (c : Nat) (a b : List (Nat × ToClient)) : msgsTo c (a ++ b) = msgsTo c a ++ msgsTo c b :=
  List.filterMap_append

theorem msgsTo_eq_nil {ms : List (Nat × ToClient)} (h : ∀ p ∈ ms, p.1 = c → lockShaped p.2 = none) : msgsTo c ms = [] :=
  List.filterMap_eq_nil_iff.mpr (fun p hp => by split; exact h p hp ‹_›; rfl)

theorem msgsTo_single (c : Nat) (m : ToClient) : msgsTo c [(c, m)] = (lockShaped m).toList := by
  simp only [msgsTo, List.filterMap_cons, if_true, List.filterMap_nil]
  cases lockShaped m <;> rfl

theorem got_unshaped {g : List Nat} {m : ToClient} (h : lockShaped m = none) : g = g ++ msgsTo c [(c, m)] := by
  rw [msgsTo_single, h]; exact (List.append_nil _).symm

theorem applyConn_got (s : Node) (c : Nat) (x : Conn) (rid : Option Nat) (b : Branch)
    (hack : ∀ ct cmd l n pre aw a, b = .fwdLk ct cmd l n pre aw (some a) → lockShaped a = none) :
    (applyConn s c x rid b).1.got = x.got ++ msgsTo c (applyConn s c x rid b).2.client := by
  cases b with
  | refuse m => simp only [applyConn, addGot_got, msgsTo_single, dispatched_got]
  | probed r => simp only [applyConn, addGot_got, msgsTo_single, dispatched_got]
  | fwdLk ct cmd l n pre aw ack =>
    cases ack with
    | none => exact (List.append_nil _).symm
    | some a => exact got_unshaped (hack _ _ _ _ _ _ a rfl)
  | initRefused rid' cid => exact got_unshaped rfl
  | _ => exact (List.append_nil _).symm

theorem willConn_got (s : Node) (c : Nat) (x : Conn) (ct : CType) (cmd : LockCmd) :
    (willConn s c x ct cmd).1.got = x.got ++ msgsTo c (willConn s c x ct cmd).2.client := by
  rw [msgsTo_eq_nil (fun p hp _ => ?_), List.append_nil]
  · rcases willConn_conn s c x ct cmd with h | h <;> rw [h] <;> rfl
  · rw [(willConn_client (c' := p.1) (m := p.2) hp).2]; rfl

theorem relay_got (s : Node) (c : Nat) (x : Conn) (l : Link) (msg : LeaderMsg) (early : Bool) :
    (relay s c x l msg early).1.got = x.got ++ msgsTo c (relay s c x l msg early).2 := by
  fun_cases relay s c x l msg early
  case case1 => rw [addGot_got, msgsTo_single]
  case case2 | case5 => exact got_unshaped rfl
  case case7 =>
    unfold textDeliver
    cases x.half
    · rw [if_neg Bool.false_ne_true, addGot_got, msgsTo_single]
    · exact (List.append_nil _).symm
  all_goals exact (List.append_nil _).symm

theorem downConn_got (s : Node) (c : Nat) (x : Conn) :
    (downConn s c x).1.got = x.got ++ msgsTo c (downConn s c x).2.client := by
  refine onLink_ind (P := fun r => r.1.got = x.got ++ msgsTo c r.2.client) (List.append_nil _).symm (fun l _ => ?_)
  · simp only [dropLink]
    have key : ∀ r : Conn × List (Nat × ToClient), r.1.got = x.got ++ msgsTo c r.2 →
        (if r.1.closed = true then r.1 else { r.1 with link := none }).got = x.got ++ msgsTo c r.2 := by
      intro r hr; split <;> exact hr
    apply key
    split
    · exact relay_got ..
    · exact (List.append_nil _).symm

theorem closeConn_got (s : Node) (c : Nat) (x : Conn) (cut : Option Nat) :
    (closeConn s c x cut).1.got = x.got ++ msgsTo c (closeConn s c x cut).2.client := by
  rw [closeConn_client]
  unfold closeConn
  cases x.closed
  · cases x.awaiting <;> exact (List.append_nil _).symm
  · exact (List.append_nil _).symm

theorem connStep_got (ht : e.target = some c) :
    (connStep s x e).1.got = x.got ++ msgsTo c (connStep s x e).2.client := by
  cases e with
  | request d short q =>
    cases ht
    rcases will_or_not q with ⟨ct, cmd, rfl⟩ | hq
    · exact willConn_got ..
    · rw [connStep_request hq]
      refine applyConn_got _ _ _ _ _ (fun _ _ _ _ _ _ a h => ?_)
      rcases classify_ack h with h' | h' <;> cases h'
      rfl
  | leaderMsg d m early =>
    cases ht
    exact onLink_ind (P := fun r => r.1.got = x.got ++ msgsTo c r.2.client) (List.append_nil _).symm (fun l _ => relay_got ..)
  | linkDown d => cases ht; exact downConn_got ..
  | close d => cases ht; exact closeConn_got ..
  | closeCut d k => cases ht; exact closeConn_got ..
  | _ => cases ht

/-- connection `c`'s share of what `dropAll` hands to clients is what the loss of its own link hands to it -/
theorem msgsTo_dropAll (s : Node) (c : Nat) : ∀ (xs : List Conn) (i : Nat), i ≤ c →
    msgsTo c (dropAll s i xs).2.1 = (xs[c - i]?.map fun x => msgsTo c (downConn s c x).2.client).getD []
  | [], _, _ => rfl
  | x :: xs, i, hi => by
    rw [(dropAll_cons s i x xs).2.1, msgsTo_append]
    rcases Nat.eq_or_lt_of_le hi with rfl | hlt
    · rw [msgsTo_eq_nil (ms := (dropAll s (i + 1) xs).2.1) (fun p hp h => ?_), Nat.sub_self, List.append_nil]; rfl
      obtain ⟨_, hle, _⟩ := dropAll_client_mem hp
      exact absurd (h ▸ hle) (Nat.not_succ_le_self i)
    · rw [msgsTo_eq_nil (fun p hp h => ?_), msgsTo_dropAll s c xs (i + 1) hlt, List.nil_append, List.getElem?_cons,
        if_neg (Nat.sub_ne_zero_of_lt hlt), Nat.sub_add_eq]
      exact absurd ((downConn_client (c' := p.1) (m := p.2) hp).1.symm.trans h) (Nat.ne_of_lt hlt)

def gotOf (s : Node) (c : Nat) : List Nat := (s.conns[c]?.map (·.got)).getD []

/-- a connection that does not exist yet is handed nothing and starts with an empty `got` -/
theorem got_step (s : Node) (e : Event) (c : Nat) : gotOf (step s e).1 c = gotOf s c ++ msgsTo c (step s e).2.client := by
  unfold gotOf
  rcases step_cases s e with ⟨k, _, hcs, hcl, _⟩ | ⟨a, _, hcs, hcl, _⟩ | ⟨hcs, hcl, _⟩ | ⟨d, x, ht, hx, hcs, hout⟩
  · rw [hcs, hcl, msgsTo_nil, List.append_nil, List.getElem?_append]
    split
    · rfl
    · rename_i h
      rw [List.getElem?_eq_none (Nat.le_of_not_lt h)]
      cases c - s.conns.length <;> rfl
  · rw [hcs, hcl, dropAll_get, msgsTo_dropAll _ _ _ _ (Nat.zero_le c), Nat.sub_zero]
    cases s.conns[c]? with
    | none => rfl
    | some x => exact downConn_got ..
  · rw [hcs, hcl, msgsTo_nil, List.append_nil]
  · rw [hcs, hout]
    by_cases hd : d = c
    · subst hd
      rw [List.getElem?_set_self (idx_lt hx), hx]
      exact connStep_got ht
    · rw [List.getElem?_set_ne hd, msgsTo_eq_nil (fun p hp h => ?_), List.append_nil]
      exact absurd ((connStep_client_idx ht hp).symm.trans h) hd

theorem got_run (c : Nat) : ∀ (evs : List Event) (s : Node), gotOf (runFrom s evs) c = gotOf s c ++ delivered c s evs
  | [], _ => (List.append_nil _).symm
  | e :: es, s => by
    show gotOf (runFrom (step s e).1 es) c = _
    rw [got_run c es, got_step, delivered, List.append_assoc]

theorem got_delivered {evs : List Event} (hx : (run evs).conns[c]? = some x) :
    x.got = delivered c {} evs := by
  have h := got_run c evs {}
  rwa [← run, gotOf, hx] at h

/-- At most one result per request, from any state that satisfies the invariant -/
theorem delivered_nodup (hs : NInv s) (evs : List Event) (hok : OkRun s evs) (c : Nat) :
    (gotOf s c ++ delivered c s evs).Nodup := by
  rw [← got_run, gotOf]
  cases h : (runFrom s evs).conns[c]? with
  | none => exact .nil
  | some x => exact (ninv_run evs hs hok x (List.mem_of_getElem? h)).gotNodup

end Slock.Trans
