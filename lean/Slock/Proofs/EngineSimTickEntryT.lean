import Slock.Proofs.EngineSimTickRel
import Slock.Proofs.EngineSimTickKT
import Slock.Proofs.EngineSimTickLong
/-! Clock-tick simulation (`sim_tick`): the sweeper and ONE entry of the timeout wheel, on the record level against stage 1: a tombstoned
entry is dropped (stuttering), a live one not yet due re-armed (stage 1's `rearmWaiter`), a due long-table entry taken in hand (`collectT`:
stage 1's view of the request loses its `long` flag), a collected request timed out (`doTimeOut`: stage 1's `fireTimeout`). The sweeper edits
the wheel entry of ONE live request; stage 1 replaces "every request with that (RequestId, connection)" — with distinct pairs, that one
(`abs_edit_waiter`). -/
namespace Slock.SimTick
open Slock Slock.Sim Slock.Engine2

/-- stage 1 (`Engine.rcW`, with `rc_match`) and the record-level side (`Sim.rcOf`) name the identity of a queued request each for itself;
the two are one function, by `rfl` -/
theorem rcOf_eq_rcW : rcOf = Engine.rcW := rfl

theorem abs_edit_waiter {k k' : Key} (x : Nat) (hk : k'.key = k.key) (hlk : k'.locked = k.locked) (hw : k'.waited = k.waited) (q : k'.queues = k.queues)
    (p : PKeepX πA (· = x) k' k)
    (hrec : ∀ y ∈ k.current.toList ++ k.locks ++ k.wait.map (·.rid), k'.hasRec y)
    (hm : x ∈ k.wait.map (·.rid)) (hd : k.deadWaiter x = false) (hd' : k'.deadWaiter x = false)
    (hnot : x ∉ k.current.toList ++ k.locks) (wu : ((Key.abs k).waiters.map rcOf).Nodup) :
    Key.abs k' = mapW (Key.abs k) (waiterOf k x) (waiterOf k' x) := by
  obtain ⟨q1, q2, q3⟩ := queues_eq q
  rw [mapW_eq]
  refine abs_ext hk hlk ?_ ?_ hw
  · exact abs_holders_congr q1 q2 p (fun y hy e => hnot (e ▸ hy)) (fun y hy => hrec y (List.mem_append_left _ hy))
  · show (Key.abs k').waiters = (Key.abs k).waiters.map (replW (waiterOf k x) (waiterOf k' x))
    rw [abs_waiters] at wu ⊢
    rw [List.map_map] at wu
    rw [abs_waiters, q3, List.map_map]
    have hxm : x ∈ (k.wait.map (·.rid)).filter (fun y => !k.deadWaiter y) := List.mem_filter.mpr ⟨hm, by rw [hd]; rfl⟩
    apply filter_map_congr_on
    intro y hy
    by_cases e : y = x
    · subst e
      rw [hd, hd']
      refine ⟨rfl, fun _ => ?_⟩
      simp [Function.comp, replW]
    · obtain ⟨ht, hv⟩ := p.waiter e (hrec y (List.mem_append_right _ hy))
      refine ⟨by rw [ht], fun hl => ?_⟩
      have hym : y ∈ (k.wait.map (·.rid)).filter (fun y => !k.deadWaiter y) := List.mem_filter.mpr ⟨hy, hl⟩
      have hne : rcOf (waiterOf k y) ≠ rcOf (waiterOf k x) := fun e' => e (nodup_map_inj _ _ wu hym hxm e')
      show waiterOf k' y = replW (waiterOf k x) (waiterOf k' x) (waiterOf k y)
      unfold replW
      rw [if_neg (mt (rc_match (waiterOf k y) (waiterOf k x)).mp hne)]
      exact hv

theorem mapW_unlong (k : Engine.Key) (w : Engine.Waiter) (hw : w ∈ k.waiters) (wu : (k.waiters.map rcOf).Nodup) :
    mapW k w (unlong w) = clrK [rcId k.key w] k := by
  rw [mapW_eq]
  unfold clrK
  congr 1
  apply List.map_congr_left
  intro v hv
  unfold replW clr
  by_cases e : v = w
  · subst e
    simp
  · have hne : rcOf v ≠ rcOf w := fun e' => e (nodup_map_inj rcOf _ wu hv hw e')
    have hn : rcId k.key v ∉ [rcId k.key w] := fun hm => hne (congrArg Prod.snd (List.mem_singleton.mp hm))
    rw [if_neg (mt (rc_match v w).mp hne), if_neg hn]

theorem openKey_live_of_hasRec (s : DB) (key rid : Nat) (hh : (s.getKey key).hasRec rid) : (s.openKey key).gone = false := by
  cases hg : (s.openKey key).gone with
  | false => rfl
  | true =>
    have hk : s.hasKey key = false := by simpa [DB.openKey] using hg
    have : (s.getKey key).recs = [] := by rw [getKey_of_not_hasKey s key hk]; rfl
    exact absurd this (recs_ne_of_hasRec hh)

theorem queue_hasRec (s : DB) (hq : DBQ s) (key y : Nat)
    (hy : y ∈ (s.getKey key).current.toList ++ (s.getKey key).locks ++ (s.getKey key).wait.map (·.rid)) : (s.getKey key).hasRec y :=
  hasRec_of_queues (Lv.openKey hq.dbt.dbi key) rfl y hy

theorem rel_wheelBroken {w : W} {a : Engine.DB} {k1 : Engine.Key} {out1 : List Engine.Reply} (h : Rel w a k1 out1) : Rel w.wheelBroken a k1 out1 := by
  refine ⟨⟨h.sc.now, h.sc.tCheck, h.sc.eCheck, h.sc.seq, h.sc.leader, h.sc.ctr⟩, h.out, h.lk, h.wd, fun hg => ?_, h.dead⟩
  have l := h.live hg
  exact ⟨l.wk.up l.wk.lv.wheelBroken (RecsUp.of_eq rfl) (DK.of_k rfl), l.cn, l.wi, l.abs⟩

/-- the stage-1 facts about the view of one key record that the sweep steps use (they arrive from stage 1's invariants through `Equiv`) -/
structure K1 (k : Key) : Prop where
  ki : Engine.KeyInv (Key.abs k)
  fl : (Key.abs k).waited = true → (Key.abs k).waiters ≠ []
  wu : ((Key.abs k).waiters.map rcOf).Nodup
  kw : ∀ w ∈ (Key.abs k).waiters, w.cmd.key = k.key
  kh : ∀ x ∈ (Key.abs k).holders, x.cmd.key = k.key

/-- **`doTimeOut` of an entry whose record is not a live request any more** (no such entry: `wheelBroken`; tombstoned: `dropT`): a stuttering
step, no reply -/
theorem sim_fireT_stutter (s : DB) (hq : DBQ s) (hk : DBK s) (key rid : Nat) (k1 : K1 (s.getKey key))
    (h : (s.getKey key).hasT rid = false ∨ ((s.getKey key).getR rid).timeouted = true) :
    Equiv (Engine2.abs (fireTimeout s key rid).1) (Engine2.abs s) ∧ (fireTimeout s key rid).2 = [] := by
  have r0 := rel_openKey s hq key (hk.getKey key)
  unfold fireTimeout
  cases hT : (s.getKey key).hasT rid with
  | false =>
    rw [fireTimeout_broken (s.openKey key) rid hT]
    exact ⟨rel_commit_same s hq key _ (Fr.wheelBroken _) (rel_wheelBroken r0), rfl⟩
  | true =>
    have hto : ((s.getKey key).getR rid).timeouted = true := h.resolve_left (by rw [hT]; simp)
    have hs := hasT_spec _ rid hT
    have r1 := rel_dropT r0 (openKey_live_of_hasRec s key rid hs.1) k1.ki k1.fl rid ⟨hs.1, hs.2, hto⟩
    rw [fireTimeout_tomb (s.openKey key) rid hT hto]
    exact ⟨rel_commit_same s hq key _ (Fr.dropT _ _) r1, by simpa using r1.out⟩

theorem sim_visitT_stutter (s : DB) (hq : DBQ s) (hk : DBK s) (key rid : Nat) (slot : Bool) (k1 : K1 (s.getKey key))
    (h : (s.getKey key).hasT rid = false ∨ ((s.getKey key).getR rid).timeouted = true) :
    ∃ w', (s.openKey key).visitTimeout slot rid = some w' ∧ Equiv (Engine2.abs w'.commit) (Engine2.abs s) :=
  ⟨_, visitTimeout_dead (s.openKey key) slot rid h, (sim_fireT_stutter s hq hk key rid k1 h).1⟩

theorem pkx_addTimeOut (w : W) (rid : Nat) : PKeepX πA (· = rid) (w.addTimeOut rid).k w.k :=
  PKeepX.modRec (X := (· = rid)) w.k rid _ (fun _ => rfl) rfl

theorem getR_addTimeOut (w : W) (rid : Nat) (hh : w.k.hasRec rid) :
    (w.addTimeOut rid).k.getR rid = Rec.armT (Engine.wheelAdd w.db.tCheck w.db.seq (w.k.getR rid).timeoutT (w.k.getR rid).tChecked) (w.k.getR rid) :=
  getR_modRec_same w.k rid (Rec.armT (Engine.wheelAdd w.db.tCheck w.db.seq (w.k.getR rid).timeoutT (w.k.getR rid).tChecked)) hh

theorem live_mem_abs {k : Key} (kt : KT k) (rid : Nat) (hh : k.hasRec rid) (hl : (k.getR rid).timeouted = false) :
    waiterOf k rid ∈ (Key.abs k).waiters := by
  rw [abs_waiters]
  exact List.mem_map.mpr ⟨rid, List.mem_filter.mpr ⟨kt.wq rid hh hl, by unfold Key.deadWaiter; rw [hl]; rfl⟩, rfl⟩

theorem _root_.Slock.Sim.Live.hrec {w : W} {k : Engine.Key} (l : Live none w k) :
    ∀ y ∈ w.k.current.toList ++ w.k.locks ++ w.k.wait.map (·.rid), w.k.hasRec y := hasRec_of_queues l.good.lv rfl

theorem _root_.Slock.Sim.Live.not_holder {w : W} {k : Engine.Key} (l : Live none w k) {rid : Nat} (hl : (w.k.getR rid).timeouted = false) :
    rid ∉ w.k.current.toList ++ w.k.locks := by
  intro hm
  rw [l.wi.ht rid hm] at hl; exact absurd hl (by simp)

/-- **a live queued request is edited** by a chain in edit normal form that keeps it live: stage 1's `mapW` of that request -/
theorem _root_.Slock.Sim.Rel.edit_waiter {w w' : W} {a a' : Engine.DB} {out1 : List Engine.Reply} (r : Rel w a (Key.abs w.k) out1) (hg : w.gone = false)
    {x : Nat} {f : Rec → Rec} {n : Nat} (e : Edit x f id n w w') (hs : Scal a' w'.db) (hh : w.k.hasRec x) (hm : x ∈ w.k.wait.map (·.rid))
    (hl : (w.k.getR x).timeouted = false) (hl' : (f (w.k.getR x)).timeouted = false) (wu : ((Key.abs w.k).waiters.map rcOf).Nodup)
    (wk' : Wk True w' none) (wi' : WI w') :
    Rel w' a' (mapW (Key.abs w.k) (waiterOf w.k x) (f (w.k.getR x)).toWaiter) out1 := by
  have l := r.live hg
  have sx := e.sx
  obtain ⟨q1, q2, _⟩ := queues_eq sx.q
  have habs := abs_edit_waiter x sx.key e.locked sx.waited sx.q sx.p (fun y hy => (e.hasRec y).mpr (l.hrec y hy)) hm hl
    (by unfold Key.deadWaiter; rw [e.getR hh (·.timeouted) (fun _ => rfl)]; exact hl') (l.not_holder hl) wu
  rw [show waiterOf w'.k x = (f (w.k.getR x)).toWaiter from e.getR hh Rec.toWaiter (fun _ => rfl)] at habs
  exact Rel.of_live (e.gone.trans hg) hs (by rw [e.out]; exact r.out) ⟨wk', l.cn.of_cl q1 q2, wi', habs⟩

theorem rearmT_rel {w : W} {a : Engine.DB} {out1 : List Engine.Reply} (r0 : Rel w a (Key.abs w.k) out1) (hg : w.gone = false) (kt : KT w.k) (hk1 : K1 w.k) (rid : Nat)
    (hT : w.k.hasT rid = true) (hl : (w.k.getR rid).timeouted = false) (hdue : (w.k.getR rid).timeoutT > w.db.now) :
    w.visitTimeout true rid = some ((w.modR rid bumpT).addTimeOut rid) ∧
    Rel ((w.modR rid bumpT).addTimeOut rid) (seqUp a)
      (mapW (Key.abs w.k) (waiterOf w.k rid) (rearmW w.db.tCheck w.db.seq (waiterOf w.k rid))) out1 := by
  have l := r0.live hg
  have hs := hasT_spec _ rid hT
  have hv : w.visitTimeout true rid = some ((w.modR rid bumpT).addTimeOut rid) := by
    rw [visitT_live_cases _ true rid hT hl]
    simp [hdue]
  refine ⟨hv, ?_⟩
  have T := (visitTimeout_tf (full := True) l.wk (fun _ => recs_ne_of_hasRec hs.1) true rid _ hv).1
  have e := ((Edit.refl (h := rid) w).modR bumpT (fun _ => rfl) (fun _ => rfl)).addTimeOut
  obtain ⟨sc0, hsc, hck⟩ := kt.ws rid hs.1 hl
  have hview : (Rec.armT (Engine.wheelAdd w.db.tCheck (w.db.seq + 0) (bumpT (w.k.getR rid)).timeoutT (bumpT (w.k.getR rid)).tChecked)
      (bumpT (w.k.getR rid))).toWaiter = rearmW w.db.tCheck w.db.seq (waiterOf w.k rid) := by
    unfold waiterOf rearmW Rec.toWaiter Rec.armT bumpT
    simp only [hsc, Option.getD_some, hck]
    rfl
  exact hview ▸ r0.edit_waiter hg e (e.scal r0.sc) hs.1 (kt.wq rid hs.1 hl) hl rfl hk1.wu (T (e.gone.trans hg))
    (WI.move (full := False) (.rearmT w rid hl) l.wi)

theorem collectT_rel {w : W} {a : Engine.DB} {out1 : List Engine.Reply} (r0 : Rel w a (Key.abs w.k) out1) (hg : w.gone = false) (kt : KT w.k) (hk1 : K1 w.k) (rid : Nat)
    (hT : w.k.hasT rid = true) (hl : (w.k.getR rid).timeouted = false) :
    Rel (w.collectT rid) a (clrK [rcId w.k.key (waiterOf w.k rid)] (Key.abs w.k)) out1 := by
  have l := r0.live hg
  have hs := hasT_spec _ rid hT
  have e : Edit rid unlongT id 0 w (w.collectT rid) := (Edit.refl w).modR unlongT (fun _ => rfl) (fun _ => rfl)
  obtain ⟨sc0, hsc, _⟩ := kt.ws rid hs.1 hl
  have hview : (unlongT (w.k.getR rid)).toWaiter = unlong (waiterOf w.k rid) := by
    unfold waiterOf unlong Rec.toWaiter unlongT
    simp only [hsc, Option.map_some, Option.getD_some]
  have r := r0.edit_waiter hg e (e.sc.scal r0.sc) hs.1 (kt.wq rid hs.1 hl) hl hl hk1.wu (collectT_wk (full := True) l.wk rid)
    (l.wi.quiet (Quiet.collectT w rid))
  rw [hview, mapW_unlong _ _ (live_mem_abs kt rid hs.1 hl) hk1.wu] at r
  exact r

/-- **re-arm**: the record-level step (`tChecked + 1`, `AddTimeOut`) is stage 1's `rearmWaiter` of that request -/
theorem sim_rearmT (s : DB) (hq : DBQ s) (hk : DBK s) (hkt : DBKT s) (key rid : Nat) (k1 : K1 (s.getKey key))
    (hT : (s.getKey key).hasT rid = true) (hl : ((s.getKey key).getR rid).timeouted = false)
    (hdue : ((s.getKey key).getR rid).timeoutT > s.now) :
    (s.openKey key).visitTimeout true rid = some (((s.openKey key).modR rid bumpT).addTimeOut rid) ∧
    Equiv (Engine2.abs (((s.openKey key).modR rid bumpT).addTimeOut rid).commit)
      (Engine.rearmWaiter (Engine2.abs s) (waiterOf (s.getKey key) rid)) := by
  have hs := hasT_spec _ rid hT
  obtain ⟨hv, rel⟩ := rearmT_rel (rel_openKey s hq key (hk.getKey key)) (openKey_live_of_hasRec s key rid hs.1) (hkt.getKey key) k1 rid hT hl hdue
  refine ⟨hv, ?_⟩
  have hkw : (waiterOf (s.getKey key) rid).cmd.key = key := (k1.kw _ (live_mem_abs (hkt.getKey key) rid hs.1 hl)).trans (getKey_key s key)
  have e1 := rel_commit s hq key _ (W.visitTimeout_fr _ _ _ _ hv) rel rfl (getKey_key _ _)
  rw [rearmWaiter_eq, hkw, abs_getKey s hq.dbt.dbi.kn key]
  exact e1

/-- **a due long-table entry is taken in hand** (`collectT`): stage 1's view of that request loses its `long` flag, nothing else changes -/
theorem sim_collectT (s : DB) (hq : DBQ s) (hk : DBK s) (hkt : DBKT s) (key rid : Nat) (k1 : K1 (s.getKey key))
    (hT : (s.getKey key).hasT rid = true) (hl : ((s.getKey key).getR rid).timeouted = false) :
    EqL [rcId key (waiterOf (s.getKey key) rid)] (Engine2.abs ((s.openKey key).collectT rid).commit) (Engine2.abs s) := by
  have hs := hasT_spec _ rid hT
  have rel := collectT_rel (rel_openKey s hq key (hk.getKey key)) (openKey_live_of_hasRec s key rid hs.1) (hkt.getKey key) k1 rid hT hl
  have ek : (s.openKey key).k = s.getKey key := rfl
  rw [ek] at rel
  have hkk : (s.getKey key).key = key := getKey_key s key
  rw [hkk] at rel
  have e1 := rel_commit s hq key _ (W.collectT_fr _ _) rel rfl (by rw [clrK_key]; exact hkk)
  refine EqL.left e1 ⟨setKey_se _ _, fun n => ?_⟩
  by_cases e : n = key
  · subst e
    have := getKey_setKey_same (Engine2.abs s) (clrK [rcId n (waiterOf (s.getKey n) rid)] (Key.abs (s.getKey n)))
    rw [clrK_key] at this
    have hkk' : (Key.abs (s.getKey n)).key = n := hkk
    rw [hkk'] at this
    rw [this, abs_getKey s hq.dbt.dbi.kn n]
  · have hkk' : (Key.abs (s.getKey key)).key = key := hkk
    rw [getKey_setKey_other _ _ _ (by rw [clrK_key, hkk']; exact e)]
    have e0 : (Engine2.abs s).getKey n = clrK [] ((Engine2.abs s).getKey n) := (clrK_nil _).symm
    rw [e0]
    conv => rhs; rw [clrK_nil]
    apply clrK_congr
    intro v _
    rw [Engine.getKey_key]
    constructor
    · intro hm; simp at hm
    · intro hm
      simp only [List.mem_singleton, rcId, Prod.mk.injEq] at hm
      exact absurd hm.1 e

theorem outK_eq_keyCancel (k : Engine.Key) (w : Engine.Waiter) : outK k w = keyCancel k w := rfl

theorem outK_fl (k : Engine.Key) (w : Engine.Waiter) : (outK k w).waited = true → (outK k w).waiters ≠ [] := by
  unfold outK
  simp only []
  intro h e
  rw [e] at h
  simp at h

theorem fireT_rel {w : W} {a : Engine.DB} {out1 : List Engine.Reply} (r0 : Rel w a (Key.abs w.k) out1) (hg : w.gone = false) (kt : KT w.k) (hk1 : K1 w.k) (rid : Nat)
    (hT : w.k.hasT rid = true) (hl : (w.k.getR rid).timeouted = false) :
    Rel (answer ((preT w rid).dropT rid) ctrT { (w.k.getR rid).cmd with conn := (w.k.getR rid).conn } Engine.RESULT_TIMEOUT)
      (toDb a) (outK (Key.abs w.k) (waiterOf w.k rid)) (out1 ++ [toReply (Key.abs w.k) (waiterOf w.k rid)]) := by
  have l := r0.live hg
  have hs := hasT_spec _ rid hT
  have g1 : (w.modR rid tombR).k.getR rid = tombR (w.k.getR rid) := getR_modRec_same w.k rid tombR hs.1
  have wk1 : Wk True (w.modR rid tombR) none := l.wk.tombstone rid
  have r3 : Rel (preT w rid) { a with ctr := ctrW a.ctr } (outK (Key.abs w.k) (waiterOf w.k rid)) out1 :=
    (r0.settle_tomb hg rid (kt.wq rid hs.1 hl) hl hk1.wu
      ((Edit.refl w).modR tombR (fun _ => rfl) (fun _ => rfl)) wk1 (l.wi.tomb rid) (by
        show ((w.modR rid tombR).k.getR rid).timeouted = true
        rw [g1]; rfl)).ctr ctrW
  -- the record still carries the sweeper's reference, tombstoned
  have l1 := wk1.lv
  have hh1 : (w.modR rid tombR).k.hasRec rid := (hasRec_modR w rid rid tombR).mpr hs.1
  have ht1 : ((w.modR rid tombR).k.getR rid).tSched.isSome = true := by rw [g1]; exact hs.2
  obtain ⟨m1, m2⟩ := settleWait_keep zero_nonneg l1.rc rid hh1 (wheel_of_t ht1)
  have r4 := rel_dropT r3 hg (Engine.waiters_inv hk1.ki _ _) (outK_fl _ _) rid ⟨m1, by
      show ((w.modR rid tombR).k.settleWait.getR rid).tSched.isSome = true
      rw [m2.tSched]; exact ht1, by
      show ((w.modR rid tombR).k.settleWait.getR rid).timeouted = true
      rw [m2.timeouted, g1]; rfl⟩
  exact rel_answer r4 ctrT _ _

theorem sim_fireT_live (s : DB) (hq : DBQ s) (hk : DBK s) (hkt : DBKT s) (key rid : Nat) (k1 : K1 (s.getKey key))
    (hT : (s.getKey key).hasT rid = true) (hl : ((s.getKey key).getR rid).timeouted = false) :
    Equiv (Engine2.abs (fireTimeout s key rid).1) (Engine.fireTimeout (Engine2.abs s) key (waiterOf (s.getKey key) rid)).1 ∧
    (fireTimeout s key rid).2.map (·.r) = (Engine.fireTimeout (Engine2.abs s) key (waiterOf (s.getKey key) rid)).2 := by
  have rel : Rel _ (toDb (Engine2.abs s)) (outK (Key.abs (s.getKey key)) (waiterOf (s.getKey key) rid))
      [toReply (Key.abs (s.getKey key)) (waiterOf (s.getKey key) rid)] := fireT_rel (rel_openKey s hq key (hk.getKey key)) (openKey_live_of_hasRec s key rid (hasT_spec _ rid hT).1) (hkt.getKey key) k1 rid hT hl
  have f := W.fireTimeout_fr (s.openKey key) rid
  unfold fireTimeout
  rw [fireTimeout_live_eq (s.openKey key) rid hT hl] at f ⊢
  rw [fireTimeout_eq, abs_getKey s hq.dbt.dbi.kn key]
  simp only []
  exact rel_wake_commit s hq key _ f rel (Engine.waiters_inv k1.ki _ _) rfl (getKey_key s key)

end Slock.SimTick
