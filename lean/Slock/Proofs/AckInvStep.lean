import Slock.Proofs.AckInv
import Slock.Proofs.AckClassify
import Slock.Proofs.AckSkel
/-! M-ACK: `InvA` is kept by every operation (wake pass, `DoAckLock`, LOCK, UNLOCK, sweeps, journal delivery, reports, demotion),
hence by every event and every run. -/
namespace Slock.Ack

theorem InvA.waiter {db : DB} (ha : InvA db) {k : Nat} {w : Rec} (hw : (db.waiters k).head? = some w) :
    findR db.recs w.hid = some w ∧ w.cmd.key = k ∧ w.queued = true ∧ ∀ e ∈ db.tab, e.hid ≠ w.hid :=
  have hm := mem_waiters (List.mem_of_head? hw)
  ⟨findR_of_mem ha.nodup hm.1, hm.2.1, hm.2.2, ha.unref_of_queued (by rw [ha.getR_of_mem hm.1]; exact hm.2.2)⟩

theorem InvA.applyWake {db : DB} (h : InvA db) (k : Nat) : InvA (applyWake db k (classifyWake db k)).1 := by
  fun_cases classifyWake db k <;> dsimp only [Slock.Ack.applyWake] <;> try exact h
  case case3 w hw _ _ _ =>  -- ackFail
    exact (((h.ackHold _ (h.waiter hw).2.2.2).ctrMod _).modR_irrel _ _ (irrel_timeouted true)).rollback _
  case case4 w hw _ _ _ =>  -- ackGrant
    obtain ⟨u, h1⟩ := (found_tracker w.hid).ackHold (h.waiter hw).1
    exact ((h.ackHold _ (h.waiter hw).2.2.2).pushLock h1 rfl).ctrMod _
  case case5 w hw _ _ => exact (h.ctrMod _).grant _ (h.waiter hw).2.2.2  -- grant

theorem InvA.wake {db : DB} (h : InvA db) (k : Nat) (out : List Reply) : InvA (db.wake k out).1 :=
  wake_ind k (fun d _ => InvA d) (fun _ _ hd _ => hd.applyWake k) (fun _ _ hd => hd.modKey _ _) db out h

theorem InvX.settle {db : DB} {x : Nat} (h : InvX db x) (f : Rec → Rec)
    (hf : ∀ r, (f r).hid = r.hid ∧ (f r).depth = r.depth ∧ (f r).queued = r.queued ∧ (f r).ack = NOACK) : InvA (db.modR x f) := by
  have h1 : InvX (db.modR x f) x := by
    apply InvX.modR h x f (fun r => (hf r).1)
    · intro r _ _ hq; rw [(hf r).2.2.1] at hq; exact hq
    · intro r hr _ hd; rw [(hf r).2.1] at hd; rw [(hf r).2.2.1]; exact h.heldNQ r hr hd
    · intro hne; exact absurd rfl hne
  apply h1.toA
  rw [getR_modR db x f (fun r => (hf r).1)]
  simp only [if_true]
  cases e : findR db.recs x with
  | some r => simp [Rec.pending, (hf _).2.2.2]
  | none => simp; rw [getR_eq, e]; rfl

/-- the two exits of `DoAckLock` that settle the record in place; the counter of `x` may have been zero (right after the last decrement) -/
theorem InvX.applyAck {db : DB} {x : Nat} (h : InvX db x) {b : AckBranch} (hb : b = .update ∨ b = .succeed) : InvA (applyAck db x b).1 := by
  have h0 : InvX (db.modR x (fun r => { r with timeouted := true })) x := h.modR_irrel x _ (irrel_timeouted true)
  unfold Slock.Ack.applyAck
  rcases hb with rfl | rfl
  · exact h0.settle _ (by intro _; exact ⟨rfl, rfl, rfl, rfl⟩)
  · exact (h0.settle _ (by intro _; exact ⟨rfl, rfl, rfl, rfl⟩)).addExpried x

theorem InvA.ackDone {db : DB} (h : InvA db) (hid : Nat) (ok : Bool) : InvA (ackDone db hid ok).1 := by
  unfold Slock.Ack.ackDone
  cases e : classifyAck db hid ok with
  | settled => exact h.modR_irrel hid _ (irrel_timeouted true)
  | update => exact (h.toX hid).applyAck (Or.inl rfl)
  | succeed => exact (h.toX hid).applyAck (Or.inr rfl)
  | fail => exact (h.failed hid).wake _ _

/-- `DoAckLock(lock, true)` right after the last decrement: the counter of `x` is zero, the record is pending -/
theorem InvX.ackDone_true {db : DB} {x : Nat} (h : InvX db x) (hp : (db.getR x).pending = true) : InvA (ackDone db x true).1 := by
  unfold Slock.Ack.ackDone
  cases e : classifyAck db x true <;> have hf := AckFacts.of e
  · rw [hf] at hp; cases hp
  · exact h.applyAck (Or.inl rfl)
  · exact h.applyAck (Or.inr rfl)
  · cases hf.2.2.2

theorem InvA.modR_unref {db : DB} (h : InvA db) (hid : Nat) (f : Rec → Rec) (hf : ∀ r, (f r).hid = r.hid)
    (hd : ∀ r ∈ db.recs, r.hid = hid → (f r).depth > 0 → (f r).queued = false)
    (hj : ∀ j ∈ db.journal, j.isLock = true → j.hid ≠ some hid) (ht : ∀ e ∈ db.tab, e.hid ≠ hid) : InvA (db.modR hid f) := by
  refine ⟨?_, ?_, ?_, ?_, ?_⟩
  · rw [modR_recs, map_hid_modRecs hid f hf]; exact h.nodup
  · apply forall_modR db hid f h.hidLt
    intro r _ _ hr; rw [hf]; exact hr
  · apply forall_modR (P := fun r => r.depth > 0 → r.queued = false) db hid f h.heldNQ
    intro r hr e _; exact hd r hr e
  · intro j hj' hl a ha
    rw [getR_modR_ne db hid f hf a (fun e => hj j hj' hl (by rw [ha, e]))]
    exact h.jrn j hj' hl a ha
  · intro e he
    rw [getR_modR_ne db hid f hf e.hid (ht e he)]
    exact h.tabOk e he

theorem InvA.holder {db : DB} (h : InvA db) {r : Rec} (hm : r ∈ db.recs ∧ r.depth > 0) : (db.getR r.hid).queued = false := by
  rw [h.getR_of_mem hm.1]; exact h.heldNQ r hm.1 hm.2

/-- a require-ack LOCK granted at once, up to the push of its record -/
theorem InvA.ackGranted {db : DB} (h : InvA db) (c : Cmd) :
    InvA ((((db.newRec c).1.ackHold (db.newRec c).2).addTimeOut (db.newRec c).2).pushLock (db.newRec c).2).1 := by
  obtain ⟨u, h1⟩ := (found_tracker _).ackHold (newRec_findR h.hidLt c)
  obtain ⟨_, _, h2⟩ := (found_tracker _).addTimeOut h1
  exact (((h.newRec c).ackHold _ (h.newRec_unref c)).addTimeOut _).pushLock h2 rfl

theorem InvA.opLock {db : DB} (h : InvA db) (c : Cmd) : InvA (opLock db c).1 := by
  unfold Slock.Ack.opLock
  cases e : classifyLock db c with
  | stateError | ackWaiting | relockRefused | timeout => exact h
  | relock x =>
    obtain ⟨r, hr, rfl, _⟩ := LockFacts.of e
    exact (h.relockHold c r.hid (h.holder (findHolder_mem hr))).wake _ _
  | grant =>
    have h1 : InvA ((db.newRec c).1.grant (db.newRec c).2).1 := (h.newRec c).grant _ (h.newRec_unref c)
    unfold applyLock
    simp only []
    split
    · exact h1.wake _ _
    · exact h1
  | ackGrant =>
    unfold applyLock
    simp only []
    split
    · exact h.ackGranted c
    · exact (h.ackGranted c).ackDone _ _
  | queue =>
    unfold applyLock
    simp only []
    apply InvA.ctrMod
    apply InvA.modKey
    apply InvA.addTimeOut
    apply (h.newRec c).modR_unref _ (fun r => { r with queued := true }) (fun _ => rfl) _ _ (h.newRec_unref c)
    · intro r hr e1 hd
      obtain ⟨r0, e0, e2, e3, _⟩ := newRec_recs db c
      rw [e0] at hr
      rcases List.mem_append.mp hr with hr | hr
      · have := h.hidLt r hr; rw [newRec_snd] at e1; omega
      · simp at hr; subst hr; simp only [] at hd; omega
    · intro j hj hl e1
      have := (h.jrn j hj hl _ e1).1
      rw [newRec_snd] at this; omega

theorem InvA.opUnlock {db : DB} (h : InvA db) (c : Cmd) : InvA (opUnlock db c).1 := by
  unfold Slock.Ack.opUnlock
  cases classifyUnlock db c with
  | stateError | notLocked | unown | ackWaiting => unfold applyUnlock DB.bumpErr; dsimp only; exact h.ctrMod _
  | dec x =>
    unfold applyUnlock; simp only []
    exact (h.lowered x _ _).wake _ _
  | release x => unfold applyUnlock; simp only []; exact (h.released x _ _ _).wake _ _

theorem InvA.fireTimeout {db : DB} (h : InvA db) (hid : Nat) : InvA (fireTimeout db hid).1 := by
  unfold Slock.Ack.fireTimeout
  simp only []
  split
  · exact ((h.failed hid).ctrMod _).wake _ _
  · exact (h.dropWaiter hid).wake _ _

theorem InvA.fireExpire {db : DB} (h : InvA db) (hid : Nat) : InvA (fireExpire db hid).1 := by
  unfold Slock.Ack.fireExpire
  simp only []
  split
  · exact (h.modR_irrel hid (fun r => { r with expT := db.now + 30 }) (fun _ => ⟨rfl, rfl, rfl, rfl⟩)).addExpried hid
  · exact (h.released hid _ _ _).wake _ _

theorem Rearm.irrel {f : Rec → Rec} (hf : Rearm f) : Irrel f := fun r => by
  obtain ⟨_, _, _, _, e⟩ := hf r; rw [e]; exact ⟨rfl, rfl, rfl, rfl⟩

theorem InvA.rearm {d : DB} (h : InvA d) (hid : Nat) {f : Rec → Rec} (n : Nat) (hf : Rearm f) : InvA { d.modR hid f with seq := n } :=
  h.irrel' hid f rfl hf.irrel rfl

theorem InvA.sweepTimeout {db : DB} (h : InvA db) (c : Nat) : InvA (sweepTimeout db c).1 :=
  sweepTimeout_ind (fun d _ => InvA d) (fun _ _ _ _ n hd hf => hd.rearm _ n hf) (fun _ _ hid hd _ => hd.fireTimeout hid) db c [] h

theorem InvA.sweepExpire {db : DB} (h : InvA db) (c : Nat) : InvA (sweepExpire db c).1 :=
  sweepExpire_ind (fun d _ => InvA d) (fun _ _ _ _ n hd hf => hd.rearm _ n hf) (fun _ _ hid hd _ => hd.fireExpire hid) db c [] h

theorem InvA.opTick {db : DB} (h : InvA db) : InvA (opTick db).1 :=
  opTick_ind (fun d _ => InvA d) (fun _ _ _ _ _ hd => hd.env rfl rfl) (fun _ _ _ _ n hd hf => hd.rearm _ n hf)
    (fun _ _ hid hd _ => hd.fireTimeout hid) (fun _ _ hid hd _ => hd.fireExpire hid) db [] h

theorem InvA.dropEnt {db : DB} (h : InvA db) (id : Nat) : InvA (db.dropEnt id) :=
  h.sub rfl rfl (fun e he => ⟨e, (List.mem_filter.mp he).1, rfl⟩) (fun _ x => x)

theorem InvX.dropEnt {db : DB} {x : Nat} (h : InvX db x) (id : Nat) : InvX (db.dropEnt id) x :=
  h.sub rfl rfl (fun e he => ⟨e, (List.mem_filter.mp he).1, rfl⟩) (fun _ x => x)

theorem InvA.popJ {db : DB} (h : InvA db) (k : Nat) : InvA (popJ db k) :=
  h.sub rfl rfl (fun e he => ⟨e, he, rfl⟩) (fun _ hj => (List.eraseP_sublist).subset hj)

theorem reqAcks_pos (c : Cfg) : reqAcks c ≥ 1 := by unfold reqAcks; split <;> omega

/-- `ProcessLeaderPushLock` registers the lock `hid`: counter armed, one more table entry -/
theorem InvA.arm {db : DB} (h : InvA db) {hid : Nat} {r : Rec} (hf : findR db.recs hid = some r) (hq : r.queued = false) (e : Ent)
    (he : e.hid = hid) : InvA { db.modR hid (fun r => { r with ack := reqAcks db.cfg }) with tab := db.tab ++ [e] } := by
  have h1 : InvA (db.modR hid (fun r => { r with ack := reqAcks db.cfg })) := by
    apply InvA.modR h hid
    · intro _; rfl
    · intro r _ _ hq; exact hq
    · intro r hr _ hd; exact h.heldNQ r hr hd
    · intro _ _; exact reqAcks_pos _
  have hg := getR_of_find ((found_tracker hid).modR (fun r => { r with ack := reqAcks db.cfg }) hf (fun _ => rfl))
  refine ⟨h1.nodup, h1.hidLt, h1.heldNQ, h1.jrn, ?_⟩
  intro e' he'
  rcases List.mem_append.mp he' with he' | he'
  · exact h1.tabOk e' he'
  · simp at he'; subst he'
    rw [he]
    refine ⟨?_, ?_, fun _ => ?_⟩
    · rw [← (findR_some_mem hf).2]; exact h.hidLt r (findR_some_mem hf).1
    · exact (congrArg Rec.queued hg).trans hq
    · exact (congrArg Rec.ack hg).symm ▸ reqAcks_pos _

/-- the `harm` leaf of `opPush_ind` -/
theorem InvA.armed {db : DB} (h : InvA db) {k hid : Nat} {j : JRec} (hj : db.journal.find? (·.key == k) = some j) (hl : j.isLock = true)
    (hh : j.hid = some hid) (hd : ((Slock.Ack.popJ db k).getR hid).depth ≠ 0) :
    InvA { (Slock.Ack.popJ db k).modR hid (fun r => { r with ack := reqAcks (Slock.Ack.popJ db k).cfg }) with
      tab := (Slock.Ack.popJ db k).tab ++ [{ id := (Slock.Ack.popJ db k).nextId, req := ((Slock.Ack.popJ db k).getR hid).cmd.req, hid := hid }] } :=
  (h.popJ k).arm (present_of_depth hd) (h.jrn j (List.mem_of_find?_eq_some hj) hl hid hh).2 _ rfl

theorem InvA.clearTab {db : DB} (h : InvA db) : InvA { db with tab := [] } :=
  h.sub rfl rfl (fun e he => by simp at he) (fun _ x => x)

theorem InvA.opPush {db : DB} (h : InvA db) (k : Nat) (werr : Bool) : InvA (opPush db k werr).1 :=
  opPush_ind (fun d _ => InvA d) h (h.popJ k) (fun _ _ id hd => hd.dropEnt id) (fun _ _ _ hd => hd.ackDone _ _)
    (fun _ _ hj hl hh hd => h.armed hj hl hh hd) werr

theorem mem_noteOk {id : Nat} {who : Option Nat} {l : List Ent} {x : Ent} (h : x ∈ noteOk id who l) : ∃ e0 ∈ l, x.hid = e0.hid := by
  induction l with
  | nil => simp [noteOk] at h
  | cons y ys ih =>
    unfold noteOk at h
    split at h
    · rcases List.mem_cons.mp h with e | e
      · exact ⟨y, List.mem_cons_self, by rw [e]⟩
      · exact ⟨x, List.mem_cons_of_mem _ e, rfl⟩
    · rcases List.mem_cons.mp h with e | e
      · exact ⟨y, List.mem_cons_self, by rw [e]⟩
      · obtain ⟨e0, h0, r⟩ := ih e
        exact ⟨e0, List.mem_cons_of_mem _ h0, r⟩

theorem InvA.opReport {db : DB} (h : InvA db) (id : Nat) (who : Option Nat) (ok : Bool) : InvA (opReport db id who ok).1 := by
  refine opReport_ind (fun d _ => InvA d) id who ok h (fun e _ _ => (h.dropEnt id).ackDone _ _) ?_ ?_
  · intro e _ _ _ hpos
    have h1 : InvA (db.modR e.hid (fun r => { r with ack := decU8 r.ack })) := by
      apply InvA.modR h e.hid
      · intro _; rfl
      · intro r _ _ hq; exact hq
      · intro r hr _ hd; exact h.heldNQ r hr hd
      · intro _ _; simp only []; omega
    exact h1.sub rfl rfl (fun _ he' => mem_noteOk he') (fun _ x => x)
  · intro e he _ hp hz
    have hem : e ∈ db.tab := List.mem_of_find?_eq_some he
    have h1 : InvX (db.modR e.hid (fun r => { r with ack := decU8 r.ack })) e.hid := by
      apply InvX.modR (h.toX e.hid) e.hid
      · intro _; rfl
      · intro r _ _ hq; exact hq
      · intro r hr _ hd; exact h.heldNQ r hr hd
      · intro hne; exact absurd rfl hne
    apply InvX.ackDone_true (h1.dropEnt id)
    have hg := getR_of_find ((found_tracker e.hid).modR (fun r => { r with ack := decU8 r.ack }) (present_of_pending hp) (fun _ => rfl))
    show ((db.modR e.hid _).getR e.hid).pending = true
    rw [hg]
    show (decU8 (db.getR e.hid).ack != NOACK) = true
    rw [hz]; decide

theorem InvA.opFailAll {db : DB} (h : InvA db) (order : List Nat) : InvA (opFailAll db order).1 :=
  opFailAll_ind (fun d _ => InvA d) (fun _ _ _ hd => hd.ackDone _ _)
    (fun _ _ hd => hd.clearTab) db order h

theorem InvA.step {db : DB} (h : InvA db) (e : Ev) : InvA (step db e).1 := by
  cases e with
  | lock c => exact h.opLock c
  | unlock c => exact h.opUnlock c
  | tick => exact h.opTick
  | push k => exact h.opPush k false
  | pushW k => exact h.opPush k true
  | aofed id ok => unfold Slock.Ack.step opAofed; simp only []; split; exact h.opReport _ _ _; exact h
  | acked id f ok => exact h.opReport _ _ _
  | role b | closed b => exact h.frame rfl rfl rfl rfl
  | demote o | flush o => exact h.opFailAll o

theorem InvA.init (cfg : Cfg) (now : Nat) : InvA (DB.init cfg now) := by
  refine ⟨by simp [DB.init], ?_, ?_, ?_, ?_⟩ <;> intro x hx <;> simp [DB.init] at hx

theorem InvA.run {db : DB} (h : InvA db) (evs : List Ev) : InvA (run db evs) := by
  unfold Slock.Ack.run
  exact foldl_inv InvA _ (fun b e hb => hb.step e) evs db h

end Slock.Ack
