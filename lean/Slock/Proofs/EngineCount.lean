import Slock.Proofs.EngineWheel
/-!
The STATE counters are a census (C17): LockedCount = Σ_keys locked, WaitCount = Σ_keys #queued. An edit moves the counters
together with the record it has taken out, so the census is stated for a record in flight (`Flight`) and is back in its plain
form after the `store`. It needs distinct key ids (`KN`), under which the records found under key id `n` are those of `getKey n`.
-/
namespace Slock.Engine

def KN (db : DB) : Prop := (db.keys.map (·.key)).Nodup

def totL (ks : List Key) : Int := (ks.map (fun k => (k.locked : Int))).sum
def totW (ks : List Key) : Int := (ks.map (fun k => (k.waiters.length : Int))).sum

@[simp] theorem totL_nil : totL [] = 0 := rfl
@[simp] theorem totW_nil : totW [] = 0 := rfl
@[simp] theorem totL_cons (k : Key) (ks : List Key) : totL (k :: ks) = k.locked + totL ks := by simp [totL]
@[simp] theorem totW_cons (k : Key) (ks : List Key) : totW (k :: ks) = k.waiters.length + totW ks := by simp [totW]
@[simp] theorem totL_append (a b : List Key) : totL (a ++ b) = totL a + totL b := by simp [totL]
@[simp] theorem totW_append (a b : List Key) : totW (a ++ b) = totW a + totW b := by simp [totW]

/-- with distinct key ids, the list splits into "the entry for n (if any)" and the others, as far as sums go -/
theorem tot_split (f : Key → Int) (ks : List Key) (n : Nat) (hn : (ks.map (·.key)).Nodup) :
    (ks.map f).sum = (match ks.find? (·.key == n) with | some k => f k | none => 0) +
      ((ks.filter (·.key != n)).map f).sum := by
  induction ks with
  | nil => simp
  | cons x xs ih =>
    have hx : x.key ∉ xs.map (·.key) ∧ (xs.map (·.key)).Nodup := List.nodup_cons.mp (by simpa only [List.map_cons] using hn)
    by_cases hk : x.key = n
    · have hnone : xs.filter (·.key != n) = xs := by
        apply List.filter_eq_self.mpr
        intro y hy
        have : y.key ≠ n := by
          intro e; apply hx.1; rw [hk, ← e]; exact List.mem_map.mpr ⟨y, hy, rfl⟩
        simpa using this
      simp [List.find?, hk, hnone]
    · have hk' : (x.key == n) = false := by simpa using hk
      have hk2 : (x.key != n) = true := by simpa using hk
      simp only [List.find?, hk', List.filter, hk2, List.map_cons, List.sum_cons]
      rw [ih hx.2]; omega

theorem KN_setKey {db : DB} (h : KN db) (k : Key) : KN (db.setKey k) := by
  unfold KN DB.setKey at *
  simp only []
  have hf : ((db.keys.filter (·.key != k.key)).map (·.key)).Nodup := by
    have : (db.keys.filter (·.key != k.key)).map (·.key) = (db.keys.map (·.key)).filter (· != k.key) := by
      rw [List.filter_map]; rfl
    rw [this]; exact List.Nodup.sublist List.filter_sublist h
  split
  · exact hf
  · rw [List.map_append]
    apply List.nodup_append.mpr
    refine ⟨hf, by simp, ?_⟩
    intro a ha b hb
    simp at hb
    rw [hb]
    obtain ⟨y, hy, e⟩ := List.mem_map.mp ha
    have := (List.mem_filter.mp hy).2
    rw [← e]; simpa using this

theorem totF_setKey (f : Key → Int) (hf0 : ∀ n, f (emptyKey n) = 0) {db : DB} (h : KN db) (k : Key) :
    ((db.setKey k).keys.map f).sum = (db.keys.map f).sum - f (db.getKey k.key) + f k := by
  have hfe : k.isEmpty = true → f k = 0 := fun he => by rw [isEmpty_eq k he]; exact hf0 _
  have hs := tot_split f db.keys k.key h
  unfold DB.setKey DB.getKey
  dsimp only
  cases hfind : db.keys.find? (·.key == k.key) with
  | none =>
    rw [hfind] at hs; dsimp only at hs
    split
    · rename_i he; simp [hf0, hfe he]; omega
    · simp [hf0]; omega
  | some k0 =>
    rw [hfind] at hs; dsimp only at hs
    split
    · rename_i he; simp [hfe he]; omega
    · simp; omega

theorem totL_setKey {db : DB} (h : KN db) (k : Key) :
    totL (db.setKey k).keys = totL db.keys - (db.getKey k.key).locked + k.locked :=
  totF_setKey (fun k => (k.locked : Int)) (fun _ => rfl) h k

theorem totW_setKey {db : DB} (h : KN db) (k : Key) :
    totW (db.setKey k).keys = totW db.keys - (db.getKey k.key).waiters.length + k.waiters.length :=
  totF_setKey (fun k => (k.waiters.length : Int)) (fun _ => rfl) h k

structure CInv (db : DB) : Prop where
  kn : KN db
  locked : db.ctr.lockedCount = totL db.keys
  wait : db.ctr.waitCount = totW db.keys

/-- "in flight": the key `k` (id `n`) has been taken out of `db`, modified together with the counters, not yet stored -/
structure Flight (db : DB) (k : Key) (n : Nat) : Prop where
  kn : KN db
  key : k.key = n
  locked : db.ctr.lockedCount - k.locked = totL db.keys - (db.getKey n).locked
  wait : db.ctr.waitCount - k.waiters.length = totW db.keys - (db.getKey n).waiters.length

theorem Flight.start {db : DB} (h : CInv db) (n : Nat) : Flight db (db.getKey n) n :=
  ⟨h.kn, getKey_key db n, by rw [h.locked], by rw [h.wait]⟩

theorem Flight.close {db : DB} {k : Key} {n : Nat} (h : Flight db k n) : CInv (db.setKey k) := by
  refine ⟨KN_setKey h.kn k, ?_, ?_⟩
  · have := totL_setKey h.kn k
    rw [h.key] at this
    have e := h.locked
    show db.ctr.lockedCount = _
    rw [this]; omega
  · have := totW_setKey h.kn k
    rw [h.key] at this
    have e := h.wait
    show db.ctr.waitCount = _
    rw [this]; omega

theorem KN.of_keys_eq {db db' : DB} (h : KN db) (e : db'.keys = db.keys) : KN db' := by unfold KN at *; rw [e]; exact h

theorem Flight.step {db db' : DB} {k k' : Key} {n : Nat} (h : Flight db k n) (e : db'.keys = db.keys) (ek : k'.key = k.key)
    (hl : db'.ctr.lockedCount - k'.locked = db.ctr.lockedCount - k.locked)
    (hw : db'.ctr.waitCount - k'.waiters.length = db.ctr.waitCount - k.waiters.length) : Flight db' k' n := by
  refine ⟨h.kn.of_keys_eq e, by rw [ek]; exact h.key, ?_, ?_⟩
  · rw [hl, e, getKey_of_keys_eq e]; exact h.locked
  · rw [hw, e, getKey_of_keys_eq e]; exact h.wait

theorem insertWaiter_length (ws : List Waiter) (w : Waiter) : (insertWaiter ws w).length = ws.length + 1 :=
  (insertWaiter_perm ws w).length_eq

theorem store_flight {d : DB} {k : Key} {n : Nat} (wk : Bool) (out : List Reply) (h : Flight d k n) : CInv (store wk d k out).1 := by
  unfold store
  split
  · have f := wake_frame d k out
    exact (h.step f.keys f.key f.lockedCount f.waitCount).close
  · exact h.close

section
variable {db0 db d : DB} {s : Src} {n : Nat} {wk : Bool} {k : Key} {out : List Reply}

theorem Flight.edit (e : Edit db0 db s n wk d k out) (hk : KeyInv (db.getKey n)) (hf : Flight db (db.getKey n) n) :
    Flight d k n := by
  cases e with
  | update c h => exact hf.step (updateHold_db_keys ..) rfl (by rw [updateHold_ctr]) (by rw [updateHold_ctr])
  | relock c h =>
    exact hf.step (updateHold_db_keys ..) rfl (by simp only [updateHold_ctr]; omega) (by simp only [updateHold_ctr])
  | grant => exact hf.step rfl rfl (by simp only [grantHold]; omega) rfl
  | grantNoHold | rearmH => exact hf.step rfl rfl rfl rfl
  | queue => exact hf.step rfl rfl rfl (by simp only [insertWaiter_length]; omega)
  | cancel c w hb =>
    have := removeWaiter_length (classifyUnlock_cancel_mem db c w hb)
    exact hf.step rfl rfl rfl (by dsimp only; omega)
  | timeout key w hm =>
    have := removeWaiter_length hm
    exact hf.step rfl rfl rfl (by dsimp only; omega)
  | dec c h c' hb =>
    have := hk.depth_le (UnlockFacts.of hb).1.mem
    have := (UnlockFacts.of hb).2.1
    exact hf.step rfl rfl (by dsimp only; omega) rfl
  | release c h c' hb =>
    have := hk.depth_le (UnlockFacts.of hb).mem
    exact hf.step rfl rfl (by dsimp only; omega) rfl
  | expire key h hm =>
    have := hk.depth_le hm
    exact hf.step rfl rfl (by dsimp only; omega) rfl
  | rearmW => exact hf.step rfl rfl rfl (by simp)

theorem CInv.edit (e : Edit db0 db s n wk d k out) (hi : DBInv db) (h : CInv db) : CInv (store wk d k out).1 :=
  store_flight wk out (Flight.edit e (getKey_inv hi n) (Flight.start h n))

theorem CInv.of_keys_ctr {db db' : DB} (h : CInv db) (e : db'.keys = db.keys) (ec : db'.ctr = db.ctr) : CInv db' :=
  ⟨h.kn.of_keys_eq e, by rw [ec, e]; exact h.locked, by rw [ec, e]; exact h.wait⟩

end

theorem getKey_of_mem {db : DB} (hk : KN db) {k : Key} (hm : k ∈ db.keys) : db.getKey k.key = k := by
  unfold DB.getKey; rw [find_of_mem_nodup Key.key db.keys hk hm]; rfl

theorem Wheel.At.getKey {α : Type} {W : Wheel α} {db : DB} (hk : KN db) {n : Nat} {a : α} (h : W.At db n a) :
    a ∈ W.recs (db.getKey n) := by
  obtain ⟨k, hm, hn, hw⟩ := h
  rw [← hn, getKey_of_mem hk hm]; exact hw

theorem WaitAt.getKey {db : DB} (hk : KN db) {n : Nat} {w : Waiter} (h : WaitAt db n w) : w ∈ (db.getKey n).waiters :=
  Wheel.At.getKey (W := waitWheel) hk h

theorem HoldAt.getKey {db : DB} (hk : KN db) {n : Nat} {x : Hold} (h : HoldAt db n x) : x ∈ (db.getKey n).holders :=
  Wheel.At.getKey (W := holdWheel) hk h

end Slock.Engine
